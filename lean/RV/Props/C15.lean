import RV.Lemmas.CustomHist
/-!
# C15 — custom (Lua) network resources: stateless apply, exact restore

Model: `RV/Model/Custom.lean` (literal transcription of `custom_network_provider.go`; the script is
a parameter `f : Data → Strategy → Option Data`, `none` = any error between `ToUnstructured` and
`json.Unmarshal(Encode(ret))`).  A script being a *function* is the determinism assumption.
`Codec.LawfulOn` at the user's objects is the assumption on `encoding/json` (the dumped `Data` parses back to itself,
the dump is not `""`).  Integers only (|n| < 2^53): `J` has no floats.

A list `refs : List (Option Script × Obj)` is a configuration in which every referenced object
exists (`present refs`); `noOrig` says the user's object does not carry the provider's annotation.
-/
namespace RV.Props.C15
open RV.Custom RV.Oracle.C15

/-- the provider's view of references that all exist. -/
abbrev present (refs : List (Option Script × Obj)) : List Ref := refs.map mkRef

/-! ## statelessness: clause (i) -/

/-- **C15 (i) — statelessness.**  Take any references that exist, any sequence `pre` of earlier
    steps (successful or failing), and a step `s` whose EnsureRoutes call does not fail.  Then every
    script succeeds on the *original* object alone (`freshAll`), and every object after the call
    carries exactly that result (`statelessOK`: spec, labels, annotations of `f original s`, plus the
    provider's annotation holding the original) — whatever `pre` was. -/
theorem stateless (c : Codec) (refs : List (Option Script × Obj))
    (hc : ∀ p, p ∈ refs → c.LawfulOn (dataOf p.2))
    (hno : ∀ p, p ∈ refs → noOrig p.2 = true) (pre : List Strategy) (s : Strategy)
    (hok : (ensureRoutes c s (ensureSeq c pre (present refs))).2 ≠ .err) :
    ∃ ds, freshAll s refs = some ds ∧
      statelessOK c (refs.map (·.2)) ds
        ((ensureRoutes c s (ensureSeq c pre (present refs))).1.map (·.obj)) = true := by
  have hinv : All2 (HInv c) refs (ensureSeq c pre (present refs)) := by
    obtain ⟨l, hl, hrel, _⟩ := ensureSeq_rel pre (hrel_init c refs hno hc)
    rw [present, hl]
    exact hrel.map_right fun _ _ => HInv_of_HRel
  exact ensureRoutes_stateless s hinv hok

/-- a *test* of the oracle `freshAll` on the built-in VirtualService script, no codec involved (the whole provider
    runs on a concrete codec further down, `exCodec`). -/
example : freshAll ⟨.pct 20, [], none⟩
    [(some (vsScript "svc" "svc-canary"),
      { spec := some (.obj [("http", .arr [.obj [("route", .arr [.obj [("destination", .obj [("host", .str "svc")])]])]])]),
        labels := none, annotations := some [] })]
  = some [{ spec := .obj [("http", .arr [.obj [("route", .arr [
              .obj [("destination", .obj [("host", .str "svc")]), ("weight", .int 80)],
              .obj [("destination", .obj [("host", .str "svc-canary")]), ("weight", .int 20)]])]])],
            labels := [], annotations := [] }] := by decide +kernel

/-- **C15 (i), corollary — steps never accumulate.**  Two different histories followed by the same
    successful step leave pointwise equivalent objects. -/
theorem history_independent (c : Codec) (refs : List (Option Script × Obj))
    (hc : ∀ p, p ∈ refs → c.LawfulOn (dataOf p.2))
    (hno : ∀ p, p ∈ refs → noOrig p.2 = true) (pre₁ pre₂ : List Strategy) (s : Strategy)
    (h₁ : (ensureRoutes c s (ensureSeq c pre₁ (present refs))).2 ≠ .err)
    (h₂ : (ensureRoutes c s (ensureSeq c pre₂ (present refs))).2 ≠ .err) :
    ∃ ds, statelessOK c (refs.map (·.2)) ds
            ((ensureRoutes c s (ensureSeq c pre₁ (present refs))).1.map (·.obj)) = true
        ∧ statelessOK c (refs.map (·.2)) ds
            ((ensureRoutes c s (ensureSeq c pre₂ (present refs))).1.map (·.obj)) = true :=
  exists_and_of_eq_some (stateless c refs hc hno pre₁ s h₁) (stateless c refs hc hno pre₂ s h₂)

/-- a call in which a referenced object is missing writes nothing at all. -/
theorem missing_object_no_write (c : Codec) (s : Strategy) (st : List Ref)
    (h : ∃ r, r ∈ st ∧ r.obj = none) : ensureRoutes c s st = (st, .err) :=
  ensureRoutes_missing c s st h

/-- … and so does any sequence of calls: with a missing object the whole history is a no-op. -/
theorem missing_object_seq_no_write (c : Codec) (steps : List Strategy) (st : List Ref)
    (h : ∃ r, r ∈ st ∧ r.obj = none) : ensureSeq c steps st = st := by
  induction steps with
  | nil => rfl
  | cons s ss ih => simp only [ensureSeq, ensureRoutes_missing c s st h, ih]

/-! ## Finalise restores the user's configuration: clause (ii) -/

/-- `normalise` changes representation only: the spec value, the label map and the annotation map
    are the user's (absent `spec` ≡ `null`, absent map ≡ `{}`). -/
theorem normalise_same_values (o : Obj) :
    (normalise o).spec.getD .null = o.spec.getD .null
    ∧ (normalise o).labels.getD [] = o.labels.getD []
    ∧ (normalise o).annotations.getD [] = o.annotations.getD [] :=
  ⟨rfl, getD_bind_optOfList _, getD_bind_optOfList _⟩

theorem normalise_id (o : Obj) (hs : o.spec.isSome = true) (hl : o.labels ≠ some [])
    (ha : o.annotations ≠ some []) : normalise o = o := by
  have h : ∀ m : Option StrMap, m ≠ some [] → m.bind optOfList = m := by
    rintro (_ | _ | _) h <;> first | rfl | exact absurd rfl h
  obtain ⟨_ | v, labels, anns⟩ := o
  · cases hs
  · simp [normalise, h _ hl, h _ ha]

private theorem restore_all {c : Codec} {l0 l : List PRef} (h : All2 (HRelT c) l0 l) :
    All2 (fun (o : Obj) (x : Option Obj) => decide (x = some (normalise o)) = true)
      (l0.map (·.2)) (l.map fun p => (mkRef (p.1, (restoreObject c p.2).1)).obj) := by
  induction h with
  | nil => exact .nil
  | cons hab _ ih =>
    refine .cons ?_ ih
    simp [mkRef, restore_of_tracked hab.good.2 hab.good.1 hab.tracked]

/-- **C15 (ii) — exact restore.**  For any number of references (all existing, none carrying the
    provider's annotation) and any non-empty sequence of steps — succeeding, failing or repeated —
    Finalise reports a modification and leaves every object at `normalise` of what the user had:
    same spec, same labels, same annotations, the provider's annotation gone. -/
theorem finalise_restores (c : Codec) (refs : List (Option Script × Obj))
    (hc : ∀ p, p ∈ refs → c.LawfulOn (dataOf p.2))
    (hno : ∀ p, p ∈ refs → noOrig p.2 = true) (steps : List Strategy) (hne : steps ≠ []) :
    restoreOK (refs.map (·.2)) ((finalise c (ensureSeq c steps (present refs))).1.map (·.obj)) = true
    ∧ (refs ≠ [] → (finalise c (ensureSeq c steps (present refs))).2 = .ok true) := by
  obtain ⟨l, hl, _, hrel⟩ := ensureSeq_rel steps (hrel_init c refs hno hc)
  replace hrel := hrel (.inl hne)
  simp only [present, hl, finalise_present]
  constructor
  · simp only [restoreOK, List.map_map, Function.comp_def]
    apply all2_of_All2
    exact restore_all hrel
  · intro hrefs
    cases hrel with
    | nil => exact absurd rfl hrefs
    | cons hab _ => simp [restore_of_tracked hab.good.2 hab.good.1 hab.tracked]

/-- **C15 (ii), untouched case.**  Without any EnsureRoutes Finalise changes nothing. -/
theorem finalise_untouched (c : Codec) (refs : List (Option Script × Obj))
    (hno : ∀ p, p ∈ refs → noOrig p.2 = true) :
    finalise c (present refs) = (present refs, .ok false) := by
  simp only [present, finalise_present]
  have h1 : (refs.map fun p => mkRef (p.1, (restoreObject c p.2).1)) = refs.map mkRef := by
    apply List.map_congr_left
    intro p hp
    simp [restore_of_noOrig c (hno p hp)]
  have h2 : (refs.any fun p => (restoreObject c p.2).2) = false := by
    rw [List.any_eq_false]
    intro p hp
    simp [restore_of_noOrig c (hno p hp)]
  rw [h1, h2]

/-! ## idempotence: clause (iv) -/

/-- **C15 (iv) — idempotence.**  From *any* state: if EnsureRoutes succeeds, the same call made
    again writes nothing and reports `done = true` (deterministic script = `f` is a function). -/
theorem ensure_idempotent (c : Codec) (s : Strategy) (st st' : List Ref) (b : Bool)
    (h : ensureRoutes c s st = (st', .ok b)) :
    ensureRoutes c s st' = (st', .ok true) := by
  rw [ensureRoutes_unfold] at h
  cases hg : getAll st with
  | none => simp [hg] at h
  | some l =>
    cases hp : planAll c s (storedOf c l) with
    | none => simp [hg, hp] at h
    | some ds =>
      -- the objects the call leaves are objects for which the call has nothing to do
      obtain ⟨l', h1, _, h2, h3, h4⟩ := applyAll_spec hp
      simp only [hg, hp, Prod.mk.injEq] at h
      rw [← h.1, h1, ensureRoutes_unfold, ← mkRef_eq_refOf, getAll_map_mkRef]
      simp [h2, h3, h4, List.map_map, Function.comp_def, mkRef_eq_refOf]

/-- the oracle form of (iv), as evaluated on the implementation. -/
theorem ensure_idempotent_oracle (c : Codec) (s : Strategy) (st : List Ref) :
    idemOK (ensureRoutes c s st).2 (ensureRoutes c s (ensureRoutes c s st).1).2
      (decide ((ensureRoutes c s (ensureRoutes c s st).1).1.map (·.obj) = (ensureRoutes c s st).1.map (·.obj))) = true := by
  cases h : (ensureRoutes c s st).2 with
  | err => simp [idemOK]
  | ok b =>
    have := ensure_idempotent c s st (ensureRoutes c s st).1 b (by rw [← h])
    simp [idemOK, this]

/-! ## non-vacuity of the three parts above: a concrete codec, object and script satisfying every hypothesis
    (these `decide`s are *tests* on literals, not the ∀ claims) -/

/-- a VirtualService with one rule / one stable destination, `labels: {}`, no annotations. -/
def exObj : Obj :=
  { spec := some (.obj [("http", .arr [.obj [("route", .arr [.obj [("destination", .obj [("host", .str "svc")])]])]])])
    labels := some [], annotations := none }

/-- a codec that satisfies the round-trip assumption at `dataOf exObj` (and nowhere else). -/
def exCodec : Codec where
  enc d := if d = dataOf exObj then "orig" else "other"
  dec s := if s = "orig" then dataOf exObj else ⟨.null, [], []⟩

def exRefs : List (Option Script × Obj) := [(some (vsScript "svc" "svc-canary"), exObj)]

def exSplit (stableW canaryW : Int) : J :=
  .obj [("http", .arr [.obj [("route", .arr [
    .obj [("destination", .obj [("host", .str "svc")]), ("weight", .int stableW)],
    .obj [("destination", .obj [("host", .str "svc-canary")]), ("weight", .int canaryW)]])]])]

example : ∀ p, p ∈ exRefs → exCodec.LawfulOn (dataOf p.2) := by
  intro p hp
  simp only [exRefs, List.mem_singleton] at hp
  subst hp
  exact ⟨by simp [exCodec], by simp [exCodec]⟩

example : ∀ p, p ∈ exRefs → noOrig p.2 = true := by
  intro p hp
  simp only [exRefs, List.mem_singleton] at hp
  subst hp
  decide

/-- after the steps 20 % and 50 %, the step 30 % succeeds and writes 70 / 30 — not an accumulation. -/
example :
    ensureRoutes exCodec ⟨.pct 30, [], none⟩
      (ensureSeq exCodec [⟨.pct 20, [], none⟩, ⟨.pct 50, [], none⟩] (present exRefs))
    |>.1.map (·.obj)
    = [some { spec := some (exSplit 70 30), labels := none, annotations := some [(origKey, "orig")] }] := by decide +kernel

example :
    (ensureRoutes exCodec ⟨.pct 30, [], none⟩
      (ensureSeq exCodec [⟨.pct 20, [], none⟩, ⟨.pct 50, [], none⟩] (present exRefs))).2 = .ok false := by decide +kernel

/-- Finalise after three steps: the user's object up to `normalise` (here `labels: {}` became absent,
    so the normalisation is not the identity). -/
example :
    (finalise exCodec (ensureSeq exCodec [⟨.pct 20, [], none⟩, ⟨.pct 50, [], none⟩, ⟨.pct 30, [], none⟩] (present exRefs)))
    |>.1.map (·.obj) = [some (normalise exObj)] := by decide +kernel

example : normalise exObj ≠ exObj := by decide +kernel
example : normalise exObj = { exObj with labels := none } := by decide +kernel

/-- the same step again: done, nothing written. -/
example :
    let st := (ensureRoutes exCodec ⟨.pct 30, [], none⟩ (present exRefs)).1
    (ensureRoutes exCodec ⟨.pct 30, [], none⟩ (present exRefs)).2 = .ok false
    ∧ (ensureRoutes exCodec ⟨.pct 30, [], none⟩ st).2 = .ok true
    ∧ (ensureRoutes exCodec ⟨.pct 30, [], none⟩ st).1.map (·.obj) = st.map (·.obj) := by decide +kernel

/-! ## the built-in Istio scripts: clause (iii) -/

/-- **C15 (iii) — VirtualService, weight step.**  Whenever the script succeeds on a weight step
    (`mts = []`), `vsWeightOK` holds between the spec the script sees and the spec it returns:
    per protocol (`http`, `tcp`, `tls`) the rule list keeps its length and order; a rule carrying
    `match`, and a rule all of whose destinations are other hosts, is untouched; a rule with a single
    destination that is the stable service (weight absent or 100) becomes stable `100-w` / canary `w`
    with all its other fields kept; every other field of the spec is untouched.  Labels and
    annotations are returned unchanged. -/
theorem vs_weight_step (stable canary : String) (d d' : Data) (s : Strategy) (hm : s.mts = [])
    (h : vsScript stable canary d s = some d') :
    vsWeightOK stable canary (canaryWeight s) (decJ d.spec) d'.spec = true
    ∧ d'.labels = d.labels ∧ d'.annotations = d.annotations :=
  vsScript_weight_ok stable canary d d' s hm h

/-- the split itself, in plain terms: one rule, one destination, host = stable service. -/
theorem vs_single_stable_split (stable canary : String) (w : Int) (hw : w ≠ -1)
    (kvs r : List (String × J)) (h : singleStable stable (.obj kvs) = some (kvs, r)) :
    patchRule stable canary (100 - w) w (.obj kvs)
      = some (.obj (setKey "route" (.arr [.obj (setKey "weight" (.int (100 - w)) r),
                                           canaryDest stable canary w]) kvs)) := by
  have := patchRule_single stable canary w kvs r h
  simpa [vsStableW, vsCanaryW, hw, splitRule] using this

/-- non-vacuity / test: the repository's own fixture shape, weight 5. -/
example : vsScript "echoserver" "echoserver-canary"
    { spec := .obj [("hosts", .arr [.str "echoserver.example.com"]),
                    ("http", .arr [.obj [("route", .arr [.obj [("destination", .obj [("host", .str "echoserver")])]])]])],
      labels := [], annotations := [("virtual", "test")] } ⟨.pct 5, [], none⟩
  = some { spec := .obj [("hosts", .arr [.str "echoserver.example.com"]),
                    ("http", .arr [.obj [("route", .arr [
                      .obj [("destination", .obj [("host", .str "echoserver")]), ("weight", .int 95)],
                      .obj [("destination", .obj [("host", .str "echoserver-canary")]), ("weight", .int 5)]])]])],
           labels := [], annotations := [("virtual", "test")] } := by decide +kernel

/-- **C15 (iii) — VirtualService, match step.**  Whenever `GenerateRoutesWithMatches` succeeds on a
    spec object, the new `http` list is one generated rule per match followed by *all* the user's
    rules, unchanged and in order; no other field of the spec is touched (`tcp` / `tls` included). -/
theorem vs_match_step_keeps_rules (stable canary : String) (hm : Option HeaderMod) (mts : List HttpMatch)
    (kvs : List (String × J)) (S' : J) (h : genMatches stable canary hm mts (.obj kvs) = some S') :
    ∃ routes rules, routes.length = mts.length
      ∧ (lookup "http" kvs = some (.arr rules) ∨ (lookup "http" kvs = some (.obj []) ∧ rules = []))
      ∧ S' = .obj (setKey "http" (.arr (routes ++ rules)) kvs) := by
  simp only [genMatches, fields?] at h
  split at h
  · rename_i rules vms hh hv
    cases h
    have hlen : vms.length = mts.length := mapM_option_length _ _ _ hv
    split at hh <;> cases hh
    · exact ⟨_, rules, by simp [hlen], .inl ‹_›, rfl⟩
    · exact ⟨(vms.map (matchRoute stable canary hm)).reverse, [], by simp [hlen], .inr ⟨‹_›, rfl⟩, by simp⟩
  · cases h

/-- non-vacuity / test of the match step: header match + DestinationRule mode (canary = stable). -/
example : genMatches "svc" "svc" none [⟨none, [⟨some "Exact", "user", "x"⟩], []⟩]
    (.obj [("http", .arr [.obj [("route", .arr [.obj [("destination", .obj [("host", .str "svc")])]])]])])
  = some (.obj [("http", .arr [
      .obj [("match", .arr [.obj [("headers", .obj [("user", .obj [("exact", .str "x")])])]]),
            ("route", .arr [.obj [("destination", .obj [("host", .str "svc"), ("subset", .str "canary")])]])],
      .obj [("route", .arr [.obj [("destination", .obj [("host", .str "svc")])]])]])]) := by decide +kernel

/-- **C15 (iii) — DestinationRule.**  Whenever the script succeeds, exactly the canary subset is
    appended to `subsets` and every other field of the spec is kept (`drOK`); labels and annotations
    are returned unchanged. -/
theorem dr_adds_canary_subset (d d' : Data) (s : Strategy) (h : drScript d s = some d') :
    drOK (decJ d.spec) d'.spec = true ∧ d'.labels = d.labels ∧ d'.annotations = d.annotations :=
  drScript_ok d d' s h

example : drScript
    { spec := .obj [("host", .str "mockb"), ("subsets", .arr [.obj [("name", .str "version-base")]])],
      labels := [], annotations := [] } ⟨.pct 5, [], none⟩
  = some { spec := .obj [("host", .str "mockb"),
                         ("subsets", .arr [.obj [("name", .str "version-base")], canarySubset])],
           labels := [], annotations := [] } := by decide +kernel

end RV.Props.C15
