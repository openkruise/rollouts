import RV.Props.C01
/-!
# C07 — a healthy rollout always finishes; nothing oscillates

Clause (iv): *the update target the controller sets always suffices for its own readiness
criterion* — for every workload kind, size, plan entry and current knob value, the knob in
force after `UpgradeBatch` lets the workload reach the `DesiredUpdatedReplicas` that
`IsBatchReady` will demand.

The unchanged code violates the full statement for CloneSet percent steps whose stable
remainder is below 1 % of the workload (known finding F-C07-1, guard `gPctFallback`); the
full-strength statement is `target_suffices_full_FALSE` below (its negation is proved on a
witness), the proved theorem is `target_suffices_partial`.
-/
namespace RV.Props.C07
open RV.Arith IntOrPct RV.BatchCtx RV.Oracle.Batch RV.Props.C01

/-- **C07.iv, knob level** — outside F-C07-1 (`gPctFallback`) the knob `CalculateBatchContext` asks for exposes at least
    `DesiredUpdatedReplicas`, for every kind; stated without rolled-back pods (`noNeedUpdate = none`) -/
theorem desKnob_suffices (kind : Kind) (R : Int) (e : IntOrPct) (hR : 0 ≤ R)
    (hg : gPctFallback kind R e none = false) :
    desiredOf kind R e none ≤ exposureOf kind (desKnob kind R e none) R := by
  obtain ⟨hds, hpl, hal0, hal1⟩ := desiredStable_eq R e none hR nofun
  rw [exposureOf_desKnob kind R e none ⟨hR, nofun, .inr rfl⟩]
  have hlim := newRSLimit_kept e R
  have hcb := calcBatch_eq_clamp hR e
  cases kind <;> simp only [desiredOf, hpl, allowed, Option.getD] <;> try omega
  case cloneSet =>
    split
    · rename_i hs
      obtain ⟨q, hq, _, _, hlow, _⟩ := parsePct_spec (R - allowed R e none) R e hR (by omega) (by omega)
      simp only [allowed] at hq hlow hal1
      rw [hq]; unfold exposure
      -- outside the guard of F-C07-1 the percentage keeps at most the stable count
      have := hlow fun ⟨h1, h2, h3, h4⟩ => by
        cases e with
        | int _ => cases hs
        | pct p => simp [gPctFallback, isPct, hds, allowed, h2, h3, h4] at hg; omega
        | bad =>
          -- a malformed entry plans nothing: the stable count is the size
          simp only [calcBatchReplicas, scaledV, scaled] at h2; omega
      omega
    · exact Int.le_refl _
  case csBlueGreen => unfold keptStable at hcb; omega

/-- when `UpgradeBatch` writes nothing, the knob in force already exposes at least what the desired one would -/
theorem nowrite_current_suffices (kind : Kind) (c : Ctx)
    (ht : KnobTyped kind c.knobCur) (hd : KnobTyped kind c.knobDes)
    (hcan : kind = .depCanary → c.knobDes = int c.desired)
    (hw : upgrade kind c = none) :
    exposureOf kind c.knobDes c.replicas ≤ exposureOf kind c.knobCur c.replicas := by
  obtain ⟨_, hle⟩ | ⟨h, _⟩ := upgrade_cases kind c ht
  · rw [← written_eq hd hcan]; exact hle
  · rw [h] at hw; cases hw

/-- **C07.iv (partial: outside known finding F-C07-1)** — for every kind, size, plan entry and
    current knob: after `CalculateBatchContext` + `UpgradeBatch` the knob in force exposes at
    least the `DesiredUpdatedReplicas` the readiness check demands. -/
theorem target_suffices_partial (o : Obs) (e : IntOrPct) (c : Ctx)
    (hR : 0 ≤ o.replicas) (hnn : o.noNeedUpdate = none) (ht : KnobTyped o.kind o.knobCur)
    (he : o.entry = some e) (hc : calcCtx o = .ok c)
    (hg : gPctFallback o.kind o.replicas e none = false) :
    targetSuffices o.kind o.replicas c.knobCur (upgrade o.kind c) c.desired = true := by
  obtain ⟨e', he', hce⟩ := calcCtx_ok hc
  cases he.symm.trans he'
  have hrep : c.replicas = o.replicas := by rw [hce]
  have hA : c.desired ≤ exposureOf o.kind c.knobDes c.replicas := by
    rw [hce, hnn]; exact desKnob_suffices o.kind o.replicas e hR hg
  have hct : KnobTyped o.kind c.knobCur := by
    rw [hce]; revert ht; cases o.kind <;> simp only [KnobTyped, curKnob] <;> exact id
  apply decide_eq_true
  rw [← hrep]
  obtain ⟨h, hle⟩ | ⟨h, _⟩ := upgrade_cases o.kind c hct
  · -- no write: the current knob exposes at least what the desired one would
    rw [written_calcCtx hc] at hle
    rw [h]; exact Int.le_trans hA hle
  · rw [h, written_calcCtx hc]; exact hA

/-- The full-strength statement (no guard) is FALSE on the unchanged code: witness
    CloneSet, 101 replicas, step "99%" — partition "1%" keeps 2 stable pods, the readiness
    check demands 100 updated pods of which only 99 can exist. -/
theorem target_suffices_full_FALSE :
    ∃ o e c, 0 ≤ o.replicas ∧ o.noNeedUpdate = none ∧ KnobTyped o.kind o.knobCur ∧ o.entry = some e ∧
      calcCtx o = .ok c ∧ gPctFallback o.kind o.replicas e none = true ∧
      targetSuffices o.kind o.replicas c.knobCur (upgrade o.kind c) c.desired = false := by
  refine ⟨{ kind := .cloneSet, replicas := 101, entry := some (pct 99), noNeedUpdate := none,
            knobCur := pct 100, updated := 0, updatedReady := 0, failureThreshold := none },
          pct 99, _, by decide, rfl, trivial, rfl, rfl, by decide, by decide⟩

/-! non-vacuity of the partial theorem's hypotheses (a test on literals) -/
example : gPctFallback .cloneSet 10 (pct 50) none = false ∧
    calcCtx { kind := .cloneSet, replicas := 10, entry := some (pct 50), noNeedUpdate := none,
              knobCur := pct 100, updated := 0, updatedReady := 0, failureThreshold := none } =
      .ok (Ctx.mk 10 0 0 5 5 (pct 100) (pct 50) none) := ⟨by decide, rfl⟩

end RV.Props.C07
