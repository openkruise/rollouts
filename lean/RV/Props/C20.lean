import RV.Lemmas.Conversion
/-!
# C20 — API versions convert without losing what the user wrote

Model: `RV/Model/Conversion.lean` (literal transcription of `api/v1alpha1/conversion.go`
after `fixes/C20-1.patch`).  Predicates: `RV/Oracle/C20.lean`.

* (iii) **totality** — none of the four conversions dereferences nil, on any object
* (i)  **v1alpha1 → v1beta1 → v1alpha1 keeps the meaning** — for *every* v1alpha1 Rollout /
  BatchRelease; for Rollouts the read-back object *is* the normal form `meaningRollout a`
* (ii) **v1beta1 → v1alpha1 → v1beta1 is the identity up to the two carrier annotations** —
  for every v1alpha1-expressible (`expressibleRollout` / `expressibleBR`) object

All quantifiers range over the whole (unbounded) model types: any number of steps, traffic
routings, matches, conditions, any strings, any int32 weight.
-/
namespace RV.Props.C20
open RV.Conversion RV.Oracle.C20 RV.Lemmas.C20

/-! ## (iii) totality -/

/-- **C20.iii** `(*Rollout).ConvertTo` never panics — every v1alpha1 Rollout, in particular
    without `workloadRef` and/or without `canary`. -/
theorem rolloutTo_total (a : A.Rollout) : total (rolloutTo a) = true := rfl

/-- **C20.iii** `(*Rollout).ConvertFrom` never panics — every v1beta1 Rollout, in particular one
    whose strategy has neither `canary` nor `blueGreen` (on which `GetRollingStyle` itself would). -/
theorem rolloutFrom_total (b : B.Rollout) : total (rolloutFrom b) = true := by
  unfold rolloutFrom
  rw [blueGreenOnly_eq]
  cases b.spec.strategy.blueGreen <;> rfl

/-- **C20.iii** `(*BatchRelease).ConvertTo` never panics (also without `targetReference.workloadRef`). -/
theorem brTo_total (a : A.BatchRelease) : total (brTo a) = true := rfl

/-- **C20.iii** `(*BatchRelease).ConvertFrom` never panics. -/
theorem brFrom_total (b : B.BatchRelease) : total (brFrom b) = true := rfl

/-- `GetRollingStyle` *does* dereference `Canary`: totality of `ConvertFrom` is not an artefact
    of a totalised model. -/
example : B.Strategy.getRollingStyle { paused := false, canary := none, blueGreen := none } = .panic := rfl

/-! ## (i) v1alpha1 → v1beta1 → v1alpha1 -/

/-- **weights**: every int32 weight `w` is stored as the string `"<w>%"` (`%d`) and read back
    (HasSuffix "%", `strconv.Atoi`, ⌈v·100/100⌉, `int32(…)`) as exactly `w` (= `goTrafficWeight_fmtPercent`). -/
theorem weight_roundtrip (w : Int32) : goTrafficWeight (fmtPercent w.toInt) = w :=
  goTrafficWeight_fmtPercent w

/-- **C20.i (Rollout), strongest form**: writing any v1alpha1 Rollout and reading it back yields
    exactly its normal form `meaningRollout a` — every field verbatim except: absent workloadRef
    ↦ empty one, absent step replicas ↦ "<weight>%", style annotation ↦ `partition`/`canary`,
    deprecated `rolloutID` ↦ dropped. -/
theorem rollout_readback (a : A.Rollout) :
    (rolloutTo a).bind rolloutFrom = .ok (meaningRollout a) := by
  obtain ⟨md, ⟨wref, ⟨paused, canary⟩, rid, dis⟩, st⟩ := a
  cases canary with
  | none =>
    cases wref <;>
      simp [rolloutTo, rolloutFrom, Outcome.bind, blueGreenOnly_eq,
        meaningRollout, normRef, emptyRef, zeroRef, statusFrom_statusTo]
  | some c =>
    cases wref <;>
      simp [rolloutTo, rolloutFrom, Outcome.bind, blueGreenOnly_eq,
        meaningRollout, normRef, emptyRef, zeroRef, statusFrom_statusTo, canaryFrom_canaryTo,
        mdFrom_canaryTo]

/-- **C20.i (Rollout)** — the oracle the driver evaluates on the implementation's read-back:
    for every v1alpha1 Rollout, `ConvertFrom (ConvertTo a)` has the meaning of `a`. -/
theorem rollout_meaning_roundtrip (a : A.Rollout) :
    meaningHoldsRollout a ((rolloutTo a).bind rolloutFrom) = true := by
  rw [rollout_readback]
  simp [meaningHoldsRollout, meaningRollout_idem]

/-- the read-back is `a` with the stored style in the field and, lower-cased, in the annotation (`ConvertFrom` always
    writes it), and an absent workloadRef as the empty one -/
theorem br_readback (a : A.BatchRelease) :
    (brTo a).bind brFrom =
      .ok { md := { a.md with annStyle := some (lowerAscii (storedStyle a)) }
            spec := { workloadRef := normRef a.spec.workloadRef
                      plan := { a.spec.plan with rollingStyle := storedStyle a } }
            status := a.status } := by
  obtain ⟨md, ⟨wref, plan⟩, st⟩ := a
  cases wref <;>
    simp [brTo, brFrom, Outcome.bind, planFrom_planTo, brStatusFrom_brStatusTo, storedStyle, normRef,
      emptyRef, zeroRef]

/-- **C20.i (BatchRelease)**: for every v1alpha1 BatchRelease — with or without
    `targetReference.workloadRef`, style given by annotation, by `spec.releasePlan.rollingStyle`,
    by both or by neither — `ConvertFrom (ConvertTo a)` has the meaning of `a`. -/
theorem br_meaning_roundtrip (a : A.BatchRelease) :
    meaningHoldsBR a ((brTo a).bind brFrom) = true := by
  rw [br_readback]
  simp only [meaningHoldsBR, beq_iff_eq]
  unfold meaningBR
  rw [brStyle_of_lower rfl rfl, canon_storedStyle]
  obtain ⟨md, ⟨wref, plan⟩, st⟩ := a
  cases wref <;> rfl

/-- With a case-canonical style field the stored style is *exactly* the requested one
    (no case normalisation involved). -/
theorem br_style_exact (a : A.BatchRelease) (h : canonStyle a.spec.plan.rollingStyle = a.spec.plan.rollingStyle) :
    storedStyle a = brStyle a := by
  unfold storedStyle brStyle
  rw [planTo_style, h]
  rfl

/-! ## (ii) v1beta1 → v1alpha1 → v1beta1 -/

/-- **C20.ii (Rollout)**: every canary-strategy v1beta1 Rollout restricted to v1alpha1-expressible
    fields (`expressibleRollout`, stated in full in RV/Oracle/C20.lean) survives
    ConvertFrom ; ConvertTo: the result is the object itself with the two carrier annotations
    (re)written (`stampRollout`). -/
theorem rollout_rmw (b : B.Rollout) (h : expressibleRollout b = true) :
    (rolloutFrom b).bind rolloutTo = .ok (stampRollout b) := by
  obtain ⟨md, ⟨wref, ⟨paused, canary, bg⟩, dis⟩, st⟩ := b
  simp only [expressibleRollout, Bool.and_eq_true, Option.isNone_iff_eq_none, beq_iff_eq] at h
  obtain ⟨⟨⟨⟨hbg, hc⟩, hbgs⟩, hcur⟩, hstate⟩ := h
  subst hbg
  cases canary with
  | none => simp at hc
  | some c =>
    simp only [Bool.and_eq_true, Bool.or_eq_true, bne_iff_ne, ne_eq, beq_iff_eq] at hc
    obtain ⟨hsteps, htr⟩ := hc
    obtain ⟨steps, trs, ft, patch, extra, ref, noSvc⟩ := c
    obtain ⟨rest, sty, tr, oth⟩ := md
    have hst := statusTo_statusFrom st hbgs hcur hstate
    have hsteps' : (steps.map stepFrom).map stepTo = steps := by
      rw [List.map_map]
      exact map_id_of_all stepExpressible _ stepTo_stepFrom steps hsteps
    by_cases hr : ref = ""
    · subst hr
      have htr' : annGet tr = "" := htr.resolve_left (fun h => h rfl)
      cases extra <;>
        simp_all [rolloutFrom, rolloutTo, Outcome.bind, blueGreenOnly_eq, stampRollout, mdFrom, canaryFrom,
          canaryTo, annGet, eqFold_canary_partition, eqFold_partition_partition]
    · cases extra <;>
        simp_all [rolloutFrom, rolloutTo, Outcome.bind, blueGreenOnly_eq, stampRollout, mdFrom, canaryFrom,
          canaryTo, annGet, eqFold_canary_partition, eqFold_partition_partition]

/-- **C20.ii (Rollout)** — the oracle the driver evaluates on the implementation's output -/
theorem rollout_rmw_holds (b : B.Rollout) :
    rmwHoldsRollout b ((rolloutFrom b).bind rolloutTo) = true := by
  unfold rmwHoldsRollout
  cases h : expressibleRollout b with
  | false => rfl
  | true => simp [rollout_rmw b h]

/-- **C20.ii (BatchRelease)**: reading an expressible v1beta1 BatchRelease as v1alpha1 and writing it back changes
    nothing but the carrier annotations (`stampBR`) -/
theorem br_rmw (b : B.BatchRelease) (h : expressibleBR b = true) :
    (brFrom b).bind brTo = .ok (stampBR b) := by
  obtain ⟨md, ⟨wref, plan⟩, st⟩ := b
  simp only [expressibleBR, Bool.and_eq_true, beq_iff_eq] at h
  simp [brFrom, brTo, Outcome.bind, stampBR, planTo_planFrom plan h.1, brStatusTo_brStatusFrom st h.2]

theorem br_rmw_holds (b : B.BatchRelease) : rmwHoldsBR b ((brFrom b).bind brTo) = true := by
  unfold rmwHoldsBR
  cases h : expressibleBR b with
  | false => rfl
  | true => simp [br_rmw b h]

/-- the stamp only touches the two carrier annotations -/
theorem stampRollout_frame (b : B.Rollout) :
    (stampRollout b).spec = b.spec ∧ (stampRollout b).status = b.status ∧
    (stampRollout b).md.rest = b.md.rest ∧ (stampRollout b).md.annOthers = b.md.annOthers := by
  unfold stampRollout
  cases b.spec.strategy.canary <;> simp

/-- … and is a no-op on an object that went through the round trip once -/
theorem stampRollout_idem (b : B.Rollout) : stampRollout (stampRollout b) = stampRollout b := by
  obtain ⟨md, ⟨wref, ⟨paused, canary, bg⟩, dis⟩, st⟩ := b
  cases canary with
  | none => rfl
  | some c =>
    by_cases h : c.trafficRoutingRef = "" <;> simp [stampRollout, h]

/-! ## non-vacuity, and what is *not* carried (tests on literals — not the ∀ claims) -/

def md0 : Meta := { rest := "{\"name\":\"demo\"}", annStyle := some "Partition", annTR := some "tr-demo", annOthers := "{}" }
def ref0 : Ref := { apiVersion := "apps/v1", kind := "Deployment", name := "web" }
def cs0 : CanaryStatus :=
  { observedWorkloadGeneration := 3, observedRolloutID := "1", rolloutHash := "h", stableRevision := "s",
    canaryRevision := "c", podTemplateHash := "p", canaryReplicas := 2, canaryReadyReplicas := 1,
    nextStepIndex := 2, currentStepIndex := 1, currentStepState := "StepPaused", message := "",
    lastUpdateTime := some "2024-01-01T00:00:00Z", finalisingStep := "" }

/-- weight-only step, replicas step with header match, a traffic routing, status cursor -/
def a0 : A.Rollout :=
  { md := md0
    spec := { workloadRef := some ref0
              strategy := { paused := false
                            canary := some
                              { steps := [ { tr := { weight := some 20, requestHeaderModifier := none, mts := [] }
                                             replicas := none, pause := { duration := some 60 } },
                                           { tr := { weight := none, requestHeaderModifier := some "{}", mts := [{ headers := ["h1"] }] }
                                             replicas := some (.int 5), pause := { duration := none } } ]
                                trafficRoutings := [ { service := "svc", gracePeriodSeconds := 3
                                                       ingress := some { classType := "nginx", name := "ing" }
                                                       gateway := none, customNetworkRefs := [ref0] } ]
                                failureThreshold := some (.str "10%")
                                patch := some { annotations := [("a", "b")], labels := [] }
                                disableGenerateCanaryService := true } }
              rolloutID := "id-7", disabled := false }
    status := { observedGeneration := 4, canaryStatus := some cs0, conditions := [], phase := "Progressing", message := "m" } }

/-- non-vacuity of (i): the stored object really differs in shape (traffic "20%", synthesised replicas) -/
example : (match rolloutTo a0 with
    | .ok b => (b.spec.strategy.canary.map fun c => c.steps.map fun s => (s.tr.traffic, s.replicas))
    | .panic => none) = some [(some "20%", some (.str "20%")), (none, some (.int 5))] := by decide +kernel

example : meaningHoldsRollout a0 ((rolloutTo a0).bind rolloutFrom) = true := by decide +kernel

/-- what (i) does not promise: the deprecated `spec.rolloutID` has no v1beta1 field and is dropped -/
theorem rolloutID_not_carried :
    (match (rolloutTo a0).bind rolloutFrom with | .ok a' => a'.spec.rolloutID | .panic => "?") = "" := by decide +kernel

/-- `meaningRollout` is no constant: another `spec.disabled` is another meaning -/
example : meaningRollout a0 ≠ meaningRollout { a0 with spec := { a0.spec with disabled := true } } := by decide +kernel

/-- a Rollout without `workloadRef` and without a canary block (the nil dereferences `fixes/C20-1.patch` removes):
    it converts and reads back -/
def aBare : A.Rollout := { md := { md0 with annStyle := none, annTR := none }, spec := A.Spec.zero, status := A.Status.zero }
example : (rolloutTo aBare).isOk = true ∧ meaningHoldsRollout aBare ((rolloutTo aBare).bind rolloutFrom) = true := by decide +kernel

/-- an expressible canary-strategy v1beta1 Rollout (non-vacuity of (ii)) -/
def b0 : B.Rollout :=
  { md := { md0 with annStyle := none, annTR := none }
    spec := { workloadRef := ref0
              strategy := { paused := true
                            canary := some
                              { steps := [ { tr := { traffic := some "20%", requestHeaderModifier := none
                                                     mts := [{ path := none, headers := ["h"], queryParams := [] }] }
                                             replicas := some (.str "20%"), pause := { duration := none } } ]
                                trafficRoutings := [], failureThreshold := none, patch := none
                                enableExtraWorkloadForCanary := true, trafficRoutingRef := "tr-1"
                                disableGenerateCanaryService := true }
                            blueGreen := none }
              disabled := false }
    status := { observedGeneration := 1, canaryStatus := some cs0, blueGreenStatus := none, conditions := [],
                phase := "Progressing", message := "", currentStepIndex := 0, currentStepState := "" } }

example : expressibleRollout b0 = true := by decide +kernel
example : (rolloutFrom b0).bind rolloutTo = .ok (stampRollout b0) ∧ stampRollout b0 ≠ b0 := by decide +kernel

/-- outside the expressible fragment the round trip does change the object
    (traffic "5" is not a percentage: read as weight 0, written back as "0%") -/
def cBadTraffic : B.Canary :=
  { steps := [ { tr := { traffic := some "5", requestHeaderModifier := none, mts := [] }
                 replicas := some (.int 1), pause := { duration := none } } ]
    trafficRoutings := [], failureThreshold := none, patch := none
    enableExtraWorkloadForCanary := false, trafficRoutingRef := "", disableGenerateCanaryService := false }
def bBadTraffic : B.Rollout :=
  { b0 with spec := { b0.spec with strategy := { b0.spec.strategy with canary := some cBadTraffic } } }
example : expressibleRollout bBadTraffic = false ∧
    (rolloutFrom bBadTraffic).bind rolloutTo ≠ .ok (stampRollout bBadTraffic) := by decide +kernel

def plan0 : ReleasePlan :=
  { batches := [.str "50%", .int 3], batchPartition := some 0, rolloutID := "1", failureThreshold := none,
    finalizingPolicy := "WaitResume", patch := none, rollingStyle := "Canary", enableExtraWorkloadForCanary := false }
def brcs0 : BRCanaryStatus :=
  { currentBatchState := "Ready", currentBatch := 1, batchReadyTime := none,
    updatedReplicas := 2, updatedReadyReplicas := 2, noNeedUpdateReplicas := none }
def brStatus0 : A.BRStatus :=
  { conditions := [], canaryStatus := brcs0,
    stableRevision := "s", updateRevision := "u", observedGeneration := 2, observedRolloutID := "1",
    observedWorkloadReplicas := 4, collisionCount := none, observedReleasePlanHash := "h", phase := "Progressing" }

/-- the rolling style given only by `spec.releasePlan.rollingStyle`, without the annotation: it is carried -/
def abr0 : A.BatchRelease :=
  { md := { md0 with annStyle := none }, spec := { workloadRef := none, plan := plan0 }, status := brStatus0 }
example : (match brTo abr0 with | .ok b => b.spec.plan.rollingStyle | .panic => "?") = "Canary" := by decide +kernel
example : meaningHoldsBR abr0 ((brTo abr0).bind brFrom) = true := by decide +kernel

/-- the annotation, when it names a style, takes precedence over the field -/
example : storedStyle { abr0 with md := { md0 with annStyle := some "PARTITION" } } = "Partition" := by decide +kernel

/-- a corner (i) leaves open: a *non-canonically cased* style field with no style annotation is
    stored verbatim and comes back with the lower-cased annotation, which names the canonical style;
    `meaningBR` identifies the two (style names are case-insensitive in v1alpha1). -/
example : storedStyle { abr0 with spec := { abr0.spec with plan := { plan0 with rollingStyle := "canary" } } } = "canary" ∧
    brStyle { abr0 with spec := { abr0.spec with plan := { plan0 with rollingStyle := "canary" } } } = "Canary" := by decide +kernel

def bbr0 : B.BatchRelease :=
  { md := md0, spec := { workloadRef := ref0, plan := { plan0 with rollingStyle := "Rolling" } }
    status := { conditions := [], canaryStatus := brcs0, stableRevision := "s", updateRevision := "u",
                observedGeneration := 2, observedRolloutID := "1", observedWorkloadReplicas := 4, collisionCount := some 1,
                observedReleasePlanHash := "h", phase := "Progressing", message := "" } }
example : expressibleBR bbr0 = true ∧ (brFrom bbr0).bind brTo = .ok (stampBR bbr0) := by decide +kernel
example : expressibleBR { bbr0 with spec := { bbr0.spec with plan := { plan0 with rollingStyle := "canary" } } } = false := by decide +kernel

end RV.Props.C20
