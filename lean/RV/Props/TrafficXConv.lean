import RV.Props.TrafficXThms
import RV.Lemmas.Grace
/-!
# C07.iii — the Manager over a lawful provider converges (no oscillation, bounded number of rounds)

`doTRX_converges`: on a healthy API server `DoTrafficRouting` reports *done* — or reports an error to its
caller — after at most `bound + 1` further rounds, `bound` being the provider's own bound (1 for the Gateway
API and the custom provider, 2 for the canary Ingress, the sum for a composite).
`finalisingX_converges`: `FinalisingTrafficRouting` reports *done* after at most `leftoverX ≤ 9` rounds.
The grace-memory clock (`tick`, `NoFresh`, `expW`) is that of `RV/Lemmas/Grace.lean`.
-/
namespace RV.Props.TrafficX
open RV.TrafficX RV.Traffic RV.Oracle.TrafficX

variable {S G : Type}

/-- a round whose outcome is final for the caller: done, or an error / a panic it gets to see -/
def settled (o : XOut G) : Prop := o.done = true ∨ o.err = true ∨ o.panic = true

section lawful
variable (ops : StratOps S) {P : Provider S G} {Inv : G → Prop} {spec : G → S → Prop} {clean : G → Prop}
  {μ : G → S → Nat} {bound : Nat} (hL : LawfulProvider P Inv spec clean μ bound)

/-- the state after one more round of `DoTrafficRouting` on a healthy API server -/
def stepNetX (P : Provider S G) (c : XCtx S) (m : Mem) (n : XNet G) : XNet G :=
  (doTrafficRoutingX ops (some P) c Api.ok n m).net

/-- `k` further rounds -/
def iterNetX (P : Provider S G) (c : XCtx S) (m : Mem) : Nat → XNet G → XNet G
  | 0, n => n
  | k + 1, n => iterNetX P c m k (stepNetX ops P c m n)

include hL

/-- the hypotheses under which a round of `DoTrafficRouting` is a provider round; they are kept from round to round -/
def Routing (Inv : G → Prop) (c : XCtx S) (n : XNet G) : Prop :=
  servicesInPlace c n = true ∧ n.stableExists = true ∧ Inv n.g

/-- with the Services in place every round is a provider round, and stays one; the provider's variant bounds their number -/
theorem route_rounds_routing (c : XCtx S) (m : Mem) (href : c.hasRef = true) (hstep : isStep ops c.strategy = true)
    (hw : ¬ c.InGrace) (hrev : c.RevsKnown) :
    ∀ (b : Nat) (n : XNet G), Routing Inv c n → μ n.g c.strategy ≤ b →
      ∃ k, k ≤ b ∧ Routing Inv c (iterNetX ops P c m k n) ∧
        settled (doTrafficRoutingX ops (some P) c Api.ok (iterNetX ops P c m k n) m) := by
  -- one provider round: the caller sees its outcome, or the variant went down
  have step : ∀ n : XNet G, Routing Inv c n →
      settled (doTrafficRoutingX ops (some P) c Api.ok n m) ∨
      (Routing Inv c (stepNetX ops P c m n) ∧ μ (stepNetX ops P c m n).g c.strategy < μ n.g c.strategy) := by
    intro n ⟨hin, hex, hi⟩
    unfold stepNetX settled
    rw [doTRX_inPlace ops (some P) c Api.ok n m href hstep rfl hex hw hin hrev]
    simp only [routeStepX]
    cases hp : (P.ensure Api.ok n.g c.strategy).panic
    · cases he : (P.ensure Api.ok n.g c.strategy).err
      · cases hf : (P.ensure Api.ok n.g c.strategy).flag
        · exact .inr ⟨⟨hin, hex, hL.inv_ensure Api.ok n.g c.strategy hi⟩, (hL.ensure_progress n.g c.strategy hi hp he).1 hf⟩
        · exact .inl (.inl rfl)
      · exact .inl (.inr (.inl (by simp)))
    · exact .inl (.inr (.inr (by simp [XOut.panicked])))
  intro b
  induction b with
  | zero =>
    intro n hr hb
    rcases step n hr with h | ⟨_, hlt⟩
    · exact ⟨0, Nat.le_refl _, hr, h⟩
    · omega
  | succ b ih =>
    intro n hr hb
    rcases step n hr with h | ⟨h1, hlt⟩
    · exact ⟨0, Nat.zero_le _, hr, h⟩
    · obtain ⟨k, hk, hs⟩ := ih _ h1 (by omega)
      exact ⟨k + 1, by omega, hs⟩

theorem route_rounds (c : XCtx S) (m : Mem) (href : c.hasRef = true) (hstep : isStep ops c.strategy = true)
    (hw : ¬ (c.lastUpdate = .fresh ∧ c.doGrace > 0))
    (hrev : c.noGen = true ∨ (c.stableRev ≠ "" ∧ c.canaryRev ≠ "")) :
    ∀ (b : Nat) (n : XNet G), servicesInPlace c n = true → n.stableExists = true → Inv n.g →
      μ n.g c.strategy ≤ b →
      ∃ k, k ≤ b ∧ settled (doTrafficRoutingX ops (some P) c Api.ok (iterNetX ops P c m k n) m) := by
  intro b n hin hex hi hb
  obtain ⟨k, hk, _, hs⟩ := route_rounds_routing ops hL c m href hstep hw hrev b n ⟨hin, hex, hi⟩ hb
  exact ⟨k, hk, hs⟩

/-- the general form of `doTRX_converges`: the round that settles is a provider round -/
theorem doTRX_converges_routing (c : XCtx S) (n : XNet G) (m : Mem) (href : c.hasRef = true)
    (hstep : isStep ops c.strategy = true) (hex : n.stableExists = true) (hi : Inv n.g)
    (hw : ¬ c.InGrace) (hrev : c.RevsKnown) :
    ∃ k, k ≤ bound + 1 ∧ Routing Inv c (iterNetX ops P c m k n) ∧
      settled (doTrafficRoutingX ops (some P) c Api.ok (iterNetX ops P c m k n) m) := by
  by_cases hin : servicesInPlace c n = true
  · obtain ⟨k, hk, hs⟩ := route_rounds_routing ops hL c m href hstep hw hrev bound n ⟨hin, hex, hi⟩ (hL.μ_le _ _)
    exact ⟨k, by omega, hs⟩
  · -- the first round puts the Services in place and leaves the provider alone
    obtain ⟨n2, ws, hs, hin2, hg, hse, hnil⟩ := svcStepX_healthy c n hrev
    have hws : ws ≠ [] := by
      intro h; have := hnil h; subst this; exact hin hin2
    have hstepN : stepNetX ops P c m n = n2 := congrArg XOut.net (doTRX_svcRound (some P) m href hstep rfl hex hw hs hws)
    obtain ⟨k, hk, hst⟩ := route_rounds_routing ops hL c m href hstep hw hrev bound n2
      ⟨hin2, by rw [hse]; exact hex, by rw [hg]; exact hi⟩ (hL.μ_le _ _)
    refine ⟨k + 1, by omega, ?_⟩
    show Routing Inv c (iterNetX ops P c m k (stepNetX ops P c m n)) ∧
      settled (doTrafficRoutingX ops (some P) c Api.ok (iterNetX ops P c m k (stepNetX ops P c m n)) m)
    rw [hstepN]; exact hst

/-- **C07.iii** — for every lawful provider, every context with a route to manage and a step
    that has something to route, every state in which the stable Service exists and the provider's invariant
    holds: if the caller comes back whenever its grace period has elapsed, then on a healthy API server
    `DoTrafficRouting` reports *done* — or an error / a panic the caller sees — after at most `bound + 1` further
    rounds.  There is no state from which it keeps rewriting the network silently. -/
theorem doTRX_converges (c : XCtx S) (n : XNet G) (m : Mem) (href : c.hasRef = true)
    (hstep : isStep ops c.strategy = true) (hex : n.stableExists = true) (hi : Inv n.g)
    (hw : ¬ (c.lastUpdate = .fresh ∧ c.doGrace > 0))
    (hrev : c.noGen = true ∨ (c.stableRev ≠ "" ∧ c.canaryRev ≠ "")) :
    ∃ k, k ≤ bound + 1 ∧ settled (doTrafficRoutingX ops (some P) c Api.ok (iterNetX ops P c m k n) m) := by
  obtain ⟨k, hk, _, hs⟩ := doTRX_converges_routing ops hL c n m href hstep hex hi hw hrev
  exact ⟨k, hk, hs⟩

/-- … and with a provider that neither fails nor panics on a healthy API server (on the states of its invariant) the
    round that settles reports *done* -/
theorem doTRX_converges_done (hne : ∀ g s, Inv g → (P.ensure Api.ok g s).err = false ∧ (P.ensure Api.ok g s).panic = false)
    (c : XCtx S) (n : XNet G) (m : Mem) (href : c.hasRef = true)
    (hstep : isStep ops c.strategy = true) (hex : n.stableExists = true) (hi : Inv n.g)
    (hw : ¬ c.InGrace) (hrev : c.RevsKnown) :
    ∃ k, k ≤ bound + 1 ∧ (doTrafficRoutingX ops (some P) c Api.ok (iterNetX ops P c m k n) m).done = true := by
  obtain ⟨k, hk, ⟨hin, hex', hi'⟩, hs⟩ := doTRX_converges_routing ops hL c n m href hstep hex hi hw hrev
  refine ⟨k, hk, ?_⟩
  obtain ⟨he, hp⟩ := hne _ c.strategy hi'
  rw [doTRX_inPlace ops (some P) c Api.ok _ m href hstep rfl hex' hw hin hrev] at hs ⊢
  simp only [settled, routeStepX, hp, he, Bool.false_eq_true, if_false, or_false] at hs ⊢
  exact hs

end lawful

/-- the state after one more round of `DoTrafficRouting` on a healthy API server; `Q = none`: the provider cannot
    be built -/
def stepNetO (ops : StratOps S) (Q : Option (Provider S G)) (c : XCtx S) (m : Mem) (n : XNet G) : XNet G :=
  (doTrafficRoutingX ops Q c Api.ok n m).net

/-- `k` further rounds -/
def iterNetO (ops : StratOps S) (Q : Option (Provider S G)) (c : XCtx S) (m : Mem) : Nat → XNet G → XNet G
  | 0, n => n
  | k + 1, n => iterNetO ops Q c m k (stepNetO ops Q c m n)

theorem iterNetO_some (ops : StratOps S) (P : Provider S G) (c : XCtx S) (m : Mem) (k : Nat) (n : XNet G) :
    iterNetO ops (some P) c m k n = iterNetX ops P c m k n := by
  induction k generalizing n with
  | zero => rfl
  | succ k ih => exact ih (stepNetX ops P c m n)

/-- **C07.iii** — a configuration whose provider cannot be built settles at once: under the
    hypotheses of `doTRX_converges`, `DoTrafficRouting` returns the error after at most 1 further round (the
    round that puts the Services in place).  It never keeps retrying silently, and (`refused_doTR`) it never
    touches a provider object. -/
theorem refused_converges (ops : StratOps S) (c : XCtx S) (n : XNet G) (m : Mem) (href : c.hasRef = true)
    (hstep : isStep ops c.strategy = true) (hex : n.stableExists = true)
    (hw : ¬ (c.lastUpdate = .fresh ∧ c.doGrace > 0))
    (hrev : c.noGen = true ∨ (c.stableRev ≠ "" ∧ c.canaryRev ≠ "")) :
    ∃ k, k ≤ 1 ∧ settled (doTrafficRoutingX ops (none : Option (Provider S G)) c Api.ok
      (iterNetO ops (none : Option (Provider S G)) c m k n) m) := by
  obtain ⟨h1, h2⟩ := refused_is_reported (G := G) ops c n m href hstep hex hw hrev
  cases hin : servicesInPlace c n
  · exact ⟨1, Nat.le_refl _, Or.inr (Or.inl (h2 hin))⟩
  · exact ⟨0, Nat.zero_le _, Or.inr (Or.inl (h1 hin))⟩

open RV.Props.Traffic (expW tick tickE tick_noFresh NoFresh runGrace_modified runGrace_nofresh expW_tick_le expW_le_one tickE_ne_fresh)

/-! What is left to clean up, weighted so that every round that is not done lowers it: 2 for each phase that
    still has something to do, 1 for each grace period that is still pending.  Each of the three calls owns one
    phase and one period, and leaves the others alone. -/

def pinWX (c : XCtx S) (n : XNet G) : Nat :=
  if n.stableExists = true ∧ c.hasRevKey = true ∧ n.stableSel.getD "" ≠ "" then 2 else 0
def provWX (P : Provider S G) (n : XNet G) : Nat := if (P.finalise Api.ok n.g).flag then 2 else 0
def svcWX (c : XCtx S) (n : XNet G) : Nat := if c.noGen = false ∧ n.canarySvc.isSome = true then 2 else 0

def leftoverX (P : Provider S G) (c : XCtx S) (n : XNet G) (m : Mem) : Nat :=
  pinWX c n + provWX P n + svcWX c n + expW m.restoreService + expW m.restoreGateway + expW m.removeCanaryService

theorem leftoverX_le (P : Provider S G) (c : XCtx S) (n : XNet G) (m : Mem) : leftoverX P c n m ≤ 9 := by
  unfold leftoverX pinWX provWX svcWX
  have := expW_le_one m.restoreService
  have := expW_le_one m.restoreGateway
  have := expW_le_one m.removeCanaryService
  split <;> split <;> split <;> omega

theorem pinWX_congr (c : XCtx S) {n n' : XNet G} (h1 : n'.stableExists = n.stableExists) (h2 : n'.stableSel = n.stableSel) :
    pinWX c n' = pinWX c n := by
  unfold pinWX; rw [h1, h2]
theorem provWX_congr (P : Provider S G) {n n' : XNet G} (h : n'.g = n.g) : provWX P n' = provWX P n := by
  unfold provWX; rw [h]
theorem svcWX_congr (c : XCtx S) {n n' : XNet G} (h : n'.canarySvc = n.canarySvc) : svcWX c n' = svcWX c n := by
  unfold svcWX; rw [h]

/-! One round of one of the three clean-up calls (`rs_roundX`, `rc_roundX`, `rg_roundX`) on a healthy API server, with a grace
    period configured and none of its own running: the call does not fail and leaves the other two phases and their periods
    alone; its own share of `leftoverX` (phase weight + period, after the tick) went down if it asks for a retry, and did not go
    up otherwise (stated for the two calls the round goes on after). -/

theorem rs_roundX (c : XCtx S) (n : XNet G) (m : Mem) (href : c.hasRef = true) (hg : c.graceSec ≠ 0)
    (hm : m.restoreService ≠ .fresh) :
    let r := restoreStableServiceX c Api.ok n m
    r.err = false ∧ r.panic = false ∧ r.a = Api.ok ∧ r.net.g = n.g ∧ r.net.canarySvc = n.canarySvc ∧
    r.mem.restoreGateway = m.restoreGateway ∧ r.mem.removeCanaryService = m.removeCanaryService ∧
    (r.done = true → pinWX c r.net + expW (tickE r.mem.restoreService) < pinWX c n + expW m.restoreService) ∧
    (r.done = false → pinWX c r.net + expW r.mem.restoreService ≤ pinWX c n + expW m.restoreService) := by
  intro r
  rcases rsX_cases c Api.ok n m with ⟨h, _⟩ | ⟨_, h, _⟩ | ⟨_, _, _, e⟩ | ⟨_, _, hex, hk, hs, ⟨h, _⟩ | ⟨a2, hsp, e⟩⟩ |
    ⟨_, _, _, _, e⟩
  · rw [href] at h; cases h
  · cases h
  · rw [show r = _ from e]
    exact ⟨rfl, rfl, rfl, rfl, rfl, rfl, rfl, fun h => (by cases h), fun _ => Nat.le_refl _⟩
  · cases h
  · cases hsp
    rw [show r = _ from e, runGrace_modified c.graceSec m.restoreService hg]
    refine ⟨rfl, rfl, rfl, rfl, rfl, rfl, rfl, fun _ => ?_, fun h => (by cases h)⟩
    have h0 : pinWX c ({ n with stableSel := none } : XNet G) = 0 := by simp [pinWX]
    have h2 : pinWX c n = 2 := by simp [pinWX, hex, hk, hs]
    rw [h0, h2]
    exact Nat.lt_of_lt_of_le (by decide : 0 + expW (tickE .fresh) < 2) (Nat.le_add_right _ _)
  · rw [show r = _ from e, runGrace_nofresh c.graceSec m.restoreService hg hm]
    exact ⟨rfl, rfl, rfl, rfl, rfl, rfl, rfl, fun h => (by cases h), fun _ => Nat.le_add_right _ _⟩

theorem rc_roundX (c : XCtx S) (n : XNet G) (m : Mem) (hg : c.graceSec ≠ 0) (hm : m.removeCanaryService ≠ .fresh) :
    let r := removeCanaryServiceX c Api.ok n m
    r.err = false ∧ r.net.g = n.g ∧ r.net.stableSel = n.stableSel ∧ r.net.stableExists = n.stableExists ∧
    r.mem.restoreService = m.restoreService ∧ r.mem.restoreGateway = m.restoreGateway ∧
    (r.done = true →
      svcWX c r.net + expW (tickE r.mem.removeCanaryService) < svcWX c n + expW m.removeCanaryService) := by
  intro r
  rcases rcX_cases c Api.ok n m with ⟨_, e⟩ | ⟨_, hng, ⟨h, _⟩ | ⟨a1, _, e⟩⟩
  · rw [show r = _ from e]
    exact ⟨rfl, rfl, rfl, rfl, rfl, rfl, fun h => (by cases h)⟩
  · cases h
  · rw [show r = _ from e]
    refine ⟨rfl, rfl, rfl, rfl, rfl, rfl, ?_⟩
    cases hcs : n.canarySvc.isSome
    · rw [runGrace_nofresh c.graceSec m.removeCanaryService hg hm]
      exact fun h => (by cases h)
    · rw [runGrace_modified c.graceSec m.removeCanaryService hg]
      have h0 : svcWX c ({ n with canarySvc := none } : XNet G) = 0 := by simp [svcWX]
      have h2 : svcWX c n = 2 := by simp [svcWX, hng, hcs]
      rw [h0, h2]
      exact fun _ => Nat.lt_of_lt_of_le (by decide : 0 + expW (tickE .fresh) < 2) (Nat.le_add_right _ _)

section lawful
variable {P : Provider S G} {Inv : G → Prop} {spec : G → S → Prop} {clean : G → Prop}
  {μ : G → S → Nat} {bound : Nat} (hL : LawfulProvider P Inv spec clean μ bound)
include hL

theorem rg_roundX (c : XCtx S) (n : XNet G) (m : Mem) (hi : Inv n.g) (href : c.hasRef = true) (hg : c.graceSec ≠ 0)
    (hm : m.restoreGateway ≠ .fresh) :
    let r := restoreGatewayX (some P) c Api.ok n m
    r.err = false ∧ r.panic = false ∧ r.a = Api.ok ∧ r.net.stableSel = n.stableSel ∧ r.net.canarySvc = n.canarySvc ∧
    r.net.stableExists = n.stableExists ∧ Inv r.net.g ∧ r.mem.restoreService = m.restoreService ∧
    r.mem.removeCanaryService = m.removeCanaryService ∧
    (r.done = true → provWX P r.net + expW (tickE r.mem.restoreGateway) < provWX P n + expW m.restoreGateway) ∧
    (r.done = false → provWX P r.net + expW r.mem.restoreGateway ≤ provWX P n + expW m.restoreGateway) := by
  intro r
  obtain ⟨he, hp⟩ := hL.finalise_healthy n.g hi
  have h0 : provWX P ({ n with g := (P.finalise Api.ok n.g).g } : XNet G) = 0 := by
    simp [provWX, hL.finalise_stable Api.ok n.g hi hp he Api.ok rfl, PRes.noop]
  rcases rgX_cases P c Api.ok n m with ⟨h, _⟩ | ⟨_, ⟨h, _⟩ | ⟨_, h, _⟩ | ⟨_, _, e⟩⟩
  · rw [href] at h; cases h
  · rw [hp] at h; cases h
  · rw [he] at h; cases h
  · rw [show r = _ from e, hL.healthy_finalise n.g, h0]
    refine ⟨rfl, rfl, rfl, rfl, rfl, rfl, hL.inv_finalise Api.ok n.g hi, rfl, rfl, ?_⟩
    cases hf : (P.finalise Api.ok n.g).flag
    · rw [runGrace_nofresh c.graceSec m.restoreGateway hg hm]
      exact ⟨fun h => (by cases h), fun _ => Nat.le_add_left _ _⟩
    · rw [runGrace_modified c.graceSec m.restoreGateway hg]
      have h2 : provWX P n = 2 := by simp [provWX, hf]
      rw [h2]
      exact ⟨fun _ => Nat.lt_of_lt_of_le (by decide : 0 + expW (tickE .fresh) < 2) (Nat.le_add_right _ _),
        fun h => (by cases h)⟩

/-- **one round of the clean-up makes progress**: it reports done, or strictly less is left afterwards; on a
    healthy API server it never fails -/
theorem fin_round_progressX (c : XCtx S) (n : XNet G) (m : Mem) (hi : Inv n.g) (href : c.hasRef = true)
    (hg : c.graceSec ≠ 0) (hm : NoFresh m) :
    (finalisingTrafficRoutingX (some P) c Api.ok n m).err = false ∧
    (finalisingTrafficRoutingX (some P) c Api.ok n m).panic = false ∧
    Inv (finalisingTrafficRoutingX (some P) c Api.ok n m).net.g ∧
    ((finalisingTrafficRoutingX (some P) c Api.ok n m).done = true ∨
     leftoverX P c (finalisingTrafficRoutingX (some P) c Api.ok n m).net
        (tick (finalisingTrafficRoutingX (some P) c Api.ok n m).mem) < leftoverX P c n m) := by
  obtain ⟨hm1, hm2, hm3⟩ := hm
  have hc := finX_cases (some P) c Api.ok n m href
  dsimp only at hc
  obtain ⟨e1, p1, ao1, g1, s1, k1, k1', dn1, nd1⟩ := rs_roundX c n m href hg hm1
  generalize restoreStableServiceX c Api.ok n m = r1 at *
  rw [ao1] at hc
  obtain ⟨e2, p2, ao2, x2, s2, y2, hi2, k2, k2', dn2, nd2⟩ :=
    rg_roundX hL c r1.net r1.mem (g1 ▸ hi) href hg (k1 ▸ hm2)
  generalize restoreGatewayX (some P) c Api.ok r1.net r1.mem = r2 at *
  rw [ao2] at hc
  rw [provWX_congr P g1, k1] at dn2 nd2
  obtain ⟨e3, g3, x3, y3, k3, k3', dn3⟩ := rc_roundX c r2.net r2.mem hg (k2' ▸ k1' ▸ hm3)
  generalize removeCanaryServiceX c Api.ok r2.net r2.mem = r3 at *
  rw [svcWX_congr c s2, svcWX_congr c s1, k2', k1'] at dn3
  have t1 := expW_tick_le r1.mem.restoreService
  have t2 := expW_tick_le m.restoreGateway
  have t3 := expW_tick_le m.removeCanaryService
  rcases hc with ⟨h, e⟩ | ⟨_, d1, ⟨h, _⟩ | ⟨_, h, e⟩ | ⟨_, _, d2, e⟩⟩
  · have d1 : r1.done = true := by
      rcases h with h | h
      · rw [e1] at h; cases h
      · exact h
    rw [e]
    refine ⟨e1, p1, g1 ▸ hi, .inr ?_⟩
    show pinWX c r1.net + provWX P r1.net + svcWX c r1.net + expW (tickE r1.mem.restoreService) +
      expW (tickE r1.mem.restoreGateway) + expW (tickE r1.mem.removeCanaryService) < _
    have := dn1 d1
    rw [provWX_congr P g1, svcWX_congr c s1, k1, k1']; unfold leftoverX; omega
  · rw [p2] at h; cases h
  · have d2 : r2.done = true := by
      rcases h with h | h
      · rw [e2] at h; cases h
      · exact h
    rw [e]
    refine ⟨e2, rfl, hi2, .inr ?_⟩
    show pinWX c r2.net + provWX P r2.net + svcWX c r2.net + expW (tickE r2.mem.restoreService) +
      expW (tickE r2.mem.restoreGateway) + expW (tickE r2.mem.removeCanaryService) < _
    have := dn2 d2; have := nd1 d1
    rw [pinWX_congr c y2 x2, svcWX_congr c s2, svcWX_congr c s1, k2, k2', k1']; unfold leftoverX; omega
  · rw [e]
    refine ⟨e3, rfl, g3 ▸ hi2, ?_⟩
    cases d3 : r3.done
    · exact .inl (by simp [e3])
    · right
      show pinWX c r3.net + provWX P r3.net + svcWX c r3.net + expW (tickE r3.mem.restoreService) +
        expW (tickE r3.mem.restoreGateway) + expW (tickE r3.mem.removeCanaryService) < _
      have := dn3 d3; have := nd2 d2; have := nd1 d1
      have t2' := expW_tick_le r2.mem.restoreGateway
      rw [pinWX_congr c y3 x3, pinWX_congr c y2 x2, provWX_congr P g3, k3, k3', k2]
      unfold leftoverX; omega

/-- `k` rounds of clean-up on a healthy API server, time passing after each -/
def finIterX (P : Provider S G) (c : XCtx S) : Nat → XNet G × Mem → XNet G × Mem
  | 0, s => s
  | k + 1, s => finIterX P c k ((finalisingTrafficRoutingX (some P) c Api.ok s.1 s.2).net,
                                 tick (finalisingTrafficRoutingX (some P) c Api.ok s.1 s.2).mem)

theorem finalisingX_converges_aux (c : XCtx S) (href : c.hasRef = true) (hg : c.graceSec ≠ 0) :
    ∀ (b : Nat) (n : XNet G) (m : Mem), Inv n.g → leftoverX P c n m ≤ b → NoFresh m →
      ∃ k, k ≤ b ∧ (finalisingTrafficRoutingX (some P) c Api.ok (finIterX P c k (n, m)).1 (finIterX P c k (n, m)).2).done = true := by
  intro b
  induction b with
  | zero =>
    intro n m hi hb hm
    obtain ⟨_, _, _, hp⟩ := fin_round_progressX hL c n m hi href hg hm
    rcases hp with hd | hlt
    · exact ⟨0, Nat.le_refl _, hd⟩
    · omega
  | succ b ih =>
    intro n m hi hb hm
    obtain ⟨_, _, hi', hp⟩ := fin_round_progressX hL c n m hi href hg hm
    rcases hp with hd | hlt
    · exact ⟨0, Nat.zero_le _, hd⟩
    · obtain ⟨k, hk, hdone⟩ := ih (finalisingTrafficRoutingX (some P) c Api.ok n m).net
        (tick (finalisingTrafficRoutingX (some P) c Api.ok n m).mem) hi' (by omega) (tick_noFresh _)
      exact ⟨k + 1, by omega, hdone⟩

/-- **C05 / C07** — for every lawful provider, every context, every state satisfying the
    provider's invariant and every grace memory without a running period (e.g. the empty memory after a
    restart): if the caller comes back whenever its grace period has elapsed, then on a healthy API server
    `FinalisingTrafficRouting` reports *done* after at most `leftoverX ≤ 9` rounds (no round returns an error or panics:
    `fin_round_progressX`) — and by `finalisingX_order_partial` *done* means un-pinned, provider clean, canary Service
    removed, in that order. -/
theorem finalisingX_converges (c : XCtx S) (n : XNet G) (m : Mem) (hi : Inv n.g) (href : c.hasRef = true)
    (hg : c.graceSec ≠ 0) (hm : NoFresh m) :
    ∃ k, k ≤ 9 ∧ (finalisingTrafficRoutingX (some P) c Api.ok (finIterX P c k (n, m)).1 (finIterX P c k (n, m)).2).done = true := by
  obtain ⟨k, hk, hd⟩ := finalisingX_converges_aux hL c href hg (leftoverX P c n m) n m hi (Nat.le_refl _) hm
  exact ⟨k, Nat.le_trans hk (leftoverX_le P c n m), hd⟩

end lawful

end RV.Props.TrafficX
