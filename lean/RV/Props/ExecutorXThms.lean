import RV.Lemmas.ExecutorX
/-!
# The BatchRelease executor over **every** control plane (C01.3, C06, C07, C09, C11, C18)

`RV.ExecutorX.reconcileX P` is one `BatchReleaseReconciler.Reconcile` written over a record `P : Plane W` of the five
calls of `control.Interface`.  The theorems below are proved **once, for every plane**: every BatchRelease (any plan, partition,
status — corrupted phases / states included), every world of the plane.  Those that speak of readiness, release, claim or exposure
need the plane to be lawful (`Laws P Q`, `UpgradeLaws P Q`); the others (finalizer, persist-before-act, plan change, scaling, where a
crash can come from) hold of any plane, and the last section is about `getReleaseController`, which picks the plane.
The laws are proved for each concrete plane (`RV.Props.ExecutorXCs`, `…XPDep`, `…XSts`, `…XBG`, `…XCanary`) from that plane's
own model.

`executor_is_instance`: the CloneSet executor `RV.Executor.reconcile` is the instance for the CloneSet plane; the theorems
`RV.Props.Executor.*` are the ones below read at that plane.
-/
namespace RV.Props.ExecutorX
open RV.Arith RV.BatchCtx RV.Executor RV.ExecutorX RV.Oracle.ExecutorX

variable {W : Type}

/-- **Plane laws.**  What the executor relies on, stated with the plane's *own* predicates `Q : Preds W`
    (`ready`: the batch the persisted status points at has its pods, as the plane counts them; `released`: the workload is
    no longer under this BatchRelease's control), for every world the API server can hold (`Q.wf`). -/
structure Laws (P : Plane W) (Q : Preds W) : Prop where
  /-- `EnsureBatchPodsReadyAndLabeled` returns nil exactly when the plane's readiness predicate holds (never from the new status) -/
  ensure_ok_iff : ∀ br ns w, Q.wf w = true → (P.ensure br ns w = .val .ok ↔ Q.ready br w = true)
  /-- `Finalize` returning nil means released -/
  fin_ok_released : ∀ br w w', Q.wf w = true → P.fin br w = .val (w', .ok) → Q.released br w' = true
  /-- `Initialize` records revisions / replicas / no-need-update only -/
  init_frame : InitFrame P
  /-- a successful `Initialize` leaves the workload claimed the way this plane claims it -/
  init_ok_claimed : ∀ br ns w w' ns', Q.wf w = true → P.init br ns w = .val (w', ns', .ok) → Q.claimed br w w' = true

/-- **Exposure laws** of a plane (`exposure`: how many pods of the new revision the world lets run, `allowed`: what the plan entry
    of the current batch allows), inside the region `expoOK` in which the plane's own exposure theorems hold.  No theorem of this
    file takes `init_exposes_nothing`: it is the plane's own C01 statement about `Initialize`, under one signature for all planes;
    the theorems here take the `UpgradeLaws` part. -/
structure ExposureLaws (P : Plane W) (Q : Preds W) : Prop where
  /-- `Initialize` exposes nothing -/
  init_exposes_nothing : ∀ br ns w w' ns' r, Q.wf w = true → Q.expoOK br w = true →
    P.init br ns w = .val (w', ns', r) → Q.exposure w' ≤ Q.exposure w
  /-- `UpgradeBatch` never lowers the exposure … -/
  upgrade_monotone : ∀ br ns w w' r, Q.wf w = true → Q.expoOK br w = true →
    P.upgrade br ns w = .val (w', r) → Q.exposure w ≤ Q.exposure w'
  /-- … and raises it at most to what the current batch allows -/
  upgrade_within : ∀ br ns w w' r, Q.wf w = true → Q.expoOK br w = true →
    P.upgrade br ns w = .val (w', r) → Q.exposure w' ≤ max (Q.exposure w) (Q.allowed br w)
  /-- a failed `UpgradeBatch` changed nothing -/
  upgrade_err_same : ∀ br ns w w', P.upgrade br ns w = .val (w', .err) → w' = w

/-- the `UpgradeBatch` part of the exposure laws, all that `x_write_within_batch` needs; on its own because the blue-green planes
    have it for `bgPreds` (`bgUpgradeLaws`) while `init_exposes_nothing` fails there (`bg_init_exposes_nothing_full_FALSE_*`) -/
structure UpgradeLaws (P : Plane W) (Q : Preds W) : Prop where
  upgrade_monotone : ∀ br ns w w' r, Q.wf w = true → Q.expoOK br w = true →
    P.upgrade br ns w = .val (w', r) → Q.exposure w ≤ Q.exposure w'
  upgrade_within : ∀ br ns w w' r, Q.wf w = true → Q.expoOK br w = true →
    P.upgrade br ns w = .val (w', r) → Q.exposure w' ≤ max (Q.exposure w) (Q.allowed br w)
  upgrade_err_same : ∀ br ns w w', P.upgrade br ns w = .val (w', .err) → w' = w

theorem ExposureLaws.upgradeLaws {P : Plane W} {Q : Preds W} (E : ExposureLaws P Q) : UpgradeLaws P Q :=
  ⟨E.upgrade_monotone, E.upgrade_within, E.upgrade_err_same⟩

/-- the readiness verdict the oracles use: the plane's predicate for the release as the executor holds it -/
abbrev readyNow (Q : Preds W) (br : BR) (w : W) : Bool := Q.ready (withFinalizer br) w

/-- **`RV.Executor.reconcile` is `reconcileX` for the CloneSet plane** — by unfolding both reconcilers down to the calls of the
    plane; the special-case chain (`syncDecide`), `refreshStatus`, `moveToNextBatch` are shared definitions and are not
    unfolded.  Every theorem of `RV.Props.Executor` is therefore a theorem about `reconcileX csPlane`. -/
theorem executor_is_instance (br : BR) (wl : Option Workload) :
    reconcile br wl = mapOut StepOutX.toStepOut (reconcileX csPlane br wl) := by
  unfold reconcile reconcileX
  split
  · rfl
  · unfold reconcileBody reconcileBodyX
    have hsync : ∀ b ns w, syncStatusX csPlane b ns w = .val (syncStatus b ns w) := fun _ _ _ => rfl
    rw [hsync]
    dsimp only
    split
    · rfl
    · rw [← execute_eq]
      generalize execute (withFinalizer br) _ wl = r
      rcases r with ⟨ns', w', rq, er⟩ | _ <;> rfl

/-- **C18** — for every plane: the controller drops its own finalizer only while the object is
    being deleted *and* its phase is `Completed`; in every other reconcile the finalizer is present afterwards. -/
theorem x_finalizer_guards_teardown (P : Plane W) (br : BR) (w : W) (o : StepOutX W)
    (h : reconcileX P br w = .val o) : goneOnlyWhenCompleted br o.br = true := by
  unfold goneOnlyWhenCompleted RV.Oracle.Executor.goneOnlyWhenCompleted
  cases reconcileX_rec h with
  | gone hd hp => simp [hd, hp]
  | stopped | executed => simp [withFinalizer]

/-- **C06 / C01** — for every plane: a phase / batch-state / cursor change decided by the sync step is
    persisted *before* anything acts on it: when the reconcile stops after the sync, the plane's world is not written. -/
theorem x_no_act_before_persist [DecidableEq W] (P : Plane W) (br : BR) (w : W) (o : StepOutX W)
    (h : reconcileX P br w = .val o) : noActBeforePersist (stoppedX P br w) w o.wl = true := by
  unfold noActBeforePersist
  cases reconcileX_rec h with
  | gone | stopped => simp
  | executed hns => rw [hns]; rfl

/-- **C11.i** — for every lawful plane: whenever the executor acts on a `Progressing` release and leaves
    the batch state `Ready`, `EnsureBatchPodsReadyAndLabeled` passed in this very reconcile, i.e. the plane's own readiness
    predicate holds of the world as it was observed. -/
theorem x_ready_only_if_ready (P : Plane W) (Q : Preds W) (L : Laws P Q) (br : BR) (w : W) (o : StepOutX W) (b : BR)
    (h : reconcileX P br w = .val o) (hb : o.br = some b) (hwf : Q.wf w = true) :
    readyOnlyIfReady (stoppedX P br w) (readyNow Q br w) br b = true := by
  unfold readyOnlyIfReady
  split
  · rename_i hc
    obtain ⟨hns, hp, _, hs'⟩ := hc
    cases reconcileX_rec h with
    | gone => cases hb
    | stopped _ hs => exact absurd hs hns
    | executed _ _ _ _ hx =>
      cases hb
      -- `Ready` is left behind by the two leaves that passed the readiness check
      cases hx.prog hp with
      | verified _ he | wait _ he => exact (L.ensure_ok_iff _ _ _ hwf).mp he
      | upgradeErr hm => exact absurd (hm.symm.trans hs') nofun
      | upgraded | unverified | unready | advance => cases hs'
  · rfl

/-- the cursor never passes the batch partition, whatever the phase: the sync step recalculates it below the partition, the plan
    execution moves it only by one and only below the partition -/
theorem x_batch_le (P : Plane W) (hI : InitFrame P) (br : BR) (w : W) (o : StepOutX W) (b : BR) (p : Int)
    (h : reconcileX P br w = .val o) (hb : o.br = some b) (hp : br.partition = some p) (hp0 : 0 ≤ p)
    (hle : br.status.currentBatch ≤ p) : b.status.currentBatch ≤ p := by
  cases reconcileX_rec h with
  | gone => cases hb
  | stopped st _ _ hst =>
    cases hb
    show st.currentBatch ≤ p
    rw [hst, refresh_currentBatch]
    apply syncDecide_within (withFinalizer br) _ _ _ p hp hp0
    rcases initialized_cases br.status with ⟨_, hi⟩ | ⟨_, hi⟩ <;> rw [hi]
    · exact hp0
    · exact hle
  | @executed _ _ ns' _ _ _ _ _ _ _ hx =>
    cases hb
    show ns'.currentBatch ≤ p
    rcases hx.cursor hI with hc | ⟨hc, hlt⟩
    · omega
    · have := hlt p hp
      omega

/-- **C11.ii / C01.3** — for every lawful plane: the executor never works on a batch beyond its
    `batchPartition`: if `currentBatch ≤ batchPartition` held before a reconcile of a release that is (still) Progressing,
    it holds after it — across plan recalculation, restart, scaling and normal advancement.  (`hwf` and `hne` are not used, and
    of `L` only `init_frame`: the hypotheses are those the `x_…` theorems about a lawful plane share.) -/
theorem x_within_partition (P : Plane W) (Q : Preds W) (L : Laws P Q) (br : BR) (w : W) (o : StepOutX W) (b : BR)
    (h : reconcileX P br w = .val o) (hb : o.br = some b) (hwf : Q.wf w = true) (hne : br.status.phase ≠ .empty) :
    withinPartition br b = true := by
  unfold withinPartition RV.Oracle.Executor.withinPartition
  cases hpart : br.partition with
  | none => rfl
  | some p =>
    dsimp only
    split
    · rename_i hc
      exact decide_eq_true (x_batch_le P L.init_frame br w o b p h hb hpart hc.2.2 hc.2.1)
    · rfl

/-- **C11.ii / C01.3** — for every lawful plane: with an unchanged, healthy plan, `currentBatch` rises
    only by exactly one, only from batch state `Ready`, only with the plane's readiness predicate true in this reconcile, and
    only while `batchPartition` is strictly above it. -/
theorem x_batch_advance_guarded (P : Plane W) (Q : Preds W) (L : Laws P Q) (br : BR) (w : W) (o : StepOutX W) (b : BR)
    (h : reconcileX P br w = .val o) (hb : o.br = some b) (hwf : Q.wf w = true) :
    batchAdvanceGuarded (readyNow Q br w) br b = true := by
  unfold batchAdvanceGuarded
  split
  · rename_i hc
    obtain ⟨hgt, hp, hh, hu⟩ := hc
    have hne : br.status.phase ≠ .empty := by rw [hp]; exact Phase.noConfusion
    cases reconcileX_rec h with
    | gone => cases hb
    | stopped st _ _ hst =>
      cases hb
      exfalso
      replace hgt : st.currentBatch > br.status.currentBatch := hgt
      rw [hst, refresh_currentBatch, initialized_id _ hne,
        syncDecide_currentBatch (withFinalizer br) _ _ _ (isPlanChanged_false _ hh) ((Bool.not_eq_true _).mp hu)] at hgt
      omega
    | @executed _ _ ns' _ _ _ hns _ _ _ hx =>
      cases hb
      replace hgt : ns'.currentBatch > br.status.currentBatch := hgt
      have hcb := normState_currentBatch br.status
      -- the cursor moves in one leaf only
      cases hx.prog hp with
      | advance hrd hok =>
        have hready : readyNow Q br w = true := (L.ensure_ok_iff _ _ _ hwf).mp hok
        have hid := normState_of_ne_upgrading br.status (by rw [hrd]; exact BState.noConfusion)
        rw [hid] at hrd hgt ⊢
        rcases moveToNextBatch_currentBatch (withFinalizer br) br.status with ⟨hm, hlt⟩ | hm
        · cases hpart : br.partition with
          | none =>
            -- a release without partition is finalizing: the sync step would have stopped
            have hfin := nostopX_progressing_not_finalizing P br w hns hp
            simp [isPlanFinalizing, hpart] at hfin
          | some p =>
            have := hlt p hpart
            simp [hm, hrd, hready, this]
        · omega
      | upgraded | upgradeErr | verified | unverified | unready | wait =>
        have : (normState br.status).currentBatch > br.status.currentBatch := hgt
        omega
  · rfl

/-- `Completed` is written by one leaf only, the `Finalize` that returned nil (whatever the persisted phase was, an empty one included) -/
theorem x_completed_needs_finalize (P : Plane W) (hI : InitFrame P) (br : BR) (w : W) (o : StepOutX W) (b : BR)
    (h : reconcileX P br w = .val o) (hb : o.br = some b) (hc : b.status.phase = .completed)
    (hnc : br.status.phase ≠ .completed) :
    br.status.phase = .finalizing ∧ P.fin (withFinalizer br) w = .val (o.wl, .ok) := by
  cases reconcileX_rec h with
  | gone => cases hb
  | stopped st _ _ hst =>
    cases hb
    replace hc : st.phase = .completed := hc
    rw [hst, refresh_phase] at hc
    exact absurd hc (syncDecide_not_completed _ _ _ _ (initialized_not_completed _ hnc))
  | @executed _ _ ns' _ _ _ _ _ _ _ hx =>
    cases hb
    replace hc : ns'.phase = .completed := hc
    cases hx with
    | progressing hp hpr => rw [hpr.frame.1, normState_phase, hp] at hc; cases hc
    | initialized => cases hc
    | initErr hq hi => rw [(hI _ _ _ _ _ _ hi).1, hq] at hc; cases hc
    | finalized hq hf => exact ⟨hq, hf⟩
    | finErr | idle => exact absurd hc hnc

/-- **C18**, on the call (for planes without laws too): `x_completed_needs_finalize` under the hypothesis `phase ≠ empty` that
    `x_completed_means_released` and the CloneSet statement `RV.Props.Executor.completed_means_released` carry. -/
theorem x_completed_only_after_finalize (P : Plane W) (hI : InitFrame P) (br : BR) (w : W) (o : StepOutX W) (b : BR)
    (h : reconcileX P br w = .val o) (hb : o.br = some b) (hne : br.status.phase ≠ .empty)
    (hc : b.status.phase = .completed) (hnc : br.status.phase ≠ .completed) :
    br.status.phase = .finalizing ∧ P.fin (withFinalizer br) w = .val (o.wl, .ok) :=
  x_completed_needs_finalize P hI br w o b h hb hc hnc

/-- **C11.iii / C18** — for every lawful plane and **every attempt** (any world a previous attempt
    left): phase `Completed` is entered only from `Finalizing`, in a reconcile in which the plane's `Finalize` returned
    without error, and then the plane's `released` predicate holds of the world that call left. -/
theorem x_completed_means_released (P : Plane W) (Q : Preds W) (L : Laws P Q) (br : BR) (w : W) (o : StepOutX W) (b : BR)
    (h : reconcileX P br w = .val o) (hb : o.br = some b) (hwf : Q.wf w = true) (hne : br.status.phase ≠ .empty) :
    completedMeansReleased (Q.released (withFinalizer br) o.wl) br b = true := by
  unfold completedMeansReleased
  split
  · rename_i hc
    obtain ⟨hf, hfin⟩ := x_completed_only_after_finalize P L.init_frame br w o b h hb hne hc.1 hc.2
    rw [hf, L.fin_ok_released _ _ _ hwf hfin]
    rfl
  · rfl

/-- **C11.iv** — for every lawful plane: if the plane's readiness predicate fails while the batch state is
    `Verifying` or `Ready`, the state falls back to `Upgrading` (and a recorded ready time is cleared) rather than staying `Ready`. -/
theorem x_falls_back (P : Plane W) (Q : Preds W) (L : Laws P Q) (br : BR) (w : W) (o : StepOutX W) (b : BR)
    (h : reconcileX P br w = .val o) (hb : o.br = some b) (hwf : Q.wf w = true) :
    fallsBack (stoppedX P br w) (readyNow Q br w) br b = true := by
  unfold fallsBack
  split
  · rename_i hc
    obtain ⟨hns, hp, hst, hnr⟩ := hc
    cases reconcileX_rec h with
    | gone => cases hb
    | stopped _ hs => exact absurd hs hns
    | executed _ _ _ _ hx =>
      cases hb
      have hx := hx.prog hp
      rw [normState_of_known _ (by rcases hst with e | e <;> rw [e] <;> exact BState.noConfusion)
        (by rcases hst with e | e <;> rw [e] <;> exact BState.noConfusion)] at hx
      -- the readiness check did not pass: of the leaves of `Verifying` / `Ready` only the two fall-backs are left
      cases hx with
      | unverified hv => simp [hv]
      | unready => simp
      | verified _ he | advance _ he | wait _ he => exact absurd ((L.ensure_ok_iff _ _ _ hwf).mp he) hnr
      | upgraded hu | upgradeErr hu => rcases hst with e | e <;> rw [e] at hu <;> cases hu
  · rfl

/-- **C11.iv** — for every plane: a plan change found while `Progressing` is acknowledged only as
    `Upgrading` with the ready time cleared; `Ready` is never kept across a plan edit. -/
theorem x_plan_change_falls_back (P : Plane W) (br : BR) (w : W) (o : StepOutX W) (b : BR)
    (h : reconcileX P br w = .val o) (hb : o.br = some b) :
    planChangeFallsBack br b = true := by
  unfold planChangeFallsBack RV.Oracle.Executor.planChangeFallsBack
  split
  · rename_i hc
    obtain ⟨hp, hh, hnf⟩ := hc
    have hc : br.status.phase ≠ .completed := by rw [hp]; exact Phase.noConfusion
    have hdec : ∀ ev info, syncDecide (withFinalizer br) (initializedStatus br.status) ev info =
        (signalRecalculate (withFinalizer br) br.status, false) := by
      intro ev info
      rw [initialized_id _ (by rw [hp]; exact Phase.noConfusion)]
      exact syncDecide_changed (withFinalizer br) _ _ _ hc ((Bool.not_eq_true _).mp hnf)
        (by simp [isPlanChanged, withFinalizer, hp, hh])
    have hfields : ∀ i, (refreshStatus (signalRecalculate (withFinalizer br) br.status) i).batchState = .upgrading ∧
        (refreshStatus (signalRecalculate (withFinalizer br) br.status) i).hasReadyTime = false ∧
        (refreshStatus (signalRecalculate (withFinalizer br) br.status) i).hash = .same := by
      intro i; cases i <;> exact ⟨rfl, rfl, rfl⟩
    cases reconcileX_rec h with
    | gone => cases hb
    | @stopped _ info st _ _ hst =>
      cases hb
      rw [hdec] at hst
      obtain ⟨f1, f2, f3⟩ := hfields info
      simp [hst, f1, f2, f3]
    | @executed _ info _ _ _ _ _ _ _ hst =>
      -- acknowledging the new plan changes the hash, so the sync step stops
      rw [hdec] at hst
      rw [← hst] at hh
      exact absurd (hfields info).2.2 hh
  · rfl

/-- **C01 / C11** — for every lawful plane: a release becomes `Progressing` only in a reconcile that executed the
    plane's `Initialize` successfully from a persisted `Preparing` (or unknown) phase — never through the sync step — and then the
    workload is claimed the way the serving plane claims it (the plane's own post-condition, on the worlds before / after). -/
theorem x_init_claims (P : Plane W) (Q : Preds W) (L : Laws P Q) (br : BR) (w : W) (o : StepOutX W) (b : BR)
    (h : reconcileX P br w = .val o) (hb : o.br = some b) (hwf : Q.wf w = true) :
    initClaims (Q.claimed (withFinalizer br) w o.wl) br b = true := by
  unfold initClaims
  split
  · rename_i hc
    obtain ⟨hnp, hp'⟩ := hc
    cases reconcileX_rec h with
    | gone => cases hb
    | stopped st _ _ hst =>
      cases hb
      -- the sync step never makes a release `Progressing`
      exfalso
      replace hp' : st.phase = .progressing := hp'
      rw [hst, refresh_phase] at hp'
      have := syncDecide_progressing _ _ _ _ hp'
      rcases initialized_cases br.status with ⟨_, hi⟩ | ⟨_, hi⟩ <;> rw [hi] at this
      · cases this
      · exact hnp this
    | @executed _ _ ns' _ _ _ _ _ _ _ hx =>
      cases hb
      replace hp' : ns'.phase = .progressing := hp'
      cases hx with
      | initialized _ hi => exact L.init_ok_claimed _ _ _ _ _ hwf hi
      | initErr hq hi => rw [(L.init_frame _ _ _ _ _ _ hi).1, hq] at hp'; cases hp'
      | progressing hp => exact absurd hp hnp
      | finalized => cases hp'
      | finErr | idle => exact absurd hp' hnp
  · rfl

/-- **C11.iv** — for every plane: when the plane's `SyncWorkloadInformation` reports the scaling event for a
    `Progressing` release whose plan is neither finalizing, changed nor unhealthy, the reconcile restarts the batch (`Upgrading`,
    ready time cleared), records the new size, keeps phase and cursor, and does not act in this round. -/
theorem x_scaling_restarts (P : Plane W) (br : BR) (w : W) (o : StepOutX W) (b : BR)
    (h : reconcileX P br w = .val o) (hb : o.br = some b) :
    scalingRestarts (scaledX P br w) br b = true ∧
    (∀ r, scaledX P br w = some r → br.status.phase = .progressing → isPlanFinalizing br = false → isPlanChanged br = false →
      isPlanUnhealthy br = false → br.status.observedReplicas ≠ r → o.wl = w) := by
  have key : ∀ r, scaledX P br w = some r → br.status.phase = .progressing → isPlanFinalizing br = false →
      isPlanChanged br = false → isPlanUnhealthy br = false → br.status.observedReplicas ≠ r →
      (b.status.batchState = .upgrading ∧ b.status.hasReadyTime = false ∧ b.status.observedReplicas = r ∧
       b.status.phase = .progressing ∧ b.status.currentBatch = br.status.currentBatch) ∧ o.wl = w := by
    intro r hsc hp hf hc hu hne
    unfold scaledX at hsc
    split at hsc
    · rename_i i hi
      cases hsc
      have hdec : syncDecide (withFinalizer br) (initializedStatus br.status) .replicasChanged (some i) =
          ({ br.status with hasReadyTime := false, batchState := .upgrading, observedReplicas := i.replicas }, false) := by
        rw [initialized_id _ (by rw [hp]; exact Phase.noConfusion)]
        exact syncDecide_scaled (withFinalizer br) br.status i hf hc hu hp
      cases reconcileX_rec h with
      | gone => cases hb
      | stopped st _ hsi hst =>
        cases hb
        rw [hi] at hsi; cases hsi
        rw [hdec] at hst
        subst hst
        exact ⟨⟨rfl, rfl, rfl, hp, rfl⟩, rfl⟩
      | executed _ hsi _ hst =>
        -- recording the new size changes the status, so the sync step stops
        rw [hi] at hsi; cases hsi
        rw [hdec] at hst
        exact absurd (congrArg Status.observedReplicas hst).symm hne
    · cases hsc
  constructor
  · unfold scalingRestarts
    cases hsc : scaledX P br w with
    | none => rfl
    | some r =>
      simp only []
      split
      · rename_i hc
        obtain ⟨hp, hf, hc', hu, hne⟩ := hc
        obtain ⟨⟨f1, f2, f3, f4, f5⟩, _⟩ := key r hsc hp (by simpa using hf) (by simpa using hc') (by simpa using hu) hne
        simp [f1, f2, f3, f4, f5]
      · rfl
  · intro r hsc hp hf hc hu hne
    exact (key r hsc hp hf hc hu hne).2

/-- **C07** — for every lawful plane: when the plane's readiness predicate holds, a reconcile in
    `Verifying` reports `Ready` (with the ready time set) and touches nothing. -/
theorem x_verifying_becomes_ready (P : Plane W) (Q : Preds W) (L : Laws P Q) (br : BR) (w : W) (o : StepOutX W)
    (h : reconcileX P br w = .val o) (hwf : Q.wf w = true) (hns : stoppedX P br w = false)
    (hp : br.status.phase = .progressing) (hst : br.status.batchState = .verifying) (hr : readyNow Q br w = true) :
    ∃ b, o.br = some b ∧ b.status.batchState = .ready ∧ b.status.hasReadyTime = true ∧
      b.status.currentBatch = br.status.currentBatch ∧ o.wl = w := by
  have hok := (L.ensure_ok_iff (withFinalizer br) br.status w hwf).mpr hr
  cases reconcileX_rec h with
  | gone _ hc => rw [hp] at hc; cases hc
  | stopped _ hs => rw [hns] at hs; cases hs
  | executed _ _ _ _ hx =>
    have hx := hx.prog hp
    rw [normState_of_known _ (by rw [hst]; exact BState.noConfusion) (by rw [hst]; exact BState.noConfusion)] at hx
    cases hx with
    | verified => exact ⟨_, rfl, rfl, rfl, rfl, rfl⟩
    | unverified _ he => rw [hok] at he; cases he
    | upgraded hm | upgradeErr hm | unready hm | advance hm | wait hm => rw [hst] at hm; cases hm

/-- **C07** — for every lawful plane: a batch that is `Ready`, whose pods still satisfy the plane's
    readiness predicate and whose partition does not ask for more, is a fixed point: neither the status nor the world changes. -/
theorem x_ready_is_fixed_point (P : Plane W) (Q : Preds W) (L : Laws P Q) (br : BR) (w : W) (o : StepOutX W)
    (h : reconcileX P br w = .val o) (hwf : Q.wf w = true) (hns : stoppedX P br w = false)
    (hp : br.status.phase = .progressing) (hst : br.status.batchState = .ready) (hr : readyNow Q br w = true)
    (hpart : isPartitioned br = true) :
    o.br = some (withFinalizer br) ∧ o.wl = w := by
  have hok := (L.ensure_ok_iff (withFinalizer br) br.status w hwf).mpr hr
  cases reconcileX_rec h with
  | gone _ hc => rw [hp] at hc; cases hc
  | stopped _ hs => rw [hns] at hs; cases hs
  | executed _ _ _ _ hx =>
    have hx := hx.prog hp
    rw [normState_of_known _ (by rw [hst]; exact BState.noConfusion) (by rw [hst]; exact BState.noConfusion)] at hx
    cases hx with
    | wait => exact ⟨rfl, rfl⟩
    | advance _ _ hnp => rw [show isPartitioned (withFinalizer br) = isPartitioned br from rfl, hpart] at hnp; cases hnp
    | unready _ he => rw [hok] at he; cases he
    | upgraded hm | upgradeErr hm | verified hm | unverified hm => rw [hst] at hm; cases hm

/-- **C07** — the oracle form of the two theorems above -/
theorem x_settles [DecidableEq W] (P : Plane W) (Q : Preds W) (L : Laws P Q) (br : BR) (w : W) (o : StepOutX W) (b : BR)
    (h : reconcileX P br w = .val o) (hb : o.br = some b) (hwf : Q.wf w = true) :
    settles (stoppedX P br w) (readyNow Q br w) br b w o.wl = true := by
  unfold settles
  split
  · rename_i hc
    obtain ⟨hns, hp, hr⟩ := hc
    have hns' : stoppedX P br w = false := by simpa using hns
    split
    · rename_i hv
      obtain ⟨b', hb', f1, f2, f3, f4⟩ := x_verifying_becomes_ready P Q L br w o h hwf hns' hp hv hr
      rw [hb'] at hb; simp only [Option.some.injEq] at hb; subst hb
      simp [f1, f2, f3, f4]
    · split
      · rename_i hrd
        obtain ⟨f1, f2⟩ := x_ready_is_fixed_point P Q L br w o h hwf hns' hp hrd.1 hr hrd.2
        rw [f1] at hb; simp only [Option.some.injEq] at hb; subst hb
        simp [withFinalizer, f2]
      · rfl
  · rfl

/-- **C01** — for every lawful plane: a reconcile of a release that is and stays `Progressing` changes the
    exposure of the new revision only upwards and at most to what the plan entry of the batch the *persisted* status points at
    allows; every other such reconcile leaves the exposure as it is. -/
theorem x_write_within_batch (P : Plane W) (Q : Preds W) (L : Laws P Q) (E : UpgradeLaws P Q) (br : BR) (w : W)
    (o : StepOutX W) (b : BR) (h : reconcileX P br w = .val o) (hb : o.br = some b)
    (hwf : Q.wf w = true) (hok : Q.expoOK (withFinalizer br) w = true) :
    writeWithinBatch (Q.exposure w) (Q.exposure o.wl) (Q.allowed (withFinalizer br) w) br b = true := by
  unfold writeWithinBatch
  split
  · rename_i hc
    have same : ∀ w', w' = w → (decide (Q.exposure w ≤ Q.exposure w') &&
        decide (Q.exposure w' ≤ max (Q.exposure w) (Q.allowed (withFinalizer br) w))) = true := by
      intro w' hw; subst hw
      simp only [Int.le_refl, decide_true, Bool.true_and, decide_eq_true_eq]
      omega
    cases reconcileX_rec h with
    | gone => cases hb
    | stopped => exact same _ rfl
    | executed _ _ _ _ hx =>
      cases hb
      -- of the leaves of `progressBatches` only `UpgradeBatch` writes
      cases hx.prog hc.1 with
      | upgraded _ hu | upgradeErr _ hu =>
        rw [Bool.and_eq_true, decide_eq_true_eq, decide_eq_true_eq]
        exact ⟨E.upgrade_monotone _ _ _ _ _ hwf hok hu, E.upgrade_within _ _ _ _ _ hwf hok hu⟩
      | verified | unverified | unready | advance | wait => exact same _ rfl
  · rfl

/-- **C09** — the executor itself never crashes (no indexing, no dereference of its own: `isPlanUnhealthy`
    restarts a release whose cursor left the plan before anything indexes it): if a reconcile over the plane `P` crashes, then one of
    the plane's five calls crashed — on the release as the executor holds it and the world as observed. -/
theorem x_panics_only_in_plane (P : Plane W) (br : BR) (w : W) (h : reconcileX P br w = .panic) :
    (∃ ns, P.syncInfo (withFinalizer br) ns w = .panic) ∨ (∃ ns, P.init (withFinalizer br) ns w = .panic) ∨
    (∃ ns, P.upgrade (withFinalizer br) ns w = .panic) ∨ (∃ ns, P.ensure (withFinalizer br) ns w = .panic) ∨
    P.fin (withFinalizer br) w = .panic := by
  cases reconcileX_rec h with
  | syncPanic hp => exact .inl ⟨_, hp⟩
  | execPanic _ _ _ _ hx =>
    cases hx with
    | initPanic _ hp => exact .inr (.inl ⟨_, hp⟩)
    | finPanic _ hp => exact .inr (.inr (.inr (.inr hp)))
    | progressing _ hpr =>
      cases hpr with
      | upgradePanic _ hp => exact .inr (.inr (.inl ⟨_, hp⟩))
      | ensurePanic _ hp => exact .inr (.inr (.inr (.inl ⟨_, hp⟩)))

/-- Which plane serves which workload reference and rolling style (`getReleaseController`, all cases):
    blue-green serves CloneSet and Deployment with their blue-green planes; canary serves the Deployment with the
    canary-style plane and *falls through* to the partition arm for every other kind; the partition arm (also the empty style)
    picks the CloneSet / DaemonSet / Deployment partition planes; whatever is left ends at the StatefulSet-like plane **only if it is
    a StatefulSet** (native or Advanced) — every other combination gets no plane; `enableExtraWorkloadForCanary` matters only when
    the style is empty. -/
theorem x_dispatch (k : RefKind) (s : Style) (e : Bool) :
    dispatch k s e =
      (match effectiveStyle s e, k with
       | _, .unsupported => none
       | .blueGreen, .cloneSet => some .csBlueGreen
       | .blueGreen, .deployment => some .depBlueGreen
       | .canary, .deployment => some .depCanary
       | .blueGreen, .nativeSts | .blueGreen, .advancedSts => some .stsLike
       | .blueGreen, _ => none
       | .other, .nativeSts | .other, .advancedSts => some .stsLike
       | .other, _ => none
       | _, .cloneSet => some .csPartition
       | _, .daemonSet => some .dsPartition
       | _, .deployment => some .depPartition
       | _, .nativeSts | _, .advancedSts => some .stsLike
       | _, _ => none) ∧
    (s ≠ .empty → dispatch k s e = dispatch k s false) ∧
    (dispatch k .empty true = dispatch k .canary false) := by
  refine ⟨?_, ?_, ?_⟩
  · cases k <;> cases s <;> cases e <;> rfl
  · intro hs; cases k <;> cases s <;> cases e <;> first | rfl | exact absurd rfl hs
  · cases k <;> rfl

/-- a partition-style CloneSet plane is never handed a blue-green release, and vice versa (the dispatch separates the styles) -/
theorem x_dispatch_styles_disjoint (k : RefKind) (e : Bool) :
    dispatch k .blueGreen e ≠ some .csPartition ∧ dispatch k .blueGreen e ≠ some .depPartition ∧
    dispatch k .blueGreen e ≠ some .depCanary ∧
    dispatch k .partition e ≠ some .csBlueGreen ∧ dispatch k .partition e ≠ some .depBlueGreen ∧
    dispatch k .partition e ≠ some .depCanary := by
  cases k <;> cases e <;> decide

/-- The StatefulSet-like control gets StatefulSets only: the control whose helpers panic on every other typed
    object (`GetReplicas`, `GetStatefulSetPartition`, `IsStatefulSetUnorderedUpdate`) is built for native and Advanced StatefulSets
    and for nothing else; a DaemonSet plane serves DaemonSets only, a Deployment plane Deployments only, a CloneSet plane CloneSets only. -/
theorem x_dispatch_kind_matches (k : RefKind) (s : Style) (e : Bool) (id : PlaneId) (h : dispatch k s e = some id) :
    match id with
    | .stsLike => k = .nativeSts ∨ k = .advancedSts
    | .dsPartition => k = .daemonSet
    | .csPartition | .csBlueGreen => k = .cloneSet
    | .depPartition | .depCanary | .depBlueGreen => k = .deployment := by
  cases k <;> cases s <;> cases e <;> cases h <;> first | rfl | exact .inl rfl | exact .inr rfl

/-- Who gets no plane — exactly: an unsupported group/kind; an apps/v1 ReplicaSet under any style; a CloneSet,
    Deployment or DaemonSet under an unknown style; a DaemonSet under blue-green. -/
theorem x_dispatch_refused (k : RefKind) (s : Style) (e : Bool) :
    dispatch k s e = none ↔
      (k = .unsupported ∨ k = .replicaSet ∨
       (effectiveStyle s e = .other ∧ (k = .cloneSet ∨ k = .deployment ∨ k = .daemonSet)) ∨
       (effectiveStyle s e = .blueGreen ∧ k = .daemonSet)) := by
  cases k <;> cases s <;> cases e <;> decide

/-- **C09, without a plane (full strength)** — whenever `getReleaseController` hands out no
    plane (see `x_dispatch_refused`), the reconcile never crashes and never touches anything but the status: the initialised status is
    persisted (an empty phase becomes `Preparing`), the finalizer handling is the usual one, nothing is executed, no error is returned
    — whatever objects the workload reference names. -/
theorem x_unsupported_kind_is_inert (br : BR) (w : W) :
    ∃ o, reconcileNoPlane br w = .val o ∧ o.wl = w ∧ o.err = false ∧ goneOnlyWhenCompleted br o.br = true ∧
      (∀ b, o.br = some b → b.status = initializedStatus br.status ∧ b.status.phase ≠ .empty) := by
  unfold reconcileNoPlane
  split
  · rename_i hc
    refine ⟨_, rfl, rfl, rfl, ?_, ?_⟩
    · simp [goneOnlyWhenCompleted, RV.Oracle.Executor.goneOnlyWhenCompleted, hc.1, hc.2.1]
    · intro b hb; cases hb
  · refine ⟨_, rfl, rfl, rfl, ?_, ?_⟩
    · simp [goneOnlyWhenCompleted, RV.Oracle.Executor.goneOnlyWhenCompleted, withFinalizer]
    · intro b hb
      simp only [Option.some.injEq] at hb; subst hb
      refine ⟨rfl, ?_⟩
      dsimp only
      unfold initializedStatus
      split
      · simp [resetStatus]
      · assumption

/-- **C09, without a plane** — the reconcile of a BatchRelease that gets no plane does not crash. -/
theorem x_no_panic_without_plane (br : BR) (w : W) : reconcileNoPlane br w ≠ .panic := by
  obtain ⟨o, ho, _⟩ := x_unsupported_kind_is_inert br w
  rw [ho]; intro h; cases h

/-- dispatch examples: blue-green CloneSet, canary Deployment (by style and by the deprecated flag), canary falls through
    for a CloneSet, a StatefulSet under blue-green, an unsupported kind -/
example : dispatch .cloneSet .blueGreen false = some .csBlueGreen ∧ dispatch .deployment .canary false = some .depCanary ∧
    dispatch .deployment .empty true = some .depCanary ∧ dispatch .cloneSet .canary false = some .csPartition ∧
    dispatch .nativeSts .blueGreen true = some .stsLike ∧ dispatch .unsupported .partition false = none := by decide

/-- regression examples of the repaired finding `stsPlaneForeignKind`: a ReplicaSet reference, a CloneSet / Deployment / DaemonSet
    under an unknown style and a DaemonSet under blue-green get no plane (the helpers of the StatefulSet-like control
    panic on them) -/
example : dispatch .replicaSet .partition false = none ∧ dispatch .replicaSet .empty true = none ∧
    dispatch .cloneSet .other false = none ∧ dispatch .deployment .other true = none ∧ dispatch .daemonSet .other false = none ∧
    dispatch .daemonSet .blueGreen false = none ∧ dispatch .advancedSts .other false = some .stsLike := by decide

end RV.Props.ExecutorX
