import RV.Model.RolloutSM
/-!
# A write to the BatchRelease changes it (C07 "nothing oscillates" / C02)

`runBatchRelease` waits for the fixed point "the stored spec equals the desired one"; a controller that rewrites an identical
BatchRelease never reaches it (and on a real API server the no-op update produces no event: the Rollout waits for a wake-up
that will not come).  Component-level theorems, for every rollout, BatchRelease and cursor: each of the four places that write
the BatchRelease (`runBatchRelease`: create / update; `removeBatchRelease`; `finalizingBatchRelease`; `syncStep`: rollout-id
patch) writes only when what it writes differs from what is stored.  The whole-reconcile form is the clause
`C07.br_write_changes_it` (`RV/Drv/RolloutSM.lean`), evaluated on every real reconcile of suite `rolloutsm`.
-/
namespace RV.Props.BRWrite
open RV.Arith RV.RolloutSM

theorem brSpecEq_refl (b : BR) : brSpecEq b b = true := by simp [brSpecEq]

/-- `runBatchRelease`: a write (create / update) leaves a BatchRelease different from the stored one; no write ⇒ `done`. -/
theorem runBatchRelease_write_changes (ro : Rollout) (br : Option BR) (id : String) (idx : Int) (rb : Bool) :
    ((runBatchRelease ro br id idx rb).2.2 ≠ [] → (runBatchRelease ro br id idx rb).2.1 ≠ br) ∧
    ((runBatchRelease ro br id idx rb).2.2 = [] → (runBatchRelease ro br id idx rb).1 = true ∧ (runBatchRelease ro br id idx rb).2.1 = br) := by
  unfold runBatchRelease
  cases br with
  | none => simp
  | some b =>
    dsimp only
    by_cases h : brSpecEq b (desiredBR ro id (idx - 1) rb) = true
    · simp [h]
    · simp only [h, Bool.false_eq_true, if_false]
      refine ⟨fun _ hEq => ?_, fun hw => by simp at hw⟩
      apply h
      have hb := Option.some.inj hEq
      -- the updated object carries the desired spec; if it equals `b`, `b` already had it
      have : brSpecEq b (desiredBR ro id (idx - 1) rb) = true := by
        rw [← hb]
        simp [brSpecEq, desiredBR]
      exact this

/-- `removeBatchRelease`: the Delete is issued only for a BatchRelease that is not in deletion yet. -/
theorem removeBatchRelease_write_changes (br : Option BR) :
    (removeBatchRelease br).2.2 ≠ [] → (removeBatchRelease br).2.1 ≠ br := by
  unfold removeBatchRelease
  cases br with
  | none => simp
  | some b =>
    dsimp only
    by_cases h : b.deleting = true
    · simp [h]
    · simp only [h, Bool.false_eq_true, if_false]
      intro _ hEq
      have := congrArg BR.deleting (Option.some.inj hEq)
      simp at this
      exact h this

/-- `finalizingBatchRelease`: the patch (partition removed, finalizing policy set) is issued only when it changes the spec. -/
theorem finalizingBatchRelease_write_changes (br : Option BR) (waitReady : Bool) :
    (finalizingBatchRelease br waitReady).2.2 ≠ [] → (finalizingBatchRelease br waitReady).2.1 ≠ br := by
  unfold finalizingBatchRelease
  cases br with
  | none => simp
  | some b =>
    dsimp only
    by_cases h1 : b.partition.isNone = true ∧ b.phaseCompleted = true
    · simp [h1]
    · by_cases h2 : b.partition.isNone = true ∧ ((b.policy == "WaitResume") == waitReady) = true
      · simp only [h2, and_self, if_true]
        split <;> simp
      · simp only [h1, h2, if_false]
        intro _ hEq
        have hb := Option.some.inj hEq
        have hp := congrArg BR.partition hb
        have hq := congrArg BR.policy hb
        simp at hp hq
        apply h2
        refine ⟨by simp [← hp], ?_⟩
        cases waitReady <;> simp_all

/-- `syncStep`: the rollout-id patch is issued only when the id differs. -/
theorem syncStep_write_changes (c : Ctx) : (syncStep c).writes ≠ c.writes → (syncStep c).br ≠ c.br := by
  unfold syncStep
  cases hbr : c.br with
  | none => simp
  | some b =>
    dsimp only
    by_cases h : c.sub.observedRolloutID = b.rolloutID
    · simp [h]
    · simp only [ne_eq, h, not_false_eq_true, if_true]
      intro _ hEq
      have := congrArg BR.rolloutID (Option.some.inj hEq)
      simp at this
      exact h this

/-- **C01 / C02 / C11** — whenever `runBatchRelease` leaves a BatchRelease whose batch partition differs from the stored one,
    the acknowledgement of the plan (`hashSame`) is withdrawn: the Rollout will not take the executor's old "ready" for the
    new partition (`doCanaryUpgrade` waits for `hashSame ∧ genObserved`). -/
theorem runBatchRelease_partition_change_unack (ro : Rollout) (b b' : BR) (id : String) (idx : Int) (rb : Bool)
    (h : (runBatchRelease ro (some b) id idx rb).2.1 = some b') (hp : b'.partition ≠ b.partition) : b'.hashSame = false := by
  unfold runBatchRelease at h
  dsimp only at h
  by_cases he : brSpecEq b (desiredBR ro id (idx - 1) rb) = true
  · simp only [he, if_true, Option.some.injEq] at h
    subst h; exact absurd rfl hp
  · simp only [he, Bool.false_eq_true, if_false, Option.some.injEq] at h
    subst h; rfl

/-- the same for `finalizingBatchRelease` (the partition is removed) -/
theorem finalizingBatchRelease_partition_change_unack (b b' : BR) (waitReady : Bool)
    (h : (finalizingBatchRelease (some b) waitReady).2.1 = some b') (hp : b'.partition ≠ b.partition) : b'.hashSame = false := by
  unfold finalizingBatchRelease at h
  dsimp only at h
  split at h
  · simp only [Option.some.injEq] at h; subst h; exact absurd rfl hp
  · split at h
    · simp only [Option.some.injEq] at h; subst h; exact absurd rfl hp
    · simp only [Option.some.injEq] at h; subst h; rfl

/-! non-vacuity: the create, the Delete and the resume patch really occur -/
example : (runBatchRelease { (default : Rollout) with steps := [{ replicas := .pct 20, weight := none, pause := .manual }] } none "v2" 1 false).2.2 = ["createBR"] := by decide
example : (removeBatchRelease (some { (default : BR) with deleting := false })).2.2 = ["deleteBR"] := by decide
example : (finalizingBatchRelease (some { (default : BR) with partition := some 0 }) true).2.2 = ["patchBR"] := by decide

end RV.Props.BRWrite
