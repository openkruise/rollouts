import RV.Oracle.RolloutSM
import RV.Lemmas.RunMove
/-!
# Theorems about one Rollout reconcile: the release manager's round and the clean-up cursor (used by C02, C03, C04, C05, C09, C18)
-/
namespace RV.Props.Rollout
open RV.Arith RV.Traffic RV.RolloutSM RV.Oracle.RolloutSM

/-- **C02/C03 (jump)** — `doCanaryJump` changes the step index only on a user request
    (`nextStepIndex` differs from the natural successor and is positive); it then moves exactly to
    the requested step, and lands in `StepTrafficRouting` only if the current step's pods were already
    reported ready (`Upgraded`; the code also asks equal replicas, which no theorem needs);
    otherwise the target step starts from `BeforeStepUpgrade`.  Without a request nothing changes. -/
theorem jump_spec (ro : Rollout) (s s' : Sub) (jumped : Bool) (h : doCanaryJump ro s = some (s', jumped)) :
    (jumped = false → s' = s) ∧
    (jumped = true →
      s.nextIdx ≠ nextBatchIndex ro.steps.length s.curIdx ∧ 0 < s.nextIdx ∧ s.nextIdx ≤ ro.steps.length ∧
      s'.curIdx = s.nextIdx ∧ s'.nextIdx = nextBatchIndex ro.steps.length s.nextIdx ∧
      (s'.state = .trafficRouting ∨ s'.state = .init) ∧
      (s'.state = .trafficRouting → Upgraded s.state)) := by
  cases jumped with
  | false => exact ⟨fun _ => (doCanaryJump_false h).1, nofun⟩
  | true =>
    obtain ⟨j1, j2, j3, j4⟩ := doCanaryJump_true h
    refine ⟨nofun, fun _ => ⟨j1.1, j1.2, j2, by rw [j3], by rw [j3], j4.symm.imp (·.1) id, fun e => ?_⟩⟩
    exact j4.elim (fun e' => by cases e'.symm.trans e) (·.2)

/-- **C09 (jump)** — `doCanaryJump` cannot index out of range when the current step index is valid
    and the next-step index has been corrected to a legal value. -/
theorem jump_total (ro : Rollout) (s : Sub) (h1 : 1 ≤ s.curIdx) (h2 : s.curIdx ≤ ro.steps.length)
    (h3 : s.nextIdx ≤ ro.steps.length) : doCanaryJump ro s ≠ none := by
  unfold doCanaryJump
  dsimp only
  split
  · omega
  · split
    · split
      · omega
      · simp
    · simp

/-- what `StepUpgrade` can do: stay, or — only when the BatchRelease reports the step's pods ready —
    move to traffic routing (or past it on the partition-style full-replica bypass). Step indices untouched. -/
theorem upgradeStep_spec (ro : Rollout) (step : Step) (c c' : Ctx) (err : Bool)
    (h : upgradeStep ro step c = .ok c' err) :
    c'.sub.curIdx = c.sub.curIdx ∧ c'.sub.nextIdx = c.sub.nextIdx ∧ c'.net = c.net ∧ c'.mem = c.mem ∧
    ((c'.sub.state = c.sub.state) ∨
     ((c'.sub.state = .trafficRouting ∨ c'.sub.state = .metricsAnalysis) ∧ (doCanaryUpgrade ro c.sub c.wl c.br).1 = true)) := by
  rw [upgradeStep_eq] at h
  cases h
  have e := upgradeOut_eq ro step c
  rcases upgradeOut_sub ro step c with ⟨_, hs⟩ | ⟨hd, hs⟩
  · rw [hs, e]; exact ⟨rfl, rfl, rfl, rfl, Or.inl rfl⟩
  · rw [hs, e]; refine ⟨rfl, rfl, rfl, rfl, Or.inr ⟨?_, hd⟩⟩
    dsimp only; split <;> simp

/-- what the per-sub-state switch can do in one reconcile -/
structure StepSpec (ro : Rollout) (c c' : Ctx) : Prop where
  /-- the step index moves only from `StepReady`, by one, to the natural next step -/
  cursor : c'.sub.curIdx = c.sub.curIdx ∨
    (c.sub.state = .ready ∧ c'.sub.curIdx = c.sub.curIdx + 1 ∧ c'.sub.state = .init ∧ c.sub.curIdx < ro.steps.length ∧
      c'.sub.nextIdx = nextBatchIndex ro.steps.length (c.sub.curIdx + 1))
  /-- traffic routing (or the bypass past it) is entered only once the BatchRelease reports the pods ready -/
  routing : (c'.sub.state = .trafficRouting ∨ c'.sub.state = .metricsAnalysis) → c'.sub.state ≠ c.sub.state →
    (c.sub.state = .trafficRouting ∧ c'.sub.state = .metricsAnalysis) ∨
    ((c.sub.state = .upgrade ∨ c.sub.state = .init) ∧ UpgradeDone ro c)
  /-- `StepReady` is entered only from `StepPaused` -/
  ready : c'.sub.state = .ready → c.sub.state = .paused ∨ c.sub.state = .ready
  /-- `StepPaused` is entered only from metrics analysis -/
  paused : c'.sub.state = .paused → c.sub.state = .metricsAnalysis ∨ c.sub.state = .paused
  /-- the workload object is not touched -/
  wl : c'.wl = c.wl

/-- a sub-state action that keeps step index and workload and makes one of the moves the switch knows -/
theorem StepSpec.move {ro : Rollout} {c c' : Ctx} (hcur : c'.sub.curIdx = c.sub.curIdx) (hwl : c'.wl = c.wl)
    (h : c'.sub.state = c.sub.state ∨ (c.sub.state = .init ∧ c'.sub.state = .upgrade) ∨
      (c.sub.state = .trafficRouting ∧ c'.sub.state = .metricsAnalysis) ∨ (c.sub.state = .metricsAnalysis ∧ c'.sub.state = .paused) ∨
      (c.sub.state = .paused ∧ c'.sub.state = .ready) ∨ (c.sub.state = .ready ∧ c'.sub.state = .completed) ∨
      ((c.sub.state = .upgrade ∨ c.sub.state = .init) ∧ (c'.sub.state = .trafficRouting ∨ c'.sub.state = .metricsAnalysis) ∧
        UpgradeDone ro c)) : StepSpec ro c c' := by
  -- a finite table: each of the seven moves against each of the three gates, decided by the sub-states being distinct
  refine ⟨.inl hcur, fun hb hne => ?_, fun hb => ?_, fun hb => ?_, hwl⟩ <;>
    rcases h with h | ⟨h0, h1⟩ | ⟨h0, h1⟩ | ⟨h0, h1⟩ | ⟨h0, h1⟩ | ⟨h0, h1⟩ | ⟨h0, h1, h2⟩ <;> simp_all

/-- `StepUpgrade` run on a context `cu` that has the step index, workload and BatchRelease of `c` -/
theorem upgradeOut_spec {ro : Rollout} {step : Step} {c cu : Ctx} (hfrom : c.sub.state = .upgrade ∨ c.sub.state = .init)
    (hst : cu.sub.state = .upgrade) (hcur : cu.sub.curIdx = c.sub.curIdx) (hwl : cu.wl = c.wl) (hbr : cu.br = c.br) :
    StepSpec ro c (upgradeOut ro step cu) := by
  have e := upgradeOut_eq ro step cu
  rcases upgradeOut_sub ro step cu with ⟨_, hs⟩ | ⟨hd, hs⟩
  · refine .move (by rw [hs]; exact hcur) (by rw [e]; exact hwl) ?_
    rw [hs, hst]
    exact hfrom.elim (fun h => .inl h.symm) (fun h => .inr (.inl ⟨h, rfl⟩))
  · refine .move (by rw [hs]; exact hcur) (by rw [e]; exact hwl) (.inr (.inr (.inr (.inr (.inr (.inr ⟨hfrom, ?_, ?_⟩))))))
    · rw [hs]; dsimp only; split <;> simp
    · rw [UpgradeDone, ← doCanaryUpgrade_congr ro c.sub cu.sub c.wl c.br hcur, ← hwl, ← hbr]; exact hd

/-- **C02.i / C03.ii (one sub-state step)** — for every sub-state, what one reconcile may do. -/
theorem stateStep_spec (ro : Rollout) (step : Step) (c c' : Ctx) (err : Bool)
    (h : stateStep ro step c = .ok c' err) : StepSpec ro c c' := by
  obtain ⟨c1, t, hx⟩ := stateStep_cases h
  have f := t.sameStep
  have hbr := t.br
  -- a Manager call that stopped the round: step index, sub-state and workload as before
  rcases hx with ⟨rfl, -⟩ | ⟨rfl, -⟩ | hf
  · exact .move f.curIdx f.wl (.inl f.state)
  · exact .move f.curIdx f.wl (.inl f.state)
  · cases (finish_inv hf).1 with
    | toUpgrade hst => exact .move f.curIdx f.wl (.inr (.inl ⟨f.state.symm.trans hst, rfl⟩))
    | enterUpgrade hst => exact upgradeOut_spec (.inr (f.state.symm.trans hst)) rfl f.curIdx f.wl hbr
    | upgrade hst => exact upgradeOut_spec (.inl (f.state.symm.trans hst)) hst f.curIdx f.wl hbr
    | routed hst => exact .move f.curIdx f.wl (.inr (.inr (.inl ⟨f.state.symm.trans hst, rfl⟩)))
    | analysed hst => exact .move f.curIdx f.wl (.inr (.inr (.inr (.inl ⟨f.state.symm.trans hst, rfl⟩))))
    | pauseDone hst => exact .move f.curIdx f.wl (.inr (.inr (.inr (.inr (.inl ⟨f.state.symm.trans hst, rfl⟩)))))
    | pauseWait | noop => exact .move f.curIdx f.wl (.inl f.state)
    | advance hst hlt =>
      refine ⟨.inr ⟨f.state.symm.trans hst, by simp only [f.curIdx], rfl, by rw [← f.curIdx]; exact hlt, by simp only [f.curIdx]⟩,
        ?_, nofun, nofun, f.wl⟩
      rintro (h | h) <;> cases h
    | complete hst => exact .move f.curIdx f.wl (.inr (.inr (.inr (.inr (.inr (.inl ⟨f.state.symm.trans hst, rfl⟩))))))

/-- one round of the release manager enters `StepTrafficRouting` or `StepMetricsAnalysis` (the sub-states after the
    step's pods are in place) only from a sub-state in which the pods were already reported ready, or from `StepUpgrade` /
    `BeforeStepUpgrade` of the same step, without a jump request, in a round in which the BatchRelease as the round found it
    (`syncBatchRelease` had nothing to patch) reports them ready -/
theorem runCanary_pods (c0 c' : Ctx) (err : Bool) (h : runCanary c0 = .ok c' err)
    (hst : c'.sub.state = .trafficRouting ∨ c'.sub.state = .metricsAnalysis)
    (hne : c0.sub.state ≠ c'.sub.state ∨ c'.sub.curIdx ≠ c0.sub.curIdx) :
    Upgraded c0.sub.state ∨
    ((c0.sub.state = .upgrade ∨ c0.sub.state = .init) ∧ c'.sub.curIdx = c0.sub.curIdx ∧ ¬ JumpReq c0.ro c0.sub ∧
      (syncStep c0).br = c0.br ∧ UpgradeDone c0.ro c0) := by
  cases runCanary_move h with
  | jump _ _ _ _ h1 =>
    rcases h1 with h1 | ⟨_, hu⟩
    · rw [h1] at hst; simp at hst
    · exact .inl hu
  | advance _ _ _ _ _ h1 => rw [h1] at hst; simp at hst
  | inStep hno hcur _ hm =>
    cases hm with
    | stay h1 => exact (hne.elim (· h1.symm) (· hcur)).elim
    | upgraded h0 _ _ hd hsync => exact .inr ⟨h0.symm, hcur, hno, hsync, hd⟩
    | routed h0 => exact .inl (.inl h0)
    | toUpgrade _ h1 | analysed _ h1 | pauseDone _ h1 | complete _ h1 => rw [h1] at hst; simp at hst

/-- **C02.i / C03.ii (one `runCanary`)** — for every rollout, status, workload, BatchRelease and
    network state, one round of the release manager
    1. changes the step index only by one from `StepReady` to the natural next step, or to the
       step a pending jump request names;
    2. enters `StepTrafficRouting` only from a sub-state in which the step's pods are already ready,
       or from `StepUpgrade`/`BeforeStepUpgrade` of the same step in a round in which the
       BatchRelease reports the step's pods ready (the context `c` of this clause is `c0`, and `syncBatchRelease` had nothing to
       patch: `runCanary_pods`);
    3. enters `StepReady` only from `StepPaused` of the same step. -/
theorem runCanary_gated (c0 c' : Ctx) (err : Bool) (h : runCanary c0 = .ok c' err) :
    (c'.sub.curIdx ≠ c0.sub.curIdx →
      (c0.sub.state = .ready ∧ c'.sub.curIdx = c0.sub.curIdx + 1 ∧ c0.sub.curIdx < c0.ro.steps.length ∧ ¬ JumpReq c0.ro c0.sub) ∨
      (JumpReq c0.ro c0.sub ∧ c'.sub.curIdx = c0.sub.nextIdx)) ∧
    (c'.sub.state = .trafficRouting → (c0.sub.state ≠ .trafficRouting ∨ c'.sub.curIdx ≠ c0.sub.curIdx) →
      Upgraded c0.sub.state ∨
      ((c0.sub.state = .upgrade ∨ c0.sub.state = .init) ∧ c'.sub.curIdx = c0.sub.curIdx ∧ ¬ JumpReq c0.ro c0.sub ∧
        ∃ c : Ctx, c.sub.curIdx = c0.sub.curIdx ∧ c.wl = c0.wl ∧ c.br = (syncStep c0).br ∧ UpgradeDone c0.ro c)) ∧
    (c'.sub.state = .ready → c0.sub.state ≠ .ready → c0.sub.state = .paused ∧ c'.sub.curIdx = c0.sub.curIdx) := by
  have key : (c'.sub.curIdx ≠ c0.sub.curIdx →
        (c0.sub.state = .ready ∧ c'.sub.curIdx = c0.sub.curIdx + 1 ∧ c0.sub.curIdx < c0.ro.steps.length ∧ ¬ JumpReq c0.ro c0.sub) ∨
        (JumpReq c0.ro c0.sub ∧ c'.sub.curIdx = c0.sub.nextIdx)) ∧
      (c'.sub.state = .ready → c0.sub.state ≠ .ready → c0.sub.state = .paused ∧ c'.sub.curIdx = c0.sub.curIdx) := by
    cases runCanary_move h with
    | jump hreq _ hcur _ h1 =>
      exact ⟨fun _ => .inr ⟨hreq, hcur⟩, fun hr => by rcases h1 with h1 | ⟨h1, _⟩ <;> cases h1.symm.trans hr⟩
    | advance hno h0 hlt hcur _ h1 => exact ⟨fun _ => .inl ⟨h0, hcur, hlt, hno⟩, fun hr => by cases h1.symm.trans hr⟩
    | inStep _ hcur _ hm =>
      refine ⟨fun hn => absurd hcur hn, fun hr hnr => ?_⟩
      cases hm with
      | pauseDone h0 => exact ⟨h0, hcur⟩
      | stay h1 => exact absurd (h1.symm.trans hr) hnr
      | toUpgrade _ h1 | analysed _ h1 | complete _ h1 | routed _ h1 => cases h1.symm.trans hr
      | upgraded _ _ _ _ _ h1 => rw [hr] at h1; split at h1 <;> cases h1
  exact ⟨key.1, fun hst hne => (runCanary_pods c0 c' err h (Or.inl hst) (hne.imp (fun a e => a (e.trans hst)) id)).imp id
    fun ⟨a, b, n, hsync, d⟩ => ⟨a, b, n, c0, rfl, rfl, hsync.symm, d⟩, key.2⟩

theorem doCanaryPaused_total (ro : Rollout) (s : Sub) (step : Step) (h : s.lastUpdate ≠ .none) :
    doCanaryPaused ro s step ≠ none := by
  unfold doCanaryPaused
  split
  · nofun
  · cases step.pause <;> cases hl : s.lastUpdate <;> first | exact absurd hl h | nofun

/-- the move of the sub-state crashes only on the nil `LastUpdateTime` that `doCanaryPaused` dereferences -/
theorem finish_total (ro : Rollout) (step : Step) (c : Ctx) (hl : c.sub.lastUpdate ≠ .none) : finish ro step c ≠ .panic := by
  unfold finish
  cases c.sub.state <;> dsimp only
  case paused =>
    split
    · rename_i hp; exact absurd hp (doCanaryPaused_total _ _ _ hl)
    · nofun
    · nofun
  case init | ready => split <;> nofun
  all_goals nofun

theorem stateStep_total (ro : Rollout) (step : Step) (c : Ctx) (h : c.ro.steps ≠ []) (hl : c.sub.lastUpdate ≠ .none) :
    stateStep ro step c ≠ .panic := by
  rw [stateStep_eq]
  cases stateCall ro step c.wl c.sub with
  | none => exact finish_total _ _ _ hl
  | some k =>
    dsimp only
    cases hc : callTM k.fn c k.cb with
    | none => exact absurd hc (callTM_total _ _ _ h)
    | some x =>
      obtain ⟨c1, d, e⟩ := x
      unfold afterCall
      dsimp only
      split
      · nofun
      · split
        · nofun
        · exact finish_total _ _ _ ((callTM_tm hc).sub.facts.2.elim (fun e => e ▸ hl) (fun e => e ▸ nofun))

/-- the statuses on which the release manager cannot crash: a step index inside the plan, a legal
    (corrected) next-step index and a recorded last-update time -/
def SubOk (ro : Rollout) (s : Sub) : Prop :=
  1 ≤ s.curIdx ∧ s.curIdx ≤ ro.steps.length ∧ s.nextIdx ≤ ro.steps.length ∧ s.lastUpdate ≠ .none

/-- **C09.ii (release manager)** — for every plan, every workload / BatchRelease / network state, every
    sub-state (including unknown strings) and **every** legal-or-corrected `nextStepIndex`, one round
    of the release manager does not crash. -/
theorem runCanary_total (c0 : Ctx) (hok : SubOk c0.ro c0.sub) : runCanary c0 ≠ .panic := by
  obtain ⟨h1, h2, h3, h4⟩ := hok
  have y := syncStep_sameStep c0
  cases hj : doCanaryJump c0.ro (syncStep c0).sub with
  | none => exact absurd hj (jump_total c0.ro _ (y.curIdx ▸ h1) (y.curIdx ▸ h2) (y.nextIdx ▸ h3))
  | some x =>
    obtain ⟨s2, j⟩ := x
    cases j with
    | true => rw [runCanary_jump hj]; nofun
    | false =>
      cases (doCanaryJump_false hj).1
      have hlt : (c0.sub.curIdx - 1).toNat < c0.ro.steps.length := by omega
      rw [runCanary_round c0 _ hj (List.getElem?_eq_getElem hlt)]
      -- the last-update time, once recorded, stays recorded
      have hlu : ∀ c1, TM (syncStep c0) c1 → c1.sub.lastUpdate ≠ .none := fun c1 t =>
        (y.trans t.sameStep).lastUpdate.elim (fun e => e ▸ h4) (fun e => e ▸ nofun)
      cases roundCall c0.ro c0.ro.steps[(c0.sub.curIdx - 1).toNat] c0.wl c0.sub with
      | none => exact finish_total _ _ _ (hlu _ (.refl _))
      | some k =>
        unfold afterCall
        dsimp only
        split
        · nofun
        · split
          · nofun
          · exact finish_total _ _ _ (hlu _ (landCall_tm _ _ _))

/-- **C04.a / C18** — the clean-up sequence reports *done* only with its cursor at END and no error;
    in one round the cursor only ever stays, moves to the successor the task table names for the
    cursor as it was read, or restarts from the first task on an unknown value.  It moves to the
    successor only when the task at the cursor ran in this round and reported completion. -/
theorem doFinalising_cursor (c c' : Ctx) (reason : Reason) (wr done err : Bool)
    (h : doFinalising c reason wr = some (c', done, err)) :
    (done = true → c'.sub.finStep = .end_ ∧ err = false) ∧
    (c'.sub.finStep = c.sub.finStep ∨
     c'.sub.finStep = nextTask (taskList c.ro.style reason) c.sub.finStep ∨
     c'.sub.finStep = nextTask (taskList c.ro.style reason) .empty) := by
  refine ⟨doFinalising_done h, ?_⟩
  cases doFinalising_inv h with
  | atEnd => exact Or.inl (by rw [(stripAnno_frame c).1])
  | restart => exact Or.inr (Or.inr rfl)
  | stopped _ _ _ _ _ hrun =>
    rw [(finTask_frame hrun).2, finStart_cursor]
    split
    · exact Or.inr (Or.inr rfl)
    · exact Or.inl rfl
  | advanced => exact Or.inr (Or.inl rfl)

/-- **C18 (Rollout)** — for every rollout: the controller drops its own finalizer only while the object
    is being deleted and its Terminating condition already says Completed; otherwise the finalizer is
    present afterwards (added if missing) unless the object is already in deletion. -/
theorem handleFinalizer_guard (ro : Rollout) :
    ((handleFinalizer ro).2.1 = true → ro.deleting = true ∧ ro.term = .completed ∧ ro.hasFinalizer = true) ∧
    ((handleFinalizer ro).1.hasFinalizer = false → ro.hasFinalizer = true → ro.deleting = true ∧ ro.term = .completed) ∧
    (ro.deleting = false → (handleFinalizer ro).1.hasFinalizer = true) := by
  unfold handleFinalizer
  by_cases hd : ro.deleting = true
  · by_cases hc : ro.term = .completed ∧ ro.hasFinalizer = true
    · simp [hd, hc]
    · simp only [hd, if_true, hc, if_false]
      refine ⟨?_, ?_, ?_⟩
      · intro h; cases h
      · intro h1 h2; rw [h1] at h2; cases h2
      · intro h; cases h
  · by_cases hf : ro.hasFinalizer = true
    · simp [hd, hf]
    · simp [hd, hf]

end RV.Props.Rollout
