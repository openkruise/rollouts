/-
  Rollouts bound to a TrafficRouting custom resource — the two-party protocol (C03 / C05 / C06 / C09 / C18).

  Every transition of the closed loop (`RV.TRBind.step`: a reconcile of one of any number of rollouts, with or without
  an API fault on its binding call; a TrafficRouting reconcile; clock, crash, edits and deletions) and every history
  (`RV.TRBind.run`, by induction over the label list).  What a single reconcile of either controller does is in
  `RV/Lemmas/TRBindSteps.lean`, which also states the property theorems about a single reconcile (its head lists them).
-/
import RV.Lemmas.TRBindSteps
import RV.Props.ReconcileThms
namespace RV.Props.TRBind
open RV.Traffic RV.TRBind RV.Oracle.TRBind RV.Lemmas.TRBind

/-- the entry `step` writes back after rollout `i`'s reconcile: the world as the next reconcile finds it, or, when the Rollout went, the
    old world marked gone -/
def landEntry (e : Entry) (r : RolloutSM.StepResult) : Entry :=
  { e with w := if r.roGone then e.w else landWl r.w, gone := r.roGone }

theorem step_ro (s s' : JS) (i : Nat) (f : TFault) (e : Entry) (he : s.ros[i]? = some e) (hg : e.gone = false)
    (h : step s (.ro i f) = some s') :
    ∃ r tr', roReconcile i e.bound (roWorld s e) s.tr f = .val r tr' ∧
      s' = { tr := tr', net := r.w.net, mem := r.w.mem, ros := s.ros.set i (landEntry e r) } := by
  simp only [step, he, hg, Bool.false_eq_true, if_false] at h
  split at h
  · cases h
  · rename_i r tr' hr
    cases h
    exact ⟨r, tr', hr, rfl⟩

theorem step_ro_cases {s s' : JS} {i : Nat} {f : TFault} (h : step s (.ro i f) = some s') :
    s' = s ∨ ∃ e r tr', s.ros[i]? = some e ∧ e.gone = false ∧ roReconcile i e.bound (roWorld s e) s.tr f = .val r tr' ∧
      s' = { tr := tr', net := r.w.net, mem := r.w.mem, ros := s.ros.set i (landEntry e r) } := by
  cases he : s.ros[i]? with
  | none => simp only [step, he] at h; cases h; exact .inl rfl
  | some e =>
    cases hg : e.gone with
    | true => simp only [step, he, hg, if_true] at h; cases h; exact .inl rfl
    | false =>
      obtain ⟨r, tr', hr, hs'⟩ := step_ro s s' i f e he hg h
      exact .inr ⟨e, r, tr', rfl, hg, hr, hs'⟩

theorem ro_tr_effect {i : Nat} {b : Bool} {w : RolloutSM.World} {tr : Option TRO} {f : TFault} {r : RolloutSM.StepResult} {tr' : Option TRO}
    (h : roReconcile i b w tr f = .val r tr') : addedOnlyWhenOpen i tr tr' = true ∧ othersKept i tr tr' = true :=
  ⟨(ro_move h).added, (ro_move h).others⟩

theorem roWorld_ro (s : JS) (e : Entry) : (roWorld s e).ro = e.w.ro := rfl

theorem wlSeen_landWl (w : RolloutSM.World) : wlSeen (landWl w) = wlSeen w := by
  unfold wlSeen landWl
  cases w.wl with
  | none => rfl
  | some x => simp [Bool.and_assoc]

theorem err_not_moved {s : JS} {e : Entry} {r : RolloutSM.StepResult}
    (hw : r.w = { (roWorld s e) with ro := (RolloutSM.handleFinalizer (roWorld s e).ro).1 }) :
    cleanupMoved e (landEntry e r) = false := by
  unfold cleanupMoved landEntry
  cases r.roGone with
  | true => simp
  | false =>
    simp only [Bool.false_eq_true, if_false, wlSeen_landWl, hw]
    rw [RV.Props.Reconcile.hf_frame]
    simp [finStepOf, wlSeen, landWl, roWorld]

theorem landEntry_ro (e : Entry) {r : RolloutSM.StepResult} (h : r.roGone = false) : (landEntry e r).w.ro = r.w.ro := by
  unfold landEntry; simp [h, landWl]

theorem not_rolling_of_init (ro : RolloutSM.Rollout) (h : initializing ro = true) : rolling ro = false := by
  simp only [initializing, Bool.and_eq_true, beq_iff_eq] at h
  simp [rolling, h.2]

theorem rolling_after {i : Nat} {w : RolloutSM.World} {tr : Option TRO} {f : TFault} {r : RolloutSM.StepResult} {tr' : Option TRO}
    (h : roReconcile i true w tr f = .val r tr') (hr : rolling r.w.ro = true) :
    (rolling w.ro = true ∧ tr' = tr) ∨ (i ∈ holdersOf tr ∧ tr' = tr) := by
  cases ro_cases h with
  | pass h0 ht hc =>
    rcases rolling_origin w r h0 hr with h1 | ⟨h1, h2⟩
    · exact Or.inl ⟨h1, ht⟩
    · rcases hc with hc | hc | ⟨_, hc⟩
      · cases hc
      · rw [h1] at hc; cases hc
      · exact absurd h2 hc
  | init hp _ r0 _ _ o hh he =>
    subst he
    cases o with
    | done =>
      have h1 := (handle_spec i tr f).1
      rw [hh] at h1
      exact Or.inr ⟨(h1 rfl).2, (h1 rfl).1⟩
    | wait => simp [rolling] at hr
    | err =>
      dsimp only at hr
      rw [rolling_ro1] at hr
      simp [rolling, (position_init hp).2] at hr
  | finErr hp _ _ he =>
    subst he
    dsimp only at hr
    rw [rolling_ro1, not_rolling_of_fin hp] at hr
    cases hr
  | finOk hp _ _ h0 =>
    rcases rolling_origin w r h0 hr with h1 | ⟨h1, _⟩
    · rw [not_rolling_of_fin hp] at h1; cases h1
    · rw [hp] at h1; cases h1

/-- **C03.bind_rollout_waits, C05.bind_others_kept** — for every joint state, every rollout `i`, every fault: a bound Rollout
    leaves Initializing for InRolling only in a reconcile that found its finalizer on the TrafficRouting (never in the
    reconcile that writes it); it adds that finalizer only to a
    live TrafficRouting that is neither Finalizing nor Terminating (no resurrection of a clean-up in progress); and it
    touches nothing else of the TrafficRouting, in particular nobody else's finalizer. -/
theorem rollout_waits_for_binding (s s' : JS) (i : Nat) (f : TFault) (e : Entry) (he : s.ros[i]? = some e) (hg : e.gone = false)
    (h : step s (.ro i f) = some s') :
    ∃ e', s'.ros[i]? = some e' ∧ leavesInitHeld i e e' s.tr s'.tr = true ∧ addedOnlyWhenOpen i s.tr s'.tr = true ∧
      othersKept i s.tr s'.tr = true := by
  obtain ⟨r, tr', hr, hs'⟩ := step_ro s s' i f e he hg h
  subst hs'
  obtain ⟨a1, a2⟩ := ro_tr_effect hr
  refine ⟨landEntry e r, get_set_self _ he, ?_, a1, a2⟩
  unfold leavesInitHeld
  cases hprem : (e.bound && initializing e.w.ro && !(landEntry e r).gone && rolling (landEntry e r).w.ro) with
  | false => rfl
  | true =>
    simp only [Bool.and_eq_true, Bool.not_eq_true'] at hprem
    obtain ⟨⟨⟨hb, hinit⟩, hng⟩, hroll⟩ := hprem
    have hng' : r.roGone = false := hng
    rw [landEntry_ro e hng'] at hroll
    rw [hb] at hr
    rcases rolling_after hr hroll with ⟨h1, _⟩ | ⟨h1, h2⟩
    · rw [roWorld_ro, not_rolling_of_init _ hinit] at h1; cases h1
    · dsimp only
      rw [h2]; simp [h1]

/-- **C05.bind_finalise_finalizer_off** — for every joint state: the own clean-up of a bound Rollout
    (in-progress annotation, BatchRelease, clean-up cursor, verdict) moves only in a reconcile after which its finalizer
    is off the TrafficRouting — or the TrafficRouting is gone.  (`_partial`: the stronger `finaliseWaitsForRestore`, "… and, when nobody
    else holds it, the TrafficRouting reports Healthy", is false of the code: `finalise_waits_for_restore_full_FALSE`.) -/
theorem finalise_waits_for_restore_partial (s s' : JS) (i : Nat) (f : TFault) (e : Entry) (he : s.ros[i]? = some e) (hg : e.gone = false)
    (h : step s (.ro i f) = some s') :
    ∃ e', s'.ros[i]? = some e' ∧ finaliseFinalizerOff i (position (roWorld s e)) e e' s'.tr = true := by
  obtain ⟨r, tr', hr, hs'⟩ := step_ro s s' i f e he hg h
  subst hs'
  refine ⟨landEntry e r, get_set_self _ he, ?_⟩
  unfold finaliseFinalizerOff
  cases hprem : (e.bound && position (roWorld s e) == .fin && cleanupMoved e (landEntry e r)) with
  | false => rfl
  | true =>
    simp only [Bool.and_eq_true, beq_iff_eq] at hprem
    obtain ⟨⟨hb, hpos⟩, hmoved⟩ := hprem
    dsimp only
    cases ro_cases hr with
    | pass _ _ hc =>
      rcases hc with hc | hc | ⟨hc, _⟩
      · rw [hb] at hc; cases hc
      · rw [hpos] at hc; cases hc
      · rw [hpos] at hc; cases hc
    | init hp _ _ _ _ _ _ _ => rw [hpos] at hp; cases hp
    | finErr _ _ _ he' =>
      rw [err_not_moved (by rw [he'])] at hmoved; cases hmoved
    | finOk _ _ hh _ =>
      obtain ⟨h1, _⟩ := finalize_spec i s.tr f
      rw [hh] at h1
      have := h1 rfl
      simp [this]

/-- the hypothesis is the inner `match` of `faultReached` -/
theorem handle_faulted (i : Nat) (tr : Option TRO) (f : TFault)
    (h : (match f with
      | .get => true
      | .update => (match tr with
        | some t => !t.holders.contains i && t.phase != .finalizing && t.phase != .terminating
        | none => false)
      | .none => false) = true) : handleTrafficRouting i tr f = (.err, tr) := by
  unfold handleTrafficRouting
  cases f with
  | none => cases h
  | get => rfl
  | update =>
    cases tr with
    | none => cases h
    | some t =>
      simp only [Bool.and_eq_true, Bool.not_eq_true', bne_iff_ne, ne_eq, List.contains_eq_mem, decide_eq_false_iff_not] at h
      simp [h.1.1, h.1.2, h.2]

theorem finalize_faulted (i : Nat) (tr : Option TRO) (f : TFault)
    (h : (match f with
      | .get => true
      | .update => (holdersOf tr).contains i
      | .none => false) = true) : finalizeTrafficRouting i tr f = (true, tr) := by
  unfold finalizeTrafficRouting
  cases f with
  | none => cases h
  | get => rfl
  | update =>
    cases tr with
    | none => cases h
    | some t => simp [show i ∈ t.holders by simpa [holdersOf] using h]

/-- **C06.bind_fault_reported** — for every joint state: when the reconcile reaches the call on the TrafficRouting that
    fails (the Get, or the finalizer update), it returns an error, leaves the TrafficRouting as it was, and the
    rollout's own clean-up does not move: nothing happens behind a failed binding call. -/
theorem fault_reported (s s' : JS) (i : Nat) (f : TFault) (e : Entry) (he : s.ros[i]? = some e) (hg : e.gone = false)
    (h : step s (.ro i f) = some s') :
    ∃ r tr' e', roReconcile i e.bound (roWorld s e) s.tr f = .val r tr' ∧ s'.ros[i]? = some e' ∧ s'.tr = tr' ∧
      faultReported (faultReached i e.bound (roWorld s e) s.tr f) r.err e e' s.tr s'.tr = true := by
  obtain ⟨r, tr', hr, hs'⟩ := step_ro s s' i f e he hg h
  subst hs'
  refine ⟨r, tr', landEntry e r, hr, get_set_self _ he, rfl, ?_⟩
  unfold faultReported
  cases hreach : faultReached i e.bound (roWorld s e) s.tr f with
  | false => rfl
  | true =>
    dsimp only
    unfold faultReached at hreach
    simp only [Bool.and_eq_true, bne_iff_ne, ne_eq] at hreach
    obtain ⟨⟨hb, hf⟩, hm⟩ := hreach
    -- the two error cases give the claim; every other case contradicts `hm`, the match of `faultReached`
    have errCase : r.err = true → tr' = s.tr → r.w = { (roWorld s e) with ro := (RolloutSM.handleFinalizer (roWorld s e).ro).1 } →
        (r.err && tr' == s.tr && !cleanupMoved e (landEntry e r)) = true := by
      intro h1 h2 h3
      rw [h1, h2, err_not_moved h3]; simp
    cases ro_cases hr with
    | pass h0 _ hc =>
      rcases hc with hc | hc | ⟨hc, hne⟩
      · rw [hb] at hc; cases hc
      · rw [hc] at hm; cases hm
      · rw [hc, h0] at hm
        simp only [Bool.and_eq_true, beq_iff_eq] at hm
        exact absurd hm.1 hne
    | init hp _ r0 h0 _ o hh he' =>
      rw [hp, h0] at hm
      simp only [Bool.and_eq_true, beq_iff_eq] at hm
      rw [handle_faulted i s.tr f hm.2] at hh
      cases hh
      exact errCase (by rw [he']) rfl (by rw [he'])
    | finErr hp _ hh he' =>
      rw [hp] at hm
      rw [finalize_faulted i s.tr f hm] at hh
      cases hh
      exact errCase (by rw [he']) rfl (by rw [he'])
    | finOk hp _ hh _ =>
      rw [hp] at hm
      rw [finalize_faulted i s.tr f hm] at hh
      cases hh

theorem staysVisible_same (l : Label) (tr : Option TRO) : staysVisible l tr tr = true := by
  cases tr <;> rfl

theorem staysVisible_of_some (l : Label) (tr : Option TRO) (t : TRO) : staysVisible l tr (some t) = true := by
  cases tr <;> rfl

/-- **the step relation of the object**: every label, every joint state -/
theorem step_move {s s' : JS} {l : Label} (h : step s l = some s') : TRMove l s.tr s'.tr := by
  cases l with
  | ro i f =>
    rcases step_ro_cases h with rfl | ⟨_, _, _, _, _, hr, rfl⟩
    · exact .same _ _
    · exact ro_move hr
  | tr => exact tr_move h
  | deleteTR =>
    cases h
    cases s.tr with
    | none => exact .same _ _
    | some t => exact .delete t
  | createTR w g hr =>
    simp only [step] at h
    split at h <;> cases h
    · rename_i hs; rw [hs]; exact .create w g hr
    · exact .same _ _
  | editStrategy w =>
    cases h
    cases s.tr with
    | none => exact .same _ _
    | some t => exact .edit w t
  | _ =>
    -- tick, crash, deleteRo, perturb and envNet do not write `tr`
    have e : s'.tr = s.tr := by
      simp only [step] at h
      repeat' split at h
      all_goals (cases h; rfl)
    exact e ▸ .same _ _

theorem TRMove.visible {l : Label} {tr tr' : Option TRO} (h : TRMove l tr tr') : staysVisible l tr tr' = true := by
  cases h with
  | same => exact staysVisible_same _ _
  | leave i f t hi =>
    -- for rollout `i`'s own reconcile the two oracles say the same of a vanished object
    have := (TRMove.leave i f t hi).others
    cases hst : stored { t with holders := t.holders.filter (· ≠ i) } with
    | some _ => rfl
    | none => rw [hst] at this; exact this
  | reconcile t hf ph =>
    rcases stored_cases { t with hasFinalizer := hf, phase := ph } with hst | ⟨hst, h1, _, h3⟩ <;> rw [hst]
    · rfl
    · simp only at h1 h3; simp [staysVisible, h1, h3]
  | delete t =>
    rcases stored_cases { t with deleting := true } with hst | ⟨hst, _, h2, h3⟩ <;> rw [hst]
    · rfl
    · simp only at h2 h3; simp [staysVisible, h2, h3]
  | _ => rfl

/-- **C18.bind_held_stays_visible** — for every joint state and every label: the TrafficRouting object disappears
    only when it is in deletion and its last finalizer goes — a TrafficRouting deleted while rollouts hold it stays
    visible until the last holder has let go (and its own finalizer is off, `tr_finalizer_guard`). -/
theorem held_stays_visible (s s' : JS) (l : Label) (h : step s l = some s') : staysVisible l s.tr s'.tr = true :=
  (step_move h).visible

/-- **C09.bind_no_panic** — for every joint state and every label: no label makes the TrafficRouting controller
    panic (absent object, no strategy, empty `objectRef`, any phase string), and a Rollout reconcile panics only where the
    plain reconcile of `RV.RolloutSM` does — the binding adds no crash … -/
theorem binding_panics_only_plain (s : JS) (l : Label) (h : step s l = none) :
    ∃ i f e, l = .ro i f ∧ s.ros[i]? = some e ∧ e.gone = false ∧ RolloutSM.reconcile (roWorld s e) = .panic := by
  cases l with
  | ro i f =>
    cases he : s.ros[i]? with
    | none => simp only [step, he] at h; cases h
    | some e =>
      cases hg : e.gone with
      | true => simp only [step, he, hg, if_true] at h; cases h
      | false =>
        simp only [step, he, hg, Bool.false_eq_true, if_false] at h
        split at h
        · rename_i hp
          exact ⟨i, f, e, rfl, he, hg, ro_panic_only_plain hp⟩
        · cases h
  | _ =>
    -- no other label calls a reconciler that can panic: `step` answers `some`
    simp only [step] at h
    repeat' split at h
    all_goals cases h

/-- … hence (with `RV.Props.Reconcile.reconcile_total`) no state of the pair whose rollouts are not corrupted — the
    decidable predicate of C09: states a user cannot produce through the documented editable fields — makes either
    side panic, whatever the TrafficRouting looks like. -/
theorem binding_total (s : JS) (l : Label)
    (hok : ∀ (i : Nat) (e : Entry), s.ros[i]? = some e → e.gone = false → RV.Oracle.RolloutSM.corrupted (roWorld s e) = false) :
    step s l ≠ none := by
  intro h
  obtain ⟨i, f, e, _, he, hg, hp⟩ := binding_panics_only_plain s l h
  exact RV.Props.Reconcile.reconcile_total _ (hok i e he hg) hp

/-- nobody loses a finalizer but by its own reconcile -/
theorem TRMove.mem {l : Label} {tr tr' : Option TRO} {k : Nat} (h : TRMove l tr tr') (hk : ∀ f, l ≠ .ro k f)
    (hm : k ∈ holdersOf tr) : k ∈ holdersOf tr' := by
  cases h with
  | join i f t => exact (mem_insertSorted i k _).mpr (.inr hm)
  | leave i f t => rw [holdersOf_stored]; exact (mem_remove i k _).mpr ⟨hm, fun e => hk f (e ▸ rfl)⟩
  | reconcile | delete => rw [holdersOf_stored]; exact hm
  | _ => exact hm

/-- a bound rollout that is rolling holds the TrafficRouting (`bwr_*` below) -/
def BoundWhileRolling (s : JS) : Prop :=
  ∀ (i : Nat) (e : Entry), s.ros[i]? = some e → e.bound = true → e.gone = false → rolling e.w.ro = true → i ∈ holdersOf s.tr

theorem tickRo_rolling (ro : RolloutSM.Rollout) : rolling (tickRo ro) = rolling ro := rfl

/-- what `BoundWhileRolling` reads of an entry, kept by every label that is not that rollout's own reconcile -/
def EntryKept (e e' : Entry) : Prop := e'.bound = e.bound ∧ (e'.gone = false → e.gone = false) ∧ rolling e'.w.ro = rolling e.w.ro

theorem EntryKept.rfl {e : Entry} : EntryKept e e := ⟨.refl _, id, .refl _⟩

theorem bwr_mono (s s' : JS) (hinv : BoundWhileRolling s) (htr : holdersOf s'.tr = holdersOf s.tr)
    (hros : ∀ (k : Nat) (e' : Entry), s'.ros[k]? = some e' → ∃ e, s.ros[k]? = some e ∧ EntryKept e e') : BoundWhileRolling s' := by
  intro k e' he' hb hg hr
  obtain ⟨e, he, e1, e2, e3⟩ := hros k e' he'
  rw [htr]
  exact hinv k e he (e1 ▸ hb) (e2 hg) (e3 ▸ hr)

theorem step_entries {s s' : JS} {l : Label} (h : step s l = some s') (hro : ∀ i f, l ≠ .ro i f) (k : Nat) (e' : Entry)
    (he' : s'.ros[k]? = some e') : ∃ e, s.ros[k]? = some e ∧ EntryKept e e' := by
  have same : s'.ros = s.ros → ∃ e, s.ros[k]? = some e ∧ EntryKept e e' := fun h => ⟨e', h ▸ he', .rfl⟩
  have set : ∀ j e ej, s.ros[j]? = some e → s' = setEntry s j ej → EntryKept e ej → ∃ e, s.ros[k]? = some e ∧ EntryKept e e' := by
    intro j e ej he hs' hk
    subst hs'
    by_cases hkj : j = k
    · subst hkj
      rw [setEntry, get_set_self _ he] at he'
      cases he'
      exact ⟨e, he, hk⟩
    · rw [setEntry, List.getElem?_set_ne hkj] at he'
      exact ⟨e', he', .rfl⟩
  cases l with
  | ro i f => exact absurd rfl (hro i f)
  | tick =>
    simp only [step] at h; cases h
    rw [List.getElem?_map] at he'
    cases hk : s.ros[k]? with
    | none => rw [hk] at he'; cases he'
    | some e => rw [hk] at he'; cases he'; exact ⟨e, rfl, rfl, id, rfl⟩
  | deleteRo j =>
    simp only [step] at h
    cases he : s.ros[j]? with
    | none => rw [he] at h; cases h; exact same rfl
    | some e =>
      rw [he] at h
      dsimp only at h
      split at h
      · cases h; exact same rfl
      split at h
      · cases h; exact same rfl
      split at h
      · cases h; exact set j e _ he rfl .rfl
      · cases h; exact set j e _ he rfl ⟨rfl, nofun, rfl⟩
  | perturb j w' =>
    simp only [step] at h
    cases he : s.ros[j]? with
    | none => rw [he] at h; cases h; exact same rfl
    | some e =>
      rw [he] at h
      dsimp only at h
      split at h
      · rename_i hc
        cases h
        have hsc := hc.2
        simp only [sameControl, Bool.and_eq_true, beq_iff_eq] at hsc
        exact set j e _ he rfl ⟨rfl, id, rolling_congr _ _ hsc.1.1.1.1.symm hsc.1.1.1.2.symm⟩
      · cases h; exact same rfl
  | _ =>
    -- tr, crash, deleteTR, createTR, editStrategy and envNet do not write `ros`
    refine same ?_
    simp only [step] at h
    repeat' split at h
    all_goals (cases h; rfl)

theorem bwr_step (s : JS) (l : Label) (s' : JS) (hinv : BoundWhileRolling s) (h : step s l = some s') : BoundWhileRolling s' := by
  have hm := step_move h
  cases l with
  | ro j f =>
    rcases step_ro_cases h with rfl | ⟨e, r, tr', he, hg, hr, rfl⟩
    · exact hinv
    intro k ek hek hb hng hroll
    dsimp only at hek hm ⊢
    by_cases hkj : k = j
    · subst hkj
      rw [get_set_self _ he] at hek
      cases hek
      rw [landEntry_ro e hng] at hroll
      rw [show e.bound = true from hb] at hr
      rcases rolling_after hr hroll with ⟨h1, h2⟩ | ⟨h1, h2⟩
      · rw [h2]; exact hinv k e he hb hg h1
      · rw [h2]; exact h1
    · rw [List.getElem?_set_ne (fun h => hkj h.symm)] at hek
      exact hm.mem (fun _ hc => hkj (by cases hc; rfl)) (hinv k ek hek hb hng hroll)
  | _ => exact bwr_mono s s' hinv (hm.holders (fun _ _ => nofun)) (step_entries h (fun _ _ => nofun))

/-- **C03.bind_rollout_waits, along histories** — along every history (reconciles of any rollout with or without
    API faults on the binding calls, TrafficRouting reconciles, clock, crashes, deletion / creation / edits of the
    TrafficRouting, deletion of rollouts, arbitrary foreign changes to workloads, BatchReleases, specs, sub-statuses and
    network objects): every bound Rollout that is Progressing/InRolling (or Paused) has its finalizer on an existing
    TrafficRouting.  Starting point: any state in which that holds, e.g. no rollout rolling (`bwr_init`). -/
theorem bound_while_rolling (ls : List Label) (s s' : JS) (h0 : BoundWhileRolling s) (h : run s ls = some s') : BoundWhileRolling s' :=
  run_invariant BoundWhileRolling bwr_step ls s s' h0 h

/-- while the TrafficRouting is Finalizing nobody holds it (`fu_*` below) -/
def FinalizingUnheld (s : JS) : Prop := ∀ t, s.tr = some t → t.phase = .finalizing → t.holders = []

theorem TRMove.fu {l : Label} {s s' : JS} (h : TRMove l s.tr s'.tr) (hinv : FinalizingUnheld s) : FinalizingUnheld s' := by
  unfold FinalizingUnheld at hinv ⊢
  generalize s.tr = tr at h hinv
  generalize s'.tr = tr' at h
  intro t' ht' hph
  cases h with
  | same => exact hinv t' ht' hph
  | join _ _ t _ _ h1 => cases ht'; exact absurd hph h1
  | leave i _ t => cases stored_some ht'; show t.holders.filter _ = []; rw [hinv t rfl hph]; rfl
  | reconcile t _ _ hfin =>
    cases stored_some ht'
    exact (hfin hph).elim (hinv t rfl) (·.2)
  | delete t => cases stored_some ht'; exact hinv t rfl hph
  | create => cases ht'; cases hph
  | edit _ t => cases ht'; exact hinv t rfl hph

theorem fu_step (s : JS) (l : Label) (s' : JS) (hinv : FinalizingUnheld s) (h : step s l = some s') : FinalizingUnheld s' :=
  (step_move h).fu hinv

/-- **`finalizing_means_unheld`** — along every history: a TrafficRouting in phase Finalizing carries no progressing
    finalizer (it got there unheld, and nobody can join before it is Healthy again); it holds at the start when the object is not
    Finalizing (`fu_init`) -/
theorem finalizing_means_unheld (ls : List Label) (s s' : JS) (h0 : FinalizingUnheld s) (h : run s ls = some s') : FinalizingUnheld s' :=
  run_invariant FinalizingUnheld fu_step ls s s' h0 h

/-- rollout `j` holds a live TrafficRouting that is not cleaning up -/
def HeldBy (j : Nat) (s : JS) : Prop :=
  ∃ t, s.tr = some t ∧ j ∈ t.holders ∧ t.deleting = false ∧ t.phase ≠ .finalizing ∧ t.phase ≠ .terminating

/-- the labels that are not `j`'s own reconcile and not the deletion of the TrafficRouting -/
def otherThan (j : Nat) : Label → Bool
  | .ro i _ => i != j
  | .deleteTR => false
  | _ => true

theorem TRMove.held {l : Label} {s s' : JS} {j : Nat} (h : TRMove l s.tr s'.tr) (hl : otherThan j l = true) (hh : HeldBy j s) :
    HeldBy j s' := by
  unfold HeldBy at hh ⊢
  generalize s.tr = tr at h hh
  generalize s'.tr = tr' at h
  obtain ⟨t0, ht0, hj, hd, hp1, hp2⟩ := hh
  cases h with
  | same => exact ⟨t0, ht0, hj, hd, hp1, hp2⟩
  | join i _ t => cases ht0; exact ⟨_, rfl, (mem_insertSorted i j _).mpr (.inr hj), hd, hp1, hp2⟩
  | leave i _ t =>
    cases ht0
    exact ⟨_, stored_live _ hd, (mem_remove i j _).mpr ⟨hj, fun e => by simp [otherThan, e] at hl⟩, hd, hp1, hp2⟩
  | reconcile t _ _ hfin hterm =>
    cases ht0
    refine ⟨_, stored_live _ hd, hj, hd, fun hc => ?_, fun hc => ?_⟩
    · rcases hfin hc with h | ⟨_, h⟩
      · exact hp1 h
      · rw [h] at hj; cases hj
    · rcases hterm hc with h | h
      · exact hp2 h
      · rw [hd] at h; cases h
  | delete => cases hl
  | create => cases ht0
  | edit _ t => cases ht0; exact ⟨_, rfl, hj, hd, hp1, hp2⟩

/-- one step of `two_rollouts_share`; meanwhile the TrafficRouting controller does not withdraw the route -/
theorem held_step (j : Nat) (s : JS) (l : Label) (s' : JS) (hh : HeldBy j s) (hl : otherThan j l = true) (h : step s l = some s') :
    HeldBy j s' ∧ (l = .tr → withdrawn s.net s'.net = false) := by
  refine ⟨(step_move h).held hl hh, fun hl => ?_⟩
  subst hl
  obtain ⟨t, htr, _, hd, hp1, hp2⟩ := hh
  rw [step_tr htr] at h; cases h
  exact core_not_withdrawn t _ _ hd hp1 hp2

/-- **C05, two rollouts sharing one TrafficRouting, every history** — from any state in which rollout `j` holds the TrafficRouting:
    along every history made of the other rollouts' reconciles (all of them may finish and take their finalizers off),
    TrafficRouting reconciles, clock, crashes, edits, deletions of rollouts and foreign changes, `j` still holds a live
    TrafficRouting that never entered Finalizing / Terminating.  (After `j` too has let go, `released_means_restored`
    applies: the state after both finished is the restored one.) -/
theorem two_rollouts_share (j : Nat) : ∀ (ls : List Label) (s s' : JS), HeldBy j s → (∀ l ∈ ls, otherThan j l = true) →
    run s ls = some s' → HeldBy j s' :=
  fun ls s s' hh hall h =>
    run_invariant_on (otherThan j · = true) (HeldBy j) (fun s l s' hl hh h => (held_step j s l s' hh hl h).1) ls s s' hall hh h

/-- `k` fault-free rounds: the clock moves, the TrafficRouting is reconciled -/
def quiet : Nat → List Label
  | 0 => []
  | k + 1 => .tick :: .tr :: quiet k

/-- the TrafficRouting reports Healthy, nobody holds it, and (if it manages a route at all) no canary route is left -/
def Restored (s : JS) : Prop :=
  ∃ t, s.tr = some t ∧ t.phase = .healthy ∧ t.holders = [] ∧ (t.hasRef = true → s.net.canaryIng = none)

-- the clock tick of `RV.TRBind` (`ageExp`, `tickMem`) is the one the convergence theorems of `RV.Props.Traffic` speak of
theorem ageExp_eq (e : Exp) : ageExp e = RV.Props.Traffic.tickE e := by cases e <;> rfl
theorem tickMem_eq (m : Mem) : tickMem m = RV.Props.Traffic.tick m := by
  unfold tickMem RV.Props.Traffic.tick; simp [ageExp_eq]

theorem run_quiet_succ (s s1 s2 s' : JS) (k : Nat) (h1 : step s .tick = some s1) (h2 : step s1 .tr = some s2) (h3 : run s2 (quiet k) = some s') :
    run s (quiet (k + 1)) = some s' := by
  show run s (.tick :: .tr :: quiet k) = some s'
  unfold run; rw [h1]; dsimp only
  unfold run; rw [h2]; dsimp only
  exact h3

theorem step_tick (s : JS) :
    step s .tick = some { s with mem := tickMem s.mem, ros := s.ros.map fun e => { e with w := { e.w with ro := tickRo e.w.ro } } } := rfl

theorem quiet_round {s : JS} {t : TRO} (htr : s.tr = some t) :
    run s (quiet 1) = some {
      tr := stored (trCore t s.net (tickMem s.mem)).t, net := (trCore t s.net (tickMem s.mem)).net,
      mem := (trCore t s.net (tickMem s.mem)).mem, ros := s.ros.map fun e => { e with w := { e.w with ro := tickRo e.w.ro } } } :=
  run_quiet_succ s _ _ _ 0 (step_tick s) (step_tr htr) rfl

theorem quiet_add (a b : Nat) : quiet (a + b) = quiet a ++ quiet b := by
  induction a with
  | zero => simp [quiet]
  | succ a ih =>
    rw [Nat.add_right_comm]
    show Label.tick :: Label.tr :: quiet (a + b) = Label.tick :: Label.tr :: quiet a ++ quiet b
    rw [ih]; rfl

theorem run_append_quiet {s s1 s' : JS} {a b : Nat} (h1 : run s (quiet a) = some s1) (h2 : run s1 (quiet b) = some s') :
    run s (quiet (a + b)) = some s' := by
  rw [quiet_add]; exact run_append _ _ s s1 s' h1 h2

/-- the TrafficRouting `t` of `s` is live, unheld and Finalizing: it is restoring the gateway -/
structure LiveFinalizing (s : JS) (t : TRO) : Prop where
  tr : s.tr = some t
  unheld : t.holders = []
  live : t.deleting = false
  phase : t.phase = .finalizing

/-- one quiet round on a live, unheld, Finalizing TrafficRouting: Healthy, or the same situation with a strictly smaller `leftover` -/
theorem finalizing_round {s : JS} {t : TRO} (h : LiveFinalizing s t) :
    (∃ s', run s (quiet 1) = some s' ∧ Restored s') ∨
    (t.hasRef = true ∧ t.grace ≠ 0 ∧ ∃ s2 t2, run s (quiet 1) = some s2 ∧ LiveFinalizing s2 t2 ∧
      RV.Props.Traffic.leftover (tctx t2) s2.net (tickMem s2.mem) < RV.Props.Traffic.leftover (tctx t) s.net (tickMem s.mem)) := by
  obtain ⟨htr, hh, hd, hp⟩ := h
  have hrun := quiet_round htr
  generalize ho : finalisingTrafficRouting (tctx t) s.net (tickMem s.mem) = o
  rw [core_restore t _ _ hd hp o ho.symm, stored_live _ (by exact hd)] at hrun
  by_cases hdone : o.err = false ∧ o.done = true
  · refine .inl ⟨_, hrun, _, rfl, by simp [hdone], hh, fun href => ?_⟩
    exact ho ▸ RV.Props.TRSM.finalising_done_clean (tctx t) s.net (tickMem s.mem) href (ho ▸ hdone.2)
  · -- not done: there is an `objectRef` and a grace period, otherwise the first call is done
    have href : t.hasRef = true := by
      cases hx : t.hasRef with
      | true => rfl
      | false => exact absurd (by rw [← ho]; unfold finalisingTrafficRouting; simp [tctx, hx]) hdone
    have hg : t.grace ≠ 0 := fun hc => by
      have := RV.Props.Traffic.finalising_immediate (tctx t) s.net (tickMem s.mem) hc
      rw [ho] at this
      exact hdone ⟨this.2, this.1⟩
    obtain ⟨e1, e2⟩ := RV.Props.Traffic.fin_round_progress (tctx t) s.net (tickMem s.mem) href hg
      (by rw [tickMem_eq]; exact RV.Props.Traffic.tick_noFresh _)
    rw [ho] at e1 e2
    have hnd : o.done = false := by
      cases hx : o.done with
      | false => rfl
      | true => exact absurd ⟨e1, hx⟩ hdone
    refine .inr ⟨href, hg, _, _, hrun, ⟨rfl, hh, hd, by simp [hnd]⟩, ?_⟩
    rcases e2 with e2 | e2
    · rw [hnd] at e2; cases e2
    · rw [tickMem_eq] at e2 ⊢; exact e2

theorem finalizing_converges (b : Nat) : ∀ (s : JS) (t : TRO), s.tr = some t → t.holders = [] → t.deleting = false → t.phase = .finalizing →
    (t.hasRef = true → t.grace ≠ 0 → RV.Props.Traffic.leftover (tctx t) s.net (tickMem s.mem) ≤ b) →
    ∃ k s', k ≤ b + 1 ∧ run s (quiet k) = some s' ∧ Restored s' := by
  induction b with
  | zero =>
    intro s t htr hh hd hp hb
    rcases finalizing_round ⟨htr, hh, hd, hp⟩ with ⟨s', hrun, hrest⟩ | ⟨href, hg, _, _, _, _, hlt⟩
    · exact ⟨1, s', Nat.le_refl _, hrun, hrest⟩
    · have := hb href hg; omega
  | succ b ih =>
    intro s t htr hh hd hp hb
    rcases finalizing_round ⟨htr, hh, hd, hp⟩ with ⟨s', hrun, hrest⟩ | ⟨href, hg, s2, t2, hrun, ⟨htr2, hh2, hd2, hp2⟩, hlt⟩
    · exact ⟨1, s', by omega, hrun, hrest⟩
    · obtain ⟨k, s', hk, hrun', hrest⟩ := ih s2 t2 htr2 hh2 hd2 hp2 (fun _ _ => by have := hb href hg; omega)
      exact ⟨1 + k, s', by omega, run_append_quiet hrun hrun', hrest⟩

/-- **C05.bind_released_means_restored** — for every joint state in which the last holder has let go (a live
    TrafficRouting in phase Progressing or Finalizing without a progressing finalizer; any network, any grace memory, any
    rollouts around it): within at most 11 fault-free rounds (the clock moves, the TrafficRouting is reconciled — the
    round bound is `leftover ≤ 9` of `RV.Props.Traffic.finalising_converges`, plus the round that enters Finalizing and
    the round that reports) the TrafficRouting is Healthy again and the canary route is withdrawn. -/
theorem released_means_restored (s : JS) (t : TRO) (htr : s.tr = some t) (hh : t.holders = []) (hd : t.deleting = false)
    (hp : t.phase = .progressing ∨ t.phase = .finalizing) :
    ∃ k s', k ≤ 11 ∧ run s (quiet k) = some s' ∧ Restored s' := by
  rcases hp with hp | hp
  · -- one round enters Finalizing
    have hrun := quiet_round htr
    rw [core_unheld t _ _ hd hp hh, stored_live _ (by exact hd)] at hrun
    obtain ⟨k, s', hk, hrun', hrest⟩ := finalizing_converges 9
      { tr := some { t with hasFinalizer := true, phase := .finalizing }, net := s.net, mem := tickMem s.mem,
        ros := s.ros.map fun e => { e with w := { e.w with ro := tickRo e.w.ro } } }
      _ rfl hh hd rfl (fun _ _ => RV.Props.Traffic.leftover_le _ _ _)
    exact ⟨1 + k, s', by omega, run_append_quiet hrun hrun', hrest⟩
  · obtain ⟨k, s', hk, hrun', hrest⟩ := finalizing_converges 9 s t htr hh hd hp (fun _ _ => RV.Props.Traffic.leftover_le _ _ _)
    exact ⟨k, s', by omega, hrun', hrest⟩

theorem bwr_init (s : JS) (h : ∀ (i : Nat) (e : Entry), s.ros[i]? = some e → rolling e.w.ro = false) : BoundWhileRolling s := by
  intro i e he _ _ hr
  rw [h i e he] at hr; cases hr

theorem fu_init (s : JS) (h : ∀ t, s.tr = some t → t.phase ≠ .finalizing) : FinalizingUnheld s :=
  fun t ht hp => absurd hp (h t ht)

def exStep : RolloutSM.Step := { replicas := .pct 100, weight := none, pause := .manual }
def exSub (state : RolloutSM.StepState) : RolloutSM.Sub :=
  { curIdx := 1, nextIdx := -1, state := state, finStep := .empty, canaryRev := "v2", stableRev := "v1", podHash := "v2", hash := .same,
    observedRolloutID := "v2", observedGen := 2, lastUpdate := .elapsed }
def exRo (reason : RolloutSM.PReason) (sub : Option RolloutSM.Sub) : RolloutSM.Rollout :=
  { style := .canary, steps := [exStep], paused := false, disabled := false, deleting := false, hasFinalizer := true, hasTraffic := false,
    disableGen := false, rollbackInBatch := false, grace := 3, phase := .progressing, reason := reason, condAge := .elapsed, succeeded := none,
    term := .none, sub := sub }
def exWl : RolloutSM.WL :=
  { consistent := true, inProgressAnno := true, canaryRev := "v2", stableRev := "v1", inRollback := false, replicas := 5, generation := 2 }
def exEntry (reason : RolloutSM.PReason) (sub : Option RolloutSM.Sub) : Entry :=
  { bound := true, gone := false, w := { ro := exRo reason sub, wl := some exWl, br := none, net := default, mem := Mem.empty } }
def exRouted : Net := { stableExists := true, stableSel := none, canarySvc := none, stableIngress := true, canaryIng := some 20 }
def exPlain : Net := { stableExists := true, stableSel := none, canarySvc := none, stableIngress := true, canaryIng := none }
def exTR (phase : TRSM.Phase) (holders : List Nat) : TRO :=
  { deleting := false, hasFinalizer := true, holders := holders, phase := phase, weight := some 20, grace := 3, hasRef := true }

/-- rollout 0 has run through its steps (Progressing / Finalising, cursor empty) and is the only holder of a routed TrafficRouting -/
def exLast : JS := { tr := some (exTR .progressing [0]), net := exRouted, mem := Mem.empty, ros := [exEntry .finalising (some (exSub .completed))] }

/-- **`finaliseWaitsForRestore` is FALSE of the code — observation `completedBeforeRestored`.**  The stronger clause:
    "the Rollout's own clean-up tasks start only after its finalizer is off the TrafficRouting *and the TrafficRouting
    reports Healthy (or is gone)*".  `finalizeTrafficRouting` removes the finalizer and returns; `doFinalising` goes on
    with the release manager's clean-up in the same reconcile.  Witness: the last holder finishes — after ONE reconcile
    its finalizer is off (`finaliseFinalizerOff` holds), its own clean-up has moved (in-progress annotation stripped, cursor
    at the first task), while the TrafficRouting is still Progressing with the canary route (weight 20) in place.
    The same input is replayed on the real controllers on every run (corpus `trbind/observation-completedBeforeRestored`). -/
theorem finalise_waits_for_restore_full_FALSE :
    (match step exLast (.ro 0 .none), exLast.ros[0]? with
     | some s', some e =>
       (match s'.ros[0]? with
        | some e' =>
          finaliseFinalizerOff 0 (position (roWorld exLast e)) e e' s'.tr &&
          !finaliseWaitsForRestore 0 (position (roWorld exLast e)) e e' s'.tr &&
          guardCompletedBeforeRestored (position (roWorld exLast e)) e e' s'.tr &&
          s'.net.canaryIng == some 20 && (match s'.tr with | some t => t.phase == .progressing && t.holders == [] | none => false)
        | none => false)
     | _, _ => false) = true := by
  decide +kernel

/-- … and `released_means_restored` on that witness: four quiet rounds later the route is withdrawn and the
    TrafficRouting is Healthy (grace period 3 s: Finalizing, withdraw, wait, done) -/
example :
    (run exLast (.ro 0 .none :: quiet 4)).map (fun s => s.net.canaryIng == none &&
      (match s.tr with | some t => t.phase == .healthy && t.holders == [] | none => false)) = some true := by
  decide +kernel

/-- rollouts 0 and 1 share the TrafficRouting; 0 has finished, 1 is rolling -/
def exShared : JS :=
  { tr := some (exTR .progressing [0, 1]), net := exRouted, mem := Mem.empty,
    ros := [exEntry .finalising (some (exSub .completed)), exEntry .inRolling (some (exSub .paused))] }

/-- hypotheses of `two_rollouts_share` / `bound_while_rolling` are met by an ordinary state … -/
example : HeldBy 1 exShared := ⟨exTR .progressing [0, 1], rfl, by decide, rfl, by decide, by decide⟩
example : BoundWhileRolling exShared := by
  intro i e he _ _ hr
  match i, he with
  | 0, he => cases he; revert hr; decide
  | 1, he => cases he; decide
  | (n + 2), he => cases he

/-- … and the first holder finishing leaves the second one holding a routed TrafficRouting (test of `two_rollouts_share`) -/
example :
    (run exShared ([.ro 0 .none] ++ quiet 3)).map (fun s => s.net.canaryIng == some 20 &&
      (match s.tr with | some t => t.phase == .progressing && t.holders == [1] | none => false)) = some true := by
  decide +kernel

/-- a bound rollout in Initializing (verify wait over) facing a Healthy TrafficRouting: the first reconcile adds the
    finalizer and waits, the second one goes on to InRolling (test of `rollout_waits_for_binding`) -/
def exJoin (phase : TRSM.Phase) : JS :=
  { tr := some (exTR phase []), net := exPlain, mem := Mem.empty, ros := [exEntry .initializing none] }

example :
    (run (exJoin .healthy) [.ro 0 .none]).map (fun s =>
      (match s.tr, s.ros[0]? with | some t, some e => t.holders == [0] && e.w.ro.reason == .initializing | _, _ => false)) = some true ∧
    (run (exJoin .healthy) [.ro 0 .none, .ro 0 .none]).map (fun s =>
      (match s.tr, s.ros[0]? with | some t, some e => t.holders == [0] && e.w.ro.reason == .inRolling | _, _ => false)) = some true := by
  constructor <;> decide +kernel

/-- no resurrection: facing a Finalizing TrafficRouting the rollout waits without touching it; without a TrafficRouting it waits -/
example :
    (run (exJoin .finalizing) [.ro 0 .none, .ro 0 .none]).map (fun s =>
      (match s.tr, s.ros[0]? with | some t, some e => t.holders == [] && e.w.ro.reason == .initializing | _, _ => false)) = some true ∧
    (run { (exJoin .healthy) with tr := none } [.ro 0 .none]).map (fun s =>
      (match s.ros[0]? with | some e => s.tr.isNone && e.w.ro.reason == .initializing | _ => false)) = some true := by
  constructor <;> decide +kernel

/-- a TrafficRouting deleted while a rollout holds it: Terminating, route withdrawn, own finalizer off — and still visible;
    it disappears when the holder lets go (test of `tr_finalizer_guard` / `held_stays_visible`) -/
example :
    (run exLast ([.deleteTR] ++ quiet 4)).map (fun s => s.net.canaryIng == none &&
      (match s.tr with | some t => t.deleting && !t.hasFinalizer && t.holders == [0] && t.phase == .terminating | none => false)) = some true ∧
    (run exLast ([.deleteTR] ++ quiet 4 ++ [.ro 0 .none])).map (fun s => s.tr.isNone) = some true := by
  constructor <;> decide +kernel

end RV.Props.TRBind
