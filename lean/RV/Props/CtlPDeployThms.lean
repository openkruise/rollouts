import RV.Lemmas.CtlPDeploy
import RV.Props.C11
/-!
# The partition-style Deployment control plane (attached to C01, C05, C06, C07)

Every statement quantifies over **every** Deployment shape (any strategy annotation, valid or not;
leftovers of earlier releases; nil fields), every BatchRelease plan, every API fault, and — for the
walk theorems — every finite sequence of controller calls and user updates.  The oracles are those of
`RV/Oracle/CtlPDeploy.lean`, which the driver evaluates on the snapshots of the real code.  A theorem about one call is
`oracle = true` on every value of the model's `step`, obtained from the single inversion `step_ran`; C05 is an induction on
the walk with the invariant `Inv` (`walk_inv`).
-/
namespace RV.Props.CtlPDeploy
open RV.Arith IntOrPct RV.Webhook RV.CtlPDeploy RV.Oracle.CtlPDeploy

/-! ## C01 — exposure -/

/-- **C01 `initialize_exposes_nothing`** — for every prior state of the Deployment (in particular one that still
    carries the strategy annotation of an earlier BatchRelease with any partition): a successful `Initialize`
    either finds it already under rollout control and leaves it untouched, or claims it with a partition-style
    strategy whose partition is the integer 0 and which is not paused, so `NewRSReplicasLimit` is 0: the
    advanced deployment controller may move no pod until `UpgradeBatch` says so. -/
theorem initialize_exposes_nothing (c : Cfg) (d : Option Dep) (s : Step) (o : StepOut)
    (hcall : s.call = .initialize) (h : step c d s = .val o) :
    initExposesNothing d o = true := by
  unfold initExposesNothing
  split
  · next hok =>
    obtain ⟨d0, rfl, ⟨hu, hdep⟩ | ⟨hu, hdep⟩⟩ := initialize_ok hcall h hok
    · simp [hdep, hu]
    · obtain ⟨f1, f2, f3⟩ := initialized_strategy d0
      simp [hdep, hu, f1, f2, f3, initialized_limit, initialized_under]
  · rfl

/-- **C01 `upgradeBatch_within_step`** — after `UpgradeBatch` for batch `i` (any outcome) nothing but the strategy
    annotation differs; the partition is either what it was or — only for a Deployment under rollout control —
    step `i`'s `canaryReplicas` verbatim; and the limit it allows is at most the larger of what was already
    allowed and what step `i` plans (`CalculateBatchReplicas`, rounded up, clamped). -/
theorem upgradeBatch_within_step (c : Cfg) (d : Option Dep) (s : Step) (o : StepOut)
    (hcall : s.call = .upgradeBatch) (h : step c d s = .val o) :
    upgradeWithinStep c.rel s.batch d o = true := by
  have hc : s.call ≠ .submit := by rw [hcall]; decide
  unfold upgradeWithinStep
  rcases (step_ran hc h).obj with ⟨hdep, _⟩ | ⟨d0, r, d', rfl, hrep, hsome, hdep, _⟩
  · rw [hdep]
    cases d with
    | none => rfl
    | some d0 =>
      simp only [sameButAnno_self, Bool.true_and]
      cases d0.replicas <;> cases entryOf c.rel s.batch <;> simp [Int.le_max_left]
  · -- a write: the partition becomes the plan entry
    obtain ⟨e, p, rfl⟩ := upgrade_write hcall hsome
    have hrep' : (upgraded d0 e).replicas = some r := hrep
    -- by structure eta: `upgraded` differs from `d0` in `stratAnno` alone
    have hsb : sameButAnno d0 (upgraded d0 e) = true := sameButAnno_self d0
    have hlim : limitOf (upgraded d0 e) = newRSReplicasLimit e r := limitOf_eq hrep'
    have hp : (getStrategy (upgraded d0 e)).partition = e := rfl
    have := limit_le_calc e r
    have h0 := limitOf_nonneg d0
    simp only [hdep, hsb, hrep, p.entry, hp, p.under, hlim, Bool.true_and, beq_self_eq_true, Bool.and_true, Bool.or_true,
      decide_eq_true_eq]
    omega

/-- **C01 (monotone)** — `UpgradeBatch` never lowers the limit: when the partition already allows at
    least what the step wants, it is a no-op. -/
theorem upgradeBatch_monotone (c : Cfg) (d : Option Dep) (s : Step) (o : StepOut)
    (hcall : s.call = .upgradeBatch) (h : step c d s = .val o) :
    upgradeMonotone d o = true := by
  have hc : s.call ≠ .submit := by rw [hcall]; decide
  unfold upgradeMonotone
  rcases (step_ran hc h).obj with ⟨hdep, _⟩ | ⟨d0, r, d', rfl, hrep, hsome, hdep, _⟩
  · rw [hdep]; cases d <;> simp
  · obtain ⟨e, p, rfl⟩ := upgrade_write hcall hsome
    have hrep' : (upgraded d0 e).replicas = some r := hrep
    simp only [hdep, limitOf_eq hrep, limitOf_eq hrep', decide_eq_true_eq]
    exact Int.le_of_lt p.less

/-- **C07 (the write suffices)** — an `UpgradeBatch` that returns ok on a Deployment under rollout control leaves a
    partition whose limit is at least the batch's `DesiredUpdatedReplicas` (= `NewRSReplicasLimit` of the step's
    `canaryReplicas`): the advanced deployment controller is allowed to bring the batch to readiness. -/
theorem upgradeBatch_suffices (c : Cfg) (d : Option Dep) (s : Step) (o : StepOut)
    (hcall : s.call = .upgradeBatch) (h : step c d s = .val o) :
    upgradeSuffices c.rel s.batch d o = true := by
  have hc : s.call ≠ .submit := by rw [hcall]; decide
  unfold upgradeSuffices
  split
  · next hok =>
    rcases (step_ran hc h).ok_cases res_ne hok with ⟨rfl, _⟩ | ⟨d0, r, rfl, hrep, hrest⟩
    · rfl
    · rcases hrest with ⟨hn, hdep⟩ | ⟨d', hsome, hdep⟩
      · simp only [hdep, hrep]
        cases he : entryOf c.rel s.batch with
        | none => rfl
        | some e =>
          simp only []
          split
          · next hcond =>
            rcases upgrade_nowrite hcall hcond.2 he hn with hnu | hle
            · rw [hcond.1] at hnu; cases hnu
            · simp only [limitOf_eq hrep, decide_eq_true_eq]; exact hle
          · rfl
      · obtain ⟨e, p, rfl⟩ := upgrade_write hcall hsome
        have hrep' : (upgraded d0 e).replicas = some r := hrep
        simp only [hdep, hrep, p.entry, limitOf_eq hrep']
        split
        · exact decide_eq_true (Int.le_refl _)
        · rfl
  · rfl

/-- **C07 (… and then the batch can become ready)** — for a context whose `planned` and `desired` are
    `NewRSReplicasLimit(canaryReplicas)` (what `CalculateBatchContext` computes for this kind: assumed here, not derived
    from `calcCtx`) and in which at least that many pods are updated, all of them ready (the advanced deployment
    controller has used the limit `upgradeBatch_suffices` guarantees), `IsBatchReady` passes, whatever the failure
    threshold as long as `allowedUnavailable` is not negative. -/
theorem ready_when_limit_reached (r upd : Int) (e cur : IntOrPct) (ft : Option IntOrPct)
    (h : newRSReplicasLimit e r ≤ upd) (hft : 0 ≤ allowedUnavailable ft upd) :
    RV.BatchCtx.isBatchReady
      { replicas := r, updated := upd, updatedReady := upd, planned := newRSReplicasLimit e r,
        desired := newRSReplicasLimit e r, knobCur := cur, knobDes := e, failureThreshold := ft } none = .ok := by
  refine RV.Props.C11.ready_complete _ none ?_
  simp only [RV.Oracle.Batch.readyMeans, Bool.and_true, Bool.and_eq_true, decide_eq_true_eq]
  omega

/-! ## C06 — API faults and repetition -/

/-- **C06 (fault safety)** — a controller call hit by an API fault leaves the Deployment exactly as it was: a failed
    read is an error without any write; a call whose write fails returns an error; it returns ok under a write
    fault only when it had nothing to write.  And an error never comes with a change. -/
theorem fault_safe (c : Cfg) (d : Option Dep) (s : Step) (o : StepOut) (h : step c d s = .val o) :
    faultSafe s d o = true := by
  unfold faultSafe
  by_cases hc : s.call = .submit
  · simp [hc]
  · obtain ⟨herr, hget, hwrite⟩ := (step_ran hc h).safe res_ne
    rw [if_neg hc, Bool.and_eq_true, Bool.and_eq_true]
    refine ⟨⟨?_, ?_⟩, ?_⟩
    · split
      · next hf =>
        -- a fault is a failed Get, which is an error, or a failed write
        refine beq_iff_eq.mpr (hf.elim (fun hf => ?_) herr)
        cases hs : s.fault
        · exact absurd hs hf
        · exact herr (hget (.inl hs)).1
        · exact (hwrite hs).1
      · rfl
    · split
      · next hg => rw [(hget (.inl hg)).1, (hget (.inl hg)).2]; rfl
      · rfl
    · split
      · next hw => rw [(hwrite hw.1).2 hw.2]; rfl
      · rfl

/-- **frame** — a controller call never touches the size, the template, the in-progress annotation or anything
    outside the model and issues at most one write; an admitted user update never touches the control-info, the
    control label or the extra-status annotation. -/
theorem step_frame (c : Cfg) (d : Option Dep) (s : Step) (o : StepOut) (h : step c d s = .val o) :
    frame s d o = true := by
  unfold frame
  by_cases hc : s.call = .submit
  · simp only [hc, if_true]
    simp only [step, hc] at h
    cases d with
    | none => cases h; rfl
    | some d0 =>
      simp only at h
      cases ha : submit c.world d0 s.edit with
      | panic => rw [ha] at h; cases h
      | val d' =>
        rw [ha] at h; cases h
        obtain ⟨h1, h2, h3, h4, _⟩ := submit_frame ha
        simp [h1, h2, h3, h4]
  · simp only [hc, if_false]
    rcases (step_ran hc h).obj with ⟨hdep, hw, hw0⟩ | ⟨d0, r, d', rfl, _, hsome, hdep, hw⟩
    · rw [hdep]
      cases d with
      | none => simp [hw0 rfl]
      | some d0 => simp [hw]
    · obtain ⟨h1, h2, h3, h4⟩ := writeOf_frame hsome
      simp [hdep, hw, h1, h2, h3, h4]

/-- **C06 (idempotence)** — `initialize ∘ initialize = initialize`, `finalize ∘ finalize = finalize`,
    `upgradeBatch ∘ upgradeBatch = upgradeBatch` (same batch): repeating a successful call returns ok, changes
    nothing and issues no write. -/
theorem idempotent_calls (c : Cfg) (d : Option Dep) (a b : Step) (oa ob : StepOut)
    (ha : step c d a = .val oa) (hb : step c oa.dep b = .val ob) :
    idempotent a b oa ob = true := by
  unfold idempotent
  split
  · next hcond =>
    obtain ⟨hsame, hok⟩ := hcond
    simp only [sameCall, Bool.and_eq_true, beq_iff_eq, bne_iff_ne, ne_eq, Bool.or_eq_true] at hsame
    obtain ⟨⟨⟨⟨⟨hcall, hca⟩, _⟩, hfb⟩, hbatch⟩, hbp⟩ := hsame
    have hcg := fun w r => writeOf_congr c.rel w r hcall hbatch hbp
    -- `Q` is for planes whose repeated call writes the same object again; here it never writes (`writeOf_idem`)
    obtain ⟨hr, hd, hw | hw⟩ := (step_ran hca ha).again (Q := False) res_ne hok (step_ran (hcall ▸ hca) hb)
      (nofault := ⟨by simp [hfb], fun _ => not_false, by simp [hfb]⟩) (hnf := fun h => hcall.symm.trans h)
      (hsize := fun w r w' hr hs => (writeOf_frame hs).2.1.trans hr)
      (hnone := fun w r hn => (hcg w r).symm.trans hn)
      (hsome := fun w r w' hs => .inl ((hcg w' r).symm.trans (writeOf_idem hs)))
    · simp [show ob.res = .ok from hr, hd, hw]
    · exact hw.elim
  · rfl

/-! ## C01 — exposure along every walk -/

/-- **C01 (walk bound)** — for every Deployment of a fixed size `r`, every plan and every finite sequence of
    controller calls (with any faults) and admitted user updates (that do not scale): at the end, the number of
    pods the partition allows on the new revision is at most the larger of what the Deployment allowed at the
    start and the largest `CalculateBatchReplicas` of the batches `UpgradeBatch` was called for. -/
theorem walk_exposure_bound (c : Cfg) (r : Int) (steps : List Step) :
    ∀ (d df : Dep), d.replicas = some r → noScale steps = true → runD c (some d) steps = some (some df) →
      df.replicas = some r ∧ limitOf df ≤ max (limitOf d) (allowedMax c.rel r steps) := by
  induction steps with
  | nil =>
    intro d df hrep _ hrun
    cases hrun
    exact ⟨hrep, Int.le_max_left _ _⟩
  | cons s ss ih =>
    intro d df hrep hns hrun
    simp only [noScale, List.all_cons, Bool.and_eq_true] at hns
    simp only [runD] at hrun
    cases hst : step c (some d) s with
    | panic => rw [hst] at hrun; cases hrun
    | val o =>
      rw [hst] at hrun
      simp only at hrun
      obtain ⟨d1, hd1, hr1, hl1⟩ := step_limit hrep (Option.isNone_iff_eq_none.mp hns.1) hst
      rw [hd1] at hrun
      obtain ⟨hrf, hlf⟩ := ih d1 df hr1 hns.2 hrun
      refine ⟨hrf, ?_⟩
      simp only [allowedMax]
      omega

/-- **C01 (initialize, then only what the batches allow)** — whatever
    partition an earlier BatchRelease left in the strategy annotation, once a new BatchRelease has successfully
    initialised a Deployment it did not yet control, every later state of every walk allows at most the largest
    planned size among the batches upgraded since — nothing before the first `UpgradeBatch`. -/
theorem initialize_then_within_steps (c : Cfg) (r : Int) (d df : Dep) (s0 : Step) (o0 : StepOut) (rest : List Step)
    (hrep : d.replicas = some r) (hnc : isUnderRolloutControl d = false)
    (hcall : s0.call = .initialize) (h0 : step c (some d) s0 = .val o0) (hok : o0.res = .ok)
    (hns : noScale rest = true) (hrun : runD c o0.dep rest = some (some df)) :
    limitOf df ≤ allowedMax c.rel r rest := by
  obtain ⟨d0, hd, ⟨hu, _⟩ | ⟨_, hdep⟩⟩ := initialize_ok hcall h0 hok <;> cases hd
  · rw [hu] at hnc; cases hnc
  · rw [hdep] at hrun
    obtain ⟨_, hb⟩ := walk_exposure_bound c r rest (initialized d) df hrep hns hrun
    have := allowedMax_nonneg c.rel r rest
    rw [initialized_limit] at hb
    omega

/-! ## C05 — the user's strategy survives the round trip -/

theorem step_inv {c : Cfg} {d : Dep} {u : RU} {s : Step} {o : StepOut}
    (hu : ruValid u = true) (hi : Inv d u) (hs : (s.call != .submit || editOK s.edit) = true)
    (h : step c (some d) s = .val o) :
    ∃ d', o.dep = some d' ∧ Inv d' (stepRU u s) ∧ ruValid (stepRU u s) = true := by
  unfold stepRU
  by_cases hc : s.call = .submit
  · rw [if_pos hc]
    simp only [step, hc] at h
    cases ha : submit c.world d s.edit with
    | panic => rw [ha] at h; cases h
    | val d' =>
      rw [ha] at h; cases h
      obtain ⟨hin, hun⟩ := inv_applyEdit hu hi (by simpa [hc] using hs)
      exact ⟨d', rfl, inv_webhook hun hin ha, hun⟩
  · rw [if_neg hc]
    rcases (step_ran hc h).obj with ⟨hdep, _⟩ | ⟨d0, r, d', hd, _, hsome, hdep, _⟩
    · exact ⟨d, hdep, hi, hu⟩
    · cases hd
      exact ⟨d', hdep, inv_write hu hi hsome, hu⟩

/-- C05's induction: along every walk of controller calls and admitted edits, `Inv` holds for the block the user submitted last
    (`trackRU`), and that block stays valid -/
theorem walk_inv (c : Cfg) (steps : List Step) :
    ∀ (d df : Dep) (u : RU), ruValid u = true → Inv d u → stepsOK steps = true →
      runD c (some d) steps = some (some df) →
      Inv df (trackRU u steps) ∧ ruValid (trackRU u steps) = true := by
  induction steps with
  | nil =>
    intro d df u hu hi _ hrun
    cases hrun
    exact ⟨hi, hu⟩
  | cons s ss ih =>
    intro d df u hu hi hok hrun
    simp only [stepsOK, List.all_cons, Bool.and_eq_true] at hok
    simp only [runD] at hrun
    cases hst : step c (some d) s with
    | panic => rw [hst] at hrun; cases hrun
    | val o =>
      rw [hst] at hrun
      simp only at hrun
      obtain ⟨d1, hd1, hi1, hu1⟩ := step_inv hu hi hok.1 hst
      rw [hd1] at hrun
      exact ih d1 df (stepRU u s) hu1 hi1 hok.2 hrun

theorem userState_inv (d : Dep) (u : RU) (h : userState d u = true) : Inv d u := by
  simp only [userState, userClean, Bool.and_eq_true, beq_iff_eq, Bool.not_eq_true'] at h
  obtain ⟨⟨h1, h2⟩, ⟨⟨⟨⟨h3, h4⟩, h5⟩, h6⟩, h7⟩⟩ := h
  exact ⟨fun _ => ⟨h4, h5, h6, h7⟩, Shape.user h1 h2 h3⟩

/-- **C05 `finalize_restores_user_strategy`** — for every `rollingUpdate` block `u` a user can have (both fields
    set, not both zero), every Deployment configured with it, and **every** finite walk of controller calls
    (`Initialize`, `UpgradeBatch`, `Finalize` with or without `batchPartition`, each with any API fault) and admitted
    user updates (new templates, scaling, re-submitting a RollingUpdate strategy — the latest one counts): if the
    walk is followed by a successful `Finalize(batchPartition = nil)` of a Deployment that carries the control-info
    (`claimed`), the Deployment ends with `strategy = RollingUpdate` + the user's latest block, not paused, and
    without strategy annotation, control-info, control label, extra-status and stable-revision label. -/
theorem finalize_restores_user_strategy (c : Cfg) (d0 dl : Dep) (u : RU) (pre : List Step) (last : Step) (o : StepOut)
    (hu : ruValid u = true) (h0 : userState d0 u = true) (hpre : stepsOK pre = true)
    (hrun : runD c (some d0) pre = some (some dl))
    (hlast : step c (some dl) last = .val o) (hend : endsWithFinalize last o = true)
    (hcl : claimed dl = true) :
    ∃ d', o.dep = some d' ∧ restored d' (trackRU u pre) = true := by
  obtain ⟨hi, hul⟩ := walk_inv c pre d0 dl u hu (userState_inv d0 u h0) hpre hrun
  simp only [endsWithFinalize, Bool.and_eq_true, beq_iff_eq] at hend
  obtain ⟨⟨⟨hcall, hbp⟩, _⟩, hres⟩ := hend
  rcases finalize_ok hcall hlast hres with ⟨hd, _⟩ | ⟨d1, hd, ⟨hn, _⟩ | ⟨_, hdep⟩⟩ <;> cases hd
  · rw [hn] at hcl; cases hcl
  · exact ⟨_, hdep, (inv_finalize hul hi hcl).2 hbp⟩

/-- **C05 (nothing left to restore)** — same walks; if the final `Finalize(batchPartition = nil)` finds the Deployment
    unclaimed, with no parked strategy and not paused, then it is already as the user configured it. -/
theorem finalize_nothing_to_restore (c : Cfg) (d0 dl : Dep) (u : RU) (pre : List Step) (last : Step) (o : StepOut)
    (hu : ruValid u = true) (h0 : userState d0 u = true) (hpre : stepsOK pre = true)
    (hrun : runD c (some d0) pre = some (some dl))
    (hlast : step c (some dl) last = .val o) (hend : endsWithFinalize last o = true)
    (hcl : claimed dl = false) (hpk : parked dl = false) (hpa : dl.paused = false) :
    o.dep = some dl ∧ restored dl (trackRU u pre) = true := by
  obtain ⟨hi, _⟩ := walk_inv c pre d0 dl u hu (userState_inv d0 u h0) hpre hrun
  simp only [endsWithFinalize, Bool.and_eq_true, beq_iff_eq] at hend
  obtain ⟨⟨⟨hcall, _⟩, _⟩, hres⟩ := hend
  refine ⟨?_, ?_⟩
  · rcases finalize_ok hcall hlast hres with ⟨hd, _⟩ | ⟨d1, hd, ⟨_, hdep⟩ | ⟨hy, _⟩⟩ <;> cases hd
    · exact hdep
    · rw [hcl] at hy; cases hy
  · obtain ⟨c1, c2, c3, c4⟩ := hi.clean hpa
    rcases hi.shape with ⟨h1, h2, h3⟩ | ⟨s, _, _, h3, _⟩ | ⟨s, _, _, _, h4, _⟩
    · simp [restored, h1, h2, h3, hpa, c1, c2, c3, c4]
    · simp [parked, h3] at hpk
    · simp [parked, h4] at hpk

/-- **C05 (round trip, as the driver evaluates it)** — `roundTripPartial` holds on every walk of the model: outside
    the two guards (`guardUserRecreate`, `guardUnclaimed`) the full-strength statement `roundTripFull` is a theorem. -/
theorem round_trip_partial (c : Cfg) (d0 dl : Dep) (pre : List Step) (last : Step) (o : StepOut)
    (hrun : runD c (some d0) pre = some (some dl)) (hlast : step c (some dl) last = .val o) :
    roundTripPartial d0 pre last (some dl) o = true := by
  unfold roundTripPartial
  by_cases g1 : guardUserRecreate d0 = true
  · simp [g1]
  by_cases g2 : guardUnclaimed (some dl) = true
  · simp [g2]
  have g1' : guardUserRecreate d0 = false := by simpa using g1
  have g2' : guardUnclaimed (some dl) = false := by simpa using g2
  simp only [g1', g2', Bool.false_or]
  unfold roundTripFull
  split
  · rename_i hcond
    obtain ⟨hpre, hend, hclean⟩ := hcond
    have hne : d0.stratType ≠ "Recreate" := by simpa [guardUserRecreate] using g1'
    -- the three arms of `roundTripFull`: a user's RollingUpdate block `u` (the two theorems above), a user's `Recreate` (excluded
    -- by the guard), anything else (nothing is claimed)
    split
    · rename_i u _ d' hst hru _ hod
      split
      · rename_i hu
        have h0 : userState d0 u = true := by simp [userState, hst, hru, hclean]
        by_cases hcl : claimed dl = true
        · obtain ⟨d'', hd'', hres⟩ := finalize_restores_user_strategy c d0 dl u pre last o hu h0 hpre hrun hlast hend hcl
          rw [hod] at hd''; cases hd''; exact hres
        · have hcl' : claimed dl = false := by simpa using hcl
          simp only [guardUnclaimed, hcl', Bool.not_false, Bool.true_and, Bool.or_eq_false_iff] at g2'
          obtain ⟨hpk, hpa⟩ := g2'
          obtain ⟨hdep, hres⟩ := finalize_nothing_to_restore c d0 dl u pre last o hu h0 hpre hrun hlast hend hcl' hpk hpa
          rw [hod] at hdep; cases hdep; exact hres
      · rfl
    · rename_i hst _ _ _
      exact absurd hst hne
    · rfl
  · rfl

/-! ## Known findings (C05, C06): where the full-strength statements are false on the unchanged code -/

def exU : RU := { maxUnavailable := some (int 1), maxSurge := some (pct 30) }
def exU2 : RU := { maxUnavailable := some (pct 10), maxSurge := some (int 2) }

/-- a Deployment as a user configures it -/
def exD : Dep :=
  { replicas := some 10, paused := false, stratType := "RollingUpdate", stratRU := some exU, stratAnno := .absent,
    control := .none, ctrlLabel := false, stableRev := "", extraStatus := false, inProgress := false, tmpl := 1, rest := 0 }

def exCfg : Cfg :=
  { rel := { batches := [pct 20, pct 50, pct 100], rollbackAnno := false, updated := 0 },
    world := { matched := true, rsTmpl := some 1 } }

def mk (c : Call) (b : Int := 0) (bp : Bool := false) (e : Edit := Edit.none) : Step :=
  { call := c, fault := .none, batch := b, bpNil := bp, edit := e }

/-- the Deployment after `Initialize` and a `Finalize` that released only the control-info -/
def exParked : Dep :=
  { exD with paused := true, stratType := "Recreate", ctrlLabel := true,
             stratAnno := .valid { rollingStyle := "Partition", ru := some exU, paused := false, partition := int 0 } }

/-- **finding `unclaimedFinalize` (C05 full strength is FALSE)** — `Initialize`, then a `Finalize` with
    `batchPartition ≠ nil` (the BatchRelease of a superseded release is deleted: only the control-info is dropped),
    then a complete `Finalize(batchPartition = nil)` by a BatchRelease that never initialised: the call returns ok,
    writes nothing, and the Deployment stays paused, `Recreate`, with the strategy annotation and the control label. -/
theorem finalize_restores_user_strategy_full_FALSE_unclaimed :
    runD exCfg (some exD) [mk .initialize, mk .finalize 1 false] = some (some exParked) ∧
    step exCfg (some exParked) (mk .finalize 1 true) = .val { res := .ok, dep := some exParked, writes := 0, obs := none } ∧
    guardUnclaimed (some exParked) = true ∧
    roundTripFull exD [mk .initialize, mk .finalize 1 false] (mk .finalize 1 true) (some exParked)
      { res := .ok, dep := some exParked, writes := 0, obs := none } = false := by
  decide +kernel

/-- a user's Deployment with `strategy.type: Recreate` -/
def exRecreate : Dep := { exD with stratType := "Recreate", stratRU := none }

/-- `25%` / `maxSurge := none`: what `SetDefaultDeploymentStrategy` makes of an empty block (its `maxSurge` default is assigned to
    `MaxUnavailable`) -/
def exRecreateEnd : Dep :=
  { exRecreate with stratType := "RollingUpdate", stratRU := some { maxUnavailable := some (pct 25), maxSurge := none } }

def exRecreateClaimed : Dep :=
  { exRecreate with
      paused := true, ctrlLabel := true, control := Owner.this,
      stratAnno := .valid { rollingStyle := "Partition", ru := some { maxUnavailable := some (pct 25), maxSurge := none },
                            paused := false, partition := int 0 } }

/-- **finding `userRecreate` (C05 full strength is FALSE)** — a Deployment whose user chose `strategy.type: Recreate`
    comes out of `Initialize ; Finalize(batchPartition = nil)` as `RollingUpdate` with `maxUnavailable: 25%`:
    nothing remembers the original type. -/
theorem finalize_restores_user_strategy_full_FALSE_recreate :
    runD exCfg (some exRecreate) [mk .initialize, mk .finalize 0 true] = some (some exRecreateEnd) ∧
    guardUserRecreate exRecreate = true ∧
    (∃ dl o, runD exCfg (some exRecreate) [mk .initialize] = some (some dl) ∧
       step exCfg (some dl) (mk .finalize 0 true) = .val o ∧
       roundTripFull exRecreate [mk .initialize] (mk .finalize 0 true) (some dl) o = false) := by
  refine ⟨by decide +kernel, by decide +kernel, ?_⟩
  refine ⟨exRecreateClaimed, { res := .ok, dep := some exRecreateEnd, writes := 1, obs := none }, ?_⟩
  decide +kernel

/-- **C06 (a call that returns ok has its effect)** — after a successful `Initialize` the Deployment is under rollout
    control (paused, `Recreate`, control-info present); after a successful `Finalize` of a paused Deployment the
    control-info is gone and, with `batchPartition = nil`, so are the strategy annotation and the pause — except in
    the region of the open finding `unclaimedFinalize` (complete `Finalize`, no control-info, yet paused or parked),
    where the full statement is false (`ok_has_effect_full_FALSE`).  (`UpgradeBatch`: `upgradeBatch_suffices`.) -/
theorem ok_has_effect_partial (c : Cfg) (d : Option Dep) (s : Step) (o : StepOut) (h : step c d s = .val o) :
    okHasEffectPartial s d o = true := by
  unfold okHasEffectPartial
  cases hg : guardUnclaimedStep s d
  · simp only [Bool.false_or]
    unfold okHasEffect
    split
    · next hok =>
      cases hcall : s.call
      · obtain ⟨d0, rfl, ⟨hu, hdep⟩ | ⟨_, hdep⟩⟩ := initialize_ok hcall h hok
        · simp [hdep, hu]
        · simp [hdep, initialized_under]
      · cases d <;> cases o.dep <;> rfl
      · rcases finalize_ok hcall h hok with ⟨rfl, hdep⟩ | ⟨d0, rfl, ⟨hcl, hdep⟩ | ⟨hcl, hdep⟩⟩
        · simp [hdep]
        · -- nothing written: the Deployment is not claimed
          simp only [hdep]
          cases hpa : d0.paused
          · simp
          · have hcn : d0.control = .none := by
              simpa only [claimed, hpa, Bool.and_true, bne_eq_false_iff_eq] using hcl
            have hbp : s.bpNil = false := by
              cases hb : s.bpNil
              · rfl
              · simp [guardUnclaimedStep, hcall, hb, guardUnclaimed, hcl, hpa] at hg
            simp [hcn, hbp]
        · have hpa : d0.paused = true := (Bool.and_eq_true _ _ ▸ hcl).2
          simp only [hdep, hpa, if_true]
          unfold finalized
          cases s.bpNil <;> simp [released]
      · cases d <;> cases o.dep <;> rfl
    · rfl
  · rfl

/-- **finding `unclaimedFinalize`, step form (C06 full strength is FALSE)** — a complete `Finalize` of the parked
    but unclaimed Deployment returns ok and has no effect at all. -/
theorem ok_has_effect_full_FALSE :
    step exCfg (some exParked) (mk .finalize 1 true) = .val { res := .ok, dep := some exParked, writes := 0, obs := none } ∧
    guardUnclaimedStep (mk .finalize 1 true) (some exParked) = true ∧
    okHasEffect (mk .finalize 1 true) (some exParked) { res := .ok, dep := some exParked, writes := 0, obs := none } = false := by
  decide +kernel

/-! ## non-vacuity (tests on literals, not the ∀ claims) -/

/-- the hypotheses of `finalize_restores_user_strategy` are satisfiable by a real life cycle: new template admitted,
    claimed, two batches, the user re-applies the manifest with another block, complete finalize -/
example :
    ruValid exU = true ∧ userState exD exU = true ∧
    (let pre := [mk .submit 0 false { Edit.none with tmpl := some 2 }, mk .initialize, mk .upgradeBatch 0,
                 mk .submit 0 false { Edit.none with strat := some ("RollingUpdate", some exU2) }, mk .upgradeBatch 1];
     stepsOK pre = true ∧ trackRU exU pre = exU2 ∧
     (match runD exCfg (some exD) pre with
      | some (some dl) =>
        claimed dl && limitOf dl == 5 &&
        (match step exCfg (some dl) (mk .finalize 1 true) with
         | .val o => (match o.dep with
                      | some d' => restored d' exU2
                      | none => false)
         | .panic => false)
      | _ => false) = true) := by
  decide +kernel

/-- a Deployment that still carries an earlier release's annotation at 50 % (its control-info was dropped) -/
def exStale : Dep :=
  { exParked with
      stratAnno := .valid { rollingStyle := "Partition", ru := some exU, paused := true, partition := pct 50 } }

/-- `initialize_exposes_nothing` is not vacuous: the stale 50 % partition (limit 5) is reset to 0 by one write -/
example :
    limitOf exStale = 5 ∧ isUnderRolloutControl exStale = false ∧
    (match step exCfg (some exStale) (mk .initialize) with
     | .val o => (match o.dep with
                  | some d' => limitOf d' == 0 && o.writes == 1
                  | none => false)
     | .panic => false) = true := by
  decide +kernel

end RV.Props.CtlPDeploy
