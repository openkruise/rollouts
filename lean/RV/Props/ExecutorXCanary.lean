import RV.Props.ExecutorXThms
import RV.Oracle.ExecutorXPlanes
import RV.Props.CtlCanaryThms
/-!
# The canary-style Deployment plane is a lawful plane (`Laws`, `ExposureLaws`)

`RV.ExecutorX.canaryPlane` is a thin adapter over the plane model `RV.CtlCanary` (no fault, this BatchRelease's workload
has name 0, a fresh plane object per call).  The laws are derived from that model's own theorems
(`RV.Props.CtlCanary.finalize_ok_means_gone`, `finalize_releases_stable`) and specifications
(`RV.CtlCanary.planeInitialize_ok`, `planeUpgradeBatch_spec`, `canaryExpo_call` …); the only hypothesis on worlds is the
API-server fact that object names are unique (`canaryPreds.wf = namesNodup`).
-/
namespace RV.Props.ExecutorX
open RV.Arith RV.BatchCtx RV.Executor RV.ExecutorX RV.Oracle.ExecutorX

theorem canaryS_eq (w : CanaryW) : canaryS w = CtlCanary.S0 w.w w.exp := rfl

theorem canaryRes_ok (r : CtlCanary.Res) : canaryRes r = .val .ok ↔ r = .ok := by
  cases r <;> simp [canaryRes]

theorem canary_init_inv {br : BR} {ns ns' : Status} {w w' : CanaryW} {r : CallResult}
    (h : canaryPlane.init br ns w = .val (w', ns', r)) :
    w' = canaryAfter w (CtlCanary.planeInitialize (canaryCfg w) (canaryBR br w) (CtlCanary.S0 w.w w.exp)).1 ∧
    (r = .ok → (CtlCanary.planeInitialize (canaryCfg w) (canaryBR br w) (CtlCanary.S0 w.w w.exp)).2.1 = .ok) ∧
    Records ns ns' := by
  simp only [canaryPlane] at h
  rw [← canaryS_eq]
  split at h
  · cases h
  · rename_i st hres _
    cases h
    exact ⟨rfl, fun _ => hres, .mk _ _ _ _⟩
  · cases h
    exact ⟨rfl, nofun, .mk _ _ _ _⟩

theorem canary_upgrade_inv {br : BR} {ns : Status} {w w' : CanaryW} {r : CallResult}
    (h : canaryPlane.upgrade br ns w = .val (w', r)) :
    w' = canaryAfter w (CtlCanary.planeUpgradeBatch (canaryCfg w) (canaryBR br w) (CtlCanary.S0 w.w w.exp)).1 ∧
    (r = .ok ↔ (CtlCanary.planeUpgradeBatch (canaryCfg w) (canaryBR br w) (CtlCanary.S0 w.w w.exp)).2 = .ok) := by
  simp only [canaryPlane] at h
  rw [← canaryS_eq]
  split at h
  · cases h
  · rename_i c hc
    cases h
    exact ⟨rfl, by rw [← canaryRes_ok, hc, Out.val.injEq]⟩

theorem canary_fin_inv {br : BR} {w w' : CanaryW} {r : CallResult} (h : canaryPlane.fin br w = .val (w', r)) :
    w' = canaryAfter w (CtlCanary.planeFinalize (canaryCfg w) (canaryBR br w) (CtlCanary.S0 w.w w.exp)).1 ∧
    (r = .ok ↔ (CtlCanary.planeFinalize (canaryCfg w) (canaryBR br w) (CtlCanary.S0 w.w w.exp)).2 = .ok) := by
  simp only [canaryPlane] at h
  rw [← canaryS_eq]
  split at h
  · cases h
  · rename_i c hc
    cases h
    exact ⟨rfl, by rw [← canaryRes_ok, hc, Out.val.injEq]⟩

theorem canary_ensure_ok_iff (br : BR) (ns : Status) (w : CanaryW) :
    canaryPlane.ensure br ns w = .val .ok ↔ canaryPreds.ready br w = true := by
  show canaryRes (CtlCanary.planeEnsureReady (canaryCfg w) (canaryBR br w) (canaryS w)).2 = .val .ok ↔
    decide ((CtlCanary.planeEnsureReady (canaryCfg w) (canaryBR br w) (canaryS w)).2 = .ok) = true
  rw [canaryRes_ok]; simp

theorem canary_fin_ok_released (br : BR) (w w' : CanaryW) (hwf : canaryPreds.wf w = true)
    (h : canaryPlane.fin br w = .val (w', .ok)) : canaryPreds.released br w' = true := by
  have hnd : RV.Oracle.CtlCanary.namesNodup w.w = true := hwf
  obtain ⟨hw, hr⟩ := canary_fin_inv h
  have hres : (CtlCanary.call (canaryBR br w) .fin (canaryCfg w) w.w w.exp).res = .ok := hr.mp rfl
  have hw' : w'.w = (CtlCanary.call (canaryBR br w) .fin (canaryCfg w) w.w w.exp).w := congrArg CanaryW.w hw
  have hgone := CtlCanary.finalize_ok_means_gone (canaryBR br w) .fin (canaryCfg w) w.w w.exp hnd
  have hrel := CtlCanary.finalize_releases_stable (canaryBR br w) .fin (canaryCfg w) w.w w.exp hnd
  unfold RV.Oracle.CtlCanary.finalizeOkMeansGone at hgone
  unfold RV.Oracle.CtlCanary.finalizeReleasesStable at hrel
  rw [if_pos ⟨rfl, hres⟩] at hgone hrel
  rw [← hw'] at hgone hrel
  show ((match w'.w.find 0 with
     | none => true
     | some st => decide (st.ctrl = .none)) &&
    w'.w.deps.all (fun d => !(RV.Oracle.CtlCanary.owned d && d.finalizer))) = true
  rw [hgone, Bool.and_true]
  have hk : (canaryBR br w).key = 0 := rfl
  rw [hk] at hrel
  cases hf : w'.w.find 0 with
  | none => rfl
  | some st =>
    rw [hf] at hrel
    simp only [Bool.and_eq_true] at hrel
    exact hrel.1

theorem canary_init_frame : InitFrame canaryPlane :=
  .of_records fun _ _ _ _ _ _ h => (canary_init_inv h).2.2

theorem canary_init_ok_claimed (br : BR) (ns : Status) (w w' : CanaryW) (ns' : Status)
    (h : canaryPlane.init br ns w = .val (w', ns', .ok)) : canaryPreds.claimed br w w' = true := by
  obtain ⟨hw', hres, _⟩ := canary_init_inv h
  obtain ⟨st, cd, hst, hctl, hcd, hown, hdel⟩ := CtlCanary.planeInitialize_ok _ _ _ _ (hres rfl)
  have hw : w'.w = (CtlCanary.planeInitialize (canaryCfg w) (canaryBR br w) (CtlCanary.S0 w.w w.exp)).1.w :=
    congrArg CanaryW.w hw'
  rw [← hw] at hst hcd
  have hk : (canaryBR br w).key = 0 := rfl
  rw [hk] at hst
  show ((match w'.w.find 0 with
     | some st => CtlCanary.isControlledBy st
     | none => false) &&
    w'.w.deps.any (fun d => RV.Oracle.CtlCanary.owned d && !d.deleting)) = true
  rw [hst]
  simp only [hctl, Bool.true_and, List.any_eq_true]
  exact ⟨cd, hcd, by simp [RV.Oracle.CtlCanary.owned, hown, hdel]⟩

theorem canaryLaws : Laws canaryPlane canaryPreds where
  ensure_ok_iff := fun br ns w _ => canary_ensure_ok_iff br ns w
  fin_ok_released := canary_fin_ok_released
  init_frame := canary_init_frame
  init_ok_claimed := fun br ns w w' ns' _ h => canary_init_ok_claimed br ns w w' ns' h

theorem canary_init_exposes_nothing (br : BR) (ns : Status) (w w' : CanaryW) (ns' : Status) (r : CallResult)
    (hwf : canaryPreds.wf w = true) (h : canaryPlane.init br ns w = .val (w', ns', r)) :
    canaryPreds.exposure w' ≤ canaryPreds.exposure w := by
  obtain ⟨rfl, _⟩ := canary_init_inv h
  exact CtlCanary.planeInitialize_expo _ _ _ _ hwf

theorem canary_upgrade_exposure (br : BR) (ns : Status) (w w' : CanaryW) (r : CallResult)
    (hwf : canaryPreds.wf w = true) (h : canaryPlane.upgrade br ns w = .val (w', r)) :
    canaryPreds.exposure w ≤ canaryPreds.exposure w' ∧
    canaryPreds.exposure w' ≤ max (canaryPreds.exposure w) (canaryPreds.allowed br w) := by
  obtain ⟨rfl, _⟩ := canary_upgrade_inv h
  show CtlCanary.canaryExpo w.w ≤ CtlCanary.canaryExpo (CtlCanary.planeUpgradeBatch _ _ _).1.w ∧
    CtlCanary.canaryExpo (CtlCanary.planeUpgradeBatch _ _ _).1.w ≤
      max (CtlCanary.canaryExpo w.w) ((RV.Oracle.CtlCanary.target (canaryBR br w) w.w).getD 0)
  exact ⟨CtlCanary.planeUpgradeBatch_expo_mono _ _ _ _ hwf, CtlCanary.canaryExpo_call (canaryBR br w) .upgrade (canaryCfg w) w.w w.exp hwf⟩

/-- the only write of the call is its last step -/
theorem canary_upgrade_err_same (br : BR) (ns : Status) (w w' : CanaryW)
    (h : canaryPlane.upgrade br ns w = .val (w', .err)) : w' = w := by
  obtain ⟨rfl, hr⟩ := canary_upgrade_inv h
  obtain ⟨hexp, -, hworld⟩ := CtlCanary.planeUpgradeBatch_spec (Prod.eta (CtlCanary.planeUpgradeBatch (canaryCfg w)
    (canaryBR br w) (CtlCanary.S0 w.w w.exp))).symm
  have hw : (CtlCanary.planeUpgradeBatch (canaryCfg w) (canaryBR br w) (CtlCanary.S0 w.w w.exp)).1.w = w.w := by
    rcases hworld with ⟨hsame, _⟩ | ⟨_, _, _, _, _, _, _, _, _, _, hok, _⟩
    · exact hsame
    · exact nomatch hr.mpr hok
  rw [canaryAfter, hw, hexp]

theorem canaryExposure : ExposureLaws canaryPlane canaryPreds where
  init_exposes_nothing := fun br ns w w' ns' r hwf _ h => canary_init_exposes_nothing br ns w w' ns' r hwf h
  upgrade_monotone := fun br ns w w' r hwf _ h => (canary_upgrade_exposure br ns w w' r hwf h).1
  upgrade_within := fun br ns w w' r hwf _ h => (canary_upgrade_exposure br ns w w' r hwf h).2
  upgrade_err_same := canary_upgrade_err_same

/-! ## non-vacuity (tests by kernel evaluation)

  The world of `RV.Props.CtlCanary.Demo`: the stable Deployment (name 0, 10 replicas, control-info of this BatchRelease), its
  canary Deployment (owned, 2 replicas, all observed and available, finalizer), a stale canary in deletion, a foreign one. -/

namespace CanaryDemo

def w : CanaryW :=
  { w := RV.Props.CtlCanary.Demo.w, exp := .none, timedOut := false, waitResume := false,
    patch := some ([("canary", "yes")], []) }

/-- a release in its first batch (20 % of 10 = 2 pods) -/
def br : BR :=
  { batches := [.pct 20, .pct 50, .pct 100], partition := none, failureThreshold := none, deleting := false,
    hasFinalizer := true, rollbackAnno := false,
    status := { phase := .progressing, currentBatch := 0, batchState := .verifying, hasReadyTime := false, hash := .same,
                rolloutIDSame := true, observedReplicas := 10, updateRevision := "", stableRevision := "",
                noNeedUpdate := none, updated := 0, updatedReady := 0 } }

/-- the world is well-formed and the first batch is ready in it: the readiness predicate is satisfiable … -/
example : canaryPreds.wf w = true ∧ canaryPreds.ready br w = true ∧
    (match canaryPlane.ensure br br.status w with
     | .val .ok => true
     | _ => false) = true := by decide

/-- … and not trivially true: the second batch (50 % = 5 pods) is not ready -/
example : canaryPreds.ready { br with status := { br.status with currentBatch := 1 } } w = false := by decide

/-- a successful `Finalize` (control-info removed, both owned Deployments lose the finalizer, the one in deletion
    disappears) whose result is `released`; before it the world was not `released` -/
example : canaryPreds.released br w = false ∧
    (match canaryPlane.fin br w with
     | .val (w', .ok) => canaryPreds.released br w' && decide (w'.w.deps.length = 3)
     | _ => false) = true := by decide

/-- a successful `Initialize` (the canary Deployment exists already) whose result is `claimed` -/
example : (match canaryPlane.init br br.status w with
     | .val (w', _, .ok) => canaryPreds.claimed br w w'
     | _ => false) = true := by decide

/-- `UpgradeBatch` of the second batch raises the exposure from 4 (the stale canary in deletion) to the allowed 5 -/
example : canaryPreds.exposure w = 4 ∧
    (match canaryPlane.upgrade { br with status := { br.status with currentBatch := 1 } } br.status w with
     | .val (w', .ok) => decide (canaryPreds.exposure w' = 5)
     | _ => false) = true ∧
    canaryPreds.allowed { br with status := { br.status with currentBatch := 1 } } w = 5 := by decide

end CanaryDemo

end RV.Props.ExecutorX
