import RV.Lemmas.CtlBlueGreen
/-!
# Theorems about the blue-green control planes (Deployment, CloneSet) and the HPA helper
(attached to C01, C05, C06, C09, C11)

Every statement quantifies over every abstract world (workload with any settings / annotations / status, any list
of ReplicaSets, any lists of HPAs), every BatchRelease (UID, plan, current batch, partition) and every API fault of
the call (k-th write fails, Get fails, HPA Lists fail).  The model (`RV.CtlBlueGreen`) is of the code as it stands.
Three findings are open; their `…_partial` theorems carry the guard as hypothesis and a `…_full_FALSE` theorem shows
that the full-strength statement fails on the code: `deployFinalizeRetry` (a Deployment without saved annotation is
neither patched nor really waited for), `csPartitionKept`, `origRecreate`.  Oracles: `RV.Oracle.CtlBlueGreen` (the
same `Bool` functions the driver evaluates on the implementation's output); the lemmas about the model: `RV.Lemmas.CtlBlueGreen`.
-/
namespace RV.Props.CtlBlueGreen
open RV.Arith IntOrPct RV.CtlBlueGreen RV.Oracle.CtlBlueGreen RV.Lemmas.CtlBlueGreen

/-- **C05 (inductive step)** — every `Initialize`, `UpgradeBatch` and `Finalize`, under every API fault, preserves
    the invariant "the saved annotation (or, when there is none, the workload itself) holds the user's original
    settings" — including an `Initialize` by a BatchRelease that does not control the workload yet. -/
theorem inv_preserved (kind : Kind) (op : Op) (o : Orig) (w : World) (br : BR) (f : Fault) (out : CallOut)
    (h : call kind op w br f = .val out) :
    invPreserved kind o w out = true := by
  unfold invPreserved
  split
  · rename_i hi
    have same : out.world.wl = w.wl → inv kind o out.world = true := fun e => (inv_of_wl kind o w _ e).trans hi
    cases op with
    | init =>
      rcases initialize_wl kind w br f out h with ⟨hw, _⟩ | ⟨wl, s, hw, _, hgs, _, hw'⟩
      · exact same hw
      · rw [inv_some kind o w wl hw] at hi
        exact (inv_some kind o _ _ hw').2 ⟨hi.1, invWl_initPatch kind o br wl s hi.1 hi.2 hgs⟩
    | upgrade =>
      rcases upgrade_world kind w br f out h with ⟨hw, _⟩ | ⟨wl, R, e, p⟩
      · exact same (by rw [hw])
      · rw [inv_some kind o w wl p.found] at hi
        rw [p.world]
        exact (inv_some kind o _ _ rfl).2 ⟨hi.1, invWl_upgradePatch kind o wl e hi.2 p.valid⟩
    | fin =>
      rcases finalize_wl kind w br f out h with hw | ⟨wl, s, hw, hr, _, hgs, hw'⟩
      · exact same hw
      · rw [inv_some kind o w wl hw] at hi
        have := invWl_finalizePatch kind o wl s hi.1 hi.2 hr hgs
        rcases hw' with hw' | hw'
        · exact (inv_some kind o _ _ hw').2 ⟨hi.1, this.1⟩
        · exact (inv_some kind o _ _ hw').2 ⟨hi.1, this.2.1⟩
  · rfl

/-- **C05 (round trip, first half)** — `Initialize` of a workload that carries no saved annotation records exactly
    the workload's own minReadySeconds / maxSurge / maxUnavailable / progressDeadlineSeconds (absent fields with
    the API defaults) and takes control, for every workload, HPA constellation and fault. -/
theorem init_saves_original (kind : Kind) (w : World) (br : BR) (f : Fault) (out : CallOut)
    (h : cpInitialize kind w br f = .val out) : initSavesOriginal kind w br out = true := by
  unfold initSavesOriginal
  split
  · rename_i wl wl' hw hw'
    split
    · rename_i hc
      obtain ⟨s, hgs, e⟩ := init_took_control kind w br f out wl h hw hc.2.1 hc.2.2
      rw [e] at hw'; cases hw'
      rw [hc.1] at hgs; cases hgs
      cases kind <;> simp [initPatch, effSetting, controlled]
    · rfl
  · rfl

/-- **C05 `finalize_restores_original` (one step, full strength)** — for every workload, saved setting, HPA
    constellation and fault: a `Finalize` that reports success with `batchPartition` cleared, from a world that
    satisfies the release invariant, leaves the workload with exactly the user's original minReadySeconds,
    maxSurge, maxUnavailable and progressDeadlineSeconds and with neither the saved-settings nor the control
    annotation. -/
theorem finalize_restores_original_step (kind : Kind) (o : Orig) (w : World) (br : BR) (f : Fault) (out : CallOut)
    (h : cpFinalize kind w br f = .val out) : finalizeRestores kind o w br out = true := by
  unfold finalizeRestores
  split
  · rename_i hc
    obtain ⟨hi, hd⟩ := hc
    obtain ⟨_, wl, hw, hpath⟩ := finalize_done_facts kind w br f out h hd
    rw [inv_some kind o w wl hw] at hi
    rcases hpath with ⟨hs, hout, _⟩ | ⟨hr, s, hgs, hout, _⟩
    · rw [hout]
      obtain ⟨⟨_, he, hc⟩ | hs', _⟩ := (invWl_iff kind o wl).1 hi.2
      · simp only [decide_eq_true_eq]
        exact ⟨hs, hc, he⟩
      · rw [hs] at hs'; cases hs'
    · rw [hout]
      obtain ⟨_, _, hso⟩ := invWl_finalizePatch kind o wl s hi.1 hi.2 hr hgs
      have heff := effSetting_finalizePatch kind s wl (hso ▸ hi.1)
      simp only [decide_eq_true_eq]
      refine ⟨?_, ?_, heff.trans hso⟩ <;> cases kind <;> rfl
  · rfl

/-- **C05 (strategy type, partial)** — … and with the original strategy type, outside the known finding
    `origRecreate` (a Deployment whose original type was not `RollingUpdate`). -/
theorem finalize_restores_type_partial (kind : Kind) (o : Orig) (w : World) (br : BR) (f : Fault) (out : CallOut)
    (h : cpFinalize kind w br f = .val out) (hG : gOrigType kind o = false) :
    finalizeRestoresType kind o w br out = true := by
  unfold finalizeRestoresType
  split
  · rename_i hc
    obtain ⟨hi, hd⟩ := hc
    obtain ⟨_, wl, hw, hpath⟩ := finalize_done_facts kind w br f out h hd
    rw [inv_some kind o w wl hw] at hi
    have htype : wl.stype = o.stype :=
      ((invWl_iff kind o wl).1 hi.2).2.resolve_left (by rw [hG]; nofun)
    rcases hpath with ⟨_, hout, _⟩ | ⟨_, s, _, hout, _⟩
    · rw [hout]; simp only [decide_eq_true_eq]; exact htype
    · rw [hout]
      simp only [decide_eq_true_eq]
      rw [← htype]
      cases kind <;> rfl
  · rfl

/-- **C05 (HPA, full strength)** — … and the HPA that `lookupHPAForWorkload` associates with the workload targets it
    again (its `scaleTargetRef.name` carries no disabling suffix) — under every fault, List faults included: a
    `Finalize` whose HPA lookup fails does not report success. -/
theorem finalize_restores_hpa (kind : Kind) (w : World) (br : BR) (f : Fault) (out : CallOut)
    (h : cpFinalize kind w br f = .val out) :
    finalizeRestoresHPA w br out = true := by
  unfold finalizeRestoresHPA
  split
  · rename_i hd
    exact (finalize_done_facts kind w br f out h hd).1
  · rfl

/-- **C05 (release, partial)** — … and the workload is handed back to its own controller (Deployment un-paused and
    without the stable-revision label; CloneSet without partition), outside the known findings
    `deployFinalizeRetry` (a Deployment that carries no saved annotation is not patched at all) and
    `csPartitionKept` (the CloneSet `Finalize` never clears the partition). -/
theorem finalize_releases_partial (kind : Kind) (w : World) (br : BR) (f : Fault) (out : CallOut)
    (h : cpFinalize kind w br f = .val out)
    (hG : ∀ wl, w.wl = some wl → gRestoredDeploy kind wl = false ∧ gCsPartition kind wl = false) :
    finalizeReleases kind w br out = true := by
  unfold finalizeReleases
  split
  · rename_i hd
    obtain ⟨_, wl, hw, hpath⟩ := finalize_done_facts kind w br f out h hd
    obtain ⟨hg1, hg2⟩ := hG wl hw
    -- neither path touches the partition of the CloneSet
    have hpn : kind = .cloneSet → wl.partition.isNone = true := by
      rintro rfl
      cases hp : wl.partition with
      | none => rfl
      | some p => simp [gCsPartition, hp] at hg2
    rcases hpath with ⟨hs, hout, _⟩ | ⟨_, s, _, hout, _⟩ <;> rw [hout] <;> cases kind
    · simp [gRestoredDeploy, restored, hs] at hg1
    · exact hpn rfl
    · rfl
    · exact hpn rfl
  · rfl

/-- the base of `inv_run`: a workload no release has marked satisfies the invariant for its own settings (`origOf`) -/
theorem inv_fresh (kind : Kind) (w : World) (wl : Workload) (hw : w.wl = some wl)
    (hs : wl.saved = .none) (hc : wl.ctl = .none) : inv kind (origOf kind wl) w = true := by
  rw [inv_some kind _ w wl hw]
  refine ⟨effSetting_complete kind wl, ?_⟩
  exact (invWl_iff kind _ wl).2 ⟨Or.inl ⟨hs, rfl, hc⟩, Or.inr rfl⟩

/-- the step of `inv_run`: any call under any fault, a status change and a scaling keep the invariant -/
theorem inv_applyEv (kind : Kind) (o : Orig) (w w' : World) (e : Ev)
    (hi : inv kind o w = true) (he : applyEv kind w e = some w') :
    inv kind o w' = true := by
  cases e with
  | call op br f =>
    simp only [applyEv] at he
    split at he
    · rename_i out hc
      simp only [Option.some.injEq] at he
      subst he
      have := inv_preserved kind op o w br f out hc
      unfold invPreserved at this
      simp only [hi, if_true] at this
      exact this
    · cases he
  | status st =>
    simp only [applyEv, Option.some.injEq] at he
    subst he
    exact (inv_map kind o w (fun wl => { wl with status := st }) (fun wl => ⟨by cases kind <;> rfl, rfl, rfl, rfl⟩)).trans hi
  | scale r =>
    simp only [applyEv, Option.some.injEq] at he
    subst he
    exact (inv_map kind o w (fun wl => { wl with replicas := some r }) (fun wl => ⟨by cases kind <;> rfl, rfl, rfl, rfl⟩)).trans hi

/-- **C05 (invariant over histories, full strength)** — along every finite history of control-plane calls (any
    operation order, any plan / batch / partition / BatchRelease UID, any API fault in any attempt), status changes
    and scalings, the release invariant holds at every point. -/
theorem inv_run (kind : Kind) (o : Orig) (evs : List Ev) (w w' : World)
    (hi : inv kind o w = true) (hr : run kind w evs = some w') :
    inv kind o w' = true := by
  induction evs generalizing w with
  | nil => simp only [run, Option.some.injEq] at hr; subst hr; exact hi
  | cons e t ih =>
    unfold run at hr
    cases he : applyEv kind w e with
    | none => rw [he] at hr; cases hr
    | some w1 =>
      rw [he] at hr
      exact ih w1 (inv_applyEv kind o w w1 e hi he) hr

/-- **C05 `finalize_restores_original`** — take any workload without rollout annotations, any HPAs and
    ReplicaSets; run any history `initialize ; (upgradeBatch | initialize | finalize)*` in any order, by any
    BatchReleases, with API faults after any write of any attempt, status changes and scalings in between.
    Whenever afterwards a `Finalize` — under any fault — reports success with `batchPartition` cleared, the workload
    has exactly the minReadySeconds, maxSurge, maxUnavailable and progressDeadlineSeconds it started with and
    neither the saved-settings nor the control annotation. -/
theorem finalize_restores_original (kind : Kind) (w0 : World) (wl0 : Workload) (evs : List Ev) (w : World)
    (br : BR) (f : Fault) (out : CallOut)
    (hw0 : w0.wl = some wl0) (hs0 : wl0.saved = .none) (hc0 : wl0.ctl = .none)
    (hr : run kind w0 evs = some w)
    (hfin : cpFinalize kind w br f = .val out) (hd : finalizeDone w br out = true) :
    ∃ wl', out.world.wl = some wl' ∧ wl'.saved = .none ∧ wl'.ctl = .none ∧
      effSetting kind wl' = effSetting kind wl0 := by
  have hi := inv_run kind (origOf kind wl0) evs w0 w (inv_fresh kind w0 wl0 hw0 hs0 hc0) hr
  have := finalize_restores_original_step kind (origOf kind wl0) w br f out hfin
  unfold finalizeRestores at this
  simp only [hi, hd, and_self, if_true] at this
  cases hwl : out.world.wl with
  | none => rw [hwl] at this; cases this
  | some wl' =>
    rw [hwl] at this
    simp only [decide_eq_true_eq] at this
    exact ⟨wl', rfl, this.1, this.2.1, this.2.2⟩

/-- **C05 (the restoring patch releases)** — whenever `Finalize` changes a Deployment that carries a saved annotation, the
    Deployment is un-paused afterwards and carries neither the stable-revision label nor the control-info — on every
    attempt, whether or not the wait then passes. -/
theorem finalize_patch_releases (kind : Kind) (w : World) (br : BR) (f : Fault) (out : CallOut)
    (h : cpFinalize kind w br f = .val out) : finalizePatchReleases kind w out = true := by
  unfold finalizePatchReleases
  rcases finalize_wl kind w br f out h with hw | ⟨wl, s, hw, _, _, _, hw'⟩
  · rw [hw]
    cases hwl : w.wl with
    | none => rfl
    | some wl => simp
  · rw [hw]
    rcases hw' with hw' | hw' <;> rw [hw'] <;> simp only [] <;> split
    · rename_i hc; obtain ⟨hk, _, _⟩ := hc; subst hk; rfl
    · rfl
    · rename_i hc; obtain ⟨hk, _, _⟩ := hc; subst hk; rfl
    · rfl

/-- **C06 / C11 (partial)** — a `Finalize` that reports success (with `batchPartition` cleared, on an existing
    workload) has evaluated its wait condition — every pod updated and ready, `maxUnavailable` respected — on the
    workload as it is after the call, on every attempt of a release (the Deployment keeps its saved annotation
    until then); outside what is left of the known finding `deployFinalizeRetry`: a Deployment *without* saved
    annotation (never initialised, or already completely finalised) is waited for on an empty object. -/
theorem finalize_done_means_ready_partial (kind : Kind) (w : World) (br : BR) (f : Fault) (out : CallOut)
    (h : cpFinalize kind w br f = .val out)
    (hG : ∀ wl, w.wl = some wl → gRestoredDeploy kind wl = false) :
    finalizeDoneMeansReady kind w br out = true := by
  unfold finalizeDoneMeansReady
  split
  · rename_i hd
    obtain ⟨_, wl, hw, hpath⟩ := finalize_done_facts kind w br f out h hd
    have hg1 := hG wl hw
    rcases hpath with ⟨hs, hout, hwait⟩ | ⟨_, s, _, hout, hwait⟩
    · rw [hout]
      cases kind
      · simp [gRestoredDeploy, restored, hs] at hg1
      · simp only [waitStep, Out.val.injEq] at hwait
        exact hwait
    · rw [hout]
      cases kind
      · simp only [waitStep] at hwait
        simp only [readyNow, waitAll_forget, hwait]
      · simp only [waitStep, Out.val.injEq] at hwait
        exact hwait
  · rfl

/-- **C06 (full strength)** — `InitOriginalSetting` never overwrites what an earlier `Initialize` saved: whatever the
    call does and whoever calls it, every field present in the saved annotation — and its `minReadySeconds`, `0`
    included — is still there afterwards. -/
theorem init_keeps_saved (kind : Kind) (w : World) (br : BR) (f : Fault) (out : CallOut)
    (h : cpInitialize kind w br f = .val out) :
    initKeepsSaved w out = true := by
  unfold initKeepsSaved
  rcases initialize_wl kind w br f out h with ⟨hw, _⟩ | ⟨wl, s, hw, hctl, hgs, _, hw'⟩
  · rw [hw]
    cases hwl : w.wl with
    | none => rfl
    | some wl =>
      simp only []
      cases hs : wl.saved with
      | some s => simp
      | none => rfl
      | bad => rfl
  · rw [hw, hw']
    simp only []
    cases hs : wl.saved with
    | none => rfl
    | bad => rfl
    | some s0 =>
      rw [hs] at hgs
      simp only [getSetting, Option.some.injEq] at hgs
      subst hgs
      have hsv : (initPatch kind br (initSetting kind s0 wl) wl).saved = .some (initSetting kind s0 wl) := by cases kind <;> rfl
      rw [hsv]
      simp only [Bool.and_eq_true, Bool.or_eq_true, decide_eq_true_eq]
      obtain ⟨mu, ms, mr, pd⟩ := s0
      refine ⟨⟨⟨?_, ?_⟩, ?_⟩, ?_⟩
      · cases ms <;> cases kind <;> simp [initSetting]
      · cases mu <;> cases kind <;> simp [initSetting]
      · cases pd <;> cases kind <;> simp [initSetting]
      · have key : (if mr = 0 ∧ nothingSaved ⟨mu, ms, mr, pd⟩ = true then wl.minReadySeconds else mr) = mr ∨
            (nothingSaved ⟨mu, ms, mr, pd⟩ = true ∧ mr = 0) := by
          split
          · rename_i hc; right; exact ⟨hc.2, hc.1⟩
          · left; rfl
        cases kind <;> exact key

/-- **C06** — for every call, world and fault: a call that reports no successful write has left the whole object
    store (workload, ReplicaSets, every HPA) exactly as it was. -/
theorem no_write_no_change (kind : Kind) (op : Op) (w : World) (br : BR) (f : Fault) (out : CallOut)
    (h : call kind op w br f = .val out) : noWriteNoChange w out = true := by
  unfold noWriteNoChange
  split
  · rename_i h0
    simp only [decide_eq_true_eq]
    cases op with
    | init =>
      rcases initialize_cases kind w br f out h with ⟨e, _⟩ | ⟨wl, _, _, ⟨_, _, hwr, _⟩ | ⟨s, _, _, hne, _⟩⟩
      · exact e
      · exact hwr h0
      · exact absurd h0 hne
    | upgrade =>
      rcases upgrade_world kind w br f out h with ⟨hw, _⟩ | ⟨_, _, _, p⟩
      · exact hw
      · rw [p.writes] at h0; cases h0
    | fin =>
      rcases finalize_cases kind w br f out h with ⟨e, _⟩ | ⟨wl, d, w1, n, o, _, _, hfw, hc⟩
      · exact e
      have hwr := FinWait_writes hfw
      rcases hc with ⟨_, _, rfl, rfl, rfl⟩ | ⟨_, s, _, _, _, rfl, rfl⟩
      · exact hwr.2 h0
      · -- the restoring patch is a write, and the second patch of the Deployment control takes none back
        have : o.writes ≤ (finishForget kind f o).writes := by
          rcases finishForget_cases kind f o with ⟨e, _⟩ | ⟨_, _, e | ⟨_, e⟩⟩ <;> rw [e] <;> simp
        omega
  · rfl

/-- **C06 (convergence, full strength)** — for each of the three calls, every world and every fault (write, Get and
    List faults): if an attempt is cut short and the call is simply repeated (as the next reconcile does), the
    object store ends exactly where an undisturbed call would have put it, and the repeated call reports what the
    undisturbed one reports. -/
theorem retry_converges (kind : Kind) (op : Op) (w : World) (br : BR) (f : Fault) (o1 o2 o3 : CallOut)
    (h1 : call kind op w br f = .val o1) (h2 : call kind op o1.world br noFault = .val o2)
    (h3 : call kind op w br noFault = .val o3) :
    retryConverges o2 o3 = true := by
  unfold retryConverges
  simp only [Bool.and_eq_true, decide_eq_true_eq]
  exact call_converges kind op w br f o1 o2 o3 h1 h2 h3

/-- **C06 (no step twice with additional effect, full strength)** — repeating an undisturbed call changes nothing and
    reports the same; after a success the repetition issues no write at all, except that `UpgradeBatch` re-sends its
    (identical) patch when the batch is exactly `1`. -/
theorem idempotent_calls (kind : Kind) (op : Op) (w : World) (br : BR) (o3 o4 : CallOut)
    (h3 : call kind op w br noFault = .val o3) (h4 : call kind op o3.world br noFault = .val o4) :
    idempotent op br o3 o4 = true :=
  RV.Lemmas.CtlBlueGreen.idempotent_calls kind op w br o3 o4 h3 h4

/-- **C01 `upgrade_within_step`** — for every workload, plan (ints, percents, malformed entries), current batch, replica
    count and fault: after `UpgradeBatch` the workload's own controller may run at most as many pods of the new
    revision as before the call or as the current batch plans (`CalculateBatchReplicas`), whichever is larger,
    exactly; for a CloneSet only while the hold `Initialize` installed is in place, because `UpgradeBatch` does not re-assert
    `maxUnavailable = 0` there. -/
theorem upgrade_within_step (kind : Kind) (w : World) (br : BR) (f : Fault) (out : CallOut)
    (h : cpUpgradeBatch kind w br f = .val out) : upgradeWithinStep kind w br out = true :=
  RV.Lemmas.CtlBlueGreen.upgrade_within_step kind w br f out h

/-- **C01 (monotone knob)** — `UpgradeBatch` never moves the workload back toward the old revision: on a held
    workload whose surge is set, the exposure after the call is at least the exposure before. -/
theorem upgrade_monotone (kind : Kind) (w : World) (br : BR) (f : Fault) (out : CallOut)
    (h : cpUpgradeBatch kind w br f = .val out) : upgradeMonotone kind w out = true := by
  unfold upgradeMonotone
  cases hw : w.wl with
  | none => rfl
  | some wl =>
    simp only []
    split
    · rename_i hc
      obtain ⟨s, hs⟩ := Option.isSome_iff_exists.1 hc.2
      exact decide_eq_true (upgrade_exposure_ge h hw hc.1 hs)
    · rfl

/-- **C01 (`Initialize`)** — `Initialize` exposes nothing of the new revision on a workload the admission webhook
    prepared (Deployment paused, CloneSet partition `100%`), and in general never more than one pod beyond what
    was already exposed — for every workload, HPA constellation and fault. -/
theorem init_exposure (kind : Kind) (w : World) (br : BR) (f : Fault) (out : CallOut)
    (h : cpInitialize kind w br f = .val out) : initExposure kind w out = true := by
  unfold initExposure
  cases hw : w.wl with
  | none => rfl
  | some wl =>
    have key := init_exposure_le h hw
    simp only [Bool.and_eq_true]
    constructor
    · split
      · rfl
      · rename_i hnc; exact decide_eq_true (key.1 hnc)
    · split
      · rename_i hp; exact decide_eq_true (key.2 hp)
      · rfl

/-- **C01 (whole progressing phase)** — from any world in which the exposure is within a bound `B ≥ 1`, along every
    history of `Initialize` / `UpgradeBatch` calls (any order, any BatchRelease, any fault) and status changes in
    which every `UpgradeBatch` works on a batch that plans at most `B` pods: at every point the workload's own
    controller may run at most `B` pods of the new revision.  (`B` = what the current step of the Rollout plans;
    the executor invariant `currentBatch ≤ batchPartition` supplies the hypothesis on the batches.) -/
theorem exposure_within_plan (kind : Kind) (B : Int) (hB : 1 ≤ B) (evs : List Ev) (w w' : World)
    (hi : expInv kind B w = true) (hp : progressRun kind B w evs = true) (hr : run kind w evs = some w') :
    exposureW kind w' ≤ B :=
  RV.Lemmas.CtlBlueGreen.exposure_within_plan kind B hB evs w w' hi hp hr

/-- **C01 (`UpgradeBatch` keeps the hold)** — whenever `UpgradeBatch` writes, the patched workload still cannot make
    new pods available (`minReadySeconds = MaxReadySeconds`, update type accepted) and — Deployment — has
    `maxUnavailable = 0`: the surge is the only thing that lets pods of the new revision exist. -/
theorem upgrade_keeps_hold (kind : Kind) (w : World) (br : BR) (f : Fault) (out : CallOut)
    (h : cpUpgradeBatch kind w br f = .val out) : upgradeKeepsHold kind out = true := by
  unfold upgradeKeepsHold
  rcases upgrade_world kind w br f out h with ⟨_, h0⟩ | ⟨wl, R, e, p⟩
  · simp only [h0, if_true]
  · simp only [p.writes, Nat.succ_ne_zero, if_false, p.world]
    have hv := p.valid
    cases kind
    · exact held_upgradePatch_dep e wl hv
    · simp only [validate, Bool.and_eq_true, decide_eq_true_eq] at hv
      simp only [upgradePatch, Bool.and_eq_true]
      exact ⟨decide_eq_true hv.2, decide_eq_true hv.1.2⟩

/-- **C01 (`Initialize` installs the hold)** — a successful `Initialize` that takes control leaves `minReadySeconds =
    MaxReadySeconds`, `maxUnavailable = 0` and a surge that `CalculateBatchContext` reads as `0` ("nothing exposed
    yet"), and records the control-info of this BatchRelease — for every workload and fault. -/
theorem init_installs_hold (kind : Kind) (w : World) (br : BR) (f : Fault) (out : CallOut)
    (h : cpInitialize kind w br f = .val out) : initInstallsHold w br out = true := by
  unfold initInstallsHold
  split
  · rename_i wl wl' hw hw'
    split
    · rename_i hc
      obtain ⟨s, _, e⟩ := init_took_control kind w br f out wl h hw hc.1 hc.2
      rw [e] at hw'; cases hw'
      cases kind <;> simp [initPatch, ruUnavailable, curSurge, ruSurge, RV.BatchCtx.normSurge, controlled]
    · rfl
  · rfl

/-- **C01 (`Initialize` disables the HPA, full strength)** — after a successful `Initialize` that takes control, the HPA
    that `lookupHPAForWorkload` associates with the workload carries the disabling suffix, so it cannot scale the
    workload during the release — under every fault: an `Initialize` whose HPA lookup fails does not succeed. -/
theorem init_disables_hpa (kind : Kind) (w : World) (br : BR) (f : Fault) (out : CallOut)
    (h : cpInitialize kind w br f = .val out) : initDisablesHPA w br out = true := by
  unfold initDisablesHPA
  split
  · rename_i wl hw
    split
    · rename_i hc
      obtain ⟨s, _, e⟩ := init_took_control kind w br f out wl h hw hc.1 hc.2
      have hh : hpaOf out.world = hpaOf (disabledW w) := by
        rw [e]; exact hpaOf_congr (disabledW w) _ (rsW_frame kind _).2.1 (rsW_frame kind _).2.2
      unfold hpaDisabled
      rw [findHPA_noFault, hh, disabledW_eq]
      split
      · rename_i v k hf
        simpa using hpaOf_hpaW _ 1 rfl w v k (Lk.val.inj hf)
      · rfl
    · rfl
  · rfl

/-- **C09 (full strength for the HPA helper)** — for every world — any HPAs, with or without `apiVersion` in their
    `scaleTargetRef` —, every BatchRelease and every fault: none of the three calls panics, unless the workload has no
    `spec.replicas` (the API servers default it) or `UpgradeBatch` is asked for a batch outside the plan (the
    executor checks the index first). -/
theorem no_panic (kind : Kind) (op : Op) (w : World) (br : BR) (f : Fault)
    (hA : panicAllowed op w br = false) :
    ∃ out, call kind op w br f = .val out := by
  apply Out.exists_of_ne_panic
  unfold panicAllowed at hA
  simp only [Bool.or_eq_false_iff] at hA
  -- all three calls start alike: the Get, the workload, its `spec.replicas`
  cases hw : w.wl with
  | none => cases op <;> exact ite_val_ne_panic (by rw [hw]; nofun)
  | some wl =>
    obtain ⟨R, hR⟩ : ∃ R, wl.replicas = some R := by
      cases hr : wl.replicas with
      | none => simp [hw, hr] at hA
      | some R => exact ⟨R, rfl⟩
    cases op
    · refine ite_val_ne_panic ?_
      rw [hw]; simp only [hR]
      refine ite_val_ne_panic ?_
      rcases disableHPA w f 0 with ⟨w1, _ | _, n1⟩ <;> simp only []
      · nofun
      rcases stableRSStep kind w1 f n1 with ⟨w2, _ | _, n2⟩ <;> simp only []
      · nofun
      cases getSetting wl.saved with
      | none => nofun
      | some s => exact ite_val_ne_panic nofun
    · obtain ⟨e, he⟩ : ∃ e, entryOf br = some e := by
        cases he : entryOf br with
        | none => simp [he] at hA
        | some e => exact ⟨e, rfl⟩
      refine ite_val_ne_panic ?_
      rw [hw]; simp only [hR]
      refine ite_val_ne_panic ?_
      rw [he]
      exact ite_val_ne_panic (ite_val_ne_panic (ite_val_ne_panic nofun))
    · refine ite_val_ne_panic ?_
      rw [hw]; simp only [hR]
      refine ite_val_ne_panic ?_
      split
      · exact finishWait_noPanic _ _ _ _ _ _ (by cases kind <;> nofun)
      cases getSetting wl.saved with
      | none => nofun
      | some s =>
        refine ite_val_ne_panic ?_
        have := finishWait_noPanic kind wl _ { w with wl := some (finalizePatch kind s wl) } f 1
          (waitStep_noPanic_patched kind wl s R hR)
        split
        · contradiction
        · nofun

/-- **C05 (the retry completes)** — from every world that satisfies the release invariant — in particular after any
    number of earlier attempts that were cut short by faults — one undisturbed `Finalize` (with `batchPartition`
    cleared) on a workload whose pods are all updated and ready with respect to the *original* settings reports
    success; by `finalize_restores_original_step` the workload then has its original settings. -/
theorem finalize_completes (kind : Kind) (o : Orig) (w : World) (br : BR) (wl : Workload)
    (hi : inv kind o w = true) (hw : w.wl = some wl) (hR : wl.replicas.isSome = true) (hp : br.partitioned = false)
    (hready : readyNow kind (finalizePatch kind o.setting wl) = true) :
    ∃ out, cpFinalize kind w br noFault = .val out ∧ out.res = .ok := by
  obtain ⟨out, h⟩ := no_panic kind .fin w br noFault (by simp [panicAllowed, hw, hR])
  refine ⟨out, h, ?_⟩
  have hwt := waitStep_of_readyNow kind wl _ (by cases kind <;> rfl) hready
  rw [inv_some kind o w wl hw] at hi
  have hG := finalize_direct kind w br out h
  unfold finGoal at hG
  rw [hw] at hG
  simp only [hp, Bool.false_eq_true, if_false] at hG
  cases hr : restored wl with
  | true =>
    -- the Deployment is not really waited for, the CloneSet's wait does not look at the patched object
    have hwt0 : waitStep kind wl emptyDeployment = .val true := by
      cases kind
      · rfl
      · exact hwt
    simp only [hr, if_true, hwt0] at hG
    exact (Prod.mk.inj hG).2
  | false =>
    have hgs : getSetting wl.saved = some o.setting := by
      obtain ⟨⟨hn, _⟩ | hs, _⟩ := (invWl_iff kind o wl).1 hi.2
      · simp [restored, hn] at hr
      · rw [hs]; rfl
    simp only [hr, Bool.false_eq_true, if_false, hgs, hwt] at hG
    exact (Prod.mk.inj hG).2

/-- the same as a run-time oracle (evaluated on the implementation's output for every undisturbed `Finalize` of a walk) -/
theorem finalize_completes_oracle (kind : Kind) (o : Orig) (w : World) (br : BR) (f : Fault) (out : CallOut)
    (h : cpFinalize kind w br f = .val out) : finalizeCompletes kind o w br f out = true := by
  unfold finalizeCompletes
  cases hw : w.wl with
  | none => rfl
  | some wl =>
    simp only []
    split
    · rename_i hc
      obtain ⟨hi, hf, hp, hR, hready⟩ := hc
      subst hf
      obtain ⟨out', h', hok⟩ := finalize_completes kind o w br wl hi hw hR hp hready
      rw [h] at h'
      cases h'
      simp only [decide_eq_true_eq]; exact hok
    · rfl

/-! ## witnesses: the full-strength statements of the open findings are false on the code -/

def st (r rd u a ur : Int) : Status := { replicas := r, ready := rd, updated := u, available := a, updatedReady := ur }

/-- the user's settings of the witnesses: maxSurge 25%, maxUnavailable 25%, minReadySeconds 0, progressDeadline 600 -/
def userSetting : Setting :=
  { maxUnavailable := some (pct 25), maxSurge := some (pct 25), minReadySeconds := 0, progressDeadlineSeconds := some 600 }

/-- a Deployment as `Initialize` of BatchRelease 0 left it (10 replicas, 10 of 13 pods available, 3 updated) -/
def wlInitialised : Workload :=
  { replicas := some 10, deleting := false, paused := false, minReadySeconds := maxReady,
    progressDeadlineSeconds := some maxProgress, stype := .expected,
    ru := some { maxSurge := some (pct 50), maxUnavailable := some (int 0) }, partition := none,
    saved := .some userSetting, ctl := .uid 0, stableLabel := true, status := st 13 13 3 10 0 }

def brOf (uid : Nat) : BR := { uid := uid, batches := [pct 50, pct 100], currentBatch := 0, partitioned := false }

def worldOf (wl : Workload) (v2 v1 : List HPA) : World := { wl := some wl, rss := [], hpaV2 := v2, hpaV1 := v1 }

/-- a matching HPA whose target name carries `k` copies of the disabling suffix (`0`: enabled) -/
def theHPA (k : Nat) : HPA := { av := .same, kindSame := true, name := some k }

def outOf : Out CallOut → CallOut
  | .val o => o
  | .panic => ⟨default, .err, 0, none⟩

/-- **`origRecreate`** — a Deployment whose strategy type was `Recreate` (here: "not RollingUpdate"): `Initialize`
    has set the type to `RollingUpdate`, and a successful `Finalize` leaves it there. -/
theorem finalize_restores_type_full_FALSE :
    let wl := { wlInitialised with status := st 10 10 10 10 0 }
    let w := worldOf wl [] []
    let o : Orig := ⟨userSetting, .other⟩
    gOrigType .deployment o = true ∧ inv .deployment o w = true ∧
    finalizeRestoresType .deployment o w (brOf 0) (outOf (cpFinalize .deployment w (brOf 0) noFault)) = false := by
  decide +kernel

def wlRecreate : Workload :=
  { wlInitialised with
    saved := .none, ctl := .none, stype := .other, ru := none, minReadySeconds := 0,
    progressDeadlineSeconds := some 600, paused := true, status := st 10 10 10 10 0 }

/-- the same through a whole history: fresh `Recreate` Deployment ; `Initialize` ; `Finalize` — the type is not back -/
example :
    (run .deployment (worldOf wlRecreate [] []) [.call .init (brOf 0) noFault, .call .fin (brOf 0) noFault]).map
      (fun w => w.wl.map (fun wl => (wl.stype, wl.saved, wl.paused))) = some (some (SType.expected, Saved.none, false)) := by
  decide +kernel

/-- a Deployment that was paused by the webhook but never initialised; 3 of 10 pods updated -/
def wlNeverInitialised : Workload :=
  { wlInitialised with
    saved := .none, ctl := .none, paused := true, minReadySeconds := 0, progressDeadlineSeconds := some 600,
    ru := some ⟨some (pct 25), some (pct 25)⟩, status := st 10 10 3 10 0 }

/-- **`deployFinalizeRetry`** (release) — `Finalize` of a Deployment that was never initialised: success is
    reported and the Deployment stays paused, stable-revision label included. -/
theorem finalize_releases_full_FALSE_deployment :
    let w := worldOf wlNeverInitialised [] []
    gRestoredDeploy .deployment wlNeverInitialised = true ∧
    finalizeReleases .deployment w (brOf 0) (outOf (cpFinalize .deployment w (brOf 0) noFault)) = false := by
  decide +kernel

/-- **`deployFinalizeRetry`** (wait) — … and the success is reported with 3 of 10 pods updated: the wait ran on an
    empty object. -/
theorem finalize_done_means_ready_full_FALSE :
    let w := worldOf wlNeverInitialised [] []
    gRestoredDeploy .deployment wlNeverInitialised = true ∧
    (outOf (cpFinalize .deployment w (brOf 0) noFault)).res = .ok ∧
    finalizeDoneMeansReady .deployment w (brOf 0) (outOf (cpFinalize .deployment w (brOf 0) noFault)) = false := by
  decide +kernel

/-- an initialised CloneSet, partition `100%`, no pod updated; `updatedReady = ready` (10) makes the wait of the CloneSet `Finalize`
    pass although `updated = 0` -/
def wlCloneSet : Workload :=
  { wlInitialised with
    partition := some (pct 100), progressDeadlineSeconds := none,
    saved := .some { userSetting with progressDeadlineSeconds := none }, status := st 10 10 0 10 10 }

/-- **`csPartitionKept`** — `Finalize` of a CloneSet before any `UpgradeBatch`: the partition `100%` the webhook set
    is still there after the successful call. -/
theorem finalize_releases_full_FALSE_cloneSet :
    let w := worldOf wlCloneSet [] []
    gCsPartition .cloneSet wlCloneSet = true ∧
    finalizeReleases .cloneSet w (brOf 0) (outOf (cpFinalize .cloneSet w (brOf 0) noFault)) = false := by
  decide +kernel

/-- the second `Finalize` attempt on a Deployment (10 of 13 pods available, 3 updated) asks for a retry again —
    the saved annotation is still there — and repeating is idempotent -/
example :
    let w := worldOf wlInitialised [] [theHPA 1]
    let o1 := outOf (cpFinalize .deployment w (brOf 0) noFault)
    let o2 := outOf (cpFinalize .deployment o1.world (brOf 0) noFault)
    o1.res = .retry ∧ o2.res = .retry ∧ o2.world = o1.world ∧ o1.world.hpaV1 = [theHPA 1] ∧
    (o1.world.wl.map (·.saved)) = some (Saved.some userSetting) := by
  decide +kernel

/-- … and once the pods are updated and ready it completes: settings restored, annotation gone, HPA enabled -/
example :
    let w := worldOf { wlInitialised with status := st 10 10 10 10 0 } [] [theHPA 1]
    let o := outOf (cpFinalize .deployment w (brOf 0) noFault)
    o.res = .ok ∧ o.writes = 3 ∧ o.world.hpaV1 = [theHPA 0] ∧
    (o.world.wl.map (fun wl => (wl.saved, wl.ctl, wl.minReadySeconds, ruSurge wl.ru))) =
      some (Saved.none, Ctl.none, 0, some (pct 25)) := by
  decide +kernel

/-- BatchRelease 1 initialises a workload that still carries the settings BatchRelease 0 saved
    (`minReadySeconds: 0`): the saved value stays `0` -/
example :
    let w := worldOf wlInitialised [] []
    let o := outOf (cpInitialize .deployment w (brOf 1) noFault)
    o.res = .ok ∧ (o.world.wl.map (·.saved)) = some (Saved.some userSetting) ∧
    (o.world.wl.map (·.ctl)) = some (Ctl.uid 1) := by
  decide +kernel

def wlUser : Workload :=
  { wlInitialised with
    saved := .none, ctl := .none, minReadySeconds := 0, paused := true,
    progressDeadlineSeconds := some 600, ru := some ⟨some (pct 25), some (pct 25)⟩ }

/-- a failing List of HPAs makes `Initialize` / `Finalize` fail; the HPA is not skipped -/
example :
    let f : Fault := { noFault with listV2 := true }
    (outOf (cpInitialize .deployment (worldOf wlUser [theHPA 0] []) (brOf 0) f)).res = .err ∧
    (outOf (cpInitialize .deployment (worldOf wlUser [theHPA 0] []) (brOf 0) f)).writes = 0 ∧
    (outOf (cpFinalize .deployment (worldOf { wlUser with paused := false } [] [theHPA 1]) (brOf 0)
      { noFault with listV1 := true })).res = .err := by
  decide +kernel

/-- an HPA of the namespace without `apiVersion` is simply not a match -/
example :
    let w := worldOf wlUser [] [{ av := .absent, kindSame := false, name := none }, theHPA 0]
    let o := outOf (cpInitialize .deployment w (brOf 0) noFault)
    o.res = .ok ∧ o.world.hpaV1 = [{ av := .absent, kindSame := false, name := none }, theHPA 1] := by
  decide +kernel

/-! ## non-vacuity (tests on literals) -/

/-- a user's Deployment before a release, paused as the webhook leaves it: `20%` / `1` / `minReadySeconds 5`, no rollout
    annotations -/
def exampleFresh : Workload :=
  { replicas := some 10, deleting := false, paused := true, minReadySeconds := 5, progressDeadlineSeconds := some 600,
    stype := .expected, ru := some { maxSurge := some (pct 20), maxUnavailable := some (int 1) }, partition := none,
    saved := .none, ctl := .none, stableLabel := true, status := st 10 10 0 10 0 }

def exampleWorld : World := { wl := some exampleFresh, rss := [⟨false, 0⟩, ⟨false, 0⟩], hpaV2 := [theHPA 0], hpaV1 := [] }

/-- `Initialize` cut short after its first write, `Initialize` again, two `UpgradeBatch`es with status changes in between;
    no `Finalize`: the examples below append it -/
def exampleHistory : List Ev :=
  [.call .init (brOf 0) { noFault with write := some 1 }, .call .init (brOf 0) noFault,
   .call .upgrade (brOf 0) noFault, .status (st 15 10 5 10 0),
   .call .upgrade { brOf 0 with currentBatch := 1 } noFault, .status (st 20 20 10 10 0)]

/-- after the history: surge `100%`, un-paused, HPA disabled, stable ReplicaSet held -/
example : (run .deployment exampleWorld exampleHistory).map
    (fun w => (w.wl.map (fun wl => (wl.paused, ruSurge wl.ru, wl.minReadySeconds == maxReady)), w.hpaV2, w.rss)) =
    some (some (false, some (pct 100), true), [theHPA 1], [⟨false, maxReady⟩, ⟨false, 0⟩]) := by decide +kernel

/-- `Finalize` with pods still unavailable asks for a retry (the hypotheses of `finalize_restores_original` /
    `finalize_completes` are about worlds like this one) -/
example :
    let w := outOf (match run .deployment exampleWorld exampleHistory with
      | some w => .val ⟨w, .ok, 0, none⟩
      | none => .panic)
    (outOf (cpFinalize .deployment w.world { brOf 0 with currentBatch := 1 } noFault)).res = .retry := by decide +kernel

/-- … and after the pods became available it succeeds with the original `20%` / `1` / `5` back and the HPA enabled -/
example :
    let r := run .deployment exampleWorld (exampleHistory ++ [.status (st 10 10 10 10 0),
        .call .fin { brOf 0 with currentBatch := 1 } noFault])
    r.map (fun w => w.wl.map (fun wl => (wl.saved, wl.minReadySeconds, ruSurge wl.ru, ruUnavailable wl.ru))) =
      some (some (Saved.none, 5, some (pct 20), some (int 1))) ∧
    r.map (·.hpaV2) = some [theHPA 0] := by decide +kernel

example : finalizeDone exampleWorld (brOf 0) ⟨exampleWorld, .ok, 0, none⟩ = true := by decide +kernel

/-- `UpgradeBatch` really writes (the C01 theorems are not about no-ops only) -/
example : (outOf (cpUpgradeBatch .deployment (worldOf wlInitialised [] [])
    { brOf 0 with currentBatch := 1 } noFault)).writes = 1 := by decide +kernel

/-- the hypotheses of `exposure_within_plan` on the example: bound 5 = what batch `50%` of 10 plans -/
example : expInv .deployment 5 exampleWorld = true ∧
    progressRun .deployment 5 exampleWorld (exampleHistory.take 4) = true := by decide +kernel

/-- `retry_converges` on a concrete faulty attempt that really is cut short and really is completed -/
example :
    let f : Fault := { noFault with write := some 1 }
    let o1 := outOf (cpInitialize .deployment exampleWorld (brOf 0) f)
    let o2 := outOf (cpInitialize .deployment o1.world (brOf 0) noFault)
    let o3 := outOf (cpInitialize .deployment exampleWorld (brOf 0) noFault)
    o1.res = .err ∧ o1.writes = 1 ∧ o2.res = .ok ∧ o2.writes = 2 ∧ retryConverges o2 o3 = true := by decide +kernel

/-- … and on a `Finalize` whose second patch fails: the retry removes the annotation -/
example :
    let w := worldOf { wlInitialised with status := st 10 10 10 10 0 } [] [theHPA 1]
    let f : Fault := { noFault with write := some 2 }
    let o1 := outOf (cpFinalize .deployment w (brOf 0) f)
    let o2 := outOf (cpFinalize .deployment o1.world (brOf 0) noFault)
    let o3 := outOf (cpFinalize .deployment w (brOf 0) noFault)
    o1.res = .err ∧ o1.writes = 2 ∧ o2.res = .ok ∧ retryConverges o2 o3 = true := by decide +kernel

end RV.Props.CtlBlueGreen

namespace RV.Lemmas.CtlBlueGreen
open RV.Arith IntOrPct RV.CtlBlueGreen RV.Oracle.CtlBlueGreen

/-- `RV.Props.CtlBlueGreen.finalize_restores_original`, the same theorem under the namespace `RV.Lemmas.CtlBlueGreen` -/
theorem finalize_restores_original (kind : Kind) (w0 : World) (wl0 : Workload) (evs : List Ev) (w : World)
    (br : BR) (f : Fault) (out : CallOut)
    (hw0 : w0.wl = some wl0) (hs0 : wl0.saved = .none) (hc0 : wl0.ctl = .none)
    (hr : run kind w0 evs = some w)
    (hfin : cpFinalize kind w br f = .val out) (hd : finalizeDone w br out = true) :
    ∃ wl', out.world.wl = some wl' ∧ wl'.saved = .none ∧ wl'.ctl = .none ∧
      effSetting kind wl' = effSetting kind wl0 :=
  RV.Props.CtlBlueGreen.finalize_restores_original kind w0 wl0 evs w br f out hw0 hs0 hc0 hr hfin hd

end RV.Lemmas.CtlBlueGreen
