import RV.Lemmas.RollingStep
/-!
# C02 — a step's pause is satisfied before the controller calls it ready

`runCanary_ready_needs_pause`: one round of the release manager (canary and blue-green, partition and canary style)
turns `StepPaused` into `StepReady` only when `doCanaryPaused` says the pause is satisfied, which `pauseSatisfied` spells
out on the status the round started from: the step is the last one of a canary plan and releases `100%` (the literal
percentage — an absolute number of pods never counts, however large), or the step's pause has a duration that has elapsed
since the last status update.  Every plan, every status, every workload / BatchRelease / network state.
-/
namespace RV.Props.Pause
open RV.Arith RV.Traffic RV.RolloutSM RV.Oracle.RolloutSM RV.Props.Rollout RV.Props.Reconcile

/-- `doCanaryPaused`'s "the pause is over" is the oracle's `pauseSatisfied`, also on a sub-status `s` that is `s0` touched by a Manager
    call; the one reader below has `s = s0` (`StateMove.pauseDone` has carried the observation back already) -/
theorem paused_done_satisfied (ro : Rollout) (s s0 : Sub) (step : Step) (rq : Bool)
    (h : doCanaryPaused ro s step = some (true, rq)) (hstep : ro.steps[(s0.curIdx - 1).toNat]? = some step)
    (hc : s.curIdx = s0.curIdx) (hl : s.lastUpdate = s0.lastUpdate ∨ s.lastUpdate = .fresh) :
    pauseSatisfied ro s0 = true := by
  unfold pauseSatisfied
  rw [hstep]
  rcases doCanaryPaused_done.mp ⟨rq, h⟩ with ⟨h1, h2, h3⟩ | ⟨hp, he⟩
  · simp [h1, ← hc, h2, h3]
  · -- a refreshed time stamp is not an elapsed one
    rcases hl with hl | hl
    · simp [← hl, hp, he]
    · cases hl.symm.trans he

/-- **C02.i (one `runCanary`)** — a round of the release manager leaves `StepPaused` for `StepReady` only when the pause of the
    step is satisfied (`pauseSatisfied`) on the status the round started from -/
theorem runCanary_ready_needs_pause (c0 c' : Ctx) (err : Bool) (h : runCanary c0 = .ok c' err)
    (hst : c0.sub.state = .paused) (hr : c'.sub.state = .ready) : pauseSatisfied c0.ro c0.sub = true := by
  cases runCanary_move h with
  -- a jump lands in StepInit or StepTrafficRouting, never in StepReady
  | jump _ _ _ _ h1 => rcases h1 with h1 | ⟨h1, _⟩ <;> cases h1.symm.trans hr
  | advance _ _ _ _ _ h1 => cases h1.symm.trans hr
  | inStep _ _ _ hm =>
    cases hm with
    | pauseDone _ _ step hstep rq hp => exact paused_done_satisfied c0.ro c0.sub c0.sub step rq hp hstep rfl (.inl rfl)
    | stay h1 => cases (h1.trans hst).symm.trans hr
    | toUpgrade _ h1 | analysed _ h1 | routed _ h1 | complete _ h1 => cases h1.symm.trans hr
    | upgraded _ _ _ _ _ h1 => rw [hr] at h1; split at h1 <;> cases h1

/-- non-vacuity: the last canary step releasing `100%` is satisfied without approval, the same step written as the
    absolute number 100 (on a larger workload) is not -/
example : pauseSatisfied { (default : Rollout) with style := .canary, steps := [⟨.pct 100, none, .manual⟩] }
    { (default : Sub) with curIdx := 1, state := .paused } = true := by decide
example : pauseSatisfied { (default : Rollout) with style := .canary, steps := [⟨.int 100, none, .manual⟩] }
    { (default : Sub) with curIdx := 1, state := .paused } = false := by decide

/-- **C02.i (whole reconcile)** — for every world: a reconcile turns `StepPaused` into `StepReady` (same step, plan not
    edited) only when the step's pause is satisfied: the literal `100%` on the last step of a canary plan, or a pause
    duration that has elapsed.  Approval by the user is a write of `StepReady` by the user, not a reconcile. -/
theorem ready_needs_pause (w : World) (r : StepResult) (h : reconcile w = .val r) : readyNeedsPause w r = true := by
  unfold readyNeedsPause
  cases hos : w.ro.sub with
  | none => rfl
  | some os =>
  cases hs' : r.w.ro.sub with
  | none => rfl
  | some s' =>
  dsimp only
  split
  · rename_i hc
    obtain ⟨hnow, hrr, hfrom, hto, hidx, hhash⟩ := hc
    rcases rolling_moves h hnow hos hs' (by rw [hfrom, hto]; simp) with
      h1 | ⟨hd, _⟩ | ⟨_, _, c', err, _, _, _, hrun, rfl, _⟩
    · rw [hto] at h1; cases h1
    · exact absurd hd hhash
    · exact runCanary_ready_needs_pause _ c' err hrun hfrom hto
  · rfl

end RV.Props.Pause
