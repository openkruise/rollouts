import RV.Lemmas.RunMove
import RV.Oracle.RolloutSM
/-!
# C02 / C03 — the natural advance starts the next step from its beginning

`runCanary_natural_advance_starts_init`: one round of the release manager (canary and blue-green, partition and canary
style) that starts in `StepReady` of step k without a jump request and ends at step k+1 ends in `StepInit`
(BeforeStepUpgrade) of that step: the next step's pods are upgraded and reported ready before it routes any traffic, whatever
its replicas are (a "traffic-only" step with the replicas of its predecessor included).  Every plan, status, workload,
BatchRelease and network state.  The whole-reconcile form is the clause `C02.natural_advance_starts_init`, evaluated on
every real reconcile of suite `rolloutsm`.
-/
namespace RV.Props.Advance
open RV.Arith RV.Traffic RV.RolloutSM RV.Oracle.RolloutSM RV.Props.Rollout

theorem runCanary_natural_advance_starts_init (c0 c' : Ctx) (err : Bool) (h : runCanary c0 = .ok c' err)
    (hst : c0.sub.state = .ready) (hnj : jumpRequested c0.ro c0.sub = false)
    (hadv : c'.sub.curIdx = c0.sub.curIdx + 1) : c'.sub.state = .init := by
  cases runCanary_move h with
  | jump hreq hle =>
    -- a jump needs a jump request
    unfold jumpRequested at hnj
    simp only [decide_eq_false_iff_not] at hnj
    exact absurd ⟨hreq.1, hreq.2, hle⟩ hnj
  | advance _ _ _ _ _ h1 => exact h1
  | inStep _ hcur => rw [hcur] at hadv; omega

/-- non-vacuity: a two-step plan whose second step keeps the replicas of the first, in `StepReady` of step 1 -/
example :
    let ro : Rollout := { (default : Rollout) with steps := [{ replicas := .int 3, weight := some 5, pause := .manual },
                                                             { replicas := .int 3, weight := some 50, pause := .manual }] }
    let s : Sub := { (default : Sub) with curIdx := 1, nextIdx := 2, state := .ready }
    jumpRequested ro s = false := by decide

end RV.Props.Advance
