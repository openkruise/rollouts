import RV.Props.ExecutorXCs
/-!
# Theorems about one BatchRelease reconcile (used by C01.3, C06, C11, C18)

All statements quantify over every BatchRelease (any plan, partition, status — including
corrupted phases/states) and every CloneSet observation.  `RV.Executor.reconcile` is `reconcileX` over the CloneSet plane
(`executor_is_instance`), a lawful plane (`csLaws`): each theorem here is the theorem of `RV.Props.ExecutorX` for every lawful
plane, read at `csPlane` with the oracles of `RV.Oracle.Executor`.  For the readers of the CloneSet executor elsewhere: its
reconcile leaf by leaf (`reconcile_rec`) and, at the end, in terms of `syncStatus` and `execute` (`RV.Executor.reconcile_cases`).
-/
namespace RV.Props.Executor
open RV.Arith RV.BatchCtx RV.Executor RV.Oracle.Executor
open RV.ExecutorX (csPlane reconcileX StepOutX RecX reconcileX_rec executeX_exec execute_eq)
open RV.Oracle.ExecutorX (csPreds stoppedX)
open RV.Props.ExecutorX (executor_is_instance readyNow csLaws x_finalizer_guards_teardown x_no_act_before_persist
  x_ready_only_if_ready x_within_partition x_batch_advance_guarded x_completed_means_released x_falls_back
  x_plan_change_falls_back x_verifying_becomes_ready x_ready_is_fixed_point)

theorem reconcile_csPlane {br : BR} {wl : Option Workload} {o : StepOut} (h : reconcile br wl = .val o) :
    ∃ ox, reconcileX csPlane br wl = .val ox ∧ o = ox.toStepOut := by
  rw [executor_is_instance] at h
  cases hx : reconcileX csPlane br wl with
  | panic => rw [hx] at h; cases h
  | val ox => rw [hx] at h; cases h; exact ⟨ox, rfl, rfl⟩

/-- one reconcile of the CloneSet executor, leaf by leaf: `cases` on the relation after `obtain ⟨ox, rfl, hx⟩ := reconcile_rec h` -/
theorem reconcile_rec {br : BR} {wl : Option Workload} {o : StepOut} (h : reconcile br wl = .val o) :
    ∃ ox, o = ox.toStepOut ∧ RecX csPlane br wl (.val ox) := by
  obtain ⟨ox, hx, e⟩ := reconcile_csPlane h
  exact ⟨ox, e, reconcileX_rec hx⟩

theorem syncStatus_of_info {br : BR} {ns : Status} {wl : Option Workload} {ev : Event} {info : Option Workload}
    (h : csPlane.syncInfo br ns wl = .val (ev, info)) :
    syncStatus br ns wl = ⟨refreshStatus (syncDecide br ns ev info).1 info,
      (syncDecide br ns ev info).2 || decide (refreshStatus (syncDecide br ns ev info).1 info ≠ br.status)⟩ := by
  show (⟨refreshStatus (syncDecide br ns (syncInfo br ns wl).1 (syncInfo br ns wl).2).1 (syncInfo br ns wl).2, _⟩ : SyncOut) = _
  rw [show syncInfo br ns wl = (ev, info) from Out.val.inj h]

theorem stoppedX_cs (br : BR) (wl : Option Workload) : stoppedX csPlane br wl = stopped br wl := rfl

theorem readyNow_cs (br : BR) (wl : Option Workload) : readyNow csPreds br wl = batchReadyNow br wl :=
  batchReadyNow_withFinalizer br wl

/-- **C18 (BatchRelease)** — the controller drops its own finalizer (so that the object can
    disappear) only while the object is being deleted *and* its phase is `Completed`;
    in every other reconcile the finalizer is present afterwards. -/
theorem finalizer_guards_teardown (br : BR) (wl : Option Workload) (o : StepOut)
    (h : reconcile br wl = .val o) :
    goneOnlyWhenCompleted br o.br = true := by
  obtain ⟨ox, hx, rfl⟩ := reconcile_csPlane h
  exact x_finalizer_guards_teardown csPlane br wl ox hx

/-- **C06** — a phase / batch-state / cursor change decided by the sync step is persisted
    *before* anything acts on it: when the reconcile stops after the sync, the workload is
    not written. -/
theorem no_act_before_persist (br : BR) (wl : Option Workload) (o : StepOut)
    (h : reconcile br wl = .val o) :
    noActBeforePersist br wl o.wl = true := by
  obtain ⟨ox, hx, rfl⟩ := reconcile_csPlane h
  exact x_no_act_before_persist csPlane br wl ox hx

/-- `execute` by phase: in `Progressing` it is `execProgressing`; otherwise the cursor stays, and `Completed` is entered only
    from `Finalizing`, with the world `finalize` left -/
theorem execute_cases (br : BR) (ns : Status) (wl : Option Workload) (ns' : Status)
    (wl' : Option Workload) (rq er : Bool) (h : execute br ns wl = .val (ns', wl', rq, er)) :
    (ns.phase = .progressing ∧ execProgressing br ns wl = .val (ns', wl', rq, er)) ∨
    (ns.phase ≠ .progressing ∧ ns'.currentBatch = ns.currentBatch ∧
      (ns'.phase = .completed → ns.phase ≠ .completed →
         ns.phase = .finalizing ∧ wl' = (finalize br wl).1)) := by
  by_cases hp : ns.phase = .progressing
  · refine .inl ⟨hp, ?_⟩
    rw [← h]
    unfold execute
    rw [normPhase_of_progressing ns hp]
    simp only [hp]
  · rw [execute_eq] at h
    refine .inr ⟨hp, ?_⟩
    cases executeX_exec h with
    | progressing hp' => exact absurd hp' hp
    | initialized _ hi => exact ⟨(csLaws.init_frame _ _ _ _ _ _ hi).2.1.trans (normPhase_currentBatch ns), nofun⟩
    | initErr hq hi =>
      exact ⟨(csLaws.init_frame _ _ _ _ _ _ hi).2.1.trans (normPhase_currentBatch ns),
        fun hc => by rw [(csLaws.init_frame _ _ _ _ _ _ hi).1, hq] at hc; cases hc⟩
    | finalized hq hf => exact ⟨rfl, fun _ _ => ⟨hq, (congrArg Prod.fst (Out.val.inj hf)).symm⟩⟩
    | finErr | idle => exact ⟨rfl, fun hc hnc => absurd hc hnc⟩

/-- **C11.i (executor)** — whenever the executor acts on a `Progressing` release and leaves
    the batch state `Ready`, `EnsureBatchPodsReadyAndLabeled` passed in this very reconcile
    on the workload as it was observed. -/
theorem ready_only_if_ready (br : BR) (wl : Option Workload) (o : StepOut) (b : BR)
    (h : reconcile br wl = .val o) (hb : o.br = some b) :
    readyOnlyIfReady br wl b = true := by
  obtain ⟨ox, hx, rfl⟩ := reconcile_csPlane h
  have := x_ready_only_if_ready csPlane csPreds csLaws br wl ox b hx hb rfl
  rw [readyNow_cs] at this
  exact this

/-- **C11.ii / C01.3 (invariant)** — the executor never works on a batch beyond its
    `batchPartition`: if `currentBatch ≤ batchPartition` held before a reconcile of a release
    that is (still) Progressing, it holds after it — across plan recalculation, restart,
    scaling and normal advancement. -/
theorem within_partition (br : BR) (wl : Option Workload) (o : StepOut) (b : BR)
    (h : reconcile br wl = .val o) (hb : o.br = some b) (hne : br.status.phase ≠ .empty) :
    withinPartition br b = true := by
  obtain ⟨ox, hx, rfl⟩ := reconcile_csPlane h
  exact x_within_partition csPlane csPreds csLaws br wl ox b hx hb rfl hne

/-- **C11.ii / C01.3 (advance)** — with an unchanged, healthy plan, `currentBatch` rises only by
    exactly one, only from batch state `Ready`, only after the readiness check passed in this
    reconcile, and only while `batchPartition` is strictly above it. -/
theorem batch_advance_guarded (br : BR) (wl : Option Workload) (o : StepOut) (b : BR)
    (h : reconcile br wl = .val o) (hb : o.br = some b) :
    batchAdvanceGuarded br wl b = true := by
  obtain ⟨ox, hx, rfl⟩ := reconcile_csPlane h
  have := x_batch_advance_guarded csPlane csPreds csLaws br wl ox b hx hb rfl
  rw [readyNow_cs] at this
  exact this

/-- **C11.iii / C18** — phase `Completed` is entered only from `Finalizing`, in a reconcile in
    which `Finalize` returned without error, and the workload has then been released from
    this BatchRelease's control (or no longer exists). -/
theorem completed_means_released (br : BR) (wl : Option Workload) (o : StepOut) (b : BR)
    (h : reconcile br wl = .val o) (hb : o.br = some b) (hne : br.status.phase ≠ .empty) :
    completedMeansReleased br b o.wl = true := by
  obtain ⟨ox, hx, rfl⟩ := reconcile_csPlane h
  exact x_completed_means_released csPlane csPreds csLaws br wl ox b hx hb rfl hne

/-- **C11.iv** — if the readiness check fails while the batch state is `Verifying` or `Ready`,
    the state falls back to `Upgrading` (and a recorded ready time is cleared) rather than
    staying `Ready`. -/
theorem falls_back (br : BR) (wl : Option Workload) (o : StepOut) (b : BR)
    (h : reconcile br wl = .val o) (hb : o.br = some b) :
    fallsBack br wl b = true := by
  obtain ⟨ox, hx, rfl⟩ := reconcile_csPlane h
  have := x_falls_back csPlane csPreds csLaws br wl ox b hx hb rfl
  rw [readyNow_cs, stoppedX_cs] at this
  unfold fallsBack
  split
  · rename_i hc
    obtain ⟨hns, hp, hst, _, hnr, _⟩ := hc
    unfold RV.Oracle.ExecutorX.fallsBack at this
    rw [if_pos (show _ ∧ _ ∧ _ ∧ _ from ⟨hns, hp, hst, hnr⟩)] at this
    exact this
  · rfl

/-- **C11.iv (plan change)** — for every release and workload: when the executor finds the plan changed
    while `Progressing`, the status it persists acknowledges the new plan only as `Upgrading` with the
    ready time cleared; it never keeps `Ready` across a plan edit. -/
theorem plan_change_falls_back (br : BR) (wl : Option Workload) (o : StepOut) (b : BR)
    (h : reconcile br wl = .val o) (hb : o.br = some b) :
    planChangeFallsBack br b = true := by
  obtain ⟨ox, hx, rfl⟩ := reconcile_csPlane h
  exact x_plan_change_falls_back csPlane br wl ox b hx hb

theorem ensureReady_of_ready (br : BR) (ns : Status) (wl : Option Workload) (h : batchReadyNow br wl = true) :
    ensureReady (withFinalizer br) ns wl = .val .ok :=
  (ensureReady_iff _ ns wl).mpr ((batchReadyNow_withFinalizer br wl).trans h)

/-- **C07 (executor, verifying)** — when the workload has what the batch calls for, a reconcile in
    `Verifying` reports `Ready` (with the ready time set) and touches nothing. -/
theorem verifying_becomes_ready (br : BR) (wl : Option Workload) (o : StepOut)
    (h : reconcile br wl = .val o) (hns : stopped br wl = false)
    (hp : br.status.phase = .progressing) (hst : br.status.batchState = .verifying) (hr : batchReadyNow br wl = true) :
    ∃ b, o.br = some b ∧ b.status.batchState = .ready ∧ b.status.hasReadyTime = true ∧
      b.status.currentBatch = br.status.currentBatch ∧ o.wl = wl := by
  obtain ⟨ox, hx, rfl⟩ := reconcile_csPlane h
  exact x_verifying_becomes_ready csPlane csPreds csLaws br wl ox hx rfl hns hp hst ((readyNow_cs br wl).trans hr)

/-- **C07 (executor, fixed point)** — a batch that is `Ready`, whose pods still pass the readiness check and
    whose partition does not ask for more, is a fixed point: the reconcile changes neither the status nor
    the workload and asks for no requeue — the executor does not oscillate while it waits for the Rollout
    controller to raise the partition. -/
theorem ready_is_fixed_point (br : BR) (wl : Option Workload) (o : StepOut)
    (h : reconcile br wl = .val o) (hns : stopped br wl = false)
    (hp : br.status.phase = .progressing) (hst : br.status.batchState = .ready) (hr : batchReadyNow br wl = true)
    (hpart : isPartitioned br = true) :
    o.br = some (withFinalizer br) ∧ o.wl = wl := by
  obtain ⟨ox, hx, rfl⟩ := reconcile_csPlane h
  exact x_ready_is_fixed_point csPlane csPreds csLaws br wl ox hx rfl hns hp hst ((readyNow_cs br wl).trans hr) hpart

def exampleBR : BR :=
  { batches := [.pct 20, .pct 50, .pct 100], partition := some 1, failureThreshold := none,
    deleting := false, hasFinalizer := true, rollbackAnno := false,
    status := { phase := .progressing, currentBatch := 0, batchState := .ready, hasReadyTime := true,
                hash := .same, rolloutIDSame := true, observedReplicas := 10, updateRevision := "v2",
                stableRevision := "v1", noNeedUpdate := none, updated := 2, updatedReady := 2 } }
def exampleWL : Workload :=
  { replicas := 10, generation := 2, observedGeneration := 2, statusReplicas := 10, updated := 2, updatedReady := 2,
    updateRevision := "v2", currentRevision := "v1", partition := some (.pct 80), paused := false, owner := .this }

/-- the advance actually happens on a concrete healthy state (so the guarded-advance theorem is not vacuous) -/
example : (match reconcile exampleBR (some exampleWL) with
    | .val o => (o.br.map (·.status.currentBatch), o.br.map (·.status.batchState))
    | .panic => (none, none)) = (some 1, some BState.upgrading) := by decide

/-- the advance happens through `reconcileX` on the CloneSet plane exactly as through `reconcile` -/
example : (match reconcileX csPlane RV.Props.Executor.exampleBR (some RV.Props.Executor.exampleWL) with
    | .val o => (o.br.map (·.status.currentBatch), o.br.map (·.status.batchState))
    | .panic => (none, none)) = (some 1, some BState.upgrading) := by decide

/-- the hypotheses of `x_verifying_becomes_ready` are satisfiable on the CloneSet plane -/
example : stoppedX csPlane { RV.Props.Executor.exampleBR with status := { RV.Props.Executor.exampleBR.status with batchState := .verifying } }
      (some RV.Props.Executor.exampleWL) = false ∧
    readyNow csPreds { RV.Props.Executor.exampleBR with status := { RV.Props.Executor.exampleBR.status with batchState := .verifying } }
      (some RV.Props.Executor.exampleWL) = true := by decide

end RV.Props.Executor

namespace RV.Executor
open RV.ExecutorX (csPlane execute_eq)

/-- one reconcile in terms of the CloneSet plane's own functions `syncStatus` and `execute` -/
theorem reconcile_cases (br : BR) (wl : Option Workload) (o : StepOut) (h : reconcile br wl = .val o) :
    (br.deleting = true ∧ br.status.phase = .completed ∧ o.br = none ∧ o.wl = wl) ∨
    (¬ (br.deleting = true ∧ br.status.phase = .completed ∧ br.hasFinalizer = true) ∧
      ((∃ st, syncStatus (withFinalizer br) (initializedStatus br.status) wl = ⟨st, true⟩ ∧
          o = { br := some { withFinalizer br with status := st }, wl := wl, requeue := decide (st ≠ br.status), err := false }) ∨
       (syncStatus (withFinalizer br) (initializedStatus br.status) wl = ⟨br.status, false⟩ ∧ br.status.phase ≠ .completed ∧
          ∃ ns' wl' rq er, execute (withFinalizer br) br.status wl = .val (ns', wl', rq, er) ∧
            o = { br := some { withFinalizer br with status := ns' }, wl := wl', requeue := rq, err := er }))) := by
  obtain ⟨ox, rfl, hx⟩ := RV.Props.Executor.reconcile_rec h
  cases hx with
  | gone hd hp => exact .inl ⟨hd, hp, rfl, rfl⟩
  | stopped st _ hsi hst hstop hfin =>
    refine .inr ⟨hfin, .inl ⟨st, ?_, rfl⟩⟩
    rw [RV.Props.Executor.syncStatus_of_info hsi, ← hst]
    exact congrArg (SyncOut.mk st) (by rw [Bool.or_eq_true, decide_eq_true_eq]; exact hstop)
  | executed _ hsi hd hst hx hfin =>
    refine .inr ⟨hfin, .inr ⟨?_, fun hc => ?_, _, _, _, _, (execute_eq _ _ _).trans hx.eq, rfl⟩⟩
    · rw [RV.Props.Executor.syncStatus_of_info hsi, hst, hd, decide_eq_false (fun hn => hn rfl)]
      rfl
    · rw [syncDecide_completed (withFinalizer br) _ _ _ hc] at hd
      cases hd

end RV.Executor
