/-
  Theorems about one whole `RolloutReconciler.Reconcile` (`RV.RolloutSM.reconcile`), one per oracle of Oracle/RolloutSM. Those about a
  rolling rollout read `reconcile_live` / `reconcile_rolling`: the reconcile is `doProgressingInRolling` on the rollout's own status up
  to finalizer, phase, Terminating reason and the observed rollout-id / generation, landed by `land` (error: status not written; cursor
  reset). The others are proved of the body `reconcileCore` (`…_core`) and carried over the cursor reset at the end of the file.
-/
import RV.Lemmas.ReconcileFrame
import RV.Props.ClusterThms
import RV.Props.RolloutThms
namespace RV.Props.Reconcile
open RV.Arith RV.Traffic RV.RolloutSM RV.Oracle.RolloutSM RV.Props.Rollout

/-- the BatchRelease is one the recalculation can read: a batch partition inside its own plan -/
def BrOk (br : Option BR) : Prop :=
  ∀ b, br = some b → ∃ p, b.partition = some p ∧ 0 ≤ p ∧ p < b.batches.length

theorem recalc_total (ro : Rollout) (s : Sub) (wl : WL) (br : Option BR) (hb : BrOk br) (hs : ro.steps ≠ []) :
    ∃ k, recalculateCanaryStep ro s wl br = some k ∧ 1 ≤ k ∧ k ≤ ro.steps.length := by
  have hpos : 0 < ro.steps.length := List.length_pos_iff.mpr hs
  cases hbr : br with
  | none => exact ⟨1, by unfold recalculateCanaryStep; rfl, by omega, by omega⟩
  | some b =>
    obtain ⟨p, hp, h0, h1⟩ := hb b hbr
    have hget : ∃ e, b.batches[p.toNat]? = some e := by
      have : p.toNat < b.batches.length := by omega
      exact ⟨b.batches[p.toNat], by simp [this]⟩
    obtain ⟨e, he⟩ := hget
    rw [recalc_eq ro s wl b p e hp (by omega) he]
    refine ⟨_, rfl, ?_⟩
    -- the loop stops one past a step it visited, and it visits a step: the plan is not empty
    rcases recalc_go_spec ro wl (scaledV e wl.replicas true) _ 0 (visitOrder_bound _ _) with ⟨hnil, _⟩ | ⟨i, hi, hgo, _⟩
    · have := visitOrder_complete ro.steps.length (s.curIdx - 1) 0 hpos
      rw [hnil] at this
      cases this
    · have := visitOrder_bound _ _ i hi
      rw [hgo]
      omega

theorem fixNext_subOk (ns : Rollout) (s : Sub) (h1 : 1 ≤ s.curIdx) (h2 : s.curIdx ≤ ns.steps.length) (h4 : s.lastUpdate ≠ .none) :
    SubOk ns (fixNext ns s) := by
  unfold SubOk fixNext
  split
  · refine ⟨h1, h2, ?_, h4⟩
    dsimp only; unfold nextBatchIndex; split <;> omega
  · exact ⟨h1, h2, by omega, h4⟩

theorem inRolling_total (w : World) (old ns : Rollout) (s os : Sub) (wl : WL)
    (hold : old.sub = some os) (hsteps : ns.steps ≠ []) (h1 : 1 ≤ s.curIdx) (h2 : s.curIdx ≤ ns.steps.length)
    (h4 : s.lastUpdate ≠ .none) (hbr : BrOk w.br) :
    inRolling w old ns s wl ≠ .panic := by
  intro h
  obtain ⟨k, hk, _, k2⟩ := recalc_total ns s wl w.br hbr hsteps
  cases inRolling_panic h with
  | noSub ho => cases ho.symm.trans hold
  | reset hreset => exact doProgressingReset_total (toCtx { w with ro := ns } s wl) hsteps hreset
  | recalc hre => cases hre.symm.trans hk
  | jump newIdx hre hj =>
    cases hre.symm.trans hk
    exact jump_total ns { s with nextIdx := k, lastUpdate := .fresh, hash := .same } h1 h2 k2 hj
  | run hrun => exact runCanary_total _ (fixNext_subOk ns s h1 h2 h4) hrun

theorem not_corrupted (w : World) (h : corrupted w = false) :
    w.ro.steps ≠ [] ∧ ¬ (w.ro.phase = .progressing ∧ w.ro.reason = .none) ∧ ¬ (w.ro.phase = .terminating ∧ w.ro.term = .none) ∧
    ¬ (w.ro.phase = .progressing ∧ w.ro.reason = .inRolling ∧ w.ro.sub = none) ∧
    (w.ro.phase = .progressing → w.ro.reason = .inRolling →
      ∀ s, w.ro.sub = some s → 1 ≤ s.curIdx ∧ s.curIdx ≤ w.ro.steps.length ∧ s.lastUpdate ≠ .none) ∧
    (w.ro.phase = .progressing → w.ro.reason = .inRolling → BrOk w.br) := by
  unfold corrupted at h
  simp only [Bool.or_eq_false_iff, Bool.and_eq_false_iff, decide_eq_false_iff_not, List.isEmpty_eq_false_iff,
    Option.isNone_eq_false_iff] at h
  obtain ⟨⟨⟨⟨⟨a, b⟩, c⟩, d⟩, e⟩, f⟩ := h
  refine ⟨a, fun ⟨h1, h2⟩ => b.elim (· h1) (· h2), fun ⟨h1, h2⟩ => c.elim (· h1) (· h2), ?_, ?_, ?_⟩
  · intro ⟨h1, h2, h3⟩
    rcases d with (d | d) | d
    · exact d h1
    · exact d h2
    · rw [h3] at d; simp at d
  · intro h1 h2 s hs
    rcases e with (e | e) | e
    · exact (e h1).elim
    · exact (e h2).elim
    · rw [hs] at e
      simp only [Bool.or_eq_false_iff, decide_eq_false_iff_not, not_or, Int.not_lt] at e
      exact ⟨by omega, by omega, e.2⟩
  · intro h1 h2 b hb
    rcases f with (f | f) | f
    · exact (f h1).elim
    · exact (f h2).elim
    · rw [hb] at f
      dsimp only at f
      cases hp : b.partition with
      | none => rw [hp] at f; simp at f
      | some p =>
        rw [hp] at f
        simp only [decide_eq_false_iff_not, not_or, Int.not_lt] at f
        exact ⟨p, rfl, by omega, by omega⟩

theorem reconcile_total_core (w : World) (h : corrupted w = false) : reconcileCore w ≠ .panic := by
  obtain ⟨hsteps, hnr, hnt, hns, hsub, hbr⟩ := not_corrupted w h
  have hfr := hf_frame w.ro
  have nsteps : ∀ ns, calculateStatus (handleFinalizer w.ro).1 w.wl = some ns → ns.steps = w.ro.steps := fun ns hcs => by
    rw [(cs_frame _ ns w.wl hcs).1.steps, hfr]
  have core : ∀ ns wl, calculateStatus (handleFinalizer w.ro).1 w.wl = some ns → Live w wl →
      ns.sub.map subCore = w.ro.sub.map subCore := fun ns wl hcs hl => by
    have := (cs_frame _ ns w.wl hcs).2 (.inl (by rw [hfr]; exact hl.progressing)) (.inl (by rw [hl.readable]; rfl))
    rw [hfr] at this
    exact this
  intro hp
  cases reconcileCore_panic hp with
  | noReason wl hl hr => exact hnr ⟨hl.progressing, hr⟩
  | initNoPlan ns hcs wl hl hr hg => exact hsteps (nsteps ns hcs ▸ List.isEmpty_iff.mp hg.2)
  | rollingNoSub ns hcs wl hl hr hnone =>
    have hrel := core ns wl hcs hl
    rw [hnone] at hrel
    cases hs : w.ro.sub with
    | none => exact hns ⟨hl.progressing, hr, hs⟩
    | some os => rw [hs] at hrel; cases hrel
  | rolling ns hcs wl hl hr s hs hir =>
    have hrel := core ns wl hcs hl
    rw [hs] at hrel
    cases hos : w.ro.sub with
    | none => rw [hos] at hrel; cases hrel
    | some os =>
      rw [hos] at hrel
      obtain ⟨c1, _, _, c4, _⟩ := subCore_inj (Option.some.inj hrel)
      obtain ⟨b1, b2, b3⟩ := hsub hl.progressing hr os hos
      exact inRolling_total w w.ro ns s os wl hos (nsteps ns hcs ▸ hsteps) (by omega) (by rw [nsteps ns hcs]; omega)
        (by rw [c4]; exact b3) (hbr hl.progressing hr) hir
  | finalise ns hcs hc hf => exact finalise_total w ns _ _ _ (nsteps ns hcs ▸ hsteps) hf
  | noTerm hph ht => exact hnt ⟨hph, ht⟩

/-- a two-step plan; with `exampleSub`, `exampleRo`, `exampleWorld` a mid-rollout world whose next-step index (77) a user patched
    to an illegal value -/
def exampleSteps : List Step := [{ replicas := .pct 20, weight := some 20, pause := .manual }, { replicas := .pct 100, weight := none, pause := .manual }]
def exampleSub : Sub := { (default : Sub) with curIdx := 1, nextIdx := 77, state := .paused, lastUpdate := .elapsed }
def exampleRo : Rollout :=
  { (default : Rollout) with steps := exampleSteps, phase := .progressing, reason := .inRolling, hasFinalizer := true, sub := some exampleSub }
def exampleWorld : World :=
  { ro := exampleRo, wl := some { (default : WL) with consistent := true, replicas := 5 }, br := none,
    net := { stableExists := true, stableSel := none, canarySvc := none, stableIngress := true, canaryIng := none }, mem := Mem.empty }

/-- non-vacuity of `reconcile_total`: that world is not corrupted -/
example : corrupted exampleWorld = false := by
  simp [corrupted, exampleWorld, exampleRo, exampleSub, exampleSteps]

/-- **C10 (whole reconcile)** — for every world: a rollback of the workload observed while the rollout is
    rolling is dispatched before anything else (pause, plan change, continuous release, normal progress):
    the reason becomes Cancelling — which runs the rollback task list, traffic back to stable first — and
    this reconcile writes nothing to the BatchRelease or the network. -/
theorem rollback_first (w : World) (r : StepResult) (h : reconcile w = .val r) : rollbackFirst w r = true := by
  unfold rollbackFirst
  split
  · rename_i os wl hos hwl
    split
    · rename_i hc
      obtain ⟨hin, hcons, hrb, hrev, hnb⟩ := hc
      obtain ⟨hph, hr, -⟩ := (inRollingNow_iff _).mp hin
      obtain ⟨r0, hir, rfl⟩ := reconcile_live h hph hr hos hwl hcons
      cases inRolling_dispatch hir hos with
      | cancelling =>
        -- the branch is `quiet`: only the status changes, and the landing keeps the reason
        rw [land_br, land_net, land_ro w _ rfl]
        simp [quiet]
      | paused hn => exact absurd ⟨⟨hrb, hrev⟩, hnb⟩ hn
      | rollbackInBatch _ _ hib => exact absurd hib hnb
      | continuousBlueGreen _ hn | reset _ hn | planSame _ hn | planJump _ hn | completed _ hn | run _ hn =>
        exact absurd ⟨hrb, hrev⟩ hn
    · rfl
  · rfl

theorem inconsistent_waits_core (w : World) (r : StepResult) (h : reconcileCore w = .val r) : inconsistentWaits w r = true := by
  unfold inconsistentWaits
  split
  · rename_i wl hwl
    split
    · rename_i hc
      obtain ⟨hcons, hdel⟩ := hc
      have hfr := hf_frame w.ro
      rw [reconcileCore_wait (hwl ▸ calculateStatus_none (by rw [hfr]; exact hdel) hcons)] at h
      cases h
      have e : (handleFinalizer w.ro).1.sub = w.ro.sub ∧ (handleFinalizer w.ro).1.phase = w.ro.phase ∧
          (handleFinalizer w.ro).1.reason = w.ro.reason := by rw [hfr]; exact ⟨rfl, rfl, rfl⟩
      simp [result, e.1, e.2.1, e.2.2]
    · rfl
  · rfl

example : inconsistentWaits
    { ro := { (default : Rollout) with phase := .disabling, hasFinalizer := true }, wl := some { (default : WL) with consistent := false },
      br := none, net := default, mem := default }
    { w := { ro := { (default : Rollout) with phase := .disabling, hasFinalizer := true }, wl := some { (default : WL) with consistent := false },
             br := none, net := default, mem := default }, roGone := false, requeue := true, err := false, writes := [] } = true := by decide

theorem reconcile_finalizer_core (w : World) (r : StepResult) (h : reconcileCore w = .val r) :
    r.roGone = (handleFinalizer w.ro).2.1 ∧ r.w.ro.hasFinalizer = (handleFinalizer w.ro).1.hasFinalizer ∧
    (r.w.ro.term = .completed → w.ro.term ≠ .completed →
      r.w.ro.sub = none ∨ ∃ s', r.w.ro.sub = some s' ∧ s'.finStep = .end_) := by
  have e_term : (handleFinalizer w.ro).1.term = w.ro.term := by rw [hf_frame w.ro]
  obtain ⟨hg, ⟨hro⟩ | ⟨ns, hcs, hfr, ht, _⟩⟩ := reconcileCore_frame h
  · rw [hro]; exact ⟨hg, rfl, fun hc hn => absurd (e_term ▸ hc) hn⟩
  · have cf := cs_hasFinalizer hcs
    refine ⟨hg, by rw [hfr]; exact cf, fun hc hn => ht.elim (fun ht => ?_) (·.2)⟩
    exact absurd (e_term ▸ cs_term hcs (ht ▸ hc)) hn

theorem finalizer_guard_core (w : World) (r : StepResult) (h : reconcileCore w = .val r) : finalizerGuard w r = true := by
  obtain ⟨g1, g2, g3⟩ := reconcile_finalizer_core w r h
  obtain ⟨h1, h2, _⟩ := handleFinalizer_guard w.ro
  unfold finalizerGuard
  rw [Bool.and_eq_true]
  constructor
  · split
    · rename_i hc
      rcases hc with hc | ⟨hf, hnf⟩
      · rw [g1] at hc
        obtain ⟨a, b, _⟩ := h1 hc
        simp [a, b]
      · rw [g2] at hnf
        obtain ⟨a, b⟩ := h2 (by simpa using hnf) hf
        simp [a, b]
    · rfl
  · split
    · rename_i hc
      rcases g3 hc.1 hc.2 with hn | ⟨s', hs, he⟩
      · rw [hn]
      · rw [hs]; simp [he]
    · rfl

/-- **C10 (whole reconcile)** — blue-green refuses a newer revision: BatchRelease, network, reason, step index and sub-state stay. -/
theorem bluegreen_refuses_continuous (w : World) (r : StepResult) (h : reconcile w = .val r) :
    blueGreenRefusesContinuous w r = true := by
  unfold blueGreenRefusesContinuous
  split
  · rename_i os wl hos hwl
    split
    · rename_i hc
      obtain ⟨hin, hcons, hnrb, hnp, hbg, hne, hrev⟩ := hc
      obtain ⟨hph, hr, -⟩ := (inRollingNow_iff _).mp hin
      obtain ⟨r0, hir, rfl⟩ := reconcile_live h hph hr hos hwl hcons
      cases inRolling_refuses hir hos hnrb hnp hbg ⟨hne, hrev, hnrb⟩
      -- the branch is `quiet` on the status as given: BatchRelease, network and reason are the world's
      rw [land_br, land_net, land_ro w _ rfl]
      simp [quiet, newStatus, liveSub, hr]
    · rfl
  · rfl

/-- `jumpRequested ro s = false` as a Prop (`noReq_iff`). Not `¬ JumpReq ro s` (Lemmas/RunMove, no upper bound): the two agree once
    `fixNext` = `CheckNextBatchIndexWithCorrect` has replaced an index outside the plan (`jumpReq_fixNext`). -/
def NoReq (ro : Rollout) (s : Sub) : Prop :=
  ¬ (s.nextIdx ≠ nextBatchIndex ro.steps.length s.curIdx ∧ 0 < s.nextIdx ∧ s.nextIdx ≤ ro.steps.length)

theorem noReq_iff (ro : Rollout) (s : Sub) : jumpRequested ro s = false ↔ NoReq ro s := by
  unfold jumpRequested NoReq
  simp only [decide_eq_false_iff_not, gt_iff_lt]

theorem NoReq.congr {ro ro' : Rollout} {s s' : Sub} (h : NoReq ro s) (hs : ro'.steps = ro.steps)
    (h1 : s'.curIdx = s.curIdx) (h2 : s'.nextIdx = s.nextIdx) : NoReq ro' s' := by
  unfold NoReq at *; rw [hs, h1, h2]; exact h

theorem NoReq.natural (ro : Rollout) (s : Sub) (h : s.nextIdx = nextBatchIndex ro.steps.length s.curIdx) : NoReq ro s := by
  unfold NoReq; intro ⟨h1, _⟩; exact h1 h

theorem jump_noreq {ro : Rollout} {s s' : Sub} {j : Bool} (h : doCanaryJump ro s = some (s', j)) : NoReq ro s' := by
  cases j with
  | false =>
    obtain ⟨rfl, hn⟩ := doCanaryJump_false h
    exact fun ⟨a, b, _⟩ => hn ⟨a, b⟩
  | true =>
    obtain ⟨_, _, e, _⟩ := doCanaryJump_true h
    exact .natural _ _ (by rw [e])

theorem runCanary_noreq (c0 c' : Ctx) (err : Bool) (h : runCanary c0 = .ok c' err) : NoReq c0.ro c'.sub := by
  cases runCanary_move h with
  | jump _ _ hcur hnext => exact .natural _ _ (by rw [hnext, hcur])
  | advance _ _ _ hcur hnext => exact .natural _ _ (by rw [hnext, hcur])
  -- without a jump request, and the indices kept, there is none afterwards
  | inStep hno hcur hnext => exact fun ⟨a, b, _⟩ => hno ⟨by rwa [hcur, hnext] at a, by rwa [hnext] at b⟩

theorem inRolling_noreq {w : World} {old ns : Rollout} {s : Sub} {wl : WL} {r : StepResult} {s' : Sub}
    (h : inRolling w old ns s wl = .val r) (hns : ns.sub = some s) (hs' : r.w.ro.sub = some s') (hn : NoReq ns s) :
    NoReq ns s' := by
  cases inRolling_move h hns hs' with
  | keep _ h1 h2 => exact hn.congr rfl h1 h2
  | rollbackInBatch => exact NoReq.natural _ _ rfl
  | planSame => exact hn.congr rfl rfl rfl
  | planJump _ _ _ _ _ _ hj => exact jump_noreq hj
  | run _ _ _ _ _ _ _ hrun => exact runCanary_noreq _ _ _ hrun

/-- every exit of the body either keeps both indices of a sub-status without request (`NoReq.congr`) or writes the natural
    successor (`NoReq.natural`) -/
theorem reconcile_noreq_core {w : World} {r : StepResult} (h : reconcileCore w = .val r)
    (hin : ∀ s, w.ro.sub = some s → NoReq w.ro s) {s' : Sub} (hs' : r.w.ro.sub = some s') : NoReq r.w.ro s' := by
  have hfr := hf_frame w.ro
  have old : ∀ s, (handleFinalizer w.ro).1.sub = some s → NoReq (handleFinalizer w.ro).1 s := fun s hs => by
    rw [hfr] at hs ⊢; exact hin s hs
  have new : ∀ ns, calculateStatus (handleFinalizer w.ro).1 w.wl = some ns → ∀ s, ns.sub = some s → NoReq ns s :=
    fun ns hcs s hs => by
      rcases cs_next hcs s hs with ⟨s0, h0, h1, h2⟩ | hnat
      · exact (old s0 h0).congr (cs_frame _ ns w.wl hcs).1.steps h1 h2
      · exact NoReq.natural _ _ hnat
  cases reconcileCore_inv h with
  | wait | initErr | rollingErr | finErr => exact old s' hs'
  | idle ns hcs | pausedNoSub ns hcs | resumed ns hcs | completed ns hcs => exact new ns hcs s' hs'
  | initFresh | initDone => cases hs'; exact NoReq.natural _ _ rfl
  | rolling ns hcs _ _ _ s hs r0 hir =>
    exact (inRolling_noreq hir hs hs' (new ns hcs s hs)).congr (by dsimp only [result]; rw [(inRolling_frame hir).1]) rfl rfl
  | finWait ns hcs _ w' _ hf =>
    obtain ⟨hro, _, hk⟩ := finalise_frame hf
    obtain ⟨s0, h0, h1, h2⟩ := hk s' hs'
    exact (new ns hcs s0 h0).congr (by dsimp only [result]; rw [hro]) h1 h2
  | @finDone ns hcs _ _ _ upd hc w' _ hf =>
    obtain ⟨hro, _, hk⟩ := finalise_frame hf
    have hu := hc.upd_frame w'.ro
    have hsub : (upd w'.ro).sub = w'.ro.sub := by rw [hu]
    obtain ⟨s0, h0, h1, h2⟩ := hk s' (hsub ▸ hs')
    exact (new ns hcs s0 h0).congr (by dsimp only [result]; rw [hu, hro]) h1 h2

theorem no_self_jump_core (w : World) (r : StepResult) (h : reconcileCore w = .val r) : noSelfJump w r = true := by
  unfold noSelfJump
  split
  · rename_i s' hs'
    dsimp only
    generalize hg : ((match w.ro.sub with | some s => !jumpRequested w.ro s | none => true) && !r.roGone) = g
    cases g with
    | false => rfl
    | true =>
      rw [if_pos rfl, Bool.not_eq_true', noReq_iff]
      rw [Bool.and_eq_true] at hg
      refine reconcile_noreq_core h (fun s hs => (noReq_iff _ _).mp ?_) hs'
      have := hg.1
      rw [hs] at this
      simpa using this
  · rfl

theorem jumpReq_fixNext (ns : Rollout) (s : Sub) : JumpReq ns (fixNext ns s) ↔ ¬ NoReq ns s := by
  unfold JumpReq NoReq fixNext
  rw [Classical.not_not]
  split
  · exact ⟨fun h => absurd rfl h.1, fun h => by omega⟩
  · exact ⟨fun h => ⟨h.1, h.2, by omega⟩, fun h => ⟨h.1, h.2.1⟩⟩

/-- `s` = sub-status of the new status, `os` = the stored one; `hcore`: the calculation refreshes observed fields only, so
    `PlanChanged os` is `s.hash = .differs` -/
theorem inRolling_gates {w : World} {old ns : Rollout} {s os : Sub} {wl : WL} {r : StepResult} {s' : Sub}
    (h : inRolling w old ns s wl = .val r) (hold : old.sub = some os) (hcore : subCore s = subCore os)
    (hns : ns.sub = some s) (hs' : r.w.ro.sub = some s') :
    (s'.curIdx ≠ s.curIdx →
      (s.state = .ready ∧ s'.curIdx = s.curIdx + 1 ∧ s.curIdx < ns.steps.length ∧ NoReq ns s) ∨
      ¬ NoReq ns s ∨ s.hash = .differs ∨ (wl.inRollback = true ∧ wl.canaryRev ≠ s.canaryRev)) ∧
    (s'.state = .ready → s.state ≠ .ready → s'.curIdx = s.curIdx → s.state = .paused ∨ s.hash = .differs) := by
  obtain ⟨_, _, _, _, _, hcrev, hhash⟩ := subCore_inj hcore
  have hdiff : ∀ os', old.sub = some os' → PlanChanged os' → s.hash = .differs := fun os' ho hh => by
    cases ho.symm.trans hold
    rw [hhash]; cases hh' : os.hash <;> simp_all [PlanChanged]
  cases inRolling_move h hns hs' with
  | keep _ h1 _ h3 => exact ⟨fun hne => absurd h1 hne, fun hr hnr _ => absurd (h3 ▸ hr) hnr⟩
  | rollbackInBatch os' ho hrb =>
    cases ho.symm.trans hold
    exact ⟨fun _ => .inr (.inr (.inr ⟨hrb.1, hcrev ▸ hrb.2⟩)), fun hr => by cases hr⟩
  | planSame os' ho hh => exact ⟨fun _ => .inr (.inr (.inl (hdiff os' ho hh))), fun _ _ _ => .inr (hdiff os' ho hh)⟩
  | planJump os' ho hh => exact ⟨fun _ => .inr (.inr (.inl (hdiff os' ho hh))), fun _ _ _ => .inr (hdiff os' ho hh)⟩
  | run _ _ _ _ _ c err hrun =>
    obtain ⟨g1, _, g3⟩ := runCanary_gated _ _ _ hrun
    simp only [toCtx, fixNext_curIdx, fixNext_state, jumpReq_fixNext, Classical.not_not] at g1 g3
    exact ⟨fun hne => (g1 hne).imp id (fun b => .inl b.1), fun hr hnr _ => .inl (g3 hr hnr).1⟩

/-- **C02.i (whole reconcile)** — for every world: a reconcile of a rolling rollout changes the step index only by one, from
    `StepReady`, to the natural next step, or on an explicit user request (step jump, plan edit, rollback in batches); and it enters
    `StepReady` only from `StepPaused`, or on a plan edit. -/
theorem advance_and_ready_gated (w : World) (r : StepResult) (h : reconcile w = .val r) :
    advanceGated w r = true ∧ readyGated w r = true := by
  unfold advanceGated readyGated
  -- both oracles only speak about a rolling rollout that has a sub-status before and after
  cases hos : w.ro.sub with
  | none => exact ⟨rfl, rfl⟩
  | some os =>
  cases hs' : r.w.ro.sub with
  | none => exact ⟨rfl, rfl⟩
  | some s' =>
  by_cases hin : inRollingNow w.ro = true ∧ r.w.ro.reason = .inRolling
  case neg =>
    refine ⟨?_, if_neg fun hh => hin ⟨hh.1, hh.2.1⟩⟩
    cases w.wl with
    | none => rfl
    | some wl => exact if_neg fun hh => hin ⟨hh.1, hh.2.1⟩
  case pos =>
    have key : (∀ wl, w.wl = some wl → s'.curIdx ≠ os.curIdx →
          (os.state = .ready ∧ s'.curIdx = os.curIdx + 1 ∧ os.curIdx < w.ro.steps.length ∧ NoReq w.ro os) ∨
          ¬ NoReq w.ro os ∨ os.hash = .differs ∨ (wl.inRollback = true ∧ wl.canaryRev ≠ os.canaryRev)) ∧
        (s'.state = .ready → os.state ≠ .ready → s'.curIdx = os.curIdx → os.state = .paused ∨ os.hash = .differs) := by
      rcases reconcile_rolling h hin.1 hos with hn | ⟨f, he⟩ | ⟨wl, r0, hw, -, he0, hir, rfl⟩
      · cases hn.symm.trans hs'
      · cases he.symm.trans hs'; exact ⟨fun _ _ hne => absurd rfl hne, fun hr hnr _ => absurd hr hnr⟩
      · obtain ⟨s0, h0, rfl⟩ := land_sub he0 hs'
        obtain ⟨g1, g2⟩ := inRolling_gates hir hos rfl rfl h0
        exact ⟨fun wl' hw' => by cases hw.symm.trans hw'; exact g1, g2⟩
    constructor
    · cases hw : w.wl with
      | none => rfl
      | some wl =>
        dsimp only
        split
        · rename_i hc
          rcases key.1 wl hw hc.2.2 with ⟨a1, a2, a3, a4⟩ | hb | hd | ⟨e1, e2⟩
          · simp [a1, a2, a3, (noReq_iff _ _).mpr a4]
          · cases hj : jumpRequested w.ro os with
            | true => simp
            | false => exact absurd ((noReq_iff _ _).mp hj) hb
          · simp [hd]
          · simp [e1, e2]
        · rfl
    · dsimp only
      split
      · rename_i hc
        rcases key.2 hc.2.2.1 hc.2.2.2.1 hc.2.2.2.2 with hp | hd
        · simp [hp]
        · simp [hd]
      · rfl

/-- `RV.Props.Rollout.runCanary_pods` without the jump-request clause, the observation stated on some context with the round's
    step index, workload and synchronised BatchRelease (that context is `c0`: `runCanary_pods` says so); the properties C02, C03 list
    it under this name -/
theorem runCanary_pods_gated (c0 c' : Ctx) (err : Bool) (h : runCanary c0 = .ok c' err)
    (hst : c'.sub.state = .trafficRouting ∨ c'.sub.state = .metricsAnalysis)
    (hne : c0.sub.state ≠ c'.sub.state ∨ c'.sub.curIdx ≠ c0.sub.curIdx) :
    Upgraded c0.sub.state ∨
    ((c0.sub.state = .upgrade ∨ c0.sub.state = .init) ∧ c'.sub.curIdx = c0.sub.curIdx ∧
      ∃ c : Ctx, c.sub.curIdx = c0.sub.curIdx ∧ c.wl = c0.wl ∧ c.br = (syncStep c0).br ∧ UpgradeDone c0.ro c) :=
  (runCanary_pods c0 c' err h hst hne).imp id fun ⟨a, b, _, hsync, d⟩ => ⟨a, b, c0, rfl, rfl, hsync.symm, d⟩

theorem inRolling_routing {w : World} {old ns : Rollout} {s : Sub} {wl : WL} {r : StepResult} {s' : Sub}
    (h : inRolling w old ns s wl = .val r) (hns : ns.sub = some s) (hs' : r.w.ro.sub = some s')
    (hst : s'.state = .trafficRouting ∨ s'.state = .metricsAnalysis) (hch : s.state ≠ s'.state ∨ s'.curIdx ≠ s.curIdx) :
    Upgraded s.state ∨
    ((s.state = .upgrade ∨ s.state = .init) ∧ s'.curIdx = s.curIdx ∧
      (doCanaryUpgrade ns { s with nextIdx := s'.nextIdx } wl w.br).1 = true) := by
  have same : s'.curIdx = s.curIdx → s'.state = s.state → False := fun h1 h2 => hch.elim (absurd h2.symm) (absurd h1)
  cases inRolling_move h hns hs' with
  | keep _ h1 _ h3 => exact (same h1 h3).elim
  | rollbackInBatch => rcases hst with h1 | h1 <;> cases h1
  | planSame => rcases hst with h1 | h1 <;> cases h1
  | planJump _ _ _ _ _ j hj =>
    cases j with
    | false => cases (doCanaryJump_false hj).1; exact (same rfl rfl).elim
    | true =>
      rcases jump_lands hj with jst | ⟨_, jup⟩
      · rw [jst] at hst; rcases hst with h1 | h1 <;> cases h1
      · exact .inl jup
  | run _ _ _ _ _ c err hrun =>
    have g2 := runCanary_pods _ _ _ hrun hst (by simpa only [toCtx, fixNext_state, fixNext_curIdx] using hch)
    simp only [toCtx, fixNext_state, fixNext_curIdx] at g2
    refine g2.imp id fun ⟨hui, hcs, _, _, hd⟩ => ⟨hui, hcs, ?_⟩
    -- the observation was made on the sub-status with the corrected next index; `doCanaryUpgrade` reads the step index only
    rw [doCanaryUpgrade_congr ns s { s with nextIdx := c.sub.nextIdx } wl w.br rfl,
        ← doCanaryUpgrade_congr ns s (fixNext ns s) wl w.br (fixNext_curIdx ns s)]
    exact hd

/-- **C03.ii (whole reconcile)** — for every world: a reconcile leaves a rolling rollout in
    `StepTrafficRouting` / `StepMetricsAnalysis` of a step it was not in before only if the
    BatchRelease — as it was before this reconcile wrote anything to it — reports the step's pods ready. -/
theorem enter_routing_gated (w : World) (r : StepResult) (h : reconcile w = .val r) : enterRoutingGated w r = true := by
  unfold enterRoutingGated
  cases hos : w.ro.sub with
  | none => rfl
  | some os =>
  cases hs' : r.w.ro.sub with
  | none => rfl
  | some s' =>
  dsimp only
  split
  · rename_i hc
    obtain ⟨hnow, -, hst, hch⟩ := hc
    rcases reconcile_rolling h hnow hos with hn | ⟨f, he⟩ | ⟨wl, r0, hw, -, he0, hir, rfl⟩
    · cases hn.symm.trans hs'
    · cases he.symm.trans hs'; exact (hch.elim (· rfl) (· rfl)).elim
    · obtain ⟨s0, h0, rfl⟩ := land_sub he0 hs'
      rw [Bool.or_eq_true]
      refine (inRolling_routing hir rfl h0 hst hch).symm.imp ?_ (podsReady_iff _).mpr
      rintro ⟨hui, hcs, hud⟩
      unfold upgradeDoneObs
      rw [hw]
      dsimp only
      rw [Bool.and_eq_true, Bool.and_eq_true, Bool.or_eq_true, decide_eq_true_eq, decide_eq_true_eq, decide_eq_true_eq]
      exact ⟨⟨hui, hcs⟩, hud⟩
  · rfl

theorem runCanary_unpin (c0 c' : Ctx) (err : Bool) (h : runCanary c0 = .ok c' err)
    (hinit : c0.sub.state = .init) (hcur : c'.sub.curIdx = c0.sub.curIdx)
    (hleft : c'.sub.state = .upgrade ∨ c'.sub.state = .trafficRouting ∨ c'.sub.state = .metricsAnalysis)
    (hfull : fullStep c0.ro c0.sub c0.wl = true) (hhas : c0.ro.hasTraffic = true) (hseen : c0.wlSeen = true) :
    c'.net.stableExists = true → c'.net.stableSel.getD "" = "" := by
  have sync := syncStep_sameStep c0
  have hseen1 : (syncStep c0).wlSeen = true := by rw [syncStep_frame]; exact hseen
  have hne : c'.sub.state ≠ .init := by rcases hleft with h1 | h1 | h1 <;> rw [h1] <;> simp
  -- the step the oracle speaks about carries traffic: the round is `BeforeStepUpgrade`'s own move
  obtain ⟨step, hstep, hstyle, htraffic, hrepl, hreal⟩ := (fullStep_iff _ _ _).mp hfull
  exact RV.Props.Cluster.initStep_full_unpins c0.ro step _ c' err hstyle hreal htraffic sync.ro hhas
    hseen1 (sync.state.trans hinit) (by rw [sync.wl]; exact hrepl)
    (runCanary_init_left h hinit hleft hstep htraffic) hne

theorem inRolling_unpin {w : World} {old ns : Rollout} {s : Sub} {wl : WL} {r : StepResult} {s' : Sub}
    (h : inRolling w old ns s wl = .val r) (hns : ns.sub = some s) (hs' : r.w.ro.sub = some s')
    (hinit : s.state = .init) (hcur : s'.curIdx = s.curIdx)
    (hleft : s'.state = .upgrade ∨ s'.state = .trafficRouting ∨ s'.state = .metricsAnalysis)
    (hfull : fullStep ns s wl = true) (hhas : ns.hasTraffic = true) :
    r.w.net.stableExists = true → r.w.net.stableSel.getD "" = "" := by
  have stay : s'.state = .init → False := fun h2 => by rw [h2] at hleft; rcases hleft with h1 | h1 | h1 <;> cases h1
  cases inRolling_move h hns hs' with
  | keep _ _ _ h3 => exact (stay (h3.trans hinit)).elim
  | rollbackInBatch => exact (stay rfl).elim
  | planSame => rcases hleft with h1 | h1 | h1 <;> cases h1
  | planJump _ _ _ _ _ j hj =>
    cases j with
    | false => cases (doCanaryJump_false hj).1; exact (stay hinit).elim
    | true =>
      rcases jump_lands hj with jst | ⟨_, jup⟩
      · exact (stay jst).elim
      · dsimp only at jup; rw [hinit] at jup; exact (not_upgraded_init jup).elim
  | run _ _ _ _ _ c err hrun hw =>
    rw [hw]
    refine runCanary_unpin _ _ _ hrun (by simpa only [toCtx, fixNext_state] using hinit)
      (by simpa only [toCtx, fixNext_curIdx] using hcur) hleft ?_ hhas rfl
    unfold fullStep at hfull ⊢
    unfold toCtx
    dsimp only
    rw [fixNext_curIdx]
    exact hfull

/-- **C04 (stable half, whole reconcile)** — for every world with a readable workload: when one reconcile moves a
    rolling partition-style (`realPartition`) canary rollout out of `BeforeStepUpgrade` of a step (with traffic) whose replicas cover the whole
    workload — i.e. hands the batch that replaces the last stable pod to the BatchRelease — the stable
    Service, if it exists, is un-pinned afterwards. -/
theorem full_step_unpins_first (w : World) (r : StepResult) (h : reconcile w = .val r) :
    fullStepUnpinsFirst w r = true := by
  unfold fullStepUnpinsFirst
  cases hos : w.ro.sub with
  | none => rfl
  | some os =>
  cases hs' : r.w.ro.sub with
  | none => rfl
  | some s' =>
  cases hw : w.wl with
  | none => rfl
  | some wl =>
  dsimp only
  split
  · rename_i hc
    obtain ⟨hnow, -, hhas, -, -, hinit, hleft, hcur, hfull⟩ := hc
    rcases reconcile_rolling h hnow hos with hn | ⟨f, he⟩ | ⟨wl', r0, hw', -, he0, hir, rfl⟩
    · cases hn.symm.trans hs'
    · cases he.symm.trans hs'
      rw [hinit] at hleft; rcases hleft with h1 | h1 | h1 <;> cases h1
    · cases hw.symm.trans hw'
      obtain ⟨s0, h0, rfl⟩ := land_sub he0 hs'
      have := inRolling_unpin hir rfl h0 hinit hcur hleft hfull hhas
      rw [land_net]
      cases hse : r0.w.net.stableExists with
      | false => rfl
      | true => simp [this hse]
  · rfl

theorem prStage3_net (c c' : Ctx) (d e : Bool) (h : prStage3 c = some (c', d, e)) :
    c'.net.canaryIng = c.net.canaryIng ∧ c'.br = c.br := by
  unfold prStage3 at h
  split at h
  · cases h
  · rename_i c1 _ _ hc
    have hnet : c1.net.canaryIng = c.net.canaryIng ∧ c1.br = c.br := by
      obtain ⟨t, _, _, rfl, rfl, _⟩ := callTM_inv hc
      exact ⟨(RV.Props.Traffic.rc_spec _ c.net c.mem).kept (·.canaryIng) rfl, rfl⟩
    split at h <;> (cases h; exact hnet)

theorem prStage2_net (c c' : Ctx) (d e : Bool) (h : prStage2 c = some (c', d, e)) :
    c'.net.canaryIng = c.net.canaryIng := by
  unfold prStage2 at h
  dsimp only at h
  split at h
  · cases h; rfl
  · have := prStage3_net _ _ _ _ h
    exact this.1

/-- **C10 (reset)** — for every context with traffic routing whose reset has not yet passed its first stage:
    if `doProgressingReset` does not fail, either it touched neither the BatchRelease nor the canary Service
    (the gateway is still being restored), or no canary route is left. -/
theorem reset_routes_first (c c' : Ctx) (d : Bool) (hhas : c.ro.hasTraffic = true)
    (h1 : c.sub.finStep ≠ .releaseWorkloadControl) (h2 : c.sub.finStep ≠ .removeCanaryService)
    (h : doProgressingReset c = some (c', d, false)) :
    (c'.br = c.br ∧ c'.net.canarySvc = c.net.canarySvc) ∨ c'.net.canaryIng = none := by
  -- the cursor is not at a later stage: the reset starts with the gateway
  have k1 : (prCursor c).sub.finStep = .routeTrafficToStable := by
    unfold prCursor
    split
    · rename_i hf; exact hf
    · rename_i hf; exact absurd hf h1
    · rename_i hf; exact absurd hf h2
    · rfl
  have k2 : (prCursor c).net = c.net := by rw [prCursor_eq]
  have k3 : (prCursor c).br = c.br := by rw [prCursor_eq]
  have k4 := prCursor_ro c
  unfold doProgressingReset at h
  rw [if_neg (by simp [hhas])] at h
  split at h
  · cases h
  · dsimp only at h
    rw [k1] at h
    dsimp only at h
    split at h
    · cases h
    · rename_i c2 rt er hc
      have hgw : c2.br = c.br ∧ c2.net.canarySvc = c.net.canarySvc ∧ c2.net.canaryIng = none := by
        obtain ⟨t, _, ht, rfl, rfl, _⟩ := callTM_inv hc
        have hg := RV.Props.Traffic.rg_spec { t with hasRevKey := (prCursor c).wlSeen } (prCursor c).net (prCursor c).mem
        exact ⟨k3, by rw [hg.kept (·.canarySvc) rfl, k2], hg.post (by rw [(trCtx_inv ht).1, k4]; exact hhas)⟩
      split at h
      · cases h
        exact Or.inl ⟨hgw.1, hgw.2.1⟩
      · right
        have := prStage2_net _ _ _ _ h
        rw [this]
        exact hgw.2.2

/-- **C10 (supersession, whole reconcile)** — for every world: while a newer revision supersedes the one being
    released, a reconcile that starts the reset deletes the BatchRelease / removes the canary Service only
    with traffic back on stable. -/
theorem reset_routes_first_reconcile (w : World) (r : StepResult) (h : reconcile w = .val r) :
    resetRoutesFirst w r = true := by
  unfold resetRoutesFirst
  cases hos : w.ro.sub with
  | none => rfl
  | some os =>
  cases hw : w.wl with
  | none => rfl
  | some wl =>
  dsimp only
  split
  · rename_i hc
    obtain ⟨hnow, hcons, hnrb, hnp, hstyle, hhas, hne, hrev, hf1, hf2, hnerr⟩ := hc
    obtain ⟨hph, hr, -⟩ := (inRollingNow_iff _).mp hnow
    obtain ⟨r0, hir, rfl⟩ := reconcile_live h hph hr hos hw hcons
    rw [land_err] at hnerr
    rw [land_br, land_net]
    -- the dispatch takes the continuous-release branch of a canary rollout
    cases inRolling_dispatch hir hos with
    | cancelling hrb | rollbackInBatch _ hrb => exact absurd hrb.1 hnrb
    | paused _ hp => exact absurd hp hnp
    | continuousBlueGreen _ _ _ hbg => cases hstyle.symm.trans hbg
    | planSame _ _ hn | planJump _ _ hn | completed _ _ hn | run _ _ hn => exact absurd ⟨hne, hrev, hnrb⟩ hn
    | reset _ _ _ _ c d e hreset =>
      cases e with
      | true => exact absurd rfl hnerr
      | false =>
        have hk : (c.br = w.br ∧ c.net.canarySvc = w.net.canarySvc) ∨ c.net.canaryIng = none :=
          reset_routes_first _ c d hhas hf1 hf2 hreset
        -- whichever way the reset ended, the result carries the BatchRelease and the network of `c`
        have hw : ∀ x : World, x.br = c.br → x.net = c.net →
            (if ((match w.br, x.br with
                  | some b, some b' => !b.deleting && b'.deleting
                  | some _, none => true
                  | none, _ => false) || w.net.canarySvc.isSome && x.net.canarySvc.isNone) = true
              then x.net.canaryIng.isNone else true) = true := fun x hb hn => by
          rw [hb, hn]
          rcases hk with ⟨k1, k2⟩ | k3
          · -- BatchRelease and canary Service as before: nothing was deleted or removed, the guard is false
            rw [k1, k2]
            cases w.br <;> cases w.net.canarySvc <;> simp
          · rw [k3]; simp
        cases d <;> exact hw _ rfl rfl
  · rfl

theorem progressing_term_core (w : World) (r : StepResult) (h : reconcileCore w = .val r) (hph : w.ro.phase = .progressing) :
    r.w.ro.term = .completed → w.ro.term = .completed := by
  have e_term : (handleFinalizer w.ro).1.term = w.ro.term := by rw [hf_frame w.ro]
  rcases (reconcileCore_frame h).2 with ⟨hro⟩ | ⟨ns, hcs, _, ht | ⟨hph', _⟩, _⟩
  · rw [hro, e_term]; exact id
  · rw [ht, ← e_term]; exact cs_term hcs
  · rw [hph] at hph'; cases hph'

/-- same statement as `alive_stays` (Lemmas/ReconcileFrame); the properties C02, C04, C05 list it under this name -/
theorem alive_stays_core (w : World) (r : StepResult) (h : reconcileCore w = .val r) (hph : w.ro.phase = .progressing)
    (hdel : w.ro.deleting = false) (hdis : w.ro.disabled = false) :
    r.w.ro.phase ≠ .terminating ∧ r.w.ro.phase ≠ .disabling :=
  alive_stays w r h hph hdel hdis

/-- same statement as `reconcile_eq_core` (Lemmas/ReconcileFrame); the properties C02, C04, C05 list it under this name -/
theorem reconcile_eq_core_of_alive (w : World) (hdel : w.ro.deleting = false) (hdis : w.ro.disabled = false) :
    reconcile w = reconcileCore w :=
  reconcile_eq_core w hdel hdis

/-- **C02.iii (whole reconcile)** — for every world whose Rollout already carries its finalizer (otherwise this reconcile adds it,
    which is a write): while `spec.strategy.paused` is set, a reconcile of a rolling, not disabled rollout with a consistent workload
    and no rollback pending keeps step index and sub-state, sets the reason to Paused, and writes nothing to BatchRelease, workload
    or network. -/
theorem paused_no_progress (w : World) (r : StepResult) (h : reconcile w = .val r) (hfin : w.ro.hasFinalizer = true) :
    pausedNoProgress w r = true := by
  unfold pausedNoProgress
  split
  · rename_i wl hwl
    split
    · rename_i hc
      obtain ⟨hin, hp, hcons, hnrb, hnd⟩ := hc
      obtain ⟨hph, hr, hndel⟩ := (inRollingNow_iff _).mp hin
      have hhf : handleFinalizer w.ro = (w.ro, false, []) := by
        unfold handleFinalizer; simp [hndel, hfin]
      cases hos : w.ro.sub with
      | none =>
        -- no sub-status: the pause is honoured as well
        rw [reconcile_eq_core_of_alive w hndel (by simpa using hnd)] at h
        obtain ⟨ns, hcs, hx⟩ := reconcileCore_rolling h ⟨hph, hwl, hcons⟩ hr
        rcases hx with ⟨hn, _, _, rfl⟩ | ⟨s, _, hs, _⟩
        · simp [result, hwl, hhf, hn]
        · rw [hwl, calculateStatus_progressing (ro := (handleFinalizer w.ro).1) (by rw [hf_frame]; exact hph) hcons] at hcs
          cases hcs
          rw [hf_frame, hos] at hs
          cases hs
      | some os =>
        obtain ⟨r0, hir, rfl⟩ := reconcile_live h hph hr hos hwl hcons
        cases inRolling_dispatch hir hos with
        | cancelling hrb => exact absurd hrb.1 hnrb
        | paused =>
          -- the branch is `quiet`: nothing but the reason is written, the sub-status is `os` up to the observed fields
          rw [land_br, land_net, land_wl, land_writes, land_ro w _ rfl, hhf]
          simp [quiet, newStatus, liveSub, hwl]
        | rollbackInBatch hn | continuousBlueGreen hn | reset hn | planSame hn | planJump hn | completed hn | run hn =>
          exact absurd hp hn
    · rfl
  · rfl

/-! ### the whole reconcile: body + cursor reset

`reconcile w = (reconcileCore w).map (resetOnExit w)`: after the switch on the old phase and before the status is written,
a Progressing rollout whose new status says Terminating / Disabling gets its clean-up cursor cleared.  `no_self_jump_core`,
`inconsistent_waits_core`, `finalizer_guard_core` and `reconcile_total_core` are about the body.  `noSelfJump` and `inconsistentWaits` do not see
the reset (`…_reset`) and transfer by `RV.RolloutSM.transfer`; `reconcile_total` by `reconcile_panic_iff`; `finalizerGuard` reads the
result's cursor, see `finalizer_guard`. -/

section Transfer

theorem jumpRequested_clear {ro ro' : Rollout} (s : Sub) (f : FinStep) (h : ro'.steps = ro.steps) :
    jumpRequested ro' { s with finStep := f } = jumpRequested ro s := by
  unfold jumpRequested; rw [h]

theorem noSelfJump_reset (w : World) (r : StepResult) : noSelfJump w (resetOnExit w r) = noSelfJump w r := by
  unfold noSelfJump
  simp only [resetOnExit_roGone, resetOnExit_sub]
  cases r.w.ro.sub with
  | none => rfl
  | some s => simp only [Option.map_some]; rw [jumpRequested_clear _ _ (resetOnExit_steps w r)]

/-- `inconsistentWaits` compares the cursor, but also the phase: where the reset fires the phase has changed and the oracle is
    false before and after -/
theorem inconsistentWaits_reset (w : World) (r : StepResult) : inconsistentWaits w (resetOnExit w r) = inconsistentWaits w r := by
  cases hx : exitsProgressing w r with
  | false => rw [resetOnExit_of_not w r hx]
  | true =>
    have hne : (r.w.ro.phase == w.ro.phase) = false := by
      simp only [exitsProgressing, Bool.and_eq_true, Bool.or_eq_true, decide_eq_true_eq] at hx
      obtain ⟨h1, h2⟩ := hx
      rw [h1]; rcases h2 with h2 | h2 <;> rw [h2] <;> rfl
    unfold inconsistentWaits
    simp only [resetOnExit_br, resetOnExit_net, resetOnExit_wl, resetOnExit_phase, resetOnExit_reason, resetOnExit_requeue,
      resetOnExit_err, resetOnExit_sub]
    cases w.wl with
    | none => rfl
    | some wl => simp only [hne, Bool.and_false, Bool.false_and]

/-- **C09.ii (whole reconcile)** — for every world (rollout, workload, BatchRelease, network state, grace
    memory) that is not internally corrupted — in particular for **every** value a user can patch into
    `nextStepIndex` and `currentStepState`, every plan edit the webhook accepts, every BatchRelease
    progress report — one `Reconcile` of the Rollout controller does not crash. -/
theorem reconcile_total (w : World) (h : corrupted w = false) : reconcile w ≠ .panic := by
  rw [Ne, reconcile_panic_iff]; exact reconcile_total_core w h

/-- **C04 / C02 (whole reconcile)** — for every world: while the workload's status lags behind its spec and the Rollout is not being
    deleted, a reconcile writes nothing to the BatchRelease, the workload or the network, keeps the status cursor, the
    phase and the reason, and requeues. -/
theorem inconsistent_waits (w : World) (r : StepResult) (h : reconcile w = .val r) : inconsistentWaits w r = true :=
  transfer inconsistentWaits inconsistentWaits_reset inconsistent_waits_core w r h

/-- **C02.ii (whole reconcile)** — for every world: if the status carries no jump request before a
    reconcile (or there is no sub-status yet), it carries none afterwards.  Only a user writes a jump request. -/
theorem no_self_jump (w : World) (r : StepResult) (h : reconcile w = .val r) : noSelfJump w r = true :=
  transfer noSelfJump noSelfJump_reset no_self_jump_core w r h

/-- **C18 (Rollout, whole reconcile)** — for every world and every result of one reconcile: the Rollout
    loses its finalizer (or disappears) only while being deleted with its Terminating
    condition already saying Completed; and that condition becomes Completed only in a reconcile whose
    clean-up cursor is at END (or without sub-status).  The condition becomes Completed only in the Terminating branch —
    the old phase is Terminating, the reset (old phase Progressing) does not fire — so the cursor read here is the body's
    (`progressing_term_core`). -/
theorem finalizer_guard (w : World) (r : StepResult) (h : reconcile w = .val r) : finalizerGuard w r = true := by
  obtain ⟨r0, h0, rfl⟩ := reconcile_val h
  have hcore := finalizer_guard_core w r0 h0
  cases hx : exitsProgressing w r0 with
  | false => rw [resetOnExit_of_not w r0 hx]; exact hcore
  | true =>
    have hph : w.ro.phase = .progressing := by
      simp only [exitsProgressing, Bool.and_eq_true, decide_eq_true_eq] at hx; exact hx.1
    have hterm := progressing_term_core w r0 h0 hph
    unfold finalizerGuard at hcore ⊢
    simp only [resetOnExit_roGone, resetOnExit_hasFinalizer, resetOnExit_term, resetOnExit_sub]
    simp only [Bool.and_eq_true] at hcore ⊢
    refine ⟨hcore.1, ?_⟩
    rw [if_neg (by intro hc; exact hc.2 (hterm hc.1))]

end Transfer

end RV.Props.Reconcile
