import RV.Lemmas.TrafficXMgr
/-!
# The traffic Manager over an arbitrary lawful provider (C03, C04, C05, C06, C07)

Model: `RV/Model/TrafficX.lean` (the Manager functions of `pkg/trafficrouting/manager.go`, parametric in a
`Provider`; `CompositeController` as `seq` / `composite`).  Provider laws: `RV.TrafficX.LawfulProvider`
(`RV/Lemmas/TrafficX.lean`); they are proved for the Gateway API, the canary-Ingress and the custom (Lua)
provider from the theorems of C13 / C14 / C15 in `RV/Lemmas/TrafficXGw.lean`, `…Ig.lean`, `…Cu.lean`
(`gw_lawful`, `ig_lawful`, `cu_lawful`).

Every statement quantifies over every provider satisfying the laws, every state of its objects satisfying
its invariant, every Service state, every grace memory, every context and — unless a *healthy* API server
is asked for explicitly (`Api.ok`) — every write budget and read fault.
-/
namespace RV.Props.TrafficX
open RV.TrafficX RV.Traffic RV.Oracle.TrafficX

variable {S G : Type}

/-- Either the provider is not called — then its objects are untouched and only Service writes are issued —
    or it is called: then the context has a ref and something to route, the stable Service exists, no grace
    period is running, both Services were found in place, and the call is the provider step on the
    unchanged Services. -/
theorem doTRX_cases (ops : StratOps S) (P : Option (Provider S G)) (c : XCtx S) (a : Api) (n : XNet G) (m : Mem) :
    ((doTrafficRoutingX ops P c a n m).net.g = n.g ∧ SvcWritesOnly (doTrafficRoutingX ops P c a n m).writes ∧
      (doTrafficRoutingX ops P c a n m).panic = false ∧ (doTrafficRoutingX ops P c a n m).mem = m ∧
      (doTrafficRoutingX ops P c a n m).net.stableExists = n.stableExists ∧
      ((doTrafficRoutingX ops P c a n m).done = true →
        (c.hasRef = false ∨ isStep ops c.strategy = false) ∧ (doTrafficRoutingX ops P c a n m) = .same true false n m a) ∧
      (readFailed a (doTrafficRoutingX ops P c a n m).a = true → (doTrafficRoutingX ops P c a n m).err = true) ∧
      ((doTrafficRoutingX ops P c a n m).a.armed = true → a.armed = true)) ∨
    (c.hasRef = true ∧ isStep ops c.strategy = true ∧ n.stableExists = true ∧
      ¬ (c.lastUpdate = .fresh ∧ c.doGrace > 0) ∧ servicesInPlace c n = true ∧
      (c.noGen = true ∨ (c.stableRev ≠ "" ∧ c.canaryRev ≠ "")) ∧
      ∃ a2, readFailed a a2 = false ∧ (a2.armed = true → a.armed = true) ∧ (a.armed = false → a2 = a) ∧
        doTrafficRoutingX ops P c a n m = routeStepX P c.strategy a2 n m) := by
  by_cases hsk : c.hasRef = false ∨ isStep ops c.strategy = false
  · rw [doTRX_skip ops P c a n m hsk]
    exact .inl ⟨rfl, .nil, rfl, rfl, rfl, fun _ => ⟨hsk, rfl⟩, (.of_armed_eq rfl _ : ReadLaw a a false)⟩
  obtain ⟨href, hstep⟩ : c.hasRef = true ∧ isStep ops c.strategy = true := by simpa using hsk
  cases hr : a.read.1
  · have rl : ReadLaw a a.read.2 false := .of_armed_eq (Api.read_pass hr) _
    by_cases hq : n.stableExists = false ∨ (c.lastUpdate = .fresh ∧ c.doGrace > 0)
    · rw [doTRX_wait P n m href hstep hr hq]
      exact .inl ⟨rfl, .nil, rfl, rfl, rfl, nofun, rl⟩
    obtain ⟨hex, hw⟩ : n.stableExists = true ∧ ¬ (c.lastUpdate = .fresh ∧ c.doGrace > 0) := by simpa [not_or] using hq
    rw [doTRX_toSvc P n m href hstep hr hex hw]
    have H := svcStepX_spec c a.read.2 n
    generalize hs : svcStepX c a.read.2 n = T at H ⊢
    cases H with
    | wait => exact .inl ⟨rfl, .nil, rfl, rfl, rfl, nofun, rl⟩
    | fail _ hg hse hws rl' => exact .inl ⟨hg, hws, rfl, rfl, hse, nofun, rl.trans rl'⟩
    | @ok n2 ws a2 hg hse hin hws hnil rl' _ hrevs =>
      -- the Service part read nothing that failed either
      have rl2 : ReadLaw a a2 false := rl.trans rl'
      by_cases hwe : ws = []
      · subst hwe
        cases hnil rfl
        refine .inr ⟨href, hstep, hex, hw, hin, hrevs, a2, rl2.not_failed, rl2.2, fun ha => ?_, if_neg (not_not_intro rfl)⟩
        rw [Api.read_snd_not_armed ha, svcStepX_inPlace c a n ha hin hrevs] at hs
        injection hs with _ _ h3
        exact h3.symm
      · dsimp only
        rw [if_pos hwe]
        exact .inl ⟨hg, hws, rfl, rfl, hse, nofun, rl2⟩
  · rw [doTRX_readFail P n m href hstep hr]
    exact .inl ⟨rfl, .nil, rfl, rfl, rfl, nofun, ReadLaw.of_spent (Api.read_fail hr)⟩

/-! ## C03 — done means routed; Services before routes -/

section lawful
variable (ops : StratOps S) {P : Provider S G} {Inv : G → Prop} {spec : G → S → Prop} {clean : G → Prop}
  {μ : G → S → Nat} {bound : Nat} (hL : LawfulProvider P Inv spec clean μ bound)
include hL

/-- **C03** — for every lawful provider: when `DoTrafficRouting` reports *done* for a
    step that has something to route (a weight **or** matches), the stable Service exists, both Services are
    in place (canary Service selecting the canary revision, stable Service pinned to the stable revision —
    unless no canary Service is generated), and the provider's objects carry *this* step (`spec`); the call
    returned neither an error nor a panic. -/
theorem doneX_means_routed (c : XCtx S) (a : Api) (n : XNet G) (m : Mem) (hi : Inv n.g)
    (href : c.hasRef = true) (hs : isStep ops c.strategy = true)
    (hd : (doTrafficRoutingX ops (some P) c a n m).done = true) :
    (doTrafficRoutingX ops (some P) c a n m).net.stableExists = true ∧
    servicesInPlace c (doTrafficRoutingX ops (some P) c a n m).net = true ∧
    spec (doTrafficRoutingX ops (some P) c a n m).net.g c.strategy ∧
    (doTrafficRoutingX ops (some P) c a n m).err = false ∧ (doTrafficRoutingX ops (some P) c a n m).panic = false := by
  rcases doTRX_cases ops (some P) c a n m with ⟨_, _, _, _, _, hdone, _, _⟩ | ⟨_, _, hex, _, hin, _, a2, _, _, _, ho⟩
  · rcases (hdone hd).1 with h | h
    · rw [href] at h; cases h
    · rw [hs] at h; cases h
  · rw [ho] at hd ⊢
    obtain ⟨hp, he, hf, e⟩ := routeStepX_done hd
    rw [e]
    exact ⟨hex, hin, hL.verified_spec a2 n.g c.strategy hi hp he hf, rfl, rfl⟩

/-- the same as the decidable oracle evaluated by the driver on the implementation's output:
    `specOk` is any Boolean judgement implied by the provider's spec on the state after the call -/
theorem doneX_means_routed_oracle (c : XCtx S) (a : Api) (n : XNet G) (m : Mem) (hi : Inv n.g) (specOk : Bool)
    (hspec : spec (doTrafficRoutingX ops (some P) c a n m).net.g c.strategy → specOk = true) :
    doneMeansRoutedX c (isStep ops c.strategy) specOk (doTrafficRoutingX ops (some P) c a n m) = true := by
  unfold doneMeansRoutedX
  split
  · rename_i h
    simp only [Bool.and_eq_true] at h
    obtain ⟨⟨hd, href⟩, hs⟩ := h
    obtain ⟨h1, h2, h3, _, _⟩ := doneX_means_routed ops hL c a n m hi href hs hd
    simp [h1, h2, hspec h3]
  · rfl

/-- **C03 / C04** — a call of `DoTrafficRouting` that touches the provider (changes
    its objects or issues a provider write) found the stable Service, found both Services already in place and
    no grace period running, and does not touch the Services itself. -/
theorem servicesX_before_routes (c : XCtx S) (a : Api) (n : XNet G) (m : Mem)
    (ht : (doTrafficRoutingX ops (some P) c a n m).net.g ≠ n.g ∨
          providerTouched (doTrafficRoutingX ops (some P) c a n m).writes = true) :
    n.stableExists = true ∧ servicesInPlace c n = true ∧ ¬ (c.lastUpdate = .fresh ∧ c.doGrace > 0) ∧
    (doTrafficRoutingX ops (some P) c a n m).net.stableSel = n.stableSel ∧
    (doTrafficRoutingX ops (some P) c a n m).net.canarySvc = n.canarySvc ∧
    NamedWrites (doTrafficRoutingX ops (some P) c a n m).writes := by
  rcases doTRX_cases ops (some P) c a n m with ⟨hg, hws, _⟩ | ⟨_, _, hex, hw, hin, _, a2, _, _, _, ho⟩
  · rcases ht with h | h
    · exact absurd hg h
    · rw [hws.not_provider] at h; cases h
  · rw [ho]
    rcases routeStepX_cases P c.strategy a2 n m with ⟨_, e⟩ | ⟨_, e⟩ <;> rw [e]
    · exact ⟨hex, hin, hw, rfl, rfl, NamedWrites.nil⟩
    · exact ⟨hex, hin, hw, rfl, rfl, hL.writes_ensure a2 n.g c.strategy⟩

theorem servicesX_before_routes_oracle (c : XCtx S) (a : Api) (n : XNet G) (m : Mem) :
    servicesBeforeRoutesX c n (doTrafficRoutingX ops (some P) c a n m) = true := by
  unfold servicesBeforeRoutesX
  split
  · rename_i h
    obtain ⟨h1, h2, h3, h4, h5, h6⟩ := servicesX_before_routes ops hL c a n m (Or.inr h)
    have h3' : (c.lastUpdate == Age.fresh && decide (c.doGrace > 0)) = false := by
      cases hb : (c.lastUpdate == Age.fresh && decide (c.doGrace > 0))
      · rfl
      · simp only [Bool.and_eq_true, beq_iff_eq, decide_eq_true_eq] at hb; exact absurd hb h3
    have h6' : (doTrafficRoutingX ops (some P) c a n m).writes.all isProviderWrite = true := by
      rw [List.all_eq_true]; exact h6
    simp [h1, h2, h3', h4, h5, h6']
  · rfl

/-! ## C07.iii — a done step is a fixed point -/

/-- **C07.iii** — when `DoTrafficRouting` reports *done*, the same call made again on
    the state it left (whatever the write budget: it needs no write) reports *done* again, changes nothing
    and writes nothing; the grace memory was not touched by either call. -/
theorem doneX_is_fixed_point (c : XCtx S) (a : Api) (n : XNet G) (m : Mem) (hi : Inv n.g)
    (hd : (doTrafficRoutingX ops (some P) c a n m).done = true) (a' : Api) (ha' : a'.armed = false) :
    (doTrafficRoutingX ops (some P) c a n m).mem = m ∧
    doTrafficRoutingX ops (some P) c a' (doTrafficRoutingX ops (some P) c a n m).net m =
      .same true false (doTrafficRoutingX ops (some P) c a n m).net m a' := by
  rcases doTRX_cases ops (some P) c a n m with ⟨_, _, _, hm, _, hdone, _, _⟩ |
    ⟨href, hstep, hex, hw, hin, hrev, a2, _, _, _, ho⟩
  · obtain ⟨hc, heq⟩ := hdone hd
    rw [heq]
    exact ⟨rfl, doTRX_skip ops (some P) c a' n m hc⟩
  · rw [ho] at hd ⊢
    obtain ⟨hp, he, hf, e⟩ := routeStepX_done hd
    rw [e]
    refine ⟨rfl, ?_⟩
    -- the Services are as they were, so the second call is the provider step again, and that has nothing to do
    rw [doTRX_inPlace ops (some P) c a' { n with g := (P.ensure a2 n.g c.strategy).g } m href hstep ha' hex hw hin hrev]
    simp only [routeStepX, hL.verified_stable a2 n.g c.strategy hi hp he hf a' ha', PRes.noop, Bool.false_eq_true, if_false,
      XOut.same]

end lawful

/-- **C07.iii, strict form** — a *done* call over a provider that verifies only what it did not have to write (`hstrict`:
    shown for `nginxW`, `nginxW_strict`; the custom provider may store its annotation in a verified round) has itself changed
    nothing and written nothing. -/
theorem doneX_strict (ops : StratOps S) (P : Provider S G)
    (hstrict : ∀ a g s, (P.ensure a g s).flag = true → (P.ensure a g s).g = g ∧ (P.ensure a g s).writes = [])
    (c : XCtx S) (a : Api) (n : XNet G) (m : Mem) (hd : (doTrafficRoutingX ops (some P) c a n m).done = true) :
    (doTrafficRoutingX ops (some P) c a n m).net = n ∧ (doTrafficRoutingX ops (some P) c a n m).writes = [] := by
  rcases doTRX_cases ops (some P) c a n m with ⟨_, _, _, _, _, hdone, _⟩ | ⟨_, _, _, _, _, _, a2, _, _, _, ho⟩
  · rw [(hdone hd).2]; exact ⟨rfl, rfl⟩
  · rw [ho] at hd ⊢
    obtain ⟨_, _, hf, e⟩ := routeStepX_done hd
    obtain ⟨h1, h2⟩ := hstrict a2 n.g c.strategy hf
    rw [e, h1, h2]; exact ⟨rfl, rfl⟩

/-! ## C04 / C05 — the clean-up: order, completion, read faults -/

/-- the clean-up with a ref: the three calls in order; the first that fails or asks for a retry ends the round (never *done*), a
    provider panic is passed on as it is -/
theorem finX_cases (P : Option (Provider S G)) (c : XCtx S) (a : Api) (n : XNet G) (m : Mem) (href : c.hasRef = true) :
    let r1 := restoreStableServiceX c a n m
    let r2 := restoreGatewayX P c r1.a r1.net r1.mem
    let r3 := removeCanaryServiceX c r2.a r2.net r2.mem
    ((r1.err = true ∨ r1.done = true) ∧ finalisingTrafficRoutingX P c a n m = { r1 with done := false }) ∨
    (r1.err = false ∧ r1.done = false ∧
      ((r2.panic = true ∧ finalisingTrafficRoutingX P c a n m = r2) ∨
       (r2.panic = false ∧ (r2.err = true ∨ r2.done = true) ∧ finalisingTrafficRoutingX P c a n m =
          ⟨false, r2.err, r2.net, r2.mem, r1.touched || r2.touched, r1.recheck || r2.recheck,
            r1.writes ++ r2.writes, r2.a, false⟩) ∨
       (r2.panic = false ∧ r2.err = false ∧ r2.done = false ∧ finalisingTrafficRoutingX P c a n m =
          ⟨!(r3.err || r3.done), r3.err, r3.net, r3.mem, r1.touched || r2.touched,
            r1.recheck || r2.recheck || r3.recheck, r1.writes ++ r2.writes ++ r3.writes, r3.a, false⟩))) := by
  simp only [finalisingTrafficRoutingX, href, not_true_eq_false, if_false]
  generalize restoreStableServiceX c a n m = r1
  generalize restoreGatewayX P c r1.a r1.net r1.mem = r2
  generalize removeCanaryServiceX c r2.a r2.net r2.mem = r3
  cases e1 : r1.err
  · cases d1 : r1.done
    · refine .inr ⟨rfl, rfl, ?_⟩
      cases p2 : r2.panic
      · cases e2 : r2.err
        · cases d2 : r2.done
          · refine .inr (.inr ⟨rfl, rfl, rfl, ?_⟩)
            cases e3 : r3.err <;> cases d3 : r3.done <;> simp
          · exact .inr (.inl ⟨rfl, .inr rfl, by simp⟩)
        · exact .inr (.inl ⟨rfl, .inl rfl, by simp⟩)
      · exact .inl ⟨rfl, by simp⟩
    · exact .inl ⟨.inr rfl, by simp⟩
  · exact .inl ⟨.inl rfl, by simp⟩

section lawful
variable {P : Provider S G} {Inv : G → Prop} {spec : G → S → Prop} {clean : G → Prop}
  {μ : G → S → Nat} {bound : Nat} (hL : LawfulProvider P Inv spec clean μ bound)
include hL

theorem rg_specX (c : XCtx S) (a : Api) (n : XNet G) (m : Mem) :
    let r := restoreGatewayX (some P) c a n m
    r.net.stableSel = n.stableSel ∧ r.net.canarySvc = n.canarySvc ∧ r.net.stableExists = n.stableExists ∧
    NamedWrites r.writes ∧ (Inv n.g → Inv r.net.g) ∧
    (Inv n.g → r.panic = false → r.err = false → c.hasRef = true → clean r.net.g) ∧
    (r.panic = false → ReadLaw a r.a r.err) ∧
    (r.panic = true → r.done = false ∧ r.writes = []) ∧
    (c.graceSec ≠ 0 → r.touched = true → r.err = true ∨ r.done = true) ∧
    r.mem.restoreService = m.restoreService ∧ r.mem.removeCanaryService = m.removeCanaryService := by
  intro r
  rcases rgX_cases P c a n m with ⟨h, e⟩ | ⟨_, ⟨_, e⟩ | ⟨p, he, e⟩ | ⟨p, he, e⟩⟩ <;> rw [show r = _ from e]
  · exact ⟨rfl, rfl, rfl, .nil, id, fun _ _ _ hr => (by rw [h] at hr; cases hr), fun _ => .of_armed_eq rfl _,
      fun hp => (by cases hp), fun _ ht => (by cases ht), rfl, rfl⟩
  · exact ⟨rfl, rfl, rfl, .nil, id, fun _ hp => (by cases hp), fun hp => (by cases hp), fun _ => ⟨rfl, rfl⟩,
      fun _ ht => (by cases ht), rfl, rfl⟩
  · exact ⟨rfl, rfl, rfl, hL.writes_finalise a n.g, hL.inv_finalise a n.g, fun _ _ h => (by cases h),
      fun _ => he ▸ hL.read_fault_finalise a n.g p, fun hp => (by cases hp), fun _ _ => .inl rfl, rfl, rfl⟩
  · exact ⟨rfl, rfl, rfl, hL.writes_finalise a n.g, hL.inv_finalise a n.g, fun hi _ _ _ => hL.finalise_clean a n.g hi p he,
      fun _ => he ▸ hL.read_fault_finalise a n.g p, fun hp => (by cases hp),
      fun hg ht => .inr (by simp [runGrace, hg, show (P.finalise a n.g).flag = true from ht]), rfl, rfl⟩

theorem finalisingX_shape (c : XCtx S) (a : Api) (n : XNet G) (m : Mem) (hi : Inv n.g) (href : c.hasRef = true) :
    ∃ (w1 w2 w3 : List String),
      (finalisingTrafficRoutingX (some P) c a n m).writes = w1 ++ w2 ++ w3 ∧
      (w1 = [] ∨ w1 = ["unpinStable"]) ∧ NamedWrites w2 ∧ (w3 = [] ∨ w3 = ["deleteCanarySvc"]) ∧
      Inv (finalisingTrafficRoutingX (some P) c a n m).net.g ∧
      -- the canary Service is removed only after the provider was finalised without error in this very call
      (w3 = ["deleteCanarySvc"] → clean (finalisingTrafficRoutingX (some P) c a n m).net.g) ∧
      -- done: un-pinned (the revision label key being known), clean, canary Service gone
      ((finalisingTrafficRoutingX (some P) c a n m).done = true →
        clean (finalisingTrafficRoutingX (some P) c a n m).net.g ∧
        (c.noGen = true ∨ (finalisingTrafficRoutingX (some P) c a n m).net.canarySvc = none) ∧
        (c.hasRevKey = true → unpinned (finalisingTrafficRoutingX (some P) c a n m).net = true) ∧
        (finalisingTrafficRoutingX (some P) c a n m).err = false) ∧
      -- a failed read is reported
      ((finalisingTrafficRoutingX (some P) c a n m).panic = false →
        readFailed a (finalisingTrafficRoutingX (some P) c a n m).a = true →
        (finalisingTrafficRoutingX (some P) c a n m).err = true) := by
  obtain ⟨a1, _, _, aw, _, arl, aun, _, _⟩ := rs_specX c a n m
  have hcases := finX_cases (some P) c a n m href
  dsimp only at hcases
  generalize restoreStableServiceX c a n m = r1 at *
  have hi1 : Inv r1.net.g := a1 ▸ hi
  obtain ⟨b1, _, b3, bw, binv, bcl, brl, bpan, _⟩ := rg_specX hL c r1.a r1.net r1.mem
  generalize restoreGatewayX (some P) c r1.a r1.net r1.mem = r2 at *
  have hi2 : Inv r2.net.g := binv hi1
  obtain ⟨c1, c2, c3, cw, _, carm, cgone⟩ := rc_specX c r2.a r2.net r2.mem
  generalize removeCanaryServiceX c r2.a r2.net r2.mem = r3 at *
  rcases hcases with ⟨_, e⟩ | ⟨e1, _, ⟨p2, e⟩ | ⟨p2, _, e⟩ | ⟨p2, e2, _, e⟩⟩ <;> rw [e]
  · exact ⟨r1.writes, [], [], by simp, aw, .nil, .inl rfl, hi1, fun h => (by cases h), fun h => (by cases h),
      fun _ => arl.1⟩
  · exact ⟨[], r2.writes, [], by simp, .inl rfl, bw, .inl rfl, hi2, fun h => (by cases h),
      fun hd => (by rw [(bpan p2).1] at hd; cases hd), fun hp => (by rw [p2] at hp; cases hp)⟩
  · exact ⟨r1.writes, r2.writes, [], by simp, aw, bw, .inl rfl, hi2, fun h => (by cases h), fun h => (by cases h),
      fun _ => ((e1 ▸ arl : ReadLaw a r1.a false).trans (brl p2)).1⟩
  · have rl : ReadLaw a r3.a r3.err :=
      ((e1 ▸ arl : ReadLaw a r1.a false).trans (e2 ▸ brl p2 : ReadLaw r1.a r2.a false)).trans (.of_armed_eq carm _)
    have hcl3 : clean r3.net.g := c1 ▸ bcl hi1 p2 e2 href
    refine ⟨r1.writes, r2.writes, r3.writes, rfl, aw, bw, cw, c1 ▸ hi2, fun _ => hcl3, fun hd => ?_, fun _ => rl.1⟩
    have e3 : r3.err = false := by
      cases h : r3.err
      · rfl
      · simp [h] at hd
    refine ⟨hcl3, ?_, fun hk => ?_, e3⟩
    · cases hng : c.noGen
      · exact .inr (cgone e3 href hng)
      · exact .inl rfl
    · have := aun e1 href hk
      simp only [unpinned] at this ⊢
      rw [c2, c3, b1, b3]; exact this

/-- **C04 / C05 (partial: outside known finding `noRevKey`)** — for every lawful provider:
    `FinalisingTrafficRouting` un-pins the stable Service first, finalises the provider next and removes the
    canary Service last, never in another order; the canary Service is removed only by a call that left the
    provider's objects clean; *done* means un-pinned ∧ clean ∧ canary Service gone (`finalise-restores`).
    Hypothesis: the revision label key is known (see `finalisingX_order_full_FALSE`). -/
theorem finalisingX_order_partial (c : XCtx S) (a : Api) (n : XNet G) (m : Mem) (hi : Inv n.g)
    (hk : c.hasRevKey = true) (cleanAfter : Bool)
    (hclean : clean (finalisingTrafficRoutingX (some P) c a n m).net.g → cleanAfter = true) :
    finalisingOrderX c cleanAfter (finalisingTrafficRoutingX (some P) c a n m) = true := by
  by_cases href : c.hasRef = true
  · obtain ⟨w1, w2, w3, hw, h1, h2, h3, _, hdel, hdone, _⟩ := finalisingX_shape hL c a n m hi href
    unfold finalisingOrderX
    have hph : phasesOrdered (finalisingTrafficRoutingX (some P) c a n m).writes 0 = true := by
      rw [hw]; exact phasesOrdered_fin w1 w2 w3 h1 h2 h3
    have hdelB : (if (finalisingTrafficRoutingX (some P) c a n m).writes.contains "deleteCanarySvc" = true
        then cleanAfter else true) = true := by
      split
      · rename_i hc
        rcases h3 with e | e
        · exfalso
          have n2 := not_mem_delete_of_named h2
          rw [hw, e] at hc
          rcases h1 with e1 | e1 <;> simp [e1, n2] at hc
        · exact hclean (hdel e)
      · rfl
    rw [hph, hdelB]
    simp only [Bool.true_and]
    split
    · rename_i hd
      simp only [Bool.and_eq_true] at hd
      obtain ⟨hcl, hcs, hun, _⟩ := hdone hd.1
      rw [hclean hcl, hun hk]
      rcases hcs with e | e
      · simp [e]
      · simp [e]
    · rfl
  · have href' : c.hasRef = false := by simpa using href
    unfold finalisingOrderX finalisingTrafficRoutingX
    simp [href', phasesOrdered]

/-- **C05 / C06 (a failed read is reported, clean-up)** — a `FinalisingTrafficRouting` call in which some `Get`
    failed with an error other than NotFound returns that error: it is never *done*, so the caller's clean-up
    cursor cannot advance past an object that could not be read. -/
theorem read_fault_reported_finalising (c : XCtx S) (a : Api) (n : XNet G) (m : Mem) (hi : Inv n.g)
    (hp : (finalisingTrafficRoutingX (some P) c a n m).panic = false)
    (hr : readFailed a (finalisingTrafficRoutingX (some P) c a n m).a = true) :
    (finalisingTrafficRoutingX (some P) c a n m).err = true ∧
    (finalisingTrafficRoutingX (some P) c a n m).done = false := by
  by_cases href : c.hasRef = true
  · obtain ⟨_, _, _, _, _, _, _, _, _, hdone, hrf⟩ := finalisingX_shape hL c a n m hi href
    have he := hrf hp hr
    refine ⟨he, ?_⟩
    cases hd : (finalisingTrafficRoutingX (some P) c a n m).done
    · rfl
    · have := (hdone hd).2.2.2; rw [he] at this; cases this
  · have href' : c.hasRef = false := by simpa using href
    unfold finalisingTrafficRoutingX at hr
    simp [href', readFailed_self] at hr

/-- the same for the individual clean-up calls the Rollout controller makes one by one -/
theorem read_fault_reported_tasks (c : XCtx S) (a : Api) (n : XNet G) (m : Mem) :
    (readFailed a (restoreStableServiceX c a n m).a = true → (restoreStableServiceX c a n m).err = true) ∧
    ((restoreGatewayX (some P) c a n m).panic = false → readFailed a (restoreGatewayX (some P) c a n m).a = true →
      (restoreGatewayX (some P) c a n m).err = true) ∧
    (readFailed a (removeCanaryServiceX c a n m).a = false) := by
  obtain ⟨_, _, _, _, _, arl, _⟩ := rs_specX c a n m
  obtain ⟨_, _, _, _, _, _, brl, _⟩ := rg_specX hL c a n m
  obtain ⟨_, _, _, _, _, carm, _⟩ := rc_specX c a n m
  exact ⟨arl.1, fun hp => (brl hp).1, readFailed_of_armed_eq carm⟩

/-- **C04 / C05** — for every lawful provider and every non-zero grace period:
    a `FinalisingTrafficRouting` call that un-pins the stable Service issues no other write, and a call that
    reports a modification (of the stable Service or of a provider object) does not remove the canary Service:
    the phases of the clean-up are separated by the grace period. (With grace 0 all three phases may run in one
    call — `grace0_runs_through` below.) -/
theorem finalisingX_grace_separates (c : XCtx S) (a : Api) (n : XNet G) (m : Mem) :
    graceSeparatesX c (finalisingTrafficRoutingX (some P) c a n m) = true := by
  unfold graceSeparatesX
  by_cases hg : c.graceSec = 0
  · simp [hg]
  have hg' : (c.graceSec == 0) = false := by simpa using hg
  rw [hg', Bool.false_or]
  cases href : c.hasRef
  · simp [finalisingTrafficRoutingX, href]
  obtain ⟨_, _, _, aw, _, _, _, aq, as⟩ := rs_specX c a n m
  have hcases := finX_cases (some P) c a n m href
  dsimp only at hcases
  generalize restoreStableServiceX c a n m = r1 at *
  obtain ⟨_, _, _, bw, _, _, _, bpan, bs, _⟩ := rg_specX hL c r1.a r1.net r1.mem
  generalize restoreGatewayX (some P) c r1.a r1.net r1.mem = r2 at *
  obtain ⟨_, _, _, cw, _⟩ := rc_specX c r2.a r2.net r2.mem
  generalize removeCanaryServiceX c r2.a r2.net r2.mem = r3 at *
  -- a call that goes on after `RestoreStableService` / `RestoreGateway` found nothing to modify there
  have quiet : ∀ {r : XOut G}, (r.touched = true → r.err = true ∨ r.done = true) → r.err = false → r.done = false →
      r.touched = false := by
    intro r h e d
    cases ht : r.touched
    · rfl
    · rcases h ht with h | h
      · rw [e] at h; cases h
      · rw [d] at h; cases h
  have nd2 := not_mem_delete_of_named bw
  have nu2 : ¬ "unpinStable" ∈ r2.writes := fun h => by have := bw _ h; revert this; decide
  rcases hcases with ⟨_, e⟩ | ⟨e1, d1, ⟨p2, e⟩ | ⟨_, _, e⟩ | ⟨_, e2, d2, e⟩⟩ <;> rw [e]
  · rcases aw with w | w <;> simp [w]
  · simp [(bpan p2).2]
  · simp [aq (quiet (as hg) e1 d1), nu2, nd2]
  · have nu3 : ¬ "unpinStable" ∈ r3.writes := by rcases cw with w | w <;> rw [w] <;> decide
    simp [aq (quiet (as hg) e1 d1), quiet (as hg) e1 d1, quiet (bs hg) e2 d2, nu2, nu3]

end lawful

/-- a step with neither a weight nor matches is done at once: nothing is read, nothing written, nothing changed -/
theorem empty_step_is_done (ops : StratOps S) (P : Option (Provider S G)) (c : XCtx S) (a : Api) (n : XNet G) (m : Mem)
    (hs : isStep ops c.strategy = false) :
    doTrafficRoutingX ops P c a n m = .same true false n m a := by
  exact doTRX_skip ops P c a n m (.inr hs)

/-- a step of the real strategy type that carries matches but no weight has something to route: it is not
    skipped (with `doneX_means_routed`: *done* then means that the provider's objects carry the matches) -/
theorem match_step_is_a_step (s : Strat) (hm : s.mts ≠ []) : isStep stratOps s = true := by
  cases h : s.mts with
  | nil => exact absurd h hm
  | cons x xs => simp [isStep, stratOps, h]

/-- … and the provider is consulted with exactly this strategy as soon as the Services are in place -/
theorem match_step_reaches_provider (P : Provider Strat G) (c : XCtx Strat) (n : XNet G) (m : Mem)
    (href : c.hasRef = true) (hm : c.strategy.mts ≠ []) (hex : n.stableExists = true)
    (hw : ¬ (c.lastUpdate = .fresh ∧ c.doGrace > 0)) (hin : servicesInPlace c n = true)
    (hrev : c.noGen = true ∨ (c.stableRev ≠ "" ∧ c.canaryRev ≠ "")) :
    doTrafficRoutingX stratOps (some P) c Api.ok n m = routeStepX (some P) c.strategy Api.ok n m := by
  exact doTRX_inPlace stratOps (some P) c Api.ok n m href (match_step_is_a_step c.strategy hm) rfl hex hw hin hrev

/-- The full-strength statement (without `hasRevKey`) is FALSE on the unchanged code, whatever the provider:
    with an empty revision label key `RestoreStableService` finds nothing to remove and the whole clean-up
    reports *done* while the stable Service is still pinned (known finding `noRevKey`, as for the nginx-only model:
    `RV.Props.Traffic.finalising_order_full_FALSE`).  Witness with the trivially lawful provider `idle`. -/
theorem finalisingX_order_full_FALSE :
    ∃ (c : XCtx Unit) (n : XNet Unit) (m : Mem), c.hasRevKey = false ∧
      finalisingOrderX c true (finalisingTrafficRoutingX (some idle) c Api.ok n m) = false := by
  refine ⟨{ hasRef := true, grace := 0, strategy := (), disableGen := false, stableRev := "v1", canaryRev := "v2",
            lastUpdate := .none, hasRevKey := false },
          { stableExists := true, stableSel := some "v1", canarySvc := some "v2", g := () }, Mem.empty, rfl, by decide +kernel⟩

/-- `finalisingX_grace_separates` is not vacuous, and its hypothesis "non-zero grace" is needed: with an explicit
    `gracePeriodSeconds: 0` one call runs through all phases (un-pin, finalise, delete) and reports *done* … -/
theorem grace0_runs_through :
    ∃ (c : XCtx Unit) (n : XNet Unit) (m : Mem), c.graceSec = 0 ∧
      (finalisingTrafficRoutingX (some idle) c Api.ok n m).writes = ["unpinStable", "deleteCanarySvc"] ∧
      (finalisingTrafficRoutingX (some idle) c Api.ok n m).done = true := by
  refine ⟨{ hasRef := true, grace := 0, strategy := (), disableGen := false, stableRev := "v1", canaryRev := "v2",
            lastUpdate := .none, hasRevKey := true },
          { stableExists := true, stableSel := some "v1", canarySvc := some "v2", g := () }, Mem.empty,
          by decide +kernel, by decide +kernel, by decide +kernel⟩

/-- … while with one second of grace the same call stops after the un-pin -/
theorem grace1_stops_after_unpin :
    ∃ (c : XCtx Unit) (n : XNet Unit) (m : Mem), c.graceSec = 1 ∧
      (finalisingTrafficRoutingX (some idle) c Api.ok n m).writes = ["unpinStable"] ∧
      (finalisingTrafficRoutingX (some idle) c Api.ok n m).done = false := by
  refine ⟨{ hasRef := true, grace := 1, strategy := (), disableGen := false, stableRev := "v1", canaryRev := "v2",
            lastUpdate := .none, hasRevKey := true },
          { stableExists := true, stableSel := some "v1", canarySvc := some "v2", g := () }, Mem.empty,
          by decide +kernel, by decide +kernel, by decide +kernel⟩

/-! ## a stable Service without `spec.selector` (fixed finding `selectorlessStable`) -/

/-- with a selector on the stable Service `doTrafficRoutingB` is `doTrafficRoutingX`: every theorem of this file
    about `doTrafficRoutingX` is a theorem about `DoTrafficRouting` under the hypothesis "the stable Service
    carries a selector" -/
theorem doTRB_of_selector (ops : StratOps S) (P : Option (Provider S G)) (c : XCtx S) (a : Api) (n : XNet G) (m : Mem) :
    doTrafficRoutingB ops P c a n m false = doTrafficRoutingX ops P c a n m := by
  simp [doTrafficRoutingB, refusesBare]

/-- … and so it is whenever the call does not get as far as generating the canary Service from a selector-less
    stable Service -/
theorem doTRB_outside_refusal (ops : StratOps S) (P : Option (Provider S G)) (c : XCtx S) (a : Api) (n : XNet G) (m : Mem)
    (bare : Bool) (hg : refusesBare ops c a n bare = false) :
    doTrafficRoutingB ops P c a n m bare = doTrafficRoutingX ops P c a n m := by
  simp [doTrafficRoutingB, hg]

/-- **C09 / C03 (full strength)** — with a provider whose `EnsureRoutes` does not panic,
    `DoTrafficRouting` does not panic: for **every** state of the Services — a stable Service without any selector
    included —, every context, every write budget and read fault.
    (Before rollouts commit bc46e20 this held only outside the region `refusesBare`, where
    `createCanaryService` assigned into the nil selector map: fixed finding `selectorlessStable`.) -/
theorem no_panicB (ops : StratOps S) (P : Provider S G) (hP : ∀ a g s, (P.ensure a g s).panic = false)
    (c : XCtx S) (a : Api) (n : XNet G) (m : Mem) (bare : Bool) :
    (doTrafficRoutingB ops (some P) c a n m bare).panic = false := by
  cases hg : refusesBare ops c a n bare
  · rw [doTRB_outside_refusal ops (some P) c a n m bare hg]
    rcases doTRX_cases ops (some P) c a n m with ⟨_, _, hp, _⟩ | ⟨_, _, _, _, _, _, a2, _, _, _, he⟩
    · exact hp
    · rw [he]
      rcases routeStepX_cases P c.strategy a2 n m with ⟨hp, _⟩ | ⟨_, e⟩
      · rw [hP] at hp; cases hp
      · rw [e]
  · simp [doTrafficRoutingB, hg, XOut.same]

/-- **C03 / C09** — where the call would have to generate the canary Service from a stable
    Service without selector, it **returns an error** and leaves everything as it was: no write, Services, provider
    objects, expectations and `LastUpdateTime` unchanged, no read reported as failed, no panic, not *done*.  The
    user sees the error on every reconcile until the Service gets a selector (or a canary Service exists);
    nothing is rewritten silently.  Whatever the provider (`P = none` included). -/
theorem selectorless_refused (ops : StratOps S) (P : Option (Provider S G)) (c : XCtx S) (a : Api) (n : XNet G)
    (m : Mem) (hg : refusesBare ops c a n true = true) :
    (doTrafficRoutingB ops P c a n m true).err = true ∧ (doTrafficRoutingB ops P c a n m true).done = false ∧
    (doTrafficRoutingB ops P c a n m true).panic = false ∧
    (doTrafficRoutingB ops P c a n m true).net = n ∧ (doTrafficRoutingB ops P c a n m true).mem = m ∧
    (doTrafficRoutingB ops P c a n m true).writes = [] ∧ (doTrafficRoutingB ops P c a n m true).touched = false ∧
    readFailed a (doTrafficRoutingB ops P c a n m true).a = false := by
  have hr : a.read.1 = false ∧ a.read.2.read.1 = false := by
    simp only [refusesBare, Bool.and_eq_true, Bool.not_eq_true'] at hg
    exact ⟨hg.1.1.1.1.1.1.1.1.2, hg.1.1.2⟩
  have e : doTrafficRoutingB ops P c a n m true = .same false true n m a.read.2.read.2 := by
    simp [doTrafficRoutingB, hg]
  rw [e]
  exact ⟨rfl, rfl, rfl, rfl, rfl, rfl, rfl, readFailed_two_reads a hr.1 hr.2⟩

/-- the same as the decidable oracle the driver evaluates on the implementation's output -/
theorem selectorless_refused_oracle (ops : StratOps S) (P : Option (Provider S G)) (c : XCtx S) (a : Api) (n : XNet G)
    (m : Mem) (hg : refusesBare ops c a n true = true) :
    selectorlessRefusedX true m (doTrafficRoutingB ops P c a n m true) = true := by
  obtain ⟨he, hd, _, _, hm, hw, ht, _⟩ := selectorless_refused ops P c a n m hg
  simp [selectorlessRefusedX, he, hd, hw, ht, hm, memSame_refl]

/-- `selectorless_refused` is not vacuous: a stable Service without selector, a first weight step — the call is
    in the region and returns the error, having written nothing (test on a literal) -/
theorem selectorless_refused_witness :
    ∃ (c : XCtx Strat) (n : XNet Unit) (m : Mem), refusesBare stratOps c Api.ok n true = true ∧
      (doTrafficRoutingB stratOps (some idle) c Api.ok n m true).err = true ∧
      (doTrafficRoutingB stratOps (some idle) c Api.ok n m true).panic = false ∧
      (doTrafficRoutingB stratOps (some idle) c Api.ok n m true).writes = [] := by
  refine ⟨{ hasRef := true, grace := 3, strategy := { traffic := some "20%", mts := [], rhm := none },
            disableGen := false, stableRev := "v1", canaryRev := "v2", lastUpdate := .none },
          { stableExists := true, stableSel := none, canarySvc := none, g := () }, Mem.empty,
          by decide +kernel, by decide +kernel, by decide +kernel, by decide +kernel⟩

/-- **C03** — *done* is never reported by a refused call: a `DoTrafficRouting` that reports *done* over a possibly
    selector-less stable Service is a `doTrafficRoutingX` call that reports *done*, so `doneX_means_routed` applies
    as it stands. -/
theorem doneB_is_doneX (ops : StratOps S) (P : Option (Provider S G)) (c : XCtx S) (a : Api) (n : XNet G) (m : Mem)
    (bare : Bool) (hd : (doTrafficRoutingB ops P c a n m bare).done = true) :
    doTrafficRoutingB ops P c a n m bare = doTrafficRoutingX ops P c a n m := by
  cases hg : refusesBare ops c a n bare
  · exact doTRB_outside_refusal ops P c a n m bare hg
  · simp [doTrafficRoutingB, hg, XOut.same] at hd

/-- the refusal concerns the creation of the canary Service only: it needs a selector-less stable Service that is not
    pinned, no canary Service yet, and a context that generates one.  (The other Manager calls do not read the selector
    map: `PatchStableService` / `RestoreStableService` send a strategic-merge patch built from a string, which the API
    server applies to a nil selector as well — suite state `stableBare`.) -/
theorem selectorless_only_create (ops : StratOps S) (c : XCtx S) (a : Api) (n : XNet G) (bare : Bool)
    (h : refusesBare ops c a n bare = true) :
    bare = true ∧ n.canarySvc = none ∧ n.stableSel = none ∧ c.noGen = false := by
  simp only [refusesBare, Bool.and_eq_true, Bool.not_eq_true', Option.isNone_iff_eq_none] at h
  obtain ⟨⟨⟨⟨⟨⟨⟨⟨⟨⟨⟨hb, _⟩, _⟩, _⟩, _⟩, _⟩, hn⟩, _⟩, _⟩, _⟩, hc⟩, hs⟩ := h
  exact ⟨hb, hc, hs, hn⟩

/-! ## a provider that cannot be built (`newNetworkProvider` returns an error)

A Gateway API ref without a canary Service of its own (fixed finding `sameServiceGateway`), an Ingress class
without Lua script, a ref without any provider: every Manager call that needs the provider returns the error,
and **no provider object is read or written**. -/

theorem refused_restoreGateway (c : XCtx S) (a : Api) (n : XNet G) (m : Mem) :
    restoreGatewayX (none : Option (Provider S G)) c a n m = .same false c.hasRef n m a := by
  unfold restoreGatewayX
  by_cases href : c.hasRef = true
  · simp [href]
  · have : c.hasRef = false := by simpa using href
    simp [this]

theorem refused_routeAll (ops : StratOps S) (c : XCtx S) (a : Api) (n : XNet G) (m : Mem) :
    routeAllToNewX ops (none : Option (Provider S G)) c a n m = .same false c.hasRef n m a := by
  unfold routeAllToNewX
  by_cases href : c.hasRef = true
  · simp [href]
  · have : c.hasRef = false := by simpa using href
    simp [this]

/-- `DoTrafficRouting` without provider: the provider's objects are untouched, no provider write, no panic;
    *done* only when there is nothing to route -/
theorem refused_doTR (ops : StratOps S) (c : XCtx S) (a : Api) (n : XNet G) (m : Mem) (bare : Bool) :
    (doTrafficRoutingB ops (none : Option (Provider S G)) c a n m bare).net.g = n.g ∧
    providerTouched (doTrafficRoutingB ops (none : Option (Provider S G)) c a n m bare).writes = false ∧
    (doTrafficRoutingB ops (none : Option (Provider S G)) c a n m bare).panic = false ∧
    ((doTrafficRoutingB ops (none : Option (Provider S G)) c a n m bare).done = true →
      c.hasRef = false ∨ isStep ops c.strategy = false) := by
  cases hg : refusesBare ops c a n bare
  · rw [doTRB_outside_refusal ops none c a n m bare hg]
    rcases doTRX_cases ops (none : Option (Provider S G)) c a n m with
      ⟨h1, h2, h3, _, _, h6, _, _⟩ | ⟨_, _, _, _, _, _, a2, _, _, _, he⟩
    · exact ⟨h1, h2.not_provider, h3, fun hd => (h6 hd).1⟩
    · rw [he]
      exact ⟨rfl, rfl, rfl, fun hd => by cases hd⟩
  · have e : doTrafficRoutingB ops (none : Option (Provider S G)) c a n m bare = .same false true n m a.read.2.read.2 := by
      simp [doTrafficRoutingB, hg]
    rw [e]
    exact ⟨rfl, rfl, rfl, fun hd => by cases hd⟩

/-- `FinalisingTrafficRouting` without provider: at most the stable Service is un-pinned; the provider's objects
    and the canary Service are left alone; no panic; never *done* -/
theorem refused_finalising (c : XCtx S) (a : Api) (n : XNet G) (m : Mem) :
    (finalisingTrafficRoutingX (none : Option (Provider S G)) c a n m).net.g = n.g ∧
    (finalisingTrafficRoutingX (none : Option (Provider S G)) c a n m).net.canarySvc = n.canarySvc ∧
    ((finalisingTrafficRoutingX (none : Option (Provider S G)) c a n m).writes = [] ∨
      (finalisingTrafficRoutingX (none : Option (Provider S G)) c a n m).writes = ["unpinStable"]) ∧
    (finalisingTrafficRoutingX (none : Option (Provider S G)) c a n m).panic = false ∧
    (c.hasRef = true → (finalisingTrafficRoutingX (none : Option (Provider S G)) c a n m).done = false) := by
  obtain ⟨hg, hc, _, hw, hp, _⟩ := rs_specX c a n m
  unfold finalisingTrafficRoutingX
  by_cases href : c.hasRef = true
  · simp only [href, not_true_eq_false, if_false]
    by_cases h1 : (restoreStableServiceX c a n m).err = true ∨ (restoreStableServiceX c a n m).done = true
    · simp only [h1, if_true]
      exact ⟨hg, hc, hw, hp, fun _ => trivial⟩
    · simp only [h1, if_false, refused_restoreGateway, href, XOut.same, Bool.false_eq_true, true_or, if_true,
        List.append_nil]
      exact ⟨hg, hc, hw, trivial, fun _ => trivial⟩
  · have : c.hasRef = false := by simpa using href
    simp [this]

/-- **C05 / C07** — the decidable oracle the driver evaluates on the implementation's output
    in the region of a refused configuration holds of every Manager call without provider -/
theorem refused_untouched (ops : StratOps S) (c : XCtx S) (a : Api) (n : XNet G) (m : Mem) (bare : Bool) :
    refusedX "doTrafficRouting" c (isStep ops c.strategy) true
      (doTrafficRoutingB ops (none : Option (Provider S G)) c a n m bare) = true ∧
    refusedX "finalisingTrafficRouting" c (isStep ops c.strategy) true
      (finalisingTrafficRoutingX (none : Option (Provider S G)) c a n m) = true ∧
    refusedX "restoreGateway" c (isStep ops c.strategy) true (restoreGatewayX (none : Option (Provider S G)) c a n m) = true ∧
    refusedX "routeAllToNew" c (isStep ops c.strategy) true
      (routeAllToNewX ops (none : Option (Provider S G)) c a n m) = true := by
  refine ⟨?_, ?_, ?_, ?_⟩
  · obtain ⟨_, hw, _, hd⟩ := refused_doTR ops c a n m bare
    simp only [refusedX, hw, Bool.not_false, Bool.true_and]
    cases hdd : (doTrafficRoutingB ops (none : Option (Provider S G)) c a n m bare).done
    · simp
    · rcases hd hdd with h | h <;> simp [h]
  · obtain ⟨_, _, hw, _, hd⟩ := refused_finalising (G := G) c a n m
    have hpt : providerTouched (finalisingTrafficRoutingX (none : Option (Provider S G)) c a n m).writes = false := by
      rcases hw with h | h <;> rw [h] <;> decide
    simp only [refusedX, hpt, Bool.not_false, Bool.true_and]
    by_cases href : c.hasRef = true
    · simp [hd href]
    · have : c.hasRef = false := by simpa using href
      simp [this]
  · rw [refused_restoreGateway]
    cases h : c.hasRef <;> simp [refusedX, XOut.same, providerTouched, h]
  · rw [refused_routeAll]
    cases h : c.hasRef <;> simp [refusedX, XOut.same, providerTouched, h]

/-- **C07** — a configuration whose provider cannot be built is reported to the caller, not
    retried silently: on a healthy API server, with the stable Service present, the revisions known and no grace
    period running, `DoTrafficRouting` for a step that has something to route returns the error in this round
    when the Services are in place (always so when no canary Service is generated), and otherwise in the next
    round, after the round that put the Services in place. -/
theorem refused_is_reported (ops : StratOps S) (c : XCtx S) (n : XNet G) (m : Mem) (href : c.hasRef = true)
    (hstep : isStep ops c.strategy = true) (hex : n.stableExists = true)
    (hw : ¬ (c.lastUpdate = .fresh ∧ c.doGrace > 0))
    (hrev : c.noGen = true ∨ (c.stableRev ≠ "" ∧ c.canaryRev ≠ "")) :
    (servicesInPlace c n = true → (doTrafficRoutingX ops (none : Option (Provider S G)) c Api.ok n m).err = true) ∧
    (servicesInPlace c n = false →
      (doTrafficRoutingX ops (none : Option (Provider S G)) c Api.ok
        (doTrafficRoutingX ops (none : Option (Provider S G)) c Api.ok n m).net m).err = true) := by
  constructor
  · intro hin
    rw [doTRX_inPlace ops none c Api.ok n m href hstep rfl hex hw hin hrev]
    rfl
  · intro hnin
    obtain ⟨n2, ws, hs, hin2, _, hse, hnil⟩ := svcStepX_healthy c n hrev
    have hws : ws ≠ [] := by
      intro h; have := hnil h; subst this; rw [hin2] at hnin; cases hnin
    rw [doTRX_svcRound none m href hstep rfl hex hw hs hws, doTRX_inPlace ops none c Api.ok n2 m href hstep rfl (by rw [hse]; exact hex) hw hin2 hrev]
    rfl

/-! ## composite: all or nothing -/

section composite
variable (p q : Provider S G)

/-- **part (1) of `composite_all_or_nothing` (EnsureRoutes, verdict)** — a composite that returned neither an error nor a
    panic reports *verified* exactly when every member does (each on the objects its predecessors left). -/
theorem seq_verified_iff (a : Api) (g : G) (s : S) (hp : ((seq p q).ensure a g s).panic = false)
    (he : ((seq p q).ensure a g s).err = false) :
    ((seq p q).ensure a g s).flag = true ↔
      ((p.ensure a g s).flag = true ∧ (q.ensure (p.ensure a g s).a (p.ensure a g s).g s).flag = true) := by
  obtain ⟨_, _, _, _, e⟩ := seq_ensure_ok hp he
  rw [e]
  simp only [Bool.and_eq_true]

/-- **part (2) of `composite_all_or_nothing` (EnsureRoutes, error)** — an error of a member ends the round: the members
    after it are not called in that call (the result is the failing member's own result). -/
theorem seq_error_stops (a : Api) (g : G) (s : S) (hp : (p.ensure a g s).panic = false)
    (he : (p.ensure a g s).err = true) :
    (seq p q).ensure a g s = { p.ensure a g s with flag := false } := by
  simp [seq, hp, he]

/-- **part (3) of `composite_all_or_nothing` (EnsureRoutes, not verified)** — a member that is merely *not verified* does not
    end the round: the remaining members are still called, on the objects it left. -/
theorem seq_unverified_continues (a : Api) (g : G) (s : S) (hp : (p.ensure a g s).panic = false)
    (he : (p.ensure a g s).err = false) :
    ((seq p q).ensure a g s).g = (q.ensure (p.ensure a g s).a (p.ensure a g s).g s).g ∧
    ((seq p q).ensure a g s).writes = (p.ensure a g s).writes ++ (q.ensure (p.ensure a g s).a (p.ensure a g s).g s).writes := by
  rcases seq_ensure_cases p q a g s with ⟨p1, _⟩ | ⟨_, e1, _⟩ | ⟨_, _, e⟩
  · rw [hp] at p1; cases p1
  · rw [he] at e1; cases e1
  · rw [e]; exact ⟨rfl, rfl⟩

/-- **part (4) of `composite_all_or_nothing` (Finalise)** — an error of a member is collected and the remaining members are
    finalised all the same; the error is returned at the end; `modified` is set by the members that did not fail. -/
theorem seq_finalise_continues (a : Api) (g : G) (hp : (p.finalise a g).panic = false)
    (hq : (q.finalise (p.finalise a g).a (p.finalise a g).g).panic = false) :
    ((seq p q).finalise a g).g = (q.finalise (p.finalise a g).a (p.finalise a g).g).g ∧
    ((seq p q).finalise a g).err = ((p.finalise a g).err || (q.finalise (p.finalise a g).a (p.finalise a g).g).err) ∧
    ((seq p q).finalise a g).flag =
      ((!(p.finalise a g).err && (p.finalise a g).flag) || (q.finalise (p.finalise a g).a (p.finalise a g).g).flag) ∧
    ((seq p q).finalise a g).writes =
      (p.finalise a g).writes ++ (q.finalise (p.finalise a g).a (p.finalise a g).g).writes := by
  simp [seq, hp, hq]

end composite

/-- every member verified, each on the objects (and API health) its predecessors left -/
def allVerified : List (Provider S G) → Api → G → S → Prop
  | [], _, _, _ => True
  | p :: ps, a, g, s => (p.ensure a g s).flag = true ∧ allVerified ps (p.ensure a g s).a (p.ensure a g s).g s

/-- part (1) of `composite_all_or_nothing` for a `CompositeController` of any length -/
theorem composite_verified_iff (ps : List (Provider S G)) (a : Api) (g : G) (s : S)
    (hp : ((composite ps).ensure a g s).panic = false) (he : ((composite ps).ensure a g s).err = false) :
    ((composite ps).ensure a g s).flag = true ↔ allVerified ps a g s := by
  induction ps generalizing a g with
  | nil => simp [composite, idle, allVerified]
  | cons p ps ih =>
    obtain ⟨_, _, hp2, he2, _⟩ := seq_ensure_ok hp he
    rw [show composite (p :: ps) = seq p (composite ps) from rfl, seq_verified_iff p (composite ps) a g s hp he]
    simp only [allVerified]
    rw [ih _ _ hp2 he2]

/-- `CompositeController` of any members `ps` after a member `p`:
    (1) without error / panic the composite is *verified* iff every member is;
    (2) an error of `p` ends `EnsureRoutes`: the members after it are not called in that call;
    (3) a `p` that is merely not verified does not: they are still called, on what `p` left;
    (4) `Finalise` goes on after an error of `p`, finalises the remaining members and returns the error at the end. -/
theorem composite_all_or_nothing (p : Provider S G) (ps : List (Provider S G)) (a : Api) (g : G) (s : S) :
    (((composite (p :: ps)).ensure a g s).panic = false → ((composite (p :: ps)).ensure a g s).err = false →
      (((composite (p :: ps)).ensure a g s).flag = true ↔ allVerified (p :: ps) a g s)) ∧
    ((p.ensure a g s).panic = false → (p.ensure a g s).err = true →
      (composite (p :: ps)).ensure a g s = { p.ensure a g s with flag := false }) ∧
    ((p.ensure a g s).panic = false → (p.ensure a g s).err = false →
      ((composite (p :: ps)).ensure a g s).g = ((composite ps).ensure (p.ensure a g s).a (p.ensure a g s).g s).g) ∧
    ((p.finalise a g).panic = false → ((composite ps).finalise (p.finalise a g).a (p.finalise a g).g).panic = false →
      ((composite (p :: ps)).finalise a g).g = ((composite ps).finalise (p.finalise a g).a (p.finalise a g).g).g ∧
      ((composite (p :: ps)).finalise a g).err =
        ((p.finalise a g).err || ((composite ps).finalise (p.finalise a g).a (p.finalise a g).g).err)) :=
  ⟨fun hp he => composite_verified_iff (p :: ps) a g s hp he,
   fun hp he => seq_error_stops p (composite ps) a g s hp he,
   fun hp he => (seq_unverified_continues p (composite ps) a g s hp he).1,
   fun hp hq => ⟨(seq_finalise_continues p (composite ps) a g hp hq).1, (seq_finalise_continues p (composite ps) a g hp hq).2.1⟩⟩

/-! ## C05 / C06 — `read_fault_reported`, every Manager call -/

theorem read_fault_reported_patch (c : XCtx S) (a : Api) (n : XNet G) (m : Mem)
    (hr : readFailed a (patchStableServiceX c a n m).a = true) : (patchStableServiceX c a n m).err = true := by
  suffices h : ReadLaw a (patchStableServiceX c a n m).a (patchStableServiceX c a n m).err from h.1 hr
  unfold patchStableServiceX
  rw [show a.read = (a.read.1, a.read.2) from rfl]
  cases c.hasRef
  · exact .of_armed_eq rfl _
  cases c.noGen
  · cases h1 : a.read.1
    · have e1 := Api.read_pass h1
      simp only [Bool.false_eq_true, not_true_eq_false, if_false]
      split
      · exact .of_armed_eq e1 _
      · split
        · cases hsp : a.read.2.spend
          · exact .of_armed_eq e1 _
          · exact .of_armed_eq ((Api.spend_armed hsp).trans e1) _
        · exact .of_armed_eq e1 _
    · exact .of_spent (Api.read_fail h1)
  · exact .of_armed_eq rfl _

section lawful
variable (ops : StratOps S) {P : Provider S G} {Inv : G → Prop} {spec : G → S → Prop} {clean : G → Prop}
  {μ : G → S → Nat} {bound : Nat} (hL : LawfulProvider P Inv spec clean μ bound)
include hL

/-- **C06 (`read_fault_reported`, `DoTrafficRouting`)** — if some `Get` of the call failed with an error other
    than NotFound, the call returns an error (in particular it does not report *done*). -/
theorem read_fault_reported_doTR (c : XCtx S) (a : Api) (n : XNet G) (m : Mem)
    (hp : (doTrafficRoutingX ops (some P) c a n m).panic = false)
    (hr : readFailed a (doTrafficRoutingX ops (some P) c a n m).a = true) :
    (doTrafficRoutingX ops (some P) c a n m).err = true := by
  rcases doTRX_cases ops (some P) c a n m with ⟨_, _, _, _, _, _, hrf, _⟩ | ⟨_, _, _, _, _, _, a2, hrf2, hm2, _, ho⟩
  · exact hrf hr
  · rw [ho] at hp hr ⊢
    rcases routeStepX_cases P c.strategy a2 n m with ⟨_, e⟩ | ⟨hpp, e⟩ <;> rw [e] at hp hr ⊢
    · cases hp
    · exact (ReadLaw.trans (e₁ := false) ⟨fun h => hrf2.symm.trans h, hm2⟩ (hL.read_fault_ensure a2 n.g c.strategy hpp)).1 hr

theorem read_fault_reported_routeAll (c : XCtx S) (a : Api) (n : XNet G) (m : Mem)
    (hp : (routeAllToNewX ops (some P) c a n m).panic = false)
    (hr : readFailed a (routeAllToNewX ops (some P) c a n m).a = true) :
    (routeAllToNewX ops (some P) c a n m).err = true := by
  unfold routeAllToNewX at hp hr ⊢
  by_cases href : c.hasRef = true
  · simp only [href, not_true_eq_false, if_false] at hp hr ⊢
    cases hpp : (P.ensure a n.g (ops.routeAll c.strategy)).panic
    · simp only [hpp, Bool.false_eq_true, if_false] at hp hr ⊢
      obtain ⟨f1, _⟩ := hL.read_fault_ensure a n.g (ops.routeAll c.strategy) hpp
      cases he : (P.ensure a n.g (ops.routeAll c.strategy)).err
      · simp only [he, Bool.false_eq_true, if_false] at hr ⊢
        have := f1 hr; rw [he] at this; cases this
      · simp
    · simp [hpp, XOut.panicked] at hp
  · have href' : c.hasRef = false := by simpa using href
    simp [href', XOut.same, readFailed_self] at hr

/-- **C05 / C06 (`read_fault_reported`)** — for every lawful provider and **every** Manager call: if some API read
    of the call failed with an error other than NotFound (at whatever position: the Manager's own `Get` of a
    Service or any `Get` inside the provider, any member of a composite, any custom ref), the call returns an
    error.  A call that returns an error is never taken for complete (`done = true` / `retry = false` are only
    looked at when `err = nil`), so the clean-up cursor cannot advance past a resource that could not be read. -/
theorem read_fault_reported (c : XCtx S) (a : Api) (n : XNet G) (m : Mem) (hi : Inv n.g) :
    ((doTrafficRoutingX ops (some P) c a n m).panic = false →
      readFailed a (doTrafficRoutingX ops (some P) c a n m).a = true → (doTrafficRoutingX ops (some P) c a n m).err = true) ∧
    ((finalisingTrafficRoutingX (some P) c a n m).panic = false →
      readFailed a (finalisingTrafficRoutingX (some P) c a n m).a = true →
      (finalisingTrafficRoutingX (some P) c a n m).err = true ∧ (finalisingTrafficRoutingX (some P) c a n m).done = false) ∧
    (readFailed a (restoreStableServiceX c a n m).a = true → (restoreStableServiceX c a n m).err = true) ∧
    ((restoreGatewayX (some P) c a n m).panic = false → readFailed a (restoreGatewayX (some P) c a n m).a = true →
      (restoreGatewayX (some P) c a n m).err = true) ∧
    (readFailed a (removeCanaryServiceX c a n m).a = false) ∧
    (readFailed a (patchStableServiceX c a n m).a = true → (patchStableServiceX c a n m).err = true) ∧
    ((routeAllToNewX ops (some P) c a n m).panic = false → readFailed a (routeAllToNewX ops (some P) c a n m).a = true →
      (routeAllToNewX ops (some P) c a n m).err = true) :=
  ⟨read_fault_reported_doTR ops hL c a n m, read_fault_reported_finalising hL c a n m hi,
   (read_fault_reported_tasks hL c a n m).1, (read_fault_reported_tasks hL c a n m).2.1,
   (read_fault_reported_tasks hL c a n m).2.2, read_fault_reported_patch c a n m,
   read_fault_reported_routeAll ops hL c a n m⟩

end lawful

end RV.Props.TrafficX
