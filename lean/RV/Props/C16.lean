import RV.Gen.LuaGlobals
import RV.Lemmas.LuaJson
/-!
# C16 — a Lua plugin cannot hang, crash or escape the controller (**partial**)

What is logic is proved here:

* (a) value conversion — `decodeValue` (lua.go) followed by `Encode` (json.go) on every
  JSON-like value, every nesting depth and width;
* (b) capability table — no name a script can reach in the state built by the real
  `RunLuaScript` is a file / process / environment / code-loading capability.  The
  table `RV.Gen.luaGlobals` is regenerated from the code on every run.

What is **not** provable in Lean and is only observed by the correspondence harness
(suite `luajson`, ops `run` / `probe`): that a call returns within a bounded wall time,
that gopher-lua's VM never lets a Go panic out, and that no file is actually touched.
Oracles `C16.returns_in_time`, `C16.no_panic`, `C16.table_or_error`, `C16.no_escape`
are evaluated on the real code's outputs only; there is no theorem behind them.
-/
namespace RV.Props.C16
open RV.LuaJson RV.Oracle.C16

/-! ## (a) values survive the conversion -/

/-- **C16 (a) round trip, every JSON-like value.**  Handing `v` to a script
    (`decodeValue`, with any allocation state `n`) and encoding what comes back
    (`Encode`) never fails and yields `canon v`: `v` without the `null` members of
    arrays/objects, with empty arrays/objects turned into `null`, object members in
    ascending key order — and nothing else changed (see `RV.LuaJson.canon`). -/
theorem roundtrip (v : J) (n : Nat) : encode (decode n v).1 = .ok (canon v) := by
  have hnd : (ids (norm (decode n v).1)).Nodup := (ids_norm _).nodup_iff.2 (decode_alloc v n).2.2
  simp only [encode, encVal_eq_pure _ [] ⟨hnd, by simp⟩, encPure_decode v n]
  rfl

/-- **C16 (a) identity on clean values.**  A value with no `null` member, no empty
    array/object and object keys in ascending order (the canonical representation of a Go
    map) comes back exactly as it went in. -/
theorem roundtrip_identity (v : J) (n : Nat) (h : clean v = true) : encode (decode n v).1 = .ok v := by
  rw [roundtrip, canon_clean v h]

/-- The run-time oracle `C16.roundtrip_meaning` is the statement of `roundtrip`: it holds
    of the model's own output on every input. -/
theorem roundtrip_oracle (v : J) (n : Nat) :
    roundtripHolds v (ImplOut.ofModel (encode (decode n v).1)) = true := by
  rw [roundtrip]; exact J.beq_refl _

/-- **C16 (a) errors are values.**  The model of `Encode` answers every Lua value —
    sparse arrays, mixed keys, shared or cyclic tables, functions — with JSON or with one of
    its four declared errors; it has no other outcome (json.go indexes no slice and
    dereferences no pointer, so the model has no `panic` outcome to exclude; that the real
    function never panics is what the correspondence check observes). -/
theorem encode_answers (l : LVal) : encodeAnswered (ImplOut.ofModel (encode l)) = true := by
  cases h : encode l <;> rfl

/-- **C16 (a) what the identity (`visited`) check adds: nothing, unless a table is
    reachable twice.**  If all table identities of `l` are distinct, `Encode` answers exactly
    like the encoder that never looks at identities (`encPure`, RV/Model/LuaJson.lean) —
    same JSON, same error. -/
theorem encode_eq_pure_of_distinct (l : LVal) (h : (ids l).Nodup) : encode l = encPure (norm l) := by
  have hnd : (ids (norm l)).Nodup := (ids_norm l).nodup_iff.2 h
  simp only [encode, encVal_eq_pure _ [] ⟨hnd, by simp⟩]
  cases encPure (norm l) <;> rfl

/-- **C16 (a) exact characterisation of success.**  `Encode` produces JSON iff no table is
    reachable twice and the shape is encodable; the JSON is then the identity-free one. -/
theorem encode_ok_iff (l : LVal) (j : J) :
    encode l = .ok j ↔ (ids l).Nodup ∧ encPure (norm l) = .ok j := by
  constructor
  · intro h
    simp only [encode] at h
    split at h
    · rename_i j' vis' he
      cases h
      obtain ⟨hf, hp, _⟩ := (encVal_ok_iff (norm l) [] _ vis').1 he
      exact ⟨(ids_norm l).nodup_iff.1 hf.1, hp⟩
    · cases h
  · rintro ⟨hnd, hp⟩
    rw [encode_eq_pure_of_distinct l hnd, hp]

/-- **C16 (a) the cycle check is exact in one direction.**  "cannot encode recursively
    nested tables" is only ever reported for a value in which some table really is reachable
    twice (a cycle, or a table shared by two fields). -/
theorem nested_only_if_shared (l : LVal) (h : encode l = .error .nested) : ¬ (ids l).Nodup := by
  intro hnd
  rw [encode_eq_pure_of_distinct l hnd] at h
  exact encPure_ne_nested _ h

/-- **C16 (a) sparse arrays and mixed keys are errors.**  A table whose first key (in
    `Next` order) is a number but whose keys are not exactly 1, 2, 3 … is rejected with the
    error the key loop finds (`sparse` for a wrong index, `keys` for a non-number), whatever
    its values are. -/
theorem bad_array_keys_rejected (id : Nat) (m : Int) (v : LVal) (r : List (Key × LVal)) (e : EncErr)
    (h : checkArrKeys 1 ((.int m, v) :: r) = some e) : encode (.tbl id ((.int m, v) :: r)) = .error e := by
  have h' : checkArrKeys 1 ((Key.int m, norm v) :: normKvs r) = some e := by
    have := checkArrKeys_normKvs ((.int m, v) :: r) 1
    simp only [normKvs] at this; rw [this]; exact h
  simp only [encode, norm, normKvs, allStrKeys, Key.isStr, Bool.false_and, Bool.false_eq_true, if_false,
    encVal, List.contains_nil, h']

/-- A table whose first key is a string but which also has a non-string key is rejected
    with `keys` ("mixed or invalid key types"). -/
theorem mixed_object_keys_rejected (id : Nat) (s : String) (v : LVal) (r : List (Key × LVal))
    (h : allStrKeys r = false) : encode (.tbl id ((.str s, v) :: r)) = .error .keys := by
  have h' : allStrKeys (normKvs r) = false := by rw [allStrKeys_normKvs]; exact h
  simp only [encode, norm, normKvs, allStrKeys, Key.isStr, Bool.true_and, h', Bool.false_eq_true, if_false,
    encVal, List.contains_nil]

/-- non-vacuity of the two rejection theorems -/
example : checkArrKeys 1 [(.int 1, .num 1), (.int 3, .num 3)] = some .sparse := by decide
example : checkArrKeys 1 [(.int 1, .num 1), (.str "a", .num 3)] = some .keys := by decide
example : allStrKeys [(.int 1, LVal.num 1)] = false := by decide

/-- non-vacuity of `encode_ok_iff` / `encode_eq_pure_of_distinct`: distinct identities, both outcomes. -/
example : (ids (.tbl 0 [(.str "b", .tbl 1 [(.int 1, .num 1)]), (.str "a", .tbl 2 [])])).Nodup := by decide
example : encode (.tbl 0 [(.str "b", .tbl 1 [(.int 1, .num 1)]), (.str "a", .tbl 2 [])])
    = .ok (.obj [("a", .null), ("b", .arr [.num 1])]) := by rfl
example : (ids (.tbl 0 [(.str "b", .tbl 1 [(.int 2, .num 1)])])).Nodup
    ∧ encode (.tbl 0 [(.str "b", .tbl 1 [(.int 2, .num 1)])]) = .error .sparse := ⟨by decide, by rfl⟩

/-- A table that is reachable twice (shared or cyclic) is rejected, never looped on:
    concrete instances (tests by evaluation, not the ∀ claim). -/
example : encode (.tbl 0 [(.str "self", .tbl 0 [])]) = .error .nested := by rfl
example : encode (.tbl 0 [(.str "a", .tbl 1 [(.int 1, .num 1)]), (.str "b", .tbl 1 [(.int 1, .num 1)])])
    = .error .nested := by rfl
example : encode (.tbl 0 [(.int 1, .num 1), (.int 3, .num 3)]) = .error .sparse := by rfl
example : encode (.tbl 0 [(.int 1, .num 1), (.str "a", .num 2)]) = .error .keys := by rfl
example : encode (.tbl 0 [(.str "f", .func)]) = .error .type := by rfl

/-- non-vacuity of `roundtrip`: a nested value on which `canon` does all three things
    (drops a `null`, empties an object to `null`, reorders keys). -/
example :
    encode (decode 0 (.obj [("b", .arr [.num 1, .null, .num 2]), ("a", .obj []), ("c", .null)])).1
      = .ok (.obj [("a", .null), ("b", .arr [.num 1, .num 2])]) := by rfl

/-- non-vacuity of `roundtrip_identity`: a VirtualService-like clean value. -/
example : clean (.obj [("spec", .obj [("http", .arr [.obj [("route", .arr [
    .obj [("destination", .obj [("host", .str "stable")]), ("weight", .num 95)],
    .obj [("destination", .obj [("host", .str "canary")]), ("weight", .num 5)]])]])])]) = true := by decide +kernel

/-! ## (b) no reachable global is a capability (table theorem) -/

/-- **C16 (b).**  Over the WHOLE table regenerated from the state the real
    `RunLuaScript` builds: none of the names a script can reach is classified as a
    file / process / environment / code-loading / interpreter-internals capability. -/
theorem sandbox_offers_no_capability : noCapability RV.Gen.luaGlobals = true := by
  simp only [noCapability, isCapability, pre_eq_bytes]
  decide +kernel

/-- The run-time oracle `C16.no_capability_reachable` holds for every name of the table. -/
theorem reachable_names_allowed (name : String) (h : name ∈ RV.Gen.luaGlobals) :
    nameAllowed name true = true := by
  have := List.all_eq_true.1 sandbox_offers_no_capability name h
  simpa [nameAllowed] using this

/-- non-vacuity: the table is the real thing (it has the base/string/math/table/json
    members), and the classification does reject what it should. -/
example : RV.Gen.luaGlobals.length ≥ 60 := by decide +kernel
example : "pcall" ∈ RV.Gen.luaGlobals ∧ "string.rep" ∈ RV.Gen.luaGlobals ∧ "json.encode" ∈ RV.Gen.luaGlobals := by decide +kernel
example : isCapability "dofile" = true ∧ isCapability "loadfile" = true ∧ isCapability "require" = true
    ∧ isCapability "io.open" = true ∧ isCapability "os.execute" = true ∧ isCapability "package.loadlib" = true
    ∧ isCapability "debug.getregistry" = true := by decide +kernel
example : noCapability ("dofile" :: RV.Gen.luaGlobals) = false := by decide +kernel
example : nameAllowed "os.execute" true = false := by decide +kernel

end RV.Props.C16
