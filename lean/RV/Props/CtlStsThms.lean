import RV.Lemmas.CtlSts
import RV.Props.C11
/-!
# The partition-style StatefulSet-like and DaemonSet control planes (attached to C08, C01, C05, C06, C07, C09, C11, C18)

Every statement quantifies over **every** workload of the four Go representations (typed apps/v1 StatefulSet, typed
Advanced StatefulSet, any other StatefulSet-like workload through `unstructured`, typed Advanced DaemonSet), every
shape of `spec.updateStrategy` (absent / not an object / with, without or with a malformed `rollingUpdate` block /
with, without or with a non-integer partition; ordered and unordered), every leftover of earlier releases, every
BatchRelease plan and no-need-update count, every API fault, and — for the walk theorems — every finite sequence of
controller calls and user updates.  The oracles are those of `RV/Oracle/CtlSts.lean`, which the driver evaluates on
the snapshots of the real code.

The model is of the code in which finding `dsNoRollingUpdate` (nil dereference in the DaemonSet `CalculateBatchContext`
when `updateStrategy.rollingUpdate` is absent) is fixed; `no_crash` covers that call.  Two further facts are visible as explicit
hypotheses / witnesses rather than findings:
`MaxInt16` holds back every pod only of a workload with at most `MaxInt16` replicas (`sizeOK`, witness
`hold_beyond_maxInt16_FALSE`), and a repeated `Finalize` re-issues its (then ineffective) patch.

The last section (C11 / C07) is about **the pods behind `status.updatedReadyReplicas`**: for these workloads the number
is not a status field — `BuildController` lists the pods and counts; the theorems there quantify over every list of
pods (any length, any order, any mix of owners, phases, labels and conditions).
-/
namespace RV.Props.CtlSts
open RV.Arith IntOrPct RV.Webhook RV.CtlSts RV.BatchCtx RV.Oracle.Batch RV.Oracle.CtlSts

/-! ## C08 / C01 — the webhook holds back, `Initialize` exposes nothing, `UpgradeBatch` stays within its step -/

/-- **C08 / C01** — for every workload kind and **every representation of the update strategy**
    (typed native / Advanced StatefulSet / Advanced DaemonSet; unstructured with, without or with a null or non-object
    `rollingUpdate` block, with a non-integer partition; absent or non-object `updateStrategy`), every user update and
    every world: a relevant change (new template of a RollingUpdate workload with replicas, referenced by a Rollout) is
    admitted only with partition `MaxInt16` — no pod can move while the size is at most `MaxInt16` — **and** marked
    in-progress, the submitted object otherwise as the user sent it (type, `paused`, `unorderedUpdate` kept; an absent
    strategy becomes `RollingUpdate`); it is rejected only for a DaemonSet without `rollingUpdate` (handler panic,
    failurePolicy Fail); every other update is admitted exactly as submitted; no object is ever newly marked
    in-progress without being held. -/
theorem submit_holds_back (c : Cfg) (d : Option Wl) (s : Step) (o : StepOut)
    (hcall : s.call = .submit) (h : step c d s = .val o) :
    submitHoldsBack c.world d s o = true := by
  unfold submitHoldsBack
  cases d with
  | none => simp only [step, hcall, Out.val.injEq] at h; subst h; rfl
  | some d0 =>
    simp only
    rcases submit_step_cases hcall h with ⟨hr, hn, ho⟩ | ⟨hr, hn, ho⟩ | ⟨hr, ho⟩ <;> subst ho
    · simp [hr, hn]
    · generalize applyEdit d0 s.edit = new at *
      have h1 : held (heldOf new) = true := by simp [held, heldOf, curPart_setPartition]
      have h2 : (heldOf new).inProgress = true := rfl
      have h3 := holdFrame_heldOf new
      simp only [hr, if_true, h1, h2, h3, hn, Bool.not_false, Bool.true_and, Bool.and_true]
      have h5 : replicasOf (heldOf new) = replicasOf new := replicasOf_congr rfl rfl
      rw [h5]
      cases hrep : replicasOf new with
      | none => simp
      | some r =>
        simp only
        by_cases hs : sizeOK r = true
        · simp [hs, exposure_heldOf new r hrep hs]
        · simp [hs]
    · simp [hr]

/-- **C08 (what the webhook does, exactly)** — a user's update is rejected iff it is a relevant change of a DaemonSet
    without `rollingUpdate`; it is admitted held (partition `MaxInt16`) and marked iff it is a relevant change of anything
    else; otherwise it is admitted as submitted. -/
theorem submit_characterised (w : World) (d : Wl) (e : Edit) :
    submit w d e =
      if relevant w d (applyEdit d e) = true then
        (if dsNoRU (applyEdit d e) = true then none else some (heldOf (applyEdit d e)))
      else some (applyEdit d e) := submit_spec w d e

/-- **C01** — for every prior state of the workload (in particular one that still carries
    the partition of an earlier BatchRelease, or the control-info of another one): a successful `Initialize` either
    finds it already claimed by this BatchRelease and leaves it untouched, or claims it with partition `MaxInt16`
    (DaemonSet: its size) and `paused` not true, nothing else changed: for sizes up to `MaxInt16` no pod may move until
    `UpgradeBatch` says so. -/
theorem initialize_exposes_nothing (c : Cfg) (d : Option Wl) (s : Step) (o : StepOut)
    (hcall : s.call = .initialize) (h : step c d s = .val o) :
    initExposesNothing d o = true := by
  unfold initExposesNothing
  split
  · next hok =>
    obtain ⟨w, r, rfl, hrep, ⟨hn, hwl⟩ | ⟨hnt, hwl⟩⟩ := initialize_ok hcall h hok
    · simp [hwl, hn]
    · have h2 : sameButKnobs w (claimed w r) = true := beq_self_eq_true w
      have h3 : (usPaused (claimed w r).us != some true) = true :=
        bne_iff_ne.mpr (usPaused_merge_false w.kind w.us (.int (initPartition w r)))
      have h4 : currentPartition (claimed w r).us = initPartition w r := by
        simp only [claimed, curPart_norm, curPart_merge_int]
      have h5 : effType (claimed w r).us = effType w.us := by simp only [claimed, effType_norm, effType_merge]
      have h6 : isUnordered (claimed w r).kind (claimed w r).us = isUnordered w.kind w.us := by
        simp only [claimed, isUnordered_norm, isUnordered_merge]
      have h1 : (claimed w r).control = .this := rfl
      simp only [hwl, hnt, if_false, h1, h2, h3, h4, h5, h6, hrep, beq_self_eq_true, Bool.true_and, Bool.and_true]
      by_cases hs : sizeOK r = true
      · simp [hs, exposure_claimed w r hrep hs]
      · simp [hs]
  · rfl

/-- **C01** — after `UpgradeBatch` for batch `i` (any outcome, any fault) the workload is
    unchanged or only its partition moved, strictly down, to exactly what `CalculateBatchContext` asks for step `i`
    (ordered: `replicas − planned`; unordered, DaemonSet and the no-need-update variants as coded); for sizes `≥ 0` and a
    no-need-update count within the size, the pods it lets move are at most the larger of what could already move and
    what step `i` allows (`CalculateBatchReplicas`, no-need-update pods counted as updated). -/
theorem upgradeBatch_within_step (c : Cfg) (d : Option Wl) (s : Step) (o : StepOut)
    (hcall : s.call = .upgradeBatch) (h : step c d s = .val o) :
    upgradeWithinStep c.rel s.batch d o = true := by
  have hc : s.call ≠ .submit := by rw [hcall]; decide
  rcases (step_ran hc h).obj with ⟨hwl, _⟩ | ⟨w, r, w', rfl, hrep, hsome, hwl, _⟩
  · cases d with
    | none => simp [upgradeWithinStep, hwl]
    | some w => simp [upgradeWithinStep, hwl]
  · obtain ⟨_, e, he, hlt, rfl⟩ := upgrade_write hcall hsome
    obtain ⟨f3, f4⟩ := upgraded_frame w r e c.rel.noNeedUpdate
    simp only [upgradeWithinStep, hwl, hrep, he, f3, f4, beq_self_eq_true, Bool.true_and, hlt, decide_true]
    apply Bool.or_eq_true_iff.mpr
    right
    split
    · next hv =>
      simp only [Bool.and_eq_true, decide_eq_true_eq] at hv
      have hb := desired_exposure_bound w r e c.rel.noNeedUpdate hv.1 hv.2
      rw [exposureW_upgraded _ _ hrep]
      apply decide_eq_true
      omega
    · rfl

/-- **C01 (monotone)** — `UpgradeBatch` never lowers the exposure: when the partition already lets at least
    as many pods move as the step wants, it is a no-op. -/
theorem upgradeBatch_monotone (c : Cfg) (d : Option Wl) (s : Step) (o : StepOut)
    (hcall : s.call = .upgradeBatch) (h : step c d s = .val o) :
    upgradeMonotone d o = true := by
  have hc : s.call ≠ .submit := by rw [hcall]; decide
  unfold upgradeMonotone
  rcases (step_ran hc h).obj with ⟨hwl, _⟩ | ⟨w, r, w', rfl, hrep, hsome, hwl, _⟩
  · rw [hwl]; cases d <;> simp
  · obtain ⟨_, e, _, hlt, rfl⟩ := upgrade_write hcall hsome
    simp only [hwl, decide_eq_true_eq]
    rw [exposureW_upgraded _ _ hrep, exposureW, hrep]
    exact exposure_anti r (Int.le_of_lt hlt)

/-! ## C07 — what is written suffices -/

/-- **C07** — an `UpgradeBatch` that returns ok (non-empty workload, valid no-need-update count)
    leaves a partition that lets the workload reach the batch's `DesiredUpdatedReplicas` — for an ordered update with `k`
    no-need-update pods together with those `k` pods, which already run the target revision — so `IsBatchReady` can pass
    once the pods are ready (`ready_when_exposed`). -/
theorem upgradeBatch_suffices (c : Cfg) (d : Option Wl) (s : Step) (o : StepOut)
    (hcall : s.call = .upgradeBatch) (h : step c d s = .val o) :
    upgradeSuffices c.rel s.batch d o = true := by
  have hc : s.call ≠ .submit := by rw [hcall]; decide
  unfold upgradeSuffices
  split
  · next hok =>
    rcases (step_ran hc h).ok_cases res_ne hok with ⟨rfl, _⟩ | ⟨w, r, rfl, hrep, hrest⟩
    · rfl
    · -- in either case the partition in force is at most the desired one
      obtain ⟨w', hwl, hrep', hle⟩ : ∃ w', o.wl = some w' ∧ replicasOf w' = some r ∧ ∀ e, r ≠ 0 →
          entryOf c.rel s.batch = some e → currentPartition w'.us ≤ desiredPartition w r e c.rel.noNeedUpdate := by
        rcases hrest with ⟨hn, hwl⟩ | ⟨w', hsome, hwl⟩
        · exact ⟨w, hwl, hrep, fun e hr0 he => upgrade_nowrite hcall hr0 he hn⟩
        · obtain ⟨_, e', he', _, rfl⟩ := upgrade_write hcall hsome
          exact ⟨_, hwl, (upgraded_replicas ..).trans hrep,
            fun e _ he => by rw [he'] at he; cases he; exact Int.le_of_eq (upgraded_partition ..)⟩
      simp only [hwl, hrep]
      cases he : entryOf c.rel s.batch with
      | none => rfl
      | some e =>
        simp only []
        split
        · next hcond =>
          have hs := desired_exposure w r e c.rel.noNeedUpdate hcond.2.1 hcond.2.2
          have ha := exposure_anti r (hle e hcond.1 he)
          simp only [exposureW, hrep', decide_eq_true_eq, desiredOf_allowed w r e c.rel.noNeedUpdate hcond.2.1 hcond.2.2]
          omega
        · rfl
  · rfl

/-- **C07 (… and then the batch can become ready)** — for a context whose `planned` / `desired` are `plannedOf` /
    `desiredOf` (what `CalculateBatchContext` computes for these kinds: assumed here, not derived from `calcCtx`) and in
    which at least `desiredOf` pods are updated, all of them ready (the workload controller has used the partition
    `upgradeBatch_suffices` guarantees), `IsBatchReady` passes, whatever the failure threshold as long as
    `allowedUnavailable` is not negative. -/
theorem ready_when_exposed (k : RV.BatchCtx.Kind) (r upd : Int) (e cur des : IntOrPct) (nn : Option Int) (ft : Option IntOrPct)
    (h : desiredOf k r e nn ≤ upd) (hft : 0 ≤ allowedUnavailable ft upd) :
    isBatchReady
      { replicas := r, updated := upd, updatedReady := upd, planned := plannedOf k r e nn,
        desired := desiredOf k r e nn, knobCur := cur, knobDes := des, failureThreshold := ft } none = .ok := by
  refine RV.Props.C11.ready_complete _ none ?_
  simp only [readyMeans, Bool.and_true, Bool.and_eq_true, decide_eq_true_eq]
  omega

/-! ## C05 — `Finalize` releases -/

/-- **C05** — a successful `Finalize` of an existing workload (whatever it carried, whoever claimed
    it) removes the control-info; with `batchPartition = nil` it also removes the partition (partition nil: every pod
    may move, the workload is promoted), creates an empty `rollingUpdate` block where there was none, and un-pauses a
    DaemonSet; without, the update strategy stays as it is (partition kept); nothing else changes. -/
theorem finalize_releases (c : Cfg) (d : Option Wl) (s : Step) (o : StepOut)
    (hcall : s.call = .finalize) (h : step c d s = .val o) :
    finalizeReleases s d o = true := by
  unfold finalizeReleases
  split
  · next hok =>
    rcases finalize_ok hcall h hok with ⟨rfl, hwl⟩ | ⟨w, rfl, hwl⟩
    · simp [hwl]
    · simp only [hwl, finalize_control, finalize_sameButKnobs, beq_self_eq_true, Bool.true_and]
      cases s.bpNil
      · simp [finalize_us]
      · simp only [if_true, released_finalize, finalize_effType, finalize_isUnordered, beq_self_eq_true, Bool.true_and]
        by_cases hk : w.kind = .daemonSet
        · simp [hk]
        · simp [finalize_usPaused w hk]
  · rfl

/-! ## C06 — API faults and repetition -/

/-- **C06 (fault safety)** — a controller call hit by an API fault leaves the workload exactly as it was: a failed Get
    and a failed List of the pods (when the pods are listed) are errors without any write; a call whose write fails
    returns an error, it returns ok under a write fault only when it had nothing to write; and an error never comes
    with a change. -/
theorem fault_safe (c : Cfg) (d : Option Wl) (s : Step) (o : StepOut) (h : step c d s = .val o) :
    faultSafe s d o = true := by
  unfold faultSafe
  by_cases hc : s.call = .submit
  · simp [hc]
  · have hran := step_ran hc h
    obtain ⟨-, hread, hwrite⟩ := hran.safe res_ne
    -- the admission's `rejected` is not a result of a controller call
    have hres := hran.ok_or_err
    rw [if_neg hc]
    simp only [Bool.and_eq_true]
    refine ⟨⟨⟨⟨?_, ?_⟩, ?_⟩, ?_⟩, by rcases hres with e | e <;> rw [e] <;> rfl⟩
    · split
      · next hne => exact beq_iff_eq.mpr (hran.failed_same res_ne hne)
      · rfl
    · split
      · next hg => rw [(hread (.inl hg)).1, (hread (.inl hg)).2]; rfl
      · rfl
    · cases d with
      | none => rfl
      | some w =>
        dsimp only
        split
        · next hl => rw [(hread (.inr ⟨w, rfl, hl⟩)).1, (hread (.inr ⟨w, rfl, hl⟩)).2]; rfl
        · rfl
    · split
      · next hw =>
        rw [(hwrite hw).1, beq_self_eq_true, Bool.true_and]
        rcases hres with e | e
        · rw [(hwrite hw).2 e, e]; rfl
        · rw [e]; rfl
      · rfl

/-- **C06 (a call that returns ok has its effect)** — after a successful `Initialize` the workload carries this
    BatchRelease's control-info; after a successful `Finalize` it carries none and, with `batchPartition = nil`, it is
    `released` (no partition; DaemonSet `paused: false`).  (`UpgradeBatch`: `upgradeBatch_suffices`.) -/
theorem ok_has_effect (c : Cfg) (d : Option Wl) (s : Step) (o : StepOut) (h : step c d s = .val o) :
    okHasEffect s d o = true := by
  unfold okHasEffect
  split
  · next hok =>
    cases hcall : s.call
    · obtain ⟨w, r, rfl, _, ⟨hn, hwl⟩ | ⟨_, hwl⟩⟩ := initialize_ok hcall h hok
      · simp [hwl, hn]
      · simp [hwl, claimed]
    · cases d <;> cases o.wl <;> rfl
    · rcases finalize_ok hcall h hok with ⟨rfl, hwl⟩ | ⟨w, rfl, hwl⟩
      · simp [hwl]
      · simp only [hwl, finalize_control, beq_self_eq_true, Bool.true_and]
        cases s.bpNil
        · rfl
        · exact released_finalize w
    · cases d <;> cases o.wl <;> rfl
  · rfl

/-- **frame** — every step leaves the user's view alone (kind, size, template, effective strategy type,
    `unorderedUpdate`, everything outside the model); an admitted user update changes it exactly as the user asked; a
    controller call never touches the in-progress marker and issues at most one write; the webhook never touches the
    control-info. -/
theorem step_frame (c : Cfg) (d : Option Wl) (s : Step) (o : StepOut) (h : step c d s = .val o) :
    frame s d o = true := by
  unfold frame
  by_cases hc : s.call = .submit
  · cases d with
    | none => simp only [step, hc, Out.val.injEq] at h; subst h; rfl
    | some d0 =>
      obtain ⟨f1, _, _, _⟩ := applyEdit_frame d0 s.edit
      have hv := view_applyEdit d0 s.edit
      rcases submit_step_cases hc h with ⟨_, _, ho⟩ | ⟨_, _, ho⟩ | ⟨_, ho⟩ <;> subst ho
      · simp [viewStep, hc]
      · have hvh : view (heldOf (applyEdit d0 s.edit)) = view (applyEdit d0 s.edit) := by
          simp only [heldOf, view, effType_setPartition, isUnordered_setPartition]
        have hch : (heldOf (applyEdit d0 s.edit)).control = d0.control := f1
        simp [viewStep, hc, hvh, hv, hch]
      · simp [viewStep, hc, hv, f1]
  · have hvs : ∀ v, viewStep v s o = v := fun v => if_neg (fun hh => hc hh.1)
    simp only [hvs, hc, if_false]
    rcases (step_ran hc h).obj with ⟨hwl, hw, hw0⟩ | ⟨w, r, w', rfl, _, hsome, hwl, hw⟩
    · rw [hwl]
      cases d with
      | none => simp [hw0 rfl]
      | some w => simp [hw]
    · have f := writeOf_frame hsome
      simp [hwl, hw, f.view, f.inProgress]

/-- **C06 (idempotence)** — `initialize ∘ initialize = initialize`, `upgradeBatch ∘ upgradeBatch = upgradeBatch` (same
    batch), `finalize ∘ finalize = finalize`: repeating a successful call returns ok and changes nothing; `Initialize`
    and `UpgradeBatch` issue no write the second time, `Finalize` re-issues its patch, which changes nothing. -/
theorem idempotent_calls (c : Cfg) (d : Option Wl) (a b : Step) (oa ob : StepOut)
    (ha : step c d a = .val oa) (hb : step c oa.wl b = .val ob) :
    idempotent a b oa ob = true := by
  unfold idempotent
  split
  · next hcond =>
    obtain ⟨hsame, hok⟩ := hcond
    simp only [sameCall, Bool.and_eq_true, beq_iff_eq, bne_iff_ne, ne_eq, Bool.or_eq_true] at hsame
    obtain ⟨⟨⟨⟨⟨hcall, hca⟩, _⟩, hfb⟩, hbatch⟩, hbp⟩ := hsame
    have hcg := fun w r => writeOf_congr c.rel w r hcall hbatch hbp
    -- `Finalize` issues its patch again; it is the same patch
    obtain ⟨hr, hd, hw⟩ := (step_ran hca ha).again (Q := a.call = .finalize) res_ne hok (step_ran (hcall ▸ hca) hb)
      (nofault := ⟨by simp [hfb], fun _ => by simp [readFails, hfb], by simp [hfb]⟩) (hnf := fun h => hcall.symm.trans h)
      (hsize := fun w r w' hr hs => (replicasOf_congr (writeOf_frame hs).kind (writeOf_frame hs).replicas).trans hr)
      (hnone := fun w r hn => (hcg w r).symm.trans hn)
      (hsome := fun w r w' hs =>
        (writeOf_idem hs).imp ((hcg w' r).symm.trans ·) (fun h => ⟨h.1, (hcg w' r).symm.trans h.2⟩))
    rcases hw with hw | hw <;> simp [show ob.res = .ok from hr, hd, hw]
  · rfl

/-! ## walks -/

/-- the driver evaluates the walk oracles on `valsOf` of the implementation's results; for the model's own results
    that is `runV`, the list the walk theorems speak about -/
theorem valsOf_run (c : Cfg) (steps : List Step) : ∀ d, valsOf (run c d steps) = runV c d steps := by
  induction steps with
  | nil => intro d; rfl
  | cons s ss ih =>
    intro d
    simp only [run, runV]
    cases step c d s with
    | panic => rfl
    | val o => simp only [valsOf, ih]

theorem step_some (c : Cfg) (d : Wl) (s : Step) (o : StepOut) (h : step c (some d) s = .val o) :
    ∃ d', o.wl = some d' ∧ view d' = viewStep (view d) s o := by
  have hf := step_frame c (some d) s o h
  unfold frame at hf
  cases hwl : o.wl with
  | none => rw [hwl] at hf; simp at hf
  | some d' =>
    rw [hwl] at hf
    simp only [Bool.and_eq_true, beq_iff_eq] at hf
    exact ⟨d', rfl, hf.1⟩

/-- **C05 round trip** — for every workload, every plan and every finite walk of controller calls (any faults) and
    user updates: after every step the workload has the view its user gave it, and after every successful complete
    `Finalize` the knobs of the rollout are released. -/
theorem round_trip (c : Cfg) (steps : List Step) :
    ∀ d : Wl, walkOK (view d) steps (runV c (some d) steps) = true := by
  induction steps with
  | nil => intro d; rfl
  | cons s ss ih =>
    intro d
    simp only [runV]
    cases hst : step c (some d) s with
    | panic => rfl
    | val o =>
      simp only
      obtain ⟨d', hwl, hv⟩ := step_some c d s o hst
      simp only [walkOK, hwl, hv, beq_self_eq_true, Bool.true_and]
      rw [← hv]
      simp only [ih d', Bool.and_true]
      split
      · rename_i hrel
        simp only [isRelease, Bool.and_eq_true, beq_iff_eq] at hrel
        obtain ⟨⟨hcall, hbp⟩, hok⟩ := hrel
        have he := ok_has_effect c (some d) s o hst
        simp only [okHasEffect, hok, if_true, hcall, hwl, hbp, Bool.not_true, Bool.false_or, Bool.and_eq_true] at he
        exact he.2
      · rfl

/-- **C01 (walk bound)** — for every workload of a fixed size `r ≤ MaxInt16`, every plan and every finite walk of
    controller calls (any faults) and user updates that neither scale nor re-submit the update strategy: after every
    step the pods that may move are at most the larger of what could move before (`bound`) and what the steps so far
    allow — the planned size of the batches `UpgradeBatch` was called for; everything after a complete `Finalize`. -/
theorem walk_exposure_bound (c : Cfg) (r : Int) (hs : sizeOK r = true) (hnn : nnOK r c.rel.noNeedUpdate = true)
    (steps : List Step) :
    ∀ (d : Wl) (bound : Int), replicasOf d = some r → quiet steps = true → exposureW d ≤ bound →
      walkBounded c.rel r bound steps (runV c (some d) steps) = true := by
  induction steps with
  | nil => intro d bound _ _ _; rfl
  | cons s ss ih =>
    intro d bound hrep hq hb
    simp only [quiet, List.all_cons, Bool.and_eq_true] at hq
    simp only [runV]
    cases hst : step c (some d) s with
    | panic => rfl
    | val o =>
      simp only
      obtain ⟨d', hwl, hr', hle⟩ := step_exposure hrep hs hnn
        (Option.isNone_iff_eq_none.mp hq.1.1) (Option.isNone_iff_eq_none.mp hq.1.2) hst
      have hle' : exposureW d' ≤ max bound (stepAllow c.rel r s) := by omega
      simp only [walkBounded, hwl, hle', decide_true, Bool.true_and]
      exact ih d' _ hr' hq.2 hle'

/-- **C01 (initialize, then only what the batches allow)** — once a BatchRelease has successfully initialised a
    workload it did not yet control, whatever partition the workload carried before: every later state of every walk
    lets move at most what the steps since allow — nothing before the first `UpgradeBatch`. -/
theorem initialize_then_within_steps (c : Cfg) (r : Int) (d : Wl) (s0 : Step) (o0 : StepOut) (rest : List Step)
    (hrep : replicasOf d = some r) (hs : sizeOK r = true) (hnn : nnOK r c.rel.noNeedUpdate = true)
    (hnc : d.control ≠ .this) (hcall : s0.call = .initialize) (h0 : step c (some d) s0 = .val o0) (hok : o0.res = .ok)
    (hq : quiet rest = true) :
    walkBounded c.rel r 0 rest (runV c o0.wl rest) = true := by
  obtain ⟨w, r0, hd, hrep0, ⟨hn, _⟩ | ⟨_, hwl⟩⟩ := initialize_ok hcall h0 hok <;> cases hd
  · exact absurd hn hnc
  · rw [hrep] at hrep0; cases hrep0
    rw [hwl]
    exact walk_exposure_bound c r hs hnn rest (claimed d r) 0 ((replicasOf_congr rfl rfl).trans hrep) hq
      (Int.le_of_eq (exposure_claimed d r hrep hs))

/-! ## where `MaxInt16` is not enough (an explicit hypothesis of the theorems above, not hidden) -/

def exCfg : Cfg :=
  { rel := { batches := [pct 20, pct 50, pct 100], rollbackAnno := false, updated := 0, noNeedUpdate := none },
    world := { matched := true } }

def mk (c : Call) (b : Int := 0) (bp : Bool := false) (e : Edit := Edit.none) : Step :=
  { call := c, fault := .none, batch := b, bpNil := bp, edit := e }

/-- a native StatefulSet with 40000 replicas as its user configured it -/
def exHuge : Wl :=
  { kind := .native, replicas := some 40000, us := .present "RollingUpdate" .absent, control := .none,
    inProgress := false, tmpl := 1, tmplPresent := true, updatedReady := 0, rest := 0 }

/-- **`sizeOK` is necessary** — the hold value `MaxInt16` of the webhook and of `Initialize` leaves the pods with ordinal
    ≥ 32767 of a StatefulSet with 40000 replicas free to move: the statements "no pod can move" of `submit_holds_back`
    and `initialize_exposes_nothing` are FALSE without the hypothesis `r ≤ MaxInt16` (props/C08.json lists it as an
    assumption about the workloads). -/
theorem hold_beyond_maxInt16_FALSE :
    sizeOK 40000 = false ∧
    (match step exCfg (some exHuge) (mk .submit 0 false { Edit.none with tmpl := some 2 }) with
     | .val o => (match o.wl with
                  | some d' => held d' && d'.inProgress && exposureW d' == 7233
                  | none => false)
     | .panic => false) = true ∧
    (match step exCfg (some exHuge) (mk .initialize) with
     | .val o => (match o.wl with
                  | some d' => d'.control == .this && exposureW d' == 7233
                  | none => false)
     | .panic => false) = true := by
  decide +kernel

/-! ## no crash (attached to C07 and C09) -/

/-- **no crash** — for every workload an API server can hold (`spec.replicas` set) and every plan whose current batch
    exists, no call of the control planes — `Initialize`, `UpgradeBatch`, `Finalize`, with any fault — and no admission
    panics (a panicking admission handler only rejects).  This includes `UpgradeBatch` of an Advanced DaemonSet without
    `updateStrategy.rollingUpdate` (finding `dsNoRollingUpdate`). -/
theorem no_crash (c : Cfg) (d : Option Wl) (s : Step) :
    noCrash c.rel s d (isPanic (step c d s)) = true := by
  unfold noCrash
  cases hst : step c d s with
  | val o => simp [isPanic]
  | panic =>
    simp only [isPanic, Bool.not_true]
    rcases step_panic_cases hst with ⟨w, hd, hr⟩ | ⟨hc, w, r, hd, hr, hr0, he⟩
    · subst hd; simp [callInputOK, hr]
    · subst hd; simp [callInputOK, hr, hc, hr0, he]

/-- a claimed DaemonSet whose user switched to `OnDelete` and dropped the `rollingUpdate` block during the rollout
    (the template is unchanged: the webhook admits the update as it is) -/
def exDSNoRU : Wl :=
  { kind := .daemonSet, replicas := some 4, us := .present "OnDelete" .absent, control := .this,
    inProgress := true, tmpl := 2, tmplPresent := true, updatedReady := 0, rest := 0 }

/-- the state of finding `dsNoRollingUpdate` is reached through the webhook, and `UpgradeBatch` on it returns ok
    without a write (current partition 0 ≤ desired) -/
example :
    step exCfg (some { exDSNoRU with us := .present "RollingUpdate" (.present (.int 4) (some false) false) })
        (mk .submit 0 false { Edit.none with us := some (.present "OnDelete" .absent) }) =
      .val { res := .ok, wl := some exDSNoRU, writes := 0, obs := none } ∧
    step exCfg (some exDSNoRU) (mk .upgradeBatch 0) = .val { res := .ok, wl := some exDSNoRU, writes := 0, obs := none } ∧
    callInputOK exCfg.rel (mk .upgradeBatch 0) (some exDSNoRU) = true := by
  decide +kernel

/-! ## non-vacuity (tests on literals, not the ∀ claims) -/

/-- an unstructured StatefulSet-like workload without any `updateStrategy`, 10 replicas -/
def exU : Wl :=
  { kind := .unstructured, replicas := some 10, us := .absent, control := .none,
    inProgress := false, tmpl := 1, tmplPresent := true, updatedReady := 0, rest := 0 }

/-- a complete life cycle on the real shapes: new template admitted (held at 32767, strategy block created), claimed,
    batches 20 % and 50 % (partitions 8 and 5), complete finalize: partition gone, control-info gone, the user's view
    intact (`round_trip`), every step within its bound (`walk_exposure_bound`) -/
example :
    (let steps := [mk .submit 0 false { Edit.none with tmpl := some 2 }, mk .initialize, mk .upgradeBatch 0,
                   mk .upgradeBatch 1, mk .finalize 1 true];
     let outs := runV exCfg (some exU) steps;
     outs.length == 5 &&
     (outs.map fun o => (o.wl.map fun w => currentPartition w.us)) == [some 32767, some 32767, some 8, some 5, some 0] &&
     (outs.map fun o => (o.wl.map exposureW)) == [some 0, some 0, some 2, some 5, some 10] &&
     hasRelease steps outs && roundTrip exU steps outs && walkBounded exCfg.rel 10 (exposureW exU) steps outs &&
     (match outs.getLast? with
      | some o => (match o.wl with
                   | some w => released w && w.us == .present "RollingUpdate" (.present .absent (some false) false)
                   | none => false)
      | none => false)) = true := by
  decide +kernel

/-- every representation of the update strategy is held by the webhook (`submit_holds_back` is not vacuous):
    absent, not an object, without / with a malformed `rollingUpdate` block, non-integer partition, user partition 3 -/
example :
    ([US.absent, .present "" .absent, .present "RollingUpdate" .malformed,
      .present "RollingUpdate" (.present .malformed none true), .present "" (.present (.int 3) (some true) false)].all fun us =>
       match step exCfg (some { exU with us := us }) (mk .submit 0 false { Edit.none with tmpl := some 2 }) with
       | .val o => relevant exCfg.world { exU with us := us } { exU with us := us, tmpl := 2 } &&
                   submitHoldsBack exCfg.world (some { exU with us := us }) (mk .submit 0 false { Edit.none with tmpl := some 2 }) o &&
                   (match o.wl with
                    | some d' => currentPartition d'.us == 32767 && d'.inProgress && exposureW d' == 0
                    | none => false)
       | .panic => false) = true := by
  decide +kernel

/-- a DaemonSet that still carries another release's control-info and partition 2 of 6: `initialize_exposes_nothing` is
    not vacuous — the stale partition (4 pods free) is reset to the size by one write -/
def exDS : Wl :=
  { kind := .daemonSet, replicas := some 6, us := .present "RollingUpdate" (.present (.int 2) none false), control := .other,
    inProgress := true, tmpl := 2, tmplPresent := true, updatedReady := 0, rest := 0 }

example :
    exposureW exDS = 4 ∧
    (match step exCfg (some exDS) (mk .initialize) with
     | .val o => (match o.wl with
                  | some d' => exposureW d' == 0 && o.writes == 1 && currentPartition d'.us == 6 && d'.control == .this
                  | none => false)
     | .panic => false) = true := by
  decide +kernel

/-- the hypotheses of `walk_exposure_bound` / `upgradeBatch_suffices` are satisfiable -/
example : sizeOK 10 = true ∧ nnOK 10 (some 3) = true ∧ quiet [mk .initialize, mk .upgradeBatch 1] = true := by decide

/-! ## C11 / C07 — the pods behind `updatedReadyReplicas` and the readiness verdict

`realController.BuildController` (StatefulSet-like and DaemonSet controls) computes `UpdatedReadyReplicas` by listing the
workload's pods (`util.ListOwnedPods`) and counting those that are not terminating, consistent with the update revision
and ready; `EnsureBatchPodsReadyAndLabeled` feeds that number to `BatchContext.IsBatchReady`.  Every statement below
quantifies over **every** list of pods. -/

/-- for every update revision and every list of pods in the cluster:
    (1) the counter the code computes (`ListOwnedPods`, then the `WrappedPodCount` loop) is exactly the number of pods that
        are the workload's own (in its namespace, selected, owned directly or through an owner it controls, not
        completed), **live** (no deletion timestamp), **of the update revision** (`IsConsistentWithRevision`) and
        **ready** (`IsPodReady`);
    (2) adding, anywhere in the list, a pod that is terminating, of another revision, not ready, not the workload's,
        completed, not selected or in another namespace never changes it;
    (3) adding a live ready pod of the update revision raises it by exactly one;
    (4) it never exceeds the number of live pods of the workload. -/
theorem updatedReady_counts_live_ready_updated (revision : String) (pods : List Pod) :
    updatedReadyOf revision pods = ((pods.filter (liveReadyUpdated revision)).length : Nat) ∧
    (∀ xs ys p, pods = xs ++ ys →
       (p.terminating = true ∨ isConsistent p revision = false ∨ isPodReady p = false ∨
        isOwned p.owner = false ∨ isCompleted p = true ∨ p.selMatch = false ∨ p.inNamespace = false) →
       updatedReadyOf revision (xs ++ p :: ys) = updatedReadyOf revision pods) ∧
    (∀ xs ys p, pods = xs ++ ys → liveReadyUpdated revision p = true →
       updatedReadyOf revision (xs ++ p :: ys) = updatedReadyOf revision pods + 1) ∧
    updatedReadyOf revision pods ≤ liveCount pods := by
  refine ⟨updatedReadyOf_eq revision pods, ?_, ?_, ?_⟩
  · intro xs ys p hp hbad
    have hn : liveReadyUpdated revision p = false := by
      unfold liveReadyUpdated livePod
      rcases hbad with h | h | h | h | h | h | h <;> simp [h]
    subst hp
    simp only [updatedReadyOf_eq, lruCount_append, lruCount_cons, hn, Bool.false_eq_true, if_false]
    omega
  · intro xs ys p hp hgood
    subst hp
    simp only [updatedReadyOf_eq, lruCount_append, lruCount_cons, hgood, if_true]
    omega
  · rw [updatedReadyOf_eq]
    unfold liveReadyUpdatedCount liveCount
    have : (pods.filter (liveReadyUpdated revision)).length ≤ (pods.filter livePod).length := by
      have hsub : pods.filter (liveReadyUpdated revision) =
          (pods.filter livePod).filter (fun p => isConsistent p revision && isPodReady p) := by
        rw [List.filter_filter]
        apply List.filter_congr
        intro p _
        unfold liveReadyUpdated
        cases livePod p <;> cases isConsistent p revision <;> cases isPodReady p <;> rfl
      rw [hsub]
      exact List.length_filter_le _ _
    omega

/-- **a counted pod that stops counting** — replace, anywhere in the list, an updated ready pod by any pod that is not
    one (or by nothing: the pod is gone): the counter drops by exactly one. -/
theorem updatedReady_drops_by_one (revision : String) (xs ys : List Pod) (p : Pod) (q : Option Pod)
    (hp : liveReadyUpdated revision p = true) (hq : ∀ q', q = some q' → liveReadyUpdated revision q' = false) :
    updatedReadyOf revision (xs ++ q.toList ++ ys) = updatedReadyOf revision (xs ++ p :: ys) - 1 := by
  simp only [updatedReadyOf_eq, lruCount_append, lruCount_cons, hp, if_true]
  cases q with
  | none => simp only [Option.toList]; unfold liveReadyUpdatedCount; simp; omega
  | some q' =>
    have := hq q' rfl
    simp only [Option.toList, lruCount_cons, this, Bool.false_eq_true, if_false]
    unfold liveReadyUpdatedCount; simp; omega

/-- **C11 (the counters are exact; the driver's clause `sts_updated_ready_exact`)** — whatever `EnsureBatchPodsReadyAndLabeled` answers (any
    workload, any pods, any plan, any fault): the counters `BuildController` left are exact (`countersExact`: the size,
    the workload controller's `updatedReplicas`, and — wherever the pods are listed — exactly the number of live ready
    pods of the update revision); it has none only when it answers with an error. -/
theorem counters_exact (rel : Rel) (batch : Int) (d : Option Wl) (cl : Cluster) (f : Fault) (o : VerdictOut)
    (h : planeVerdict rel batch d cl f = .val o) :
    countersSound d cl o = true := by
  obtain ⟨_, hcases⟩ := planeVerdict_cases h
  unfold countersSound
  rcases hcases with ⟨hc, _, hv, _⟩ | ⟨w, r, hd, hr, _, hc, _⟩
  · cases d <;> simp [hc, hv]
  · subst hd
    simp only [hc, countersExact, countersOf_updatedReady, hr]
    simp [countersOf]

/-- **C11 / C07, in one equation** — the check writes nothing, and it answers `Ready` exactly when its reads succeed and
    the pods satisfy the batch; `verdict_sound` and `verdict_complete` are the two directions. -/
theorem verdict_eq {rel : Rel} {batch : Int} {d : Option Wl} {cl : Cluster} {f : Fault} {o : VerdictOut}
    (h : planeVerdict rel batch d cl f = .val o) :
    o.writes = 0 ∧ isReady o = d.any fun w => readsOK f w && readyMeansPods rel batch w cl := by
  obtain ⟨hw, hcases⟩ := planeVerdict_cases h
  refine ⟨hw, ?_⟩
  rcases hcases with ⟨_, _, hv, rfl | ⟨w, rfl, hro⟩⟩ | ⟨w, r, rfl, hr, hro, _, hrest⟩
  · simp [isReady, hv]
  · simp [isReady, hv, hro]
  · simp only [Option.any, hro, Bool.true_and, readyMeansPods, hr]
    rcases hrest with ⟨hr0, _, hv⟩ | ⟨hr0, e, he, _, hv⟩
    · simp [isReady, hv, hr0]
    · -- `IsBatchReady` on the context of the batch is `readyMeans`, and that is `readyMeansPods`
      have hm : readyMeans (batchCtxOf rel w (countersOf w r cl) e) none =
          (decide (cl.status.updated ≥ desiredOf (bkind w) r e rel.noNeedUpdate) &&
           decide (allowedUnavailable rel.failureThreshold cl.status.updated + readyPods w cl
             ≥ desiredOf (bkind w) r e rel.noNeedUpdate) &&
           decide (desiredOf (bkind w) r e rel.noNeedUpdate > 0 → readyPods w cl > 0)) := by
        simp only [readyMeans, batchCtxOf, countersOf_updatedReady, Bool.and_true]
        rfl
      have h0 : 0 ≤ (batchCtxOf rel w (countersOf w r cl) e).updatedReady := by
        rw [batchCtxOf]
        simp only [countersOf_updatedReady]
        exact readyPods_nonneg w cl
      simp only [hr0, if_false, he, ← hm, isReady, hv]
      apply Bool.eq_iff_iff.mpr
      simp only [beq_iff_eq, Verdict.is.injEq]
      exact ⟨RV.Props.C11.ready_sound _ none h0, RV.Props.C11.ready_complete _ none⟩

/-- **C11 (what the driver evaluates)** — whatever the check answers: it issued no write, and if the answer is `Ready`
    the pods say so (`readyMeansPods`). -/
theorem verdict_sound (rel : Rel) (batch : Int) (d : Option Wl) (cl : Cluster) (f : Fault) (o : VerdictOut)
    (h : planeVerdict rel batch d cl f = .val o) :
    verdictSound rel batch d cl o = true := by
  obtain ⟨hw, he⟩ := verdict_eq h
  unfold verdictSound
  rw [hw, he]
  cases d with
  | none => rfl
  | some w =>
    simp only [Option.any]
    cases readsOK f w <;> cases readyMeansPods rel batch w cl <;> rfl

/-- the number the verdict relies on is **the pods** wherever the code lists them: every typed kind (native / Advanced
    StatefulSet, Advanced DaemonSet) and every unstructured workload whose status reports no positive
    `updatedReadyReplicas` -/
theorem readyPods_listed (w : Wl) (cl : Cluster) (hl : needsList w = true) :
    readyPods w cl = ((cl.pods.filter (liveReadyUpdated cl.status.updateRevision)).length : Nat) := by
  simp [readyPods, hl, liveReadyUpdatedCount]

/-- **C11** — for every workload, every cluster, every plan, batch index and fault: if the
    control plane reports the batch **Ready**, then the workload exists and either is empty (size 0: the batch calls for
    nothing) or, for the plan entry of the batch and `desired := DesiredUpdatedReplicas` of that entry,
    * the workload's controller reports at least `desired` updated pods,
    * the **live ready pods of the update revision** (`readyPods`: counted on the pods of the cluster, `readyPods_listed`)
      plus the failure threshold reach `desired`, and
    * at least one such pod exists when any is called for. -/
theorem verdict_ready_means_pods (rel : Rel) (batch : Int) (d : Option Wl) (cl : Cluster) (f : Fault) (o : VerdictOut)
    (h : planeVerdict rel batch d cl f = .val o) (hok : o.verdict = .is .ok) :
    ∃ w r, d = some w ∧ replicasOf w = some r ∧
      (r = 0 ∨ ∃ e, entryOf rel batch = some e ∧
        cl.status.updated ≥ desiredOf (bkind w) r e rel.noNeedUpdate ∧
        allowedUnavailable rel.failureThreshold cl.status.updated + readyPods w cl ≥ desiredOf (bkind w) r e rel.noNeedUpdate ∧
        (desiredOf (bkind w) r e rel.noNeedUpdate > 0 → readyPods w cl ≥ 1)) := by
  have he := (verdict_eq h).2
  simp only [isReady, hok, beq_self_eq_true] at he
  cases d with
  | none => cases he
  | some w =>
    have hm := (Bool.and_eq_true _ _ ▸ he.symm).2
    simp only [readyMeansPods] at hm
    cases hr : replicasOf w with
    | none => simp [hr] at hm
    | some r =>
      refine ⟨w, r, rfl, hr, ?_⟩
      simp only [hr] at hm
      by_cases hr0 : r = 0
      · exact Or.inl hr0
      · right
        simp only [hr0, if_false] at hm
        cases he : entryOf rel batch with
        | none => simp [he] at hm
        | some e =>
          simp only [he, Bool.and_eq_true, decide_eq_true_eq] at hm
          obtain ⟨⟨h1, h2⟩, h3⟩ := hm
          exact ⟨e, rfl, h1, h2, fun hd => by have := h3 hd; omega⟩

theorem readyPods_degraded (w : Wl) (cl : Cluster) (h : Degrade) (i : Nat) (p : Pod) (hl : needsList w = true)
    (hp : cl.pods[i]? = some p) :
    readyPods w (degraded cl h i) =
      readyPods w cl - (if liveReadyUpdated cl.status.updateRevision p = true then 1 else 0) := by
  simp only [readyPods, hl, if_true, degraded]
  exact lruCount_degradeAt _ h i cl.pods p hp

/-- **C11** — for every cluster and every one of its updated ready pods: when that pod turns not
    ready, starts terminating, loses its revision label, is deleted, fails or loses its owner, the number the next check
    relies on is one lower, and if what is left no longer satisfies the batch (`readyMeansPods` false: ready pods below
    the failure threshold, or none left while some are called for) the next check does **not** answer `Ready` — the
    state falls back. -/
theorem verdict_falls_back (rel : Rel) (batch : Int) (w : Wl) (cl : Cluster) (f : Fault) (h : Degrade) (i : Nat) (p : Pod)
    (hl : needsList w = true) (hp : cl.pods[i]? = some p) (hc : liveReadyUpdated cl.status.updateRevision p = true) :
    readyPods w (degraded cl h i) = readyPods w cl - 1 ∧
    ∀ o2, planeVerdict rel batch (some w) (degraded cl h i) f = .val o2 →
      readyMeansPods rel batch w (degraded cl h i) = false → o2.verdict ≠ .is .ok := by
  refine ⟨by rw [readyPods_degraded w cl h i p hl hp]; simp [hc], ?_⟩
  intro o2 h2 hm hok
  have he := (verdict_eq h2).2
  simp only [isReady, hok, beq_self_eq_true, Option.any_some, hm, Bool.and_false] at he
  cases he

/-- **C11 (what the driver evaluates on two consecutive checks)** — `fallsBack`: the counter moves by exactly the pod that
    degraded, and the second verdict is `Ready` only if the pods that are left say so. -/
theorem verdict_falls_back_oracle (rel : Rel) (batch : Int) (w : Wl) (cl : Cluster) (f : Fault) (h : Degrade) (i : Nat)
    (o1 o2 : VerdictOut) (h1 : planeVerdict rel batch (some w) cl f = .val o1)
    (h2 : planeVerdict rel batch (some w) (degraded cl h i) f = .val o2) :
    fallsBack rel batch w cl h i o1 o2 = true := by
  unfold fallsBack
  have hsecond : (if isReady o2 = true then readyMeansPods rel batch w (degraded cl h i) else true) = true := by
    rw [(verdict_eq h2).2, Option.any]
    cases readsOK f w <;> cases readyMeansPods rel batch w (degraded cl h i) <;> rfl
  rw [hsecond, Bool.and_true]
  cases hp : cl.pods[i]? with
  | none => rfl
  | some p =>
    obtain ⟨_, c1⟩ := planeVerdict_cases h1
    obtain ⟨_, c2⟩ := planeVerdict_cases h2
    rcases c1 with ⟨hc1, _⟩ | ⟨w1, r1, hd1, hr1, _, hc1, _⟩
    · simp [hc1]
    · rcases c2 with ⟨hc2, _⟩ | ⟨w2, r2, hd2, hr2, _, hc2, _⟩
      · simp [hc1, hc2]
      · cases hd1; cases hd2
        simp only [hc1, hc2, countersOf_updatedReady]
        cases hl : needsList w
        · simp [readyPods, hl]
        · simp only [if_true, beq_iff_eq]
          exact readyPods_degraded w cl h i p hl hp

/-- **C07 (what the driver evaluates)** — completeness: whenever the reads succeed and the pods satisfy the batch, the
    answer is `Ready`. -/
theorem verdict_complete (rel : Rel) (batch : Int) (d : Option Wl) (cl : Cluster) (f : Fault) (o : VerdictOut)
    (h : planeVerdict rel batch d cl f = .val o) :
    verdictComplete rel batch d cl f o = true := by
  unfold verdictComplete
  rw [(verdict_eq h).2]
  cases d with
  | none => rfl
  | some w =>
    simp only [Option.any]
    cases readsOK f w <;> cases readyMeansPods rel batch w cl <;> rfl

/-- **C07** — for every workload, cluster and plan: when the Get of the workload and (where
    the pods are listed) the List succeed and the pods satisfy the batch (`readyMeansPods`: the workload is empty, or
    enough updated pods, live ready ones within the failure threshold, at least one when any is called for), the check
    neither panics nor errs: it answers **Ready** — a batch whose pods are ready is never kept waiting. -/
theorem verdict_ready_when_pods_ready (rel : Rel) (batch : Int) (w : Wl) (cl : Cluster) (f : Fault)
    (hro : readsOK f w = true) (hm : readyMeansPods rel batch w cl = true) :
    ∃ o, planeVerdict rel batch (some w) cl f = .val o ∧ o.verdict = .is .ok := by
  cases hp : planeVerdict rel batch (some w) cl f with
  | val o =>
    have hc := verdict_complete rel batch (some w) cl f o hp
    simp only [verdictComplete, hro, hm, Bool.and_self, if_true, isReady, beq_iff_eq] at hc
    exact ⟨o, rfl, hc⟩
  | panic =>
    -- a panic would need a nil size or a batch outside the plan, and then the pods cannot satisfy the batch
    exfalso
    have hs : step { rel := rel, world := default } (some w)
        { call := .upgradeBatch, fault := f, batch := batch, bpNil := false, edit := Edit.none } = .panic :=
      planeVerdict_panic hp
    unfold readyMeansPods at hm
    rcases step_panic_cases hs with ⟨w', hd, hr⟩ | ⟨_, w', r, hd, hr, hr0, he⟩ <;> cases hd
    · rw [hr] at hm; cases hm
    · simp only [hr, hr0, if_false] at hm
      rw [show entryOf rel batch = none from he] at hm; cases hm

/-- **no crash (the readiness check)** — like `no_crash` for the three calls: for every workload an API server can hold and
    every plan whose current batch exists (`callInputOK` of the `UpgradeBatch` call, which reads the same plan entry) the
    check does not panic, whatever the pods and whatever the fault. -/
theorem verdict_no_crash (rel : Rel) (batch : Int) (d : Option Wl) (cl : Cluster) (f : Fault) :
    noCrash rel { call := .upgradeBatch, fault := f, batch := batch, bpNil := false, edit := Edit.none } d
      (isPanic (planeVerdict rel batch d cl f)) = true := by
  cases hp : planeVerdict rel batch d cl f with
  | val o => unfold noCrash; split <;> rfl
  | panic =>
    have := no_crash { rel := rel, world := default }
      d { call := .upgradeBatch, fault := f, batch := batch, bpNil := false, edit := Edit.none }
    rwa [show step _ d _ = planeUpgradeBatch rel batch d f from rfl, planeVerdict_panic hp] at this

/-! ### non-vacuity of the section (tests on literals) -/

/-- a ready pod of the update revision `wl-6d8f9c7b5`, owned by the workload -/
def exPod : Pod :=
  { inNamespace := true, selMatch := true, phase := "Running", owner := .this, terminating := false,
    hashLabel := "", revLabel := "wl-6d8f9c7b5", conds := [("PodScheduled", "True"), ("Ready", "True")] }

/-- four updated ready pods (one labelled with the hash only, one owned through an intermediate owner) among pods of
    all seven other combinations of (terminating, revision, ready) and pods `ListOwnedPods` drops -/
def exPods : List Pod :=
  [exPod, { exPod with terminating := true }, { exPod with revLabel := "6d8f9c7b5" },
   { exPod with revLabel := "wl-5c9d7f6b8" }, { exPod with conds := [("Ready", "False"), ("Ready", "True")] },
   { exPod with terminating := true, conds := [] }, { exPod with terminating := true, revLabel := "" },
   { exPod with revLabel := "xwl-6d8f9c7b5", conds := [("Ready", "Unknown")] },
   { exPod with terminating := true, revLabel := "rev-old", conds := [("ContainersReady", "True")] },
   { exPod with owner := .other true, revLabel := "", hashLabel := "6d8f9c7b5" },
   { exPod with owner := .other false }, { exPod with owner := .none }, { exPod with phase := "Succeeded" },
   { exPod with selMatch := false }, { exPod with inNamespace := false }, exPod]

/-- a native StatefulSet of 10 replicas in the middle of its rollout -/
def exSts : Wl :=
  { kind := .native, replicas := some 10, us := .present "RollingUpdate" (.present (.int 6) none false), control := .this,
    inProgress := true, tmpl := 2, tmplPresent := true, updatedReady := 0, rest := 0 }

def exCluster : Cluster := { status := { updateRevision := "wl-6d8f9c7b5", updated := 4, ready := 9 }, pods := exPods }

def exRel : Rel := { batches := [pct 20, pct 40, pct 100], rollbackAnno := false, updated := 0, noNeedUpdate := none }

/-- the count is 4 of 16 pods (7 of them live pods of the workload); batch 1 (40 % of 10 = 4) is `Ready`; when pod 2 starts terminating
    3 are left and the verdict falls back to `notReady`; with a failure threshold of 1 it would still be `Ready`
    (`verdict_ready_means_pods`, `verdict_falls_back` and `verdict_ready_when_pods_ready` are not vacuous) -/
example :
    updatedReadyOf "wl-6d8f9c7b5" exPods = 4 ∧ liveCount exPods = 7 ∧
    needsList exSts = true ∧ exPods[2]?.map (liveReadyUpdated "wl-6d8f9c7b5") = some true ∧
    (match planeVerdict exRel 1 (some exSts) exCluster .none with
     | .val o => o.verdict == .is .ok && o.counters == some { replicas := 10, updated := 4, updatedReady := 4 }
     | .panic => false) = true ∧
    readyMeansPods exRel 1 exSts exCluster = true ∧ readsOK .none exSts = true ∧
    readyMeansPods exRel 1 exSts (degraded exCluster .terminating 2) = false ∧
    (match planeVerdict exRel 1 (some exSts) (degraded exCluster .terminating 2) .none with
     | .val o => o.verdict == .is .notReady && o.counters == some { replicas := 10, updated := 4, updatedReady := 3 }
     | .panic => false) = true ∧
    (match planeVerdict { exRel with failureThreshold := some (int 1) } 1 (some exSts) (degraded exCluster .terminating 2) .none with
     | .val o => o.verdict == .is .ok
     | .panic => false) = true := by
  decide +kernel

/-- the same pods behind an unstructured workload whose status reports `updatedReadyReplicas: 7`: the pods are not
    listed, the reported number is what the verdict relies on (`readyPods`), a failing List does not matter -/
example :
    needsList { exSts with kind := .unstructured, updatedReady := 7 } = false ∧
    (match planeVerdict exRel 1 (some { exSts with kind := .unstructured, updatedReady := 7 }) exCluster .list with
     | .val o => o.verdict == .is .ok && o.counters == some { replicas := 10, updated := 4, updatedReady := 7 }
     | .panic => false) = true ∧
    (match planeVerdict exRel 1 (some exSts) exCluster .list with
     | .val o => o.verdict == .err
     | .panic => false) = true := by
  decide +kernel

end RV.Props.CtlSts
