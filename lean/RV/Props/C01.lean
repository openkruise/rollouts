import RV.Lemmas.BatchCtx
/-!
# C01 — pod exposure never exceeds what the current step allows

One `CalculateBatchContext` + `UpgradeBatch` decision, every workload kind,
every replica count, every plan entry (ints, percents, malformed strings), every
current knob value.  The oracles `exposureBound` / `monotone` are the ones the driver
evaluates on the implementation's writes (RV/Oracle/Batch.lean).
-/
namespace RV.Props.C01
open RV.Arith IntOrPct RV.BatchCtx RV.Oracle.Batch

/-- the kinds whose knob is a partition on the workload object itself (CloneSet, the StatefulSet-likes, DaemonSet): only for them may a
    no-need-update count be set (`NnValid`); the partition-style Deployment (`depPartition`) is not among them -/
def partitionKind : Kind → Bool
  | .cloneSet | .stsOrdered | .stsUnordered | .daemonSet => true
  | _ => false

/-- Inputs the controls can see: a non-negative size; a no-need-update count (only the
    partition-style control plane sets one) between 0 and the size. -/
def NnValid (kind : Kind) (R : Int) (nn : Option Int) : Prop :=
  0 ≤ R ∧ (∀ k, nn = some k → 0 ≤ k ∧ k ≤ R) ∧ (partitionKind kind = true ∨ nn = none)

theorem nn_none {kind : Kind} {nn : Option Int} (h : partitionKind kind = true ∨ nn = none)
    (hk : partitionKind kind = false := by rfl) : nn = none :=
  h.resolve_left (by rw [hk]; nofun)

/-- **What the desired knob exposes, per kind**: exactly what the step allows, except that an ordered StatefulSet
    leaves the `k` no-need-update pods out, the partition-style Deployment stays at `NewRSReplicasLimit`, and the
    CloneSet turns a string entry into the percentage of `ParseIntegerAsPercentageIfPossible`.  C01.1 is the upper
    reading of this table, C07.iv (`RV.Props.C07.desKnob_suffices`) the lower one. -/
theorem exposureOf_desKnob (kind : Kind) (R : Int) (e : IntOrPct) (nn : Option Int) (hv : NnValid kind R nn) :
    exposureOf kind (desKnob kind R e nn) R =
      match (generalizing := false) kind with
      | .cloneSet => if isStr e then exposure (parsePct (R - allowed R e nn) R e) R else allowed R e nn
      | .stsOrdered => allowed R e nn - nn.getD 0
      | .depPartition => newRSReplicasLimit e R
      | _ => allowed R e nn := by
  obtain ⟨hR, hk, hpk⟩ := hv
  obtain ⟨hds, _, hal0, hal1⟩ := desiredStable_eq R e nn hR hk
  have hex := exposure_int (R - allowed R e nn) R (by omega) (by omega)
  cases kind
  case cloneSet =>
    cases e <;> simp only [exposureOf, desKnob, hds, isStr, if_true, Bool.false_eq_true, if_false]
    rw [hex]; omega
  case stsOrdered =>
    cases nn with
    | none => simp only [exposureOf, desKnob, hds, hex, Option.getD]; omega
    | some k =>
      have := hk k rfl
      simp only [Option.getD] at hal0 ⊢
      simp only [exposureOf, desKnob, hds]
      rw [exposure_int _ _ (by omega) (by omega)]; omega
  case stsUnordered => simp only [exposureOf, desKnob, hds, hex]; omega
  case daemonSet =>
    simp only [exposureOf, desKnob, hds]
    split
    · rw [exposure_int _ _ (Int.le_refl 0) hR]; omega
    · rw [hex]; omega
  case depPartition => rfl
  case depCanary => cases nn_none hpk; rfl
  case depBlueGreen => cases nn_none hpk; exact (calcBatch_eq_clamp hR e).symm
  case csBlueGreen => cases nn_none hpk; exact (calcBatch_eq_clamp hR e).symm

/-- **C01.1** — the knob value computed for plan entry `e` exposes at most the pods the step
    allows (`CalculateBatchReplicas`; `k` rolled-back pods count as already updated), except
    that a CloneSet percent partition may exceed it by strictly less than 1 % of the size. -/
theorem desKnob_exposure_bound (kind : Kind) (R : Int) (e : IntOrPct) (nn : Option Int)
    (hv : NnValid kind R nn) : exposureBound kind R e nn (desKnob kind R e nn) = true := by
  have ht := exposureOf_desKnob kind R e nn hv
  obtain ⟨hR, hk, hpk⟩ := hv
  obtain ⟨_, _, hal0, hal1⟩ := desiredStable_eq R e nn hR hk
  unfold exposureBound
  dsimp only
  rw [ht]
  by_cases hc : kind = .cloneSet ∧ isStr e = true
  · rw [if_pos hc]; obtain ⟨rfl, hs⟩ := hc
    obtain ⟨q, hq, _, hsl, _⟩ := parsePct_spec (R - allowed R e nn) R e hR (by omega) (by omega)
    simp only [hs, if_true, hq, exposure]
    exact decide_eq_true (by omega)
  · rw [if_neg hc]
    apply decide_eq_true
    cases kind <;> dsimp only
    case cloneSet => rw [if_neg fun h => hc ⟨rfl, h⟩]; exact Int.le_refl _
    case stsOrdered =>
      cases nn with
      | none => exact Int.sub_le_self _ (Int.le_refl 0)
      | some k => exact Int.sub_le_self _ (hk k rfl).1
    case depPartition =>
      cases nn_none hpk
      exact Int.le_trans (newRSLimit_kept e R).2 (Int.le_of_eq (calcBatch_eq_clamp hR e).symm)
    all_goals exact Int.le_refl _

/-- The knob kinds whose current value is always an integer on the object
    (`*int32` partitions, the canary Deployment's replicas). -/
def KnobTyped (kind : Kind) (cur : IntOrPct) : Prop :=
  match kind with
  | .stsOrdered | .stsUnordered | .daemonSet | .depCanary => ∃ n, cur = int n
  | _ => True

theorem desKnob_typed (kind : Kind) (R : Int) (e : IntOrPct) (nn : Option Int) :
    KnobTyped kind (desKnob kind R e nn) := by
  cases kind <;> simp only [KnobTyped, desKnob]
  · cases nn <;> exact ⟨_, rfl⟩
  · exact ⟨_, rfl⟩
  · exact ⟨_, rfl⟩
  · exact ⟨_, rfl⟩

/-- what `UpgradeBatch` writes when it writes: the desired knob, as its integer value for the kinds whose knob is
    an `*int32`, and `DesiredUpdatedReplicas` for the canary Deployment -/
def written (kind : Kind) (c : Ctx) : IntOrPct :=
  match kind with
  | .stsOrdered | .stsUnordered | .daemonSet => int (intVal c.knobDes)
  | .depCanary => int c.desired
  | _ => c.knobDes

theorem written_eq {kind : Kind} {c : Ctx} (hd : KnobTyped kind c.knobDes)
    (hcan : kind = .depCanary → c.knobDes = int c.desired) : written kind c = c.knobDes := by
  cases kind
  case stsOrdered | stsUnordered | daemonSet => obtain ⟨n, hn⟩ := hd; simp only [written, hn, intVal]
  case depCanary => exact (hcan rfl).symm
  all_goals rfl

theorem written_calcCtx {o : Obs} {c : Ctx} (hc : calcCtx o = .ok c) : written o.kind c = c.knobDes := by
  obtain ⟨e, _, rfl⟩ := calcCtx_ok hc
  exact written_eq (desKnob_typed ..) fun hk => by rw [hk]; rfl

/-- **`UpgradeBatch`, every kind**: it writes exactly when that exposes more in the measure the kind compares (the
    rounded-up knob, its integer value, `NewRSReplicasLimit`), and the exposure is monotone in each: the partition
    kinds keep fewer pods on the old revision, the surge of the blue-green kinds is the same clamp. -/
theorem upgrade_cases (kind : Kind) (c : Ctx) (ht : KnobTyped kind c.knobCur) :
    (upgrade kind c = none ∧
      exposureOf kind (written kind c) c.replicas ≤ exposureOf kind c.knobCur c.replicas) ∨
    (upgrade kind c = some (written kind c) ∧
      exposureOf kind c.knobCur c.replicas ≤ exposureOf kind (written kind c) c.replicas) := by
  have hsub {a b : IntOrPct} (h : scaledV a c.replicas true ≤ scaledV b c.replicas true) :
      exposure b c.replicas ≤ exposure a c.replicas := Int.sub_le_sub_left (keptStable_mono h) _
  cases kind
  case cloneSet =>
    simp only [upgrade, written, exposureOf]
    split
    · exact .inl ⟨rfl, hsub ‹_›⟩
    · exact .inr ⟨rfl, hsub (Int.le_of_lt (Int.not_le.mp ‹_›))⟩
  case stsOrdered | stsUnordered | daemonSet =>
    obtain ⟨n, hn⟩ := ht
    simp only [upgrade, written, exposureOf, hn]
    split
    · exact .inl ⟨rfl, hsub (a := int n) (b := int _) ‹_›⟩
    · exact .inr ⟨rfl, hsub (a := int _) (b := int n) (Int.le_of_lt (Int.not_le.mp ‹_›))⟩
  case depPartition =>
    simp only [upgrade, written, exposureOf]
    split
    · exact .inl ⟨rfl, ‹_›⟩
    · exact .inr ⟨rfl, Int.le_of_lt (Int.not_le.mp ‹_›)⟩
  case depCanary =>
    simp only [upgrade, written, exposureOf]
    split
    · exact .inl ⟨rfl, ‹_›⟩
    · exact .inr ⟨rfl, Int.le_of_lt (Int.not_le.mp ‹_›)⟩
  case depBlueGreen | csBlueGreen =>
    simp only [upgrade, written, exposureOf]
    split
    · exact .inl ⟨rfl, keptStable_mono ‹_›⟩
    · exact .inr ⟨rfl, keptStable_mono (Int.le_of_lt (Int.not_le.mp ‹_›))⟩

theorem upgrade_writes_desired (o : Obs) (c : Ctx) (w : IntOrPct)
    (hc : calcCtx o = .ok c) (hw : upgrade o.kind c = some w) : w = c.knobDes := by
  rw [← written_calcCtx hc]
  -- the comparison does not depend on how the current knob is typed
  generalize o.kind = k at hw ⊢
  cases k <;> simp only [upgrade] at hw <;> split at hw <;> cases hw <;> rfl

/-- **C01.1 (as observed on writes)** — every knob write of `UpgradeBatch` respects the
    exposure bound of the current plan entry. -/
theorem write_exposure_bound (o : Obs) (e : IntOrPct) (c : Ctx) (w : IntOrPct)
    (hv : NnValid o.kind o.replicas o.noNeedUpdate) (he : o.entry = some e)
    (hc : calcCtx o = .ok c) (hw : upgrade o.kind c = some w) :
    exposureBound o.kind o.replicas e o.noNeedUpdate w = true := by
  rw [upgrade_writes_desired o c w hc hw]
  obtain ⟨e', he', rfl⟩ := calcCtx_ok hc
  cases he.symm.trans he'
  exact desKnob_exposure_bound _ _ _ _ hv

/-- **C01.2** — a knob write never lowers the exposure: `UpgradeBatch` only ever moves the
    workload's update setting toward the new revision.  (`hd` is not needed: `upgrade_cases` asks for the typing of the current knob only.) -/
theorem write_monotone (kind : Kind) (c : Ctx) (w : IntOrPct)
    (ht : KnobTyped kind c.knobCur) (hd : KnobTyped kind c.knobDes)
    (hw : upgrade kind c = some w) :
    monotone kind c.replicas c.knobCur w = true := by
  obtain ⟨h, _⟩ | ⟨h, hle⟩ := upgrade_cases kind c ht <;> rw [h] at hw <;> cases hw
  exact decide_eq_true hle

/-! ### non-vacuity (tests on literals, not the ∀ claims) -/
example : exposureOf .cloneSet (desKnob .cloneSet 3 (pct 34) none) 3 = 2 ∧ calcBatchReplicas 3 (pct 34) = 2 := by decide
example : exposureOf .cloneSet (desKnob .cloneSet 199 (pct 50) none) 199 = 101 ∧ calcBatchReplicas 199 (pct 50) = 100 := by decide
example : NnValid .cloneSet 10 (some 3) := by
  refine ⟨by decide, ?_, Or.inl rfl⟩
  intro k hk; cases hk; decide
example : upgrade .cloneSet (Ctx.mk 10 0 0 5 5 (pct 100) (pct 50) none) = some (pct 50) := by decide

/-- **C01 (scaling)** `ParseIntegerAsPercentageIfPossible` always answers with a percentage — never with the bare
    stable count — so the partition written for a percentage plan entry follows the workload's size. -/
theorem parsePct_is_percentage (stable all : Int) (canary : IntOrPct) : ∃ q, parsePct stable all canary = .pct q := by
  unfold parsePct
  split
  · exact ⟨_, rfl⟩
  · split
    · exact ⟨_, rfl⟩
    · dsimp only; split <;> exact ⟨_, rfl⟩

theorem cloneSet_percent_partition_is_percentage (R p : Int) (nn : Option Int) :
    ∃ q, desKnob .cloneSet R (.pct p) nn = .pct q := by
  unfold desKnob
  exact parsePct_is_percentage _ _ _

end RV.Props.C01
