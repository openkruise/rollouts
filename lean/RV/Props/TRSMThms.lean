import RV.Oracle.TRSM
import RV.Lemmas.TRSM
import RV.Props.TrafficThms
/-! # C18 — TrafficRouting controller: the finalizer guards the teardown -/
namespace RV.Props.TRSM
open RV.Traffic RV.TRSM RV.Oracle.TRSM

theorem finalising_done_clean (c : TCtx) (n : Net) (m : Mem) (href : c.hasRef = true)
    (hd : (finalisingTrafficRouting c n m).done = true) : (finalisingTrafficRouting c n m).net.canaryIng = none := by
  obtain ⟨_, ⟨_, d, _⟩ | ⟨_, _, d, _⟩ | ⟨_, _, _, hn, _⟩⟩ := RV.Props.Traffic.finalising_cases c n m href
  · cases d.symm.trans hd
  · cases d.symm.trans hd
  · -- done: the network is the one `RemoveCanaryService` left, whose route `RestoreGateway` had withdrawn
    rw [hn, (RV.Props.Traffic.rc_spec c _ _).kept (·.canaryIng) rfl, (RV.Props.Traffic.rg_spec c _ _).post href]

/-- **C18 (TrafficRouting)** — for every object, network state and expectation map: the controller
    removes its own finalizer only while the object is being deleted, and only in a reconcile in which
    `FinalisingTrafficRouting` reported done — so that no canary route is left. -/
theorem finalizer_guard (w : World) :
    finalizerGuard w (reconcile w).w.tr (reconcile w).w.net = true ∧
    (w.tr.hasFinalizer = true → (reconcile w).w.tr.hasFinalizer = false → (reconcile w).finalised = true) := by
  -- the finalizer goes only in the two branches of an object in deletion whose clean-up reported done
  have key : w.tr.hasFinalizer = true → (reconcile w).w.tr.hasFinalizer = false →
      w.tr.deleting = true ∧ (reconcile w).finalised = true ∧ (reconcile w).w.net.canaryIng = none := by
    rw [RV.Props.TRBind.reconcile_eq_core]
    intro hf hf'
    have h := RV.Props.TRBind.core_cases (RV.Props.TRBind.ofTR w.tr) w.net w.mem
    generalize RV.TRBind.trCore (RV.Props.TRBind.ofTR w.tr) w.net w.mem = c at h hf'
    cases h
    case delWait => exact absurd (hf.symm.trans hf') Bool.noConfusion
    case delGone hd _ hdn _ | delKept hd _ hdn _ => exact ⟨hd, rfl, finalising_done_clean _ _ _ rfl hdn⟩
    all_goals cases hf'
  refine ⟨?_, fun hf hf' => (key hf hf').2.1⟩
  unfold finalizerGuard
  split
  · rename_i h
    obtain ⟨hd, _, hc⟩ := key h.1 (by simpa using h.2)
    simp [hd, hc]
  · rfl

/-- **C18 (converse)** — deletion is not blocked forever: for an object in deletion without a grace period `FinalisingTrafficRouting`
    is done in one call whatever the network (`finalising_immediate`), so one reconcile removes the finalizer or the object is gone.
    `hclean` is the situation meant (the routes are restored); the proof does not need it. -/
theorem clean_then_released (w : World) (hd : w.tr.deleting = true) (hclean : w.net.canaryIng = none)
    (hg : w.tr.grace = 0) : (reconcile w).w.tr.hasFinalizer = false ∧ (reconcile w).err = false ∨ (reconcile w).gone = true := by
  obtain ⟨hdone, herr⟩ := RV.Props.Traffic.finalising_immediate (tctx w.tr) w.net w.mem hg
  rw [RV.Props.TRBind.reconcile_eq_core]
  have h := RV.Props.TRBind.core_cases (RV.Props.TRBind.ofTR w.tr) w.net w.mem
  generalize RV.TRBind.trCore (RV.Props.TRBind.ofTR w.tr) w.net w.mem = c at h
  cases h
  case delWait h =>
    rcases h with h | h
    · exact absurd (herr.symm.trans h) Bool.noConfusion
    · exact absurd (hdone.symm.trans h) Bool.noConfusion
  case delGone hh =>
    right
    show (w.tr.deleting && !false && (RV.Props.TRBind.ofTR w.tr).holders.length == 0) = true
    rw [hd, hh]; rfl
  case delKept => exact .inl ⟨rfl, rfl⟩
  -- the other branches are those of a live object
  all_goals exact absurd (‹(RV.Props.TRBind.ofTR w.tr).deleting = false›.symm.trans hd) Bool.noConfusion

/-- a TrafficRouting in deletion whose canary route is still in place: one reconcile keeps the finalizer
    (the clean-up is not done), so `finalizer_guard` speaks about a real situation -/
example :
    let w : World := { tr := { deleting := true, hasFinalizer := true, progressing := 0, phase := .terminating, weight := some 20, grace := 3 },
                       net := { stableExists := true, stableSel := some "v1", canarySvc := some "v2", stableIngress := true, canaryIng := some 20 },
                       mem := Mem.empty }
    (reconcile w).w.tr.hasFinalizer = true ∧ (reconcile w).gone = false := by decide

/-- with no grace period the next reconcile releases it (`clean_then_released`) -/
example :
    let w : World := { tr := { deleting := true, hasFinalizer := true, progressing := 0, phase := .terminating, weight := some 20, grace := 0 },
                       net := { stableExists := true, stableSel := none, canarySvc := none, stableIngress := true, canaryIng := none },
                       mem := Mem.empty }
    (reconcile w).w.tr.hasFinalizer = false ∨ (reconcile w).gone = true := by decide

end RV.Props.TRSM
