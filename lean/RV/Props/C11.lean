import RV.Oracle.Batch
/-!
# C11 — BatchRelease status means what it says

Clause (i): the readiness verdict (`BatchContext.IsBatchReady`) is `ok` exactly when the
workload has at least the desired number of updated pods, ready ones within the failure
threshold, at least one ready when any is called for, and (with a rollout-id) enough
labelled pods.
-/
namespace RV.Props.C11
open RV.Arith IntOrPct RV.BatchCtx RV.Oracle.Batch

/-- **C11.i** — `Ready` is reported only if the workload really satisfies the batch. -/
theorem ready_sound (c : Ctx) (labelled : Option Int) (h0 : 0 ≤ c.updatedReady)
    (h : isBatchReady c labelled = .ok) :
    readyMeans c labelled = true := by
  unfold isBatchReady at h
  simp only [readyMeans, Bool.and_eq_true, decide_eq_true_eq]
  split at h
  · cases h
  · split at h
    · cases h
    · split at h
      · cases h
      · rename_i h1 h2 h3
        refine ⟨⟨⟨by omega, by omega⟩, ?_⟩, ?_⟩
        · intro hd
          have : ¬ (c.updatedReady = 0) := fun h0 => h3 ⟨hd, h0⟩
          omega
        · cases labelled with
          | none => trivial
          | some n =>
            simp only at h ⊢
            split at h
            · exact decide_eq_true (by assumption)
            · cases h

/-- and conversely: when the four conditions hold the verdict is `ok` (no spurious "not ready"). -/
theorem ready_complete (c : Ctx) (labelled : Option Int) (h : readyMeans c labelled = true) :
    isBatchReady c labelled = .ok := by
  simp only [readyMeans, Bool.and_eq_true, decide_eq_true_eq] at h
  obtain ⟨⟨⟨h1, h2⟩, h3⟩, h4⟩ := h
  unfold isBatchReady
  rw [if_neg (by omega), if_neg (by omega), if_neg (by intro ⟨a, b⟩; have := h3 a; omega)]
  cases labelled with
  | none => rfl
  | some n =>
    simp only [decide_eq_true_eq] at h4
    simp only [h4, if_true]

example : isBatchReady (Ctx.mk 10 5 4 5 5 (pct 50) (pct 50) (some (int 1))) (some 5) = .ok := by decide
example : isBatchReady (Ctx.mk 10 5 3 5 5 (pct 50) (pct 50) (some (int 1))) (some 5) = .notReady := by decide

end RV.Props.C11
