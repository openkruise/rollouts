import RV.Props.ClosedLoopBGThms
/-!
# The blue-green closed loop, continued: the Rollout controller resumes the workload only in a clean-up phase (C04 / C10)

The Rollout half of `bg_traffic_before_scale_down`, as a localisation for EVERY state: `bg_resume_only_in_cleanup`.
(Own file: it works inside `RV.RolloutSM`, whose names clash with the executor's.)
-/
namespace RV.Props.ClosedLoopBG
open RV.Arith IntOrPct RV.Traffic RV.ClosedLoopBG RV.Oracle.ClosedLoopBG RV.Lemmas.ClosedLoopBG
open RV.ClosedLoop (CBr Label CS)
open RV.RolloutSM

/-- the BatchRelease as a Rollout reconcile may leave it when it neither resumes the workload nor releases it: not removed, not
    marked for deletion, and its batch partition not cleared (kept, or set) -/
def Kept (old new : Option RolloutSM.BR) : Prop :=
  match old, new with
  | none, none => True
  | none, some b' => b'.deleting = false ∧ b'.partition.isSome = true
  | some _, none => False
  | some b, some b' => b'.deleting = b.deleting ∧ (b'.partition = b.partition ∨ b'.partition.isSome = true)

theorem Kept.refl (a : Option RolloutSM.BR) : Kept a a := by
  cases a with
  | none => trivial
  | some b => exact ⟨rfl, Or.inl rfl⟩

theorem Kept.trans {a b c : Option RolloutSM.BR} (h1 : Kept a b) (h2 : Kept b c) : Kept a c := by
  cases b with
  | none =>
    cases a with
    | none => exact h2
    | some _ => exact h1.elim
  | some y =>
    cases c with
    | none => exact h2.elim
    | some z =>
      -- the deletion mark composes; a partition that is there is kept or set again
      cases a with
      | none => exact ⟨h2.1.trans h1.1, h2.2.elim (fun e => by rw [e]; exact h1.2) id⟩
      | some x => exact ⟨h2.1.trans h1.1, h2.2.elim (fun e => h1.2.imp e.trans (by rw [e]; exact ·)) Or.inr⟩

theorem runBatchRelease_kept (ro : Rollout) (br : Option BR) (id : String) (idx : Int) (rb : Bool) :
    Kept br (runBatchRelease ro br id idx rb).2.1 := by
  cases br with
  | none => exact ⟨rfl, rfl⟩
  | some b =>
    cases h : brSpecEq b (desiredBR ro id (idx - 1) rb) with
    | true => rw [runBatchRelease_current h]; exact ⟨rfl, Or.inl rfl⟩
    | false => rw [runBatchRelease_update h]; exact ⟨rfl, Or.inr rfl⟩

theorem syncStep_kept (c : Ctx) : Kept c.br (syncStep c).br := by
  have h := syncStep_br c
  generalize (syncStep c).br = y at h ⊢
  generalize c.br = x at h ⊢
  cases h with
  | same => exact Kept.refl _
  | patched => exact ⟨rfl, Or.inl rfl⟩

theorem upgradeOut_kept (ro : Rollout) (step : Step) (c : Ctx) : Kept c.br (upgradeOut ro step c).br := by
  rw [upgradeOut_eq]
  show Kept c.br (doCanaryUpgrade ro c.sub c.wl c.br).2.1
  rw [doCanaryUpgrade_br]
  exact runBatchRelease_kept ro c.br (getRolloutID c.wl) c.sub.curIdx c.wl.inRollback

/-- of the moves of the sub-state only `StepUpgrade` reaches the BatchRelease; a Manager call never does -/
theorem round_kept {ro : Rollout} {step : Step} {c c1 c' : Ctx} {err : Bool} (htm : TM c c1)
    (hx : (c' = c1 ∧ err = true) ∨ (c' = { c1 with requeue := true } ∧ err = false) ∨ finish ro step c1 = .ok c' err) :
    Kept c.br c'.br := by
  rw [← htm.br]
  rcases hx with ⟨rfl, _⟩ | ⟨rfl, _⟩ | hf
  · exact Kept.refl _
  · exact Kept.refl _
  · cases (finish_inv hf).1 with
    | enterUpgrade => exact upgradeOut_kept ro step { c1 with sub := { c1.sub with state := .upgrade, lastUpdate := .fresh } }
    | upgrade => exact upgradeOut_kept ro step c1
    | toUpgrade | routed | analysed | pauseDone | pauseWait | advance | complete | noop => exact Kept.refl _

theorem runCanary_kept (c0 c' : Ctx) (err : Bool) (h : runCanary c0 = .ok c' err) : Kept c0.br c'.br := by
  have h0 := syncStep_kept c0
  rcases runCanary_cases h with ⟨s2, _, rfl, _⟩ | ⟨step, c1, _, _, htm, hx⟩
  · exact h0
  · exact h0.trans (round_kept htm hx)

theorem inRolling_kept (w : World) (old ns : Rollout) (s : Sub) (wl : WL) (r : StepResult) (hbg : ns.style = .blueGreen)
    (h : inRolling w old ns s wl = .val r) : Kept w.br r.w.br := by
  cases ho : old.sub with
  | none => rw [(inRolling_nosub h ho).2.2]; exact Kept.refl _
  | some os =>
    cases inRolling_dispatch h ho with
    | reset _ _ _ hn => exact absurd hbg hn
    | run _ _ _ _ _ c err hrun => exact runCanary_kept _ c err hrun
    -- every other branch only rewrites the Rollout's status (`quiet`)
    | _ => exact Kept.refl _

/-- the Rollout is in one of its clean-up phases: finishing a successful release, cancelling after a rollback, terminating, disabling -/
def inCleanup (ro : Rollout) : Prop :=
  (ro.phase = .progressing ∧ (ro.reason = .finalising ∨ ro.reason = .cancelling)) ∨ ro.phase = .terminating ∨ ro.phase = .disabling

theorem inCleanup_of_finCall {w : World} {wl : Option WL} {reason : Reason} {wr : Bool} {upd : Rollout → Rollout}
    (h : FinCall w wl reason wr upd) : inCleanup w.ro := by
  cases h with
  | success wl hl hr => exact Or.inl ⟨hl.progressing, Or.inl hr⟩
  | rollback wl hl hr => exact Or.inl ⟨hl.progressing, Or.inr hr⟩
  | terminating hph _ => exact Or.inr (Or.inl hph)
  | disabling hph => exact Or.inr (Or.inr hph)

/-- only `inRolling` and the clean-up calls of `Reconcile` reach the BatchRelease -/
theorem reconcile_kept_core (w : World) (r : StepResult) (h : reconcileCore w = .val r) (hbg : w.ro.style = .blueGreen)
    (hnc : ¬ inCleanup w.ro) : Kept w.br r.w.br := by
  have hstyle : ∀ ns, calculateStatus (handleFinalizer w.ro).1 w.wl = some ns → ns.style = .blueGreen := fun ns hcs => by
    rw [(RV.Props.Reconcile.cs_frame _ ns _ hcs).1.style, RV.Props.Reconcile.hf_frame w.ro]; exact hbg
  cases reconcileCore_inv h with
  | rollingErr ns hcs wl _ _ s _ r0 hir | rolling ns hcs wl _ _ s _ r0 hir =>
    exact inRolling_kept w w.ro ns s wl r0 (hstyle ns hcs) hir
  | finErr _ _ hc | finDone _ _ hc | finWait _ _ hc => exact absurd (inCleanup_of_finCall hc) hnc
  | _ => exact Kept.refl _

/-- the cursor reset after the body does not touch the BatchRelease -/
theorem reconcile_kept (w : World) (r : StepResult) (h : reconcile w = .val r) (hbg : w.ro.style = .blueGreen)
    (hnc : ¬ inCleanup w.ro) : Kept w.br r.w.br := by
  obtain ⟨r0, h0, rfl⟩ := reconcile_val h
  rw [resetOnExit_br]
  exact reconcile_kept_core w r0 h0 hbg hnc

theorem updatedBr_kept (c : CBr) (b' : RolloutSM.BR) (hd : b'.deleting = c.deleting)
    (hp : b'.partition = c.partition ∨ b'.partition.isSome = true) (hcp : c.partition.isSome = true) :
    ∃ c2, RV.ClosedLoop.updatedBr c b' = some c2 ∧ c2.deleting = c.deleting ∧ c2.partition.isSome = true := by
  unfold RV.ClosedLoop.updatedBr
  dsimp only
  rw [if_neg (by rw [hd]; exact fun h => h.2 h.1)]
  refine ⟨_, rfl, ?_, ?_⟩
  · split <;> rfl
  · split
    · dsimp only
      rcases hp with g | g
      · rw [g]; exact hcp
      · exact g
    · exact hcp

/-- **`bg_resume_only_in_cleanup`** (C04 / C10, the Rollout half of `bg_traffic_before_scale_down`, localisation) — for EVERY
    state of the blue-green loop: a Rollout reconcile clears the BatchRelease's batch partition (= resumes the workload, after which
    `Finalize` may hand the CloneSet back — `bg_finalize_needs_resume`) or marks a still partitioned BatchRelease for deletion only while
    the Rollout is in one of its clean-up phases (Finalising after success, Cancelling after a rollback, Terminating, Disabling).  While
    a release is rolling — whatever the step, sub-state, plan change, pause, superseding revision, jump request — it never does.
    What is NOT proved here: that inside a clean-up phase the resume comes after the traffic tasks of that phase's sequence have
    completed *and their effect persists* (the cursor invariant `RV.Props.Cluster.reach_inv_partial` proves that for a clean-up that keeps
    its reason from an empty cursor; when deletion / disabling changes the reason mid-way the cursor is cleared — fixed finding
    `bgCursorCarried`, `RV.RolloutSM.resetOnExit` — and the new sequence starts from an empty cursor again).  The oracle
    `trafficBeforeScaleDown` judges it on every transition of the walks of the real controllers. -/
theorem bg_resume_only_in_cleanup (s s' : BS) (hbg : s.ro.style = .blueGreen) (hs : bgStep s .ro = some s')
    (hres : resumeIssued s s' = true) : s.gone = false ∧ inCleanup s.ro := by
  unfold resumeIssued at hres
  cases hb : s.br with
  | none => rw [hb] at hres; cases hres
  | some c =>
    rw [hb] at hres
    simp only [Bool.and_eq_true, Bool.not_eq_true'] at hres
    obtain ⟨⟨hcp, hcd⟩, h3⟩ := hres
    rcases stepRo_cases bgLoop s s' hs with ⟨_, rfl⟩ | ⟨hgone, v, r, _, hrec, rfl⟩
    · rw [hb] at h3
      simp only [Bool.or_eq_true, Option.isNone_iff_eq_none] at h3
      rcases h3 with h3 | h3
      · rw [h3] at hcp; cases hcp
      · rw [hcd] at h3; cases h3
    · refine ⟨hgone, Classical.byContradiction fun hnc => ?_⟩
      have hk := reconcile_kept _ r hrec hbg hnc
      have hbr' : (landRo bgLoop s r).br = (landBR bgLoop (some c) r.w.br (annoLand bgLoop s.world r.w.wl)).1 := by
        unfold landRo; rw [hb]
      rw [hbr'] at h3
      rw [show (World.br _) = s.br.map RV.ClosedLoop.roBr from rfl, hb] at hk
      cases hnb : r.w.br with
      | none => rw [hnb] at hk; exact hk
      | some b' =>
        rw [hnb] at hk h3
        obtain ⟨c2, hc2, hcd2, hcp2⟩ := updatedBr_kept c b' hk.1 hk.2 hcp
        rw [show (landBR bgLoop (some c) (some b') _).1 = some c2 from hc2] at h3
        simp only [Bool.or_eq_true, Option.isNone_iff_eq_none] at h3
        rcases h3 with h3 | h3
        · rw [h3] at hcp2; cases hcp2
        · rw [hcd2, hcd] at h3; cases h3

/-- test (`bg_resume_only_in_cleanup`, `bg_finalize_needs_resume`): the reconcile that resumes the workload in the example run — the
    Rollout is Finalising, the cursor is at ResumeWorkload, all traffic is on the canary Service; the `Finalize` that restores the
    settings comes later, with the batch partition cleared -/
example : (bgRun exS0 (.release "v2" :: rounds 36)).bind (fun s => (bgStep s .ro).map (fun s' =>
      resumeIssued s s' && trafficSettled s && s.ro.reason == .finalising && trafficBeforeScaleDown s .ro s')) = some true ∧
    (bgRun exS0 (.release "v2" :: rounds 37 ++ [.ro])).bind (fun s => (bgStep s .br).map (fun s' =>
      settingsReleased s s' && trafficBeforeScaleDown s .br s' && (match s.br with | some b => b.partition.isNone | none => false))) = some true := by
  decide +kernel

end RV.Props.ClosedLoopBG
