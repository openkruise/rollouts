/-
  C07.ii — "it never waits on a wake-up that will not come".

  Part A: the handlers and predicates (`RV.Wakeup.roEnqueue` / `brEnqueue`, compared with the real handlers behind the
          real watch registrations by suite `wakeup`): who is woken by which event, for every cache content.
  Part B: the BatchRelease reconcile (`RV.Executor.reconcile`): a step that does not wake itself rests in a waiting class.
  Part C: the Rollout reconcile (`RV.RolloutSM.reconcile`): the same.
  Part D: every waiting class waits for events that the handlers map to the waiting object.

  The oracles the driver evaluates on single events and single reconciles of the implementation are proved here of the model's
  output, for all inputs; `idleOk`, which judges a whole system gone idle, is evaluated on the walks only.
-/
import RV.Lemmas.Wakeup
import RV.Props.ExecutorThms
import RV.Props.ReconcileThms
namespace RV.Props.Wakeup
open RV.Wakeup RV.Oracle.Wakeup RV.Lemmas.Wakeup

/-! ## Part A — handlers -/

def RoEvent.wl? : RoEvent → Option Wl
  | .wlCreate o | .wlDelete o | .wlUpdate _ o => some o
  | _ => none

theorem roEnqueue_wl (e : RoEvent) (o : Wl) (he : RoEvent.wl? e = some o) (rs : List Obj) (listErr : Bool) :
    roEnqueue e rs listErr = if watchedType o.ty then roHandleWorkload rs listErr o.ty o.ns o.name else [] := by
  cases e <;> simp only [RoEvent.wl?, Option.some.injEq, reduceCtorEq] at he <;> subst he <;> rfl

/-- Clause `foreign_event_ignored` of C07.ii as a frame, Rollout controller: for every cache content, every workload event (create,
    update, delete; any kind, also kinds nobody watches): every request it produces is for a Rollout of the object's
    namespace whose workloadRef names the object's kind, group and name. -/
theorem ro_frame (e : RoEvent) (o : Wl) (he : RoEvent.wl? e = some o) (rs : List Obj) (listErr : Bool) :
    roFrame rs o (roEnqueue e rs listErr) = true := by
  rw [roEnqueue_wl e o he]
  unfold roFrame
  cases hw : watchedType o.ty
  · rfl
  · simp only [Bool.not_true, Bool.false_eq_true, if_false, if_true]
    cases hk : schemeKind o.ty with
    | none => simp [roHandleWorkload, hk]
    | some g =>
      rcases roHandleWorkload_spec rs listErr o.ty o.ns o.name g hk with ⟨e, -⟩ | ⟨r, hr, e⟩ <;> rw [e]
      · rfl
      · simp only [List.all_cons, List.all_nil, Bool.and_true, List.any_eq_true]
        exact ⟨r, hr, by simp⟩

/-- **a workload event reaches an owner** — for every cache content that can be listed: if some Rollout of the
    namespace names the workload (and its kind is watched), the event produces a request. -/
theorem ro_owner_woken (e : RoEvent) (o : Wl) (he : RoEvent.wl? e = some o) (rs : List Obj) (listErr : Bool) :
    roOwnerWoken rs listErr o (roEnqueue e rs listErr) = true := by
  rw [roEnqueue_wl e o he]
  unfold roOwnerWoken
  cases hw : watchedType o.ty
  · rfl
  · simp only [Bool.not_true, Bool.false_eq_true, if_false, if_true]
    cases hk : schemeKind o.ty with
    | none => rfl
    | some g =>
      rcases roHandleWorkload_spec rs listErr o.ty o.ns o.name g hk with ⟨-, h | h⟩ | ⟨r, -, e⟩
      · simp [h]
      · simp [h]
      · simp [e]

/-- order independence: when exactly one Rollout of the namespace names the workload, that Rollout is the one woken,
    wherever it stands in the cache's list. -/
theorem ro_unique_owner_woken (rs : List Obj) (o : Wl) (g : GVK) (r : Obj) (hw : watchedType o.ty = true)
    (hk : schemeKind o.ty = some g) (hu : owners rs o.ns o.name g = [r]) (old : Wl) :
    roEnqueue (.wlUpdate old o) rs = [r.key] ∧ roEnqueue (.wlCreate o) rs = [r.key] ∧ roEnqueue (.wlDelete o) rs = [r.key] := by
  have key : roHandleWorkload rs false o.ty o.ns o.name = [r.key] := by
    rcases roHandleWorkload_spec rs false o.ty o.ns o.name g hk with ⟨-, h | h⟩ | ⟨r', hr', e⟩
    · cases h
    · rw [hu] at h; cases h
    · rw [hu, List.mem_singleton] at hr'
      rw [e, hr']
  simp only [roEnqueue, hw, if_true, key, and_self]

/-- Clause `br_update_wakes_rollout`, the handler's half: every Update event of a BatchRelease produces exactly the request for the
    Rollout of the same namespace and name, whatever changed; Create and Delete events produce none. -/
theorem br_event_rollout (rs : List Obj) (listErr : Bool) (old b : BrMeta) :
    roBrEvent "update" b (roEnqueue (.brUpdate old b) rs listErr) = true ∧
    roBrEvent "create" b (roEnqueue (.brCreate b) rs listErr) = true ∧
    roBrEvent "delete" b (roEnqueue (.brDelete b) rs listErr) = true := by
  simp [roBrEvent, roEnqueue]

def BrEvent.wl? : BrEvent → Option Wl
  | .wlCreate o | .wlDelete o | .wlUpdate _ o => some o
  | _ => none

/-- Clause `foreign_event_ignored` as a frame, BatchRelease controller: for every cache content and every workload event: every
    request is for a BatchRelease of the object's namespace, and either the one named by the object's control
    annotation or one whose workloadRef names the object. -/
theorem br_frame (e : BrEvent) (o : Wl) (he : BrEvent.wl? e = some o) (brs : List Obj) (store : List StoreObj) (listErr getErr : Bool)
    (ks : List Key) (hk : brEnqueue e brs store listErr getErr = .keys ks) : brFrame brs o ks = true := by
  have base : ∀ ks, (∀ k ∈ ks, ∃ g, switchKind o.ty = some g ∧ k ∈ (getBatchRelease brs listErr o.ns o.name g o.control).keys) →
      brFrame brs o ks = true := by
    intro ks hks
    unfold brFrame
    cases hs : switchKind o.ty with
    | none =>
      cases ks with
      | nil => rfl
      | cons k _ => obtain ⟨g, hg, _⟩ := hks k (by simp); rw [hs] at hg; cases hg
    | some g =>
      simp only [List.all_eq_true]
      intro k hkm
      obtain ⟨g', hg', hmem⟩ := hks k hkm
      rw [hs] at hg'
      cases hg'
      obtain ⟨h1, h2⟩ := getBatchRelease_frame brs listErr o.ns o.name g o.control k hmem
      simp only [Bool.and_eq_true, beq_iff_eq, Bool.or_eq_true, List.any_eq_true]
      exact ⟨h1, h2⟩
  have handle : ∀ k ∈ brHandleWorkload brs listErr o,
      ∃ g, switchKind o.ty = some g ∧ k ∈ (getBatchRelease brs listErr o.ns o.name g o.control).keys := by
    intro k hkm
    unfold brHandleWorkload at hkm
    split at hkm
    · cases hkm
    · exact ⟨_, ‹_›, hkm⟩
  cases e with
  | wlCreate _ | wlDelete _ => cases he; cases hk; exact base _ handle
  | wlUpdate old new =>
    cases he
    simp only [brEnqueue] at hk
    cases hg : switchKind o.ty with
    | none => rw [brWorkloadUpdate_unknown _ _ _ _ hg] at hk; cases hk; exact base _ nofun
    | some g =>
      rcases parseStatus_pair old o with hu | ⟨so, sn, hso, hsn⟩
      · rw [brWorkloadUpdate_unparsed _ _ _ _ g hg hu] at hk
        split at hk <;> cases hk
        exact base _ nofun
      · rw [brWorkloadUpdate_eq _ _ _ _ g so sn hg hso hsn] at hk
        cases hk
        refine base _ fun k hkm => ⟨g, hg, ?_⟩
        split at hkm
        · exact hkm
        · cases hkm
  | _ => cases he

theorem getBatchRelease_controlled (brs : List Obj) (listErr : Bool) (ns name : String) (g : GVK) (c : Control) (n : String)
    (h : controlledBy c = some n) : getBatchRelease brs listErr ns name g c = .key ⟨ns, n⟩ := by
  cases c with
  | ref a k m =>
    simp only [controlledBy] at h
    split at h
    · rename_i hc
      simp only [Option.some.injEq] at h
      subst h
      simp [getBatchRelease, hc.1, hc.2.1, hc.2.2]
    · cases h
  | _ => simp [controlledBy] at h

/-- **`workload_progress_wakes_br`** — for every cache content (listable or not) and every Update event of a watched
    workload kind whose object was really rewritten and whose generation or parsed status changed (this is how the workload
    controller's progress — updated / ready counts, observed generation, revisions — and a user's spec change arrive): the
    BatchRelease named by the control annotation that `Initialize` wrote is woken. -/
theorem workload_progress_wakes_br (brs : List Obj) (store : List StoreObj) (listErr getErr : Bool) (old new : Wl) (ks : List Key)
    (hk : brEnqueue (.wlUpdate old new) brs store listErr getErr = .keys ks) : wlProgressWakes old new ks = true := by
  unfold wlProgressWakes
  split
  · rename_i g n hg hn
    simp only [brEnqueue] at hk
    cases hp : wlProgressed old new with
    | false => rfl
    | true =>
      unfold wlProgressed at hp
      simp only [Bool.and_eq_true, decide_eq_true_eq, Bool.or_eq_true, bne_iff_ne, ne_eq] at hp
      obtain ⟨hrv, hch⟩ := hp
      rcases parseStatus_pair old new with hu | ⟨so, sn, hso, hsn⟩
      · rw [brWorkloadUpdate_unparsed _ _ _ _ g hg hu, if_neg hrv] at hk
        cases hk
      · have hcond : old.generation ≠ new.generation ∨ so ≠ sn := hch.imp_right fun h heq => h (by rw [hso, hsn, heq])
        rw [brWorkloadUpdate_eq _ _ _ _ g so sn hg hso hsn, if_pos ⟨hrv, hcond⟩,
          getBatchRelease_controlled brs listErr new.ns new.name g new.control n hn] at hk
        cases hk
        simp [Found.keys]
  · rfl

/-- **the BatchRelease predicate** — for every Update event of a BatchRelease: a change of generation (= of the spec),
    of the annotations, or a deletion mark wakes its reconciler. -/
theorem br_spec_change_wakes (brs : List Obj) (store : List StoreObj) (listErr getErr : Bool) (old new : BrMeta) (ks : List Key)
    (hk : brEnqueue (.brUpdate old new) brs store listErr getErr = .keys ks) : brSpecChangeWakes old new ks = true := by
  cases hk
  unfold brSpecChangeWakes
  split
  · rename_i hc
    rw [if_pos ((brPredUpdate_iff old new).mpr hc)]
    simp
  · rfl

/-- … and a status-only write (generation, annotations and deletion mark unchanged) does **not**: the executor cannot rely on
    its own status writes to be called again. -/
theorem br_status_only_silent (brs : List Obj) (store : List StoreObj) (listErr getErr : Bool) (old new : BrMeta) (ks : List Key)
    (hk : brEnqueue (.brUpdate old new) brs store listErr getErr = .keys ks) : brStatusOnlySilent old new ks = true := by
  cases hk
  unfold brStatusOnlySilent
  split
  · rename_i hc
    rw [if_neg (fun h => by rcases (brPredUpdate_iff old new).mp h with h | h | h <;> simp_all)]
    rfl
  · rfl

/-- **`pod_ready_wakes_br`** — for every cache content and every Update event of a pod whose readiness or revision label
    changed: when the chain of controller owners leads to a top-level workload that carries the control annotation written by
    `Initialize`, the BatchRelease named there is woken. -/
theorem pod_ready_wakes_br (brs : List Obj) (store : List StoreObj) (listErr getErr : Bool) (old new : Pod) (ks : List Key)
    (hk : brEnqueue (.podUpdate old new) brs store listErr getErr = .keys ks) : podWakes store getErr old new ks = true := by
  unfold podWakes
  split
  · rename_i ow ip c how htop
    split
    · rename_i n hn
      by_cases hp : podChanged old new = true
      · unfold podChanged at hp
        simp only [Bool.and_eq_true, decide_eq_true_eq, Bool.or_eq_true, Bool.not_eq_true', bne_iff_ne, ne_eq] at hp
        obtain ⟨hrv, hch⟩ := hp
        simp only [brEnqueue] at hk
        unfold podUpdate at hk
        have hcond : ¬ (old.rv = new.rv ∨ (isEqualRevision old new = true ∧ podReady old = podReady new)) := by
          intro h
          rcases h with h | ⟨h1, h2⟩
          · exact hrv h
          · rcases hch with h' | h'
            · rw [h1] at h'; cases h'
            · exact h' h2
        rw [if_neg hcond] at hk
        unfold podEnqueue at hk
        rw [how] at hk
        simp only at hk
        unfold podTop at htop
        rw [how] at htop
        rw [htop] at hk
        simp only at hk
        have hne : c.nonEmpty = true := by
          cases c <;> simp [controlledBy] at hn <;> rfl
        rw [if_neg (by simp [hne]), getBatchRelease_controlled brs listErr new.ns ow.name _ c n hn] at hk
        simp only [Found.keys, PodOut.toEnq, EnqOut.keys.injEq] at hk
        subst hk
        simp
      · simp only [Bool.not_eq_true] at hp
        simp [hp]
    · rfl
  · rfl

/-- frame for pods: every request a pod event produces is for a BatchRelease of the pod's namespace -/
theorem pod_frame (brs : List Obj) (store : List StoreObj) (listErr getErr : Bool) (p : Pod) (ks : List Key)
    (hk : podEnqueue brs store listErr getErr p = .keys ks) : podFrame p ks = true := by
  unfold podEnqueue at hk
  unfold podFrame
  split at hk
  · cases hk; rfl
  · split at hk
    · cases hk
    · cases hk; rfl
    · cases hk; rfl
    · split at hk <;> cases hk
      · rfl
      · simp only [List.all_eq_true, beq_iff_eq]
        exact fun k hkm => (getBatchRelease_frame _ _ _ _ _ _ k hkm).1

/-- **`foreign_event_ignored`** — in the form of the property: a Rollout `r` of a cache in which keys are unique is
    never requested by a workload event whose object is in another namespace, has another name, kind or group than
    `r.spec.workloadRef` says. -/
theorem foreign_event_ignored (rs : List Obj) (r : Obj) (hr : r ∈ rs)
    (huniq : ∀ a ∈ rs, ∀ b ∈ rs, a.key = b.key → a = b)
    (e : RoEvent) (o : Wl) (he : RoEvent.wl? e = some o) (listErr : Bool)
    (hforeign : r.ns ≠ o.ns ∨ ∀ g, schemeKind o.ty = some g → refMatches r.ref g o.name = false) :
    r.key ∉ roEnqueue e rs listErr := by
  intro hmem
  have hf := ro_frame e o he rs listErr
  unfold roFrame at hf
  split at hf
  · simp only [List.isEmpty_iff] at hf; rw [hf] at hmem; cases hmem
  · split at hf
    · simp only [List.isEmpty_iff] at hf; rw [hf] at hmem; cases hmem
    · rename_i g hg
      simp only [List.all_eq_true, List.any_eq_true, beq_iff_eq] at hf
      obtain ⟨r', hr', hk'⟩ := hf _ hmem
      obtain ⟨h1, h2, h3⟩ := owner_ns rs o.ns o.name g r' hr'
      have := huniq r' h3 r hr hk'
      subst this
      rcases hforeign with h | h
      · exact h h1
      · rw [h g hg] at h2; cases h2

def exRollouts : List Obj :=
  [⟨"ns1", "a", ⟨"apps/v1", "Deployment", "w1"⟩⟩, ⟨"ns1", "b", ⟨"apps.kruise.io/v1alpha1", "CloneSet", "w1"⟩⟩,
   ⟨"ns2", "a", ⟨"apps.kruise.io/v1alpha1", "CloneSet", "w1"⟩⟩]

def exWl : Wl :=
  { ty := .cloneSet, ns := "ns1", name := "w1", rv := "2", generation := 2,
    status := { replicas := 5, ready := 5, available := 5, updated := 2, updatedReady := 2, observedGeneration := 2, updateRevision := "v2", stableRevision := "v1" },
    control := .ref brAPIVersion "BatchRelease" "b" }

def exWlOld : Wl := { exWl with rv := "1", status := { exWl.status with updated := 1, updatedReady := 1 } }

-- tests on literals (not the ∀ claims above): the CloneSet event wakes Rollout ns1/b only, and BatchRelease ns1/b
example : roEnqueue (.wlUpdate exWlOld exWl) exRollouts = [⟨"ns1", "b"⟩] := by decide
example : owners exRollouts "ns1" "w1" gvkCloneSet = [⟨"ns1", "b", ⟨"apps.kruise.io/v1alpha1", "CloneSet", "w1"⟩⟩] := by decide
example : wlProgressed exWlOld exWl = true ∧ controlledBy exWl.control = some "b" := by decide
example : brEnqueue (.wlUpdate exWlOld exWl) [] = .keys [⟨"ns1", "b"⟩] := by decide
-- a status-only write of a BatchRelease is silent, a generation change is not
example : brEnqueue (.brUpdate ⟨"ns1", "b", 1, false, none⟩ ⟨"ns1", "b", 1, false, none⟩) [] = .keys [] := by decide
example : brEnqueue (.brUpdate ⟨"ns1", "b", 1, false, none⟩ ⟨"ns1", "b", 2, false, none⟩) [] = .keys [⟨"ns1", "b"⟩] := by decide

def exStore : List StoreObj :=
  [⟨gvkReplicaSet, "ns1", "w1-rs", some ⟨"apps/v1", "Deployment", "w1"⟩, false, .absent⟩,
   ⟨gvkDeployment, "ns1", "w1", none, false, .ref brAPIVersion "BatchRelease" "a"⟩]
def exPodOld : Pod := ⟨"ns1", "p", "1", "h1", "", .condFalse, some ⟨"apps/v1", "ReplicaSet", "w1-rs"⟩, false⟩
def exPod : Pod := { exPodOld with rv := "2", ready := .condTrue }
example : podChanged exPodOld exPod = true ∧ podTop exStore false exPod = .obj false (.ref brAPIVersion "BatchRelease" "a") := by decide
example : brEnqueue (.podUpdate exPodOld exPod) [] exStore = .keys [⟨"ns1", "a"⟩] := by decide

/-! ## Part B — the BatchRelease reconcile -/
section executor
open RV.Executor

/-- what the driver evaluates on the implementation's result, for the model's result -/
def brRestsOk (o : StepOut) : Bool := brStepOk o.br o.wl false

/-- **`br_waits_only_for_wakeable`** — for every BatchRelease and workload state: a reconcile that does not wake its own
    reconciler — no requeue, no error (rate-limited retry), no event of its own making that passes the predicate / the
    workload handler (a status-only write of a live object does not) — leaves the release in an explicitly listed waiting class
    (Completed; batch Ready and partitioned; workload not yet observed by its controller; rollback signal awaited; superseded: the pod
    template is not the recorded revision, and the executor stops every round until the Rollout controller deletes or rewrites the
    BatchRelease (a deletion / spec event) or the template changes again (a workload event)), or the object is gone. -/
theorem br_waits_only_for_wakeable (br : BR) (wl : Option Workload) (o : StepOut) (h : reconcile br wl = .val o)
    (hq : (brWakes br wl o).br = false) : brRestsOk o = true := by
  unfold brWakes wakesOf at hq
  simp only [Bool.not_false, Bool.true_and, Bool.or_eq_false_iff, List.any_eq_false] at hq
  obtain ⟨⟨hrq, herr⟩, hev⟩ := hq
  unfold brRestsOk brStepOk
  simp only [Bool.false_or]
  rcases reconcile_cases br wl o h with ⟨-, -, hgone, -⟩ | ⟨hfin, ⟨st, hsy, rfl⟩ | ⟨-, hnc, ns', wl', rq, er, hx, rfl⟩⟩
  · rw [hgone]
  · have hst : st = br.status := by simpa using hrq
    subst hst
    change (brAwaits (withFinalizer br) wl).isSome = true
    by_cases hc : br.status.phase = .completed
    · rw [brAwaits_completed (withFinalizer br) wl hc]
      split
      · -- in deletion: either the finalizer is removed (first branch) or it was just added — an event the predicate passes
        rename_i hd
        by_cases hf : br.hasFinalizer = true
        · exact absurd ⟨hd.1, hc, hf⟩ hfin
        · exact absurd hd.1 (hev _ (finalizer_event br wl _ _ rfl (by simp [withFinalizer, hf])))
      · rfl
    · exact brAwaits_isSome _ wl hc (.inl ((sync_stop_cause (withFinalizer br) (initializedStatus br.status) wl (by rw [hsy]) (by rw [hsy]; rfl)).resolve_left hc))
  · dsimp only at hrq herr
    subst hrq herr
    rcases execute_quiet _ _ ns' wl wl' hnc hx with ⟨rfl, rfl, hph, hrd, hpart⟩ | hcompl
    · exact brAwaits_isSome (withFinalizer br) _ hnc (.inr ⟨hph, hrd, hpart⟩)
    · -- Finalizing → Completed: a status write; not woken means the object is not in deletion
      dsimp only
      rw [brAwaits_completed _ _ hcompl]
      split
      · rename_i hd
        exact absurd hd.1 (hev _ (status_event br wl _ _ rfl (fun he => hnc (he ▸ hcompl))))
      · rfl

/-- **`br_status_write_requeues`** — for every BatchRelease and workload state: a reconcile that rewrites the status
    (which by `br_status_only_silent` does not bring the reconciler back) also returns a requeue or an error — except the one
    write that needs no further round, Finalizing → Completed. -/
theorem br_status_write_requeues (br : BR) (wl : Option Workload) (o : StepOut) (b' : BR) (h : reconcile br wl = .val o)
    (hb : o.br = some b') (hw : b'.status ≠ br.status) :
    o.requeue = true ∨ o.err = true ∨ (b'.status.phase = .completed ∧ br.status.phase ≠ .completed) := by
  rcases reconcile_cases br wl o h with ⟨-, -, hgone, -⟩ | ⟨-, ⟨st, -, rfl⟩ | ⟨-, hnc, ns', wl', rq, er, hx, rfl⟩⟩
  · rw [hgone] at hb; cases hb
  · cases hb
    exact .inl (decide_eq_true hw)
  · cases hb
    cases rq
    · cases er
      · rcases execute_quiet _ _ ns' wl wl' hnc hx with ⟨h1, -⟩ | hcompl
        · exact absurd h1 hw
        · exact .inr (.inr ⟨hcompl, hnc⟩)
      · exact .inr (.inl rfl)
    · exact .inl rfl

/-- Clause `br_update_wakes_rollout`, the reconcile's half: for every BatchRelease and workload state: every status write of the
    executor is an Update event of the BatchRelease, which the Rollout controller's handler maps to the Rollout of the same
    name (`br_event_rollout`). -/
theorem br_update_wakes_rollout (br : BR) (wl : Option Workload) (o : StepOut) (b' : BR)
    (hb : o.br = some b') (hw : b'.status ≠ br.status) : (brWakes br wl o).ro = true := by
  unfold brWakes wakesOf
  simp only [Bool.false_and, Bool.false_or, List.any_eq_true]
  exact ⟨_, status_event br wl o b' hb hw, rfl⟩

/-! non-vacuity of Part B: a release whose second batch is Ready and partitioned rests (class `specChange`);
    the same release one batch earlier does not rest -/
def exBR : BR :=
  { batches := [.pct 20, .pct 50, .pct 100], partition := some 1, failureThreshold := none, deleting := false, hasFinalizer := true,
    rollbackAnno := false,
    status := { phase := .progressing, currentBatch := 1, batchState := .ready, hasReadyTime := true, hash := .same, rolloutIDSame := true,
                observedReplicas := 10, updateRevision := "v2", stableRevision := "v1", noNeedUpdate := none, updated := 5, updatedReady := 5 } }
def exWL : Workload :=
  { replicas := 10, generation := 3, observedGeneration := 3, statusReplicas := 10, updated := 5, updatedReady := 5, updateRevision := "v2",
    currentRevision := "v1", partition := some (.pct 50), paused := false, owner := .this }

example : brAwaits exBR (some exWL) = some .specChange := by decide
example : ∃ o, reconcile exBR (some exWL) = .val o ∧ (brWakes exBR (some exWL) o).br = false ∧ brRestsOk o = true := by
  refine ⟨{ br := some exBR, wl := some exWL, requeue := false, err := false }, by rfl, by decide, by decide⟩
example : brAwaits { exBR with partition := some 2 } (some exWL) = none := by decide

end executor

/-! ## Part C — the Rollout reconcile -/
section rollout
open RV.Arith RV.Traffic RV.RolloutSM RV.Props.Rollout RV.Props.Reconcile

/-- the Rollout watch has no predicate, so "not woken" forces the object unchanged up to `normRo` -/
theorem roWakes_false {w : World} {r : StepResult} (hq : (roWakes w r).ro = false) :
    r.requeue = false ∧ r.err = false ∧ r.roGone = false ∧ normRo r.w.ro = normRo w.ro := by
  unfold roWakes wakesOf at hq
  simp only [Bool.true_and, Bool.or_eq_false_iff, List.any_eq_false] at hq
  obtain ⟨⟨hrq, herr⟩, hev⟩ := hq
  have hgone : r.roGone = false := by
    cases hg : r.roGone
    · rfl
    · exact absurd rfl (hev .roDeleted (by unfold roStepEvents; simp [hg]))
  refine ⟨hrq, herr, hgone, ?_⟩
  by_cases hne : normRo r.w.ro = normRo w.ro
  · exact hne
  · exact absurd rfl (hev .roUpdated (by unfold roStepEvents; simp [hgone, hne]))

/-- what the driver evaluates on the implementation's result, for the model's result -/
def roRestsOk (w : World) (r : StepResult) : Bool := roStepOk w false r.roGone

/-- Clause `ro_waits_only_for_wakeable` for the body of the reconcile (`reconcileCore`, before the cursor reset) — for every
    world (rollout, workload, BatchRelease, network, grace memory): a Rollout reconcile that does not wake its own reconciler —
    no requeue, no error (rate-limited retry), the Rollout object
    unchanged (its watch has no predicate: any change is a wake-up), no BatchRelease update, no workload update — started in
    an explicitly listed waiting class (spec.paused; manual pause; disabled; `StepUpgrade` waiting for the BatchRelease's
    report; waiting for the workload; terminal Healthy; deleted and cleaned up), unless its status is one no controller
    writes (`roIllFormed`).  No class is "nothing will ever happen": see `ro_class_wakeable`. -/
theorem ro_waits_only_for_wakeable_core (w : World) (r : StepResult) (h : reconcileCore w = .val r)
    (hq : (roWakes w r).ro = false) : roRestsOk w r = true := by
  obtain ⟨hrq, herr, hgone, hro⟩ := roWakes_false hq
  obtain ⟨f1, f2, f3, -⟩ := normRo_fields _ _ hro
  unfold roRestsOk roStepOk
  rw [hgone]
  simp only [Bool.false_or, Bool.or_eq_true]
  have e_phase : (handleFinalizer w.ro).1.phase = w.ro.phase := by rw [hf_frame]
  cases reconcileCore_inv h with
  | wait | initFresh | finWait => cases hrq
  | initErr | rollingErr | finErr => cases herr
  | initDone _ _ _ _ hr | pausedNoSub _ _ _ _ hr | resumed _ _ _ _ hr => rw [hr] at f1; cases f1
  | completed _ _ _ hl => rw [hl.progressing] at f2; cases f2
  | finDone _ _ hc =>
    cases hc with
    | success _ _ hr | rollback _ _ hr => rw [hr] at f1; cases f1
    | terminating _ ht => rw [ht] at f3; cases f3
    | disabling hph => rw [hph] at f2; cases f2
  | idle ns hcs hi =>
    replace f2 : ns.phase = (handleFinalizer w.ro).1.phase := f2.trans e_phase.symm
    cases hi with
    | noWorkload hph hwl =>
      rw [hwl] at hcs
      exact absurd (f2.trans (e_phase.trans hph)) (cs_progressing_nowl _ ns hcs (e_phase.trans hph))
    | inconsistent hph wl hwl hc =>
      rw [hwl] at hcs
      rw [cs_inconsistent _ ns wl hcs hc, e_phase, hph] at f2; cases f2
    | paused wl hl hr hp =>
      have hpaused : w.ro.paused = true := ((hf_same w.ro).trans (cs_frame _ ns _ hcs).1).paused.symm.trans hp
      left; unfold roAwaits; simp [hl.progressing, hr, hpaused]
    | otherReason wl hl hr => right; unfold roIllFormed; simp [hl.progressing, hr]
    | terminated hph ht => left; unfold roAwaits; simp [hph, ht]
    | otherPhase h1 h2 h3 =>
      obtain ⟨c1, c2, c3, c4⟩ := cs_rest _ ns w.wl hcs f2
      rw [e_phase] at c1 c2 c3 c4
      left; unfold roAwaits
      cases hph : w.ro.phase
      case empty => exact absurd hph c4
      case initial => simp [c1 hph]
      case healthy => obtain ⟨wl, hwl, hanno⟩ := c2 hph; simp [hwl, hanno]
      case progressing => exact absurd hph h1
      case terminating => exact absurd hph h2
      case disabled => simp [(hf_same w.ro).disabled.symm.trans (c3 hph)]
      case disabling => exact absurd hph h3
  | rolling ns hcs wl hl hr s hsub r0 hir he =>
    cases hos : w.ro.sub with
    | none =>
      -- `calculateStatus` creates a sub-status only for a Healthy rollout
      have := (cs_frame _ ns _ hcs).2 (.inl (e_phase.trans hl.progressing)) (.inl (by rw [hl.readable]; rfl))
      rw [hf_frame, hos, hsub] at this
      cases this
    | some os =>
      cases cs_live hl hos hcs
      cases hsub
      exact inRolling_quiet w os wl r0 hl.progressing hr hos hl.readable hir (by simpa using he) hrq hro

/-- **`ro_waits_only_for_wakeable`** (whole reconcile: body + cursor reset) — the statement of `ro_waits_only_for_wakeable_core`
    for `RV.RolloutSM.reconcile`.  Where the reset fires the phase has changed (Progressing → Terminating / Disabling): the
    Rollout object is updated, which wakes its reconciler — such a reconcile is not one that rests. -/
theorem ro_waits_only_for_wakeable (w : World) (r : StepResult) (h : reconcile w = .val r)
    (hq : (roWakes w r).ro = false) : roRestsOk w r = true := by
  obtain ⟨r0, h0, rfl⟩ := reconcile_val h
  cases hx : exitsProgressing w r0 with
  | false =>
    rw [resetOnExit_of_not w r0 hx] at hq ⊢
    exact ro_waits_only_for_wakeable_core w r0 h0 hq
  | true =>
    exfalso
    have f2 := (normRo_fields _ _ (roWakes_false hq).2.2.2).2.1
    rw [resetOnExit_phase] at f2
    simp only [exitsProgressing, Bool.and_eq_true, Bool.or_eq_true, decide_eq_true_eq] at hx
    obtain ⟨h1, h2⟩ := hx
    rw [h1] at f2
    rcases h2 with h2 | h2 <;> rw [h2] at f2 <;> cases f2

/-- the contrapositive of `ro_waits_only_for_wakeable`, the form `cleanup_never_rests` / `reset_never_rests` use -/
theorem ro_not_waiting_wakes_itself (w : World) (r : StepResult) (h : reconcile w = .val r)
    (hc : roAwaits w = none) (hwf : roIllFormed w = false) : (roWakes w r).ro = true ∨ r.roGone = true := by
  cases hq : (roWakes w r).ro
  · right
    have := ro_waits_only_for_wakeable w r h hq
    unfold roRestsOk roStepOk at this
    simpa [hc, hwf] using this
  · left; rfl

/-- the clean-up situations: the Rollout waits, among other things, for its BatchRelease to be resumed and deleted -/
def cleaningUp (w : World) : Bool :=
  (w.ro.phase = .progressing && (w.ro.reason = .finalising || w.ro.reason = .cancelling)) ||
  (w.ro.phase = .terminating && w.ro.term = .inTerminating && w.ro.deleting) || w.ro.phase = .disabling

/-- **BatchRelease deletion is no event for the Rollout** (`br_event_rollout`: Delete reaches nobody) — so while it
    cleans up (which includes waiting for the BatchRelease to vanish) every reconcile of every world wakes itself:
    by a requeue, an error retry, or a change of its own status. -/
theorem cleanup_never_rests (w : World) (r : StepResult) (h : reconcile w = .val r) (hc : cleaningUp w = true) :
    (roWakes w r).ro = true ∨ r.roGone = true := by
  unfold cleaningUp at hc
  simp only [Bool.or_eq_true, Bool.and_eq_true, decide_eq_true_eq] at hc
  apply ro_not_waiting_wakes_itself w r h
  · unfold roAwaits
    rcases hc with (⟨hp, hr | hr⟩ | ⟨⟨hp, ht⟩, -⟩) | hp
    · simp [hp, hr]
    · simp [hp, hr]
    · simp [hp, ht]
    · simp [hp]
  · unfold roIllFormed
    rcases hc with (⟨hp, hr | hr⟩ | ⟨⟨hp, -⟩, hd⟩) | hp
    · simp [hp, hr]
    · simp [hp, hr]
    · simp [hp, hd]
    · simp [hp]

/-- the same for a continuous release of a canary rollout (`doProgressingReset`: traffic back, BatchRelease deleted and waited
    for, canary Service removed): every reconcile of every such world wakes itself -/
theorem reset_never_rests (w : World) (r : StepResult) (s : Sub) (wl : WL) (h : reconcile w = .val r)
    (hp : w.ro.phase = .progressing) (hr : w.ro.reason = .inRolling) (hs : w.ro.sub = some s) (hst : s.state ≠ .other)
    (hwl : w.wl = some wl) (hstyle : w.ro.style = .canary) (hc : continuousRelease s wl = true) :
    (roWakes w r).ro = true ∨ r.roGone = true := by
  apply ro_not_waiting_wakes_itself w r h
  · unfold roAwaits
    simp only [hp, hr, hs, hwl, hstyle]
    rw [if_neg (by simp)]
    rw [if_pos (by simp [rollingNormally, hc])]
  · unfold roIllFormed
    simp [hp, hr, hs, hst]

/-- the wake-up reading of `removeBatchRelease_retry`: a Rollout that waits for its BatchRelease to vanish is told to come back;
    it is not left waiting for the Delete event, which reaches nobody (`br_event_rollout`) -/
theorem removeBatchRelease_waits (br : Option BR) : (removeBatchRelease br).1 = br.isSome :=
  (removeBatchRelease_retry br).1

/-- the clean-up task `ReleaseWorkloadControl` is not done, and not failed, while the BatchRelease exists:
    `doFinalising` reports "not done" — which every caller turns into a requeue -/
theorem doFinalising_release_waits (c : Ctx) (reason : Reason) (wr : Bool) (hcur : c.sub.finStep = .releaseWorkloadControl)
    (hbr : c.br.isSome = true) (hsteps : c.ro.steps ≠ []) : ∃ c', doFinalising c reason wr = some (c', false, false) := by
  have hs : (stripAnno c).sub = c.sub ∧ (stripAnno c).ro = c.ro ∧ (stripAnno c).br = c.br := by
    rw [stripAnno_eq]; exact ⟨rfl, rfl, rfl⟩
  have hne : c.ro.steps.isEmpty = false := by cases hh : c.ro.steps <;> simp_all
  have hw : (removeBatchRelease c.br).1 = true := (removeBatchRelease_waits c.br).trans hbr
  -- the cursor is a task the managers know and is not END; its task is `removeBatchRelease`, which never fails and, by `hw`, asks
  -- to come back: the round stops there, not done
  simp [doFinalising, startCursor, finKnown, finTask, hs.1, hs.2.1, hs.2.2, hne, hcur, hw]

/-! non-vacuity of Part C: a mid-rollout world at a manual pause (with an illegal, user-patched next-step index that is
    corrected in memory only) rests in class `userApprove`; the same world in `StepReady` does not rest -/
example : roAwaits exampleWorld = some .userApprove := by decide
example : roIllFormed exampleWorld = false := by decide
example : roAwaits { exampleWorld with ro := { exampleRo with sub := some { exampleSub with state := .ready } } } = none := by decide

end rollout

/-! ## Part D — every waiting class waits for something that wakes the waiting object -/

/-- Clause `waiting_class_is_wakeable`, Rollout: every class other than the terminal one awaits at least one kind of event, and every
    event a class awaits reaches the Rollout reconciler.  No class is "nothing will ever happen". -/
theorem ro_class_wakeable (c : RoWait) : (c = .terminated ∨ c.awaited ≠ []) ∧ ∀ e ∈ c.awaited, e.wakesRo = true := by
  cases c <;> decide

/-- Clause `waiting_class_is_wakeable`, BatchRelease -/
theorem br_class_wakeable (c : BrWait) : (c = .completed ∨ c.awaited ≠ []) ∧ ∀ e ∈ c.awaited, e.wakesBr = true := by
  cases c <;> decide

/-- the concrete watch events an abstract event stands for, seen from Rollout `R`: BatchRelease events are those of the object with
    `R`'s namespace and name; workload events are those of a watched kind that `R` alone names among the Rollouts of the cache `rs`
    (`owners … = [R]`, so the first match is `R`) -/
def RealizesRo (R : Obj) (rs : List Obj) : AEvent → RoEvent → Prop
  | .roUpdated, .roUpdate ns name => ns = R.ns ∧ name = R.name
  | .roDeleted, .roDelete ns name => ns = R.ns ∧ name = R.name
  | .brCreated, .brCreate b => b.ns = R.ns ∧ b.name = R.name
  | .brSpecUpdated, .brUpdate _ new | .brStatusUpdated _, .brUpdate _ new | .brMetaUpdated _, .brUpdate _ new => new.ns = R.ns ∧ new.name = R.name
  | .brDeleteRequested, .brDelete b | .brGone, .brDelete b => b.ns = R.ns ∧ b.name = R.name
  | .wlMetaUpdated, .wlUpdate _ new | .wlSpecUpdated, .wlUpdate _ new | .wlStatusUpdated, .wlUpdate _ new =>
    new.ns = R.ns ∧ watchedType new.ty = true ∧ ∃ g, schemeKind new.ty = some g ∧ owners rs new.ns new.name g = [R]
  | _, _ => False

/-- **the abstract wake-up table is the handlers' table (Rollout)** — for every cache content: an abstract event that
    `AEvent.wakesRo` says wakes the Rollout produces, through `roEnqueue`, exactly the request for that Rollout; one that it says
    does not (BatchRelease created, deleted, gone) produces none. -/
theorem aevent_ro_sound (R : Obj) (rs : List Obj) (e : AEvent) (re : RoEvent) (hr : RealizesRo R rs e re) :
    roEnqueue re rs = if e.wakesRo then [R.key] else [] := by
  -- any Update of the BatchRelease of the Rollout's name; any Update of the one workload the Rollout alone names
  have brUpd : ∀ old new : BrMeta, new.ns = R.ns ∧ new.name = R.name → roEnqueue (.brUpdate old new) rs = [R.key] :=
    fun old new h => by simp [roEnqueue, Obj.key, h.1, h.2]
  have wlUpd : ∀ old new : Wl, (new.ns = R.ns ∧ watchedType new.ty = true ∧
      ∃ g, schemeKind new.ty = some g ∧ owners rs new.ns new.name g = [R]) → roEnqueue (.wlUpdate old new) rs = [R.key] :=
    fun old new ⟨_, hw, g, hg, ho⟩ => (ro_unique_owner_woken rs new g R hw hg ho old).1
  unfold RealizesRo at hr
  split at hr
  · -- roUpdated
    obtain ⟨rfl, rfl⟩ := hr; rfl
  · -- roDeleted
    obtain ⟨rfl, rfl⟩ := hr; rfl
  · -- brCreated: Create events of a BatchRelease are not handled
    rfl
  · -- brSpecUpdated
    exact brUpd _ _ hr
  · -- brStatusUpdated
    exact brUpd _ _ hr
  · -- brMetaUpdated
    exact brUpd _ _ hr
  · -- brDeleteRequested, as a Delete event: not handled
    rfl
  · -- brGone
    rfl
  · -- wlMetaUpdated
    exact wlUpd _ _ hr
  · -- wlSpecUpdated
    exact wlUpd _ _ hr
  · -- wlStatusUpdated
    exact wlUpd _ _ hr
  · cases hr

/-- the concrete watch events an abstract event stands for, seen from BatchRelease `B` whose workload carries the control
    annotation naming it -/
def RealizesBr (B : Key) : AEvent → BrEvent → Prop
  | .brCreated, .brCreate b => b.ns = B.ns ∧ b.name = B.name
  | .brSpecUpdated, .brUpdate old new => new.ns = B.ns ∧ new.name = B.name ∧ (old.generation ≠ new.generation ∨ old.annos ≠ new.annos)
  | .brStatusUpdated d, .brUpdate old new | .brMetaUpdated d, .brUpdate old new =>
    new.ns = B.ns ∧ new.name = B.name ∧ old.generation = new.generation ∧ old.annos = new.annos ∧ new.deleting = d
  | .brDeleteRequested, .brUpdate _ new => new.ns = B.ns ∧ new.name = B.name ∧ new.deleting = true
  | .brDeleteRequested, .brDelete b | .brGone, .brDelete b => b.ns = B.ns ∧ b.name = B.name
  | .wlSpecUpdated, .wlUpdate old new =>
    new.ns = B.ns ∧ controlledBy new.control = some B.name ∧ (switchKind new.ty).isSome ∧ new.rv ≠ old.rv ∧ old.generation ≠ new.generation ∧
    (parseStatus old.ty old.status).isSome ∧ (parseStatus new.ty new.status).isSome
  | .wlStatusUpdated, .wlUpdate old new =>
    new.ns = B.ns ∧ controlledBy new.control = some B.name ∧ (switchKind new.ty).isSome ∧ new.rv ≠ old.rv ∧
    (parseStatus old.ty old.status).isSome ∧ (parseStatus new.ty new.status).isSome ∧ parseStatus old.ty old.status ≠ parseStatus new.ty new.status
  | .wlMetaUpdated, .wlUpdate old new =>
    new.ns = B.ns ∧ old.generation = new.generation ∧ (parseStatus old.ty old.status).isSome ∧ parseStatus old.ty old.status = parseStatus new.ty new.status
  | _, _ => False

/-- **the abstract wake-up table is the handlers' table (BatchRelease)** — for every cache content (listable or not): an
    abstract event that `AEvent.wakesBr` says wakes the BatchRelease produces, through `brEnqueue` (predicate + handlers), exactly
    the request for it; a status-only or finalizer-only write of a live object and a metadata-only write of the workload
    produce none. -/
theorem aevent_br_sound (B : Key) (brs : List Obj) (store : List StoreObj) (listErr getErr : Bool) (e : AEvent) (be : BrEvent)
    (hr : RealizesBr B e be) : brEnqueue be brs store listErr getErr = .keys (if e.wakesBr then [B] else []) := by
  have keyB : ∀ {ns name}, ns = B.ns → name = B.name → (⟨ns, name⟩ : Key) = B := by
    intro ns name h1 h2; subst h1 h2; rfl
  -- a write that leaves generation and annotations alone passes the predicate exactly for an object in deletion
  have silent : ∀ (old new : BrMeta) (d : Bool), (new.ns = B.ns ∧ new.name = B.name ∧ old.generation = new.generation ∧
      old.annos = new.annos ∧ new.deleting = d) → brEnqueue (.brUpdate old new) brs store listErr getErr = .keys (if d then [B] else []) := by
    rintro old new d ⟨h1, h2, h3, h4, rfl⟩
    have : brPredUpdate old new = new.deleting := Bool.eq_iff_iff.mpr ((brPredUpdate_iff old new).trans (by simp [h3, h4]))
    simp only [brEnqueue, this]
    rw [keyB h1 h2]
  -- a rewritten workload of a kind the handler knows, whose statuses parse and whose generation or parsed status differ,
  -- wakes the BatchRelease its control annotation names
  have progress : ∀ (old new : Wl), new.ns = B.ns → controlledBy new.control = some B.name → (switchKind new.ty).isSome = true →
      new.rv ≠ old.rv → (parseStatus old.ty old.status).isSome = true → (parseStatus new.ty new.status).isSome = true →
      (old.generation ≠ new.generation ∨ parseStatus old.ty old.status ≠ parseStatus new.ty new.status) →
      brEnqueue (.wlUpdate old new) brs store listErr getErr = .keys [B] := by
    intro old new h1 h2 h3 h4 h6 h7 hch
    obtain ⟨g, hg⟩ := Option.isSome_iff_exists.mp h3
    obtain ⟨so, hso⟩ := Option.isSome_iff_exists.mp h6
    obtain ⟨sn, hsn⟩ := Option.isSome_iff_exists.mp h7
    have hcond : old.generation ≠ new.generation ∨ so ≠ sn := hch.imp_right fun h heq => h (by rw [hso, hsn, heq])
    simp only [brEnqueue, brWorkloadUpdate_eq brs listErr _ _ g so sn hg hso hsn, if_pos (⟨h4, hcond⟩ : _ ∧ _),
      getBatchRelease_controlled brs listErr _ _ g _ B.name h2, Found.keys, UpdOut.toEnq, keyB h1 rfl]
  unfold RealizesBr at hr
  split at hr
  · -- brCreated
    simp [brEnqueue, AEvent.wakesBr, keyB hr.1 hr.2]
  · -- brSpecUpdated
    obtain ⟨h1, h2, h3⟩ := hr
    simp [brEnqueue, AEvent.wakesBr, keyB h1 h2, (brPredUpdate_iff _ _).mpr (h3.elim .inl (.inr ∘ .inr))]
  · -- brStatusUpdated
    exact silent _ _ _ hr
  · -- brMetaUpdated
    exact silent _ _ _ hr
  · -- brDeleteRequested, as an Update event that sets the deletion mark
    obtain ⟨h1, h2, h3⟩ := hr
    simp [brEnqueue, AEvent.wakesBr, keyB h1 h2, (brPredUpdate_iff _ _).mpr (.inr (.inl h3))]
  · -- brDeleteRequested, as a Delete event
    simp [brEnqueue, AEvent.wakesBr, keyB hr.1 hr.2]
  · -- brGone
    simp [brEnqueue, AEvent.wakesBr, keyB hr.1 hr.2]
  · -- wlSpecUpdated
    obtain ⟨h1, h2, h3, h4, h5, h6, h7⟩ := hr
    exact progress _ _ h1 h2 h3 h4 h6 h7 (.inl h5)
  · -- wlStatusUpdated
    obtain ⟨h1, h2, h3, h4, h6, h7, h8⟩ := hr
    exact progress _ _ h1 h2 h3 h4 h6 h7 (.inr h8)
  next old new =>
    -- wlMetaUpdated: generation and parsed status are the same
    obtain ⟨-, h2, h3, h4⟩ := hr
    obtain ⟨so, hso⟩ := Option.isSome_iff_exists.mp h3
    simp only [brEnqueue, AEvent.wakesBr, Bool.false_eq_true, if_false]
    cases hg : switchKind new.ty with
    | none => rw [brWorkloadUpdate_unknown _ _ _ _ hg]; rfl
    | some g =>
      rw [brWorkloadUpdate_eq brs listErr _ _ g so so hg hso (h4 ▸ hso), if_neg (fun h => h.2.elim (absurd h2) (absurd rfl))]
      rfl
  · cases hr

end RV.Props.Wakeup
