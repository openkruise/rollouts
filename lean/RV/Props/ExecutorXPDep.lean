import RV.Lemmas.ExecutorXPlanes
import RV.Props.CtlPDeployThms
import RV.Props.ExecutorXThms
/-!
# The partition-style Deployment plane is a lawful plane of the executor (C01, C06, C11, C18)

`RV.ExecutorX.pdepPlane` is a thin adapter over the plane model `RV.CtlPDeploy` (`planeInitialize` / `planeUpgradeBatch` /
`planeFinalize` without API fault, plus `pdepReady` = `CalculateBatchContext` → `IsBatchReady`).  Here the plane laws
(`Laws`) and the exposure laws (`ExposureLaws`) are proved for it with its own predicates `pdepPreds`, **from what the plane
model's lemmas say a call does** (`CtlPDeploy.step_ran`: a one-write call, and what each of the three calls writes — the
lemmas the theorems of `RV.Props.CtlPDeploy` are proved from): every call of the adapter is one `CtlPDeploy.step` without fault.

With `pdepLaws` / `pdepExposure` every theorem of `RV.Props.ExecutorXThms` holds of `reconcileX pdepPlane`.
-/
namespace RV.Props.ExecutorX
open RV.Arith RV.BatchCtx RV.Executor RV.ExecutorX RV.Oracle.ExecutorX

/-- the configuration of the plane model a call of the adapter runs in (the webhook world is not read by controller calls) -/
def pdepCfg (br : BR) (ns : Status) : CtlPDeploy.Cfg := { rel := pdepRel br ns, world := default }

/-- a controller call without API fault as a step of the plane model -/
def pdepStep (call : CtlPDeploy.Call) (batch : Int := 0) (bpNil : Bool := false) : CtlPDeploy.Step :=
  { call := call, fault := .none, batch := batch, bpNil := bpNil, edit := CtlPDeploy.Edit.none }

theorem pdep_init_is_step (br : BR) (ns : Status) (d : Option CtlPDeploy.Dep) :
    CtlPDeploy.planeInitialize (pdepRel br ns) d .none = CtlPDeploy.step (pdepCfg br ns) d (pdepStep .initialize) := rfl

theorem pdep_upgrade_is_step (br : BR) (ns : Status) (d : Option CtlPDeploy.Dep) :
    CtlPDeploy.planeUpgradeBatch (pdepRel br ns) br.status.currentBatch d .none =
      CtlPDeploy.step (pdepCfg br ns) d (pdepStep .upgradeBatch br.status.currentBatch) := rfl

theorem pdep_fin_is_step (br : BR) (ns : Status) (d : Option CtlPDeploy.Dep) :
    CtlPDeploy.planeFinalize br.partition.isNone d .none =
      CtlPDeploy.step (pdepCfg br ns) d (pdepStep .finalize 0 br.partition.isNone) := rfl

/-- one direction only: the adapter's `init` also answers err when the step is ok but returned no observation, or there is no
    Deployment -/
theorem pdep_init_inv {br : BR} {ns ns' : Status} {w w' : PDepW} {r : CallResult}
    (h : pdepPlane.init br ns w = .val (w', ns', r)) :
    ∃ o, CtlPDeploy.step (pdepCfg br ns) w.dep (pdepStep .initialize) = .val o ∧ w' = { w with dep := o.dep } ∧
      (r = .ok → o.res = .ok) ∧ Records ns ns' := by
  simp only [pdepPlane, pdep_init_is_step] at h
  split at h
  · cases h
  · rename_i o ho
    refine ⟨o, ho, ?_⟩
    split at h
    · rename_i hres _ _
      cases h
      exact ⟨rfl, fun _ => hres, .mk _ _ _ _⟩
    · cases h
      exact ⟨rfl, nofun, .mk _ _ _ _⟩

theorem pdep_upgrade_inv {br : BR} {ns : Status} {w w' : PDepW} {r : CallResult}
    (h : pdepPlane.upgrade br ns w = .val (w', r)) :
    ∃ o, CtlPDeploy.step (pdepCfg br ns) w.dep (pdepStep .upgradeBatch br.status.currentBatch) = .val o ∧
      w' = { w with dep := o.dep } ∧ (r = .ok ↔ o.res = .ok) := by
  simp only [pdepPlane, pdep_upgrade_is_step] at h
  split at h
  · cases h
  · rename_i o ho
    cases h
    exact ⟨o, ho, rfl, resOfBool_decide _⟩

theorem pdep_fin_inv {br : BR} {w w' : PDepW} {r : CallResult}
    (h : pdepPlane.fin br w = .val (w', r)) :
    ∃ o, CtlPDeploy.step (pdepCfg br br.status) w.dep (pdepStep .finalize 0 br.partition.isNone) = .val o ∧
      w' = { w with dep := o.dep } ∧ (r = .ok ↔ o.res = .ok) := by
  simp only [pdepPlane, pdep_fin_is_step br br.status] at h
  split at h
  · cases h
  · rename_i o ho
    cases h
    exact ⟨o, ho, rfl, resOfBool_decide _⟩

/-- the plan entry the plane model's `UpgradeBatch` works on is the executor's -/
theorem pdep_entryOf (br : BR) (ns : Status) :
    RV.Oracle.CtlPDeploy.entryOf (pdepRel br ns) br.status.currentBatch = entryOf br := rfl

/-- `EnsureBatchPodsReadyAndLabeled` is the readiness predicate; a `Finalize` that returns
    nil leaves no Deployment that is paused with a control-info; `Initialize` records revisions, replicas and the
    no-need-update count only, and when it returns nil the Deployment `IsUnderRolloutControl`. -/
theorem pdepLaws : Laws pdepPlane pdepPreds where
  ensure_ok_iff := fun br _ w _ => ensure_outBool (pdepReady br w)
  fin_ok_released := by
    intro br w w' _ h
    obtain ⟨o, ho, hw, hr⟩ := pdep_fin_inv h
    subst hw
    -- `released` is the negation of the test `Finalize` itself makes (`control-info ∧ paused`): the call either finds the test
    -- false or clears the control-info
    simp only [pdepPreds]
    rcases CtlPDeploy.finalize_ok rfl ho (hr.mp rfl) with ⟨_, hdep⟩ | ⟨d0, _, ⟨hcl, hdep⟩ | ⟨_, hdep⟩⟩ <;> rw [hdep]
    · exact (congrArg (!·) hcl : _)
    · simp only [pdepClaimed, CtlPDeploy.finalized]
      split <;> simp
  init_frame := .of_records fun _ _ _ _ _ _ h => let ⟨_, _, _, _, hrec⟩ := pdep_init_inv h; hrec
  init_ok_claimed := by
    intro br ns w w' ns' _ h
    obtain ⟨o, ho, hw, hr, _⟩ := pdep_init_inv h
    subst hw
    simp only [pdepPreds]
    -- a successful `Initialize` found the Deployment under rollout control or has put it there
    obtain ⟨d0, _, ⟨hu, hdep⟩ | ⟨_, hdep⟩⟩ := CtlPDeploy.initialize_ok rfl ho (hr rfl) <;> rw [hdep]
    · exact hu
    · exact CtlPDeploy.initialized_under d0

/-- exposure = `NewRSReplicasLimit` of the strategy annotation's partition
    (`limitOf`), allowed = `CalculateBatchReplicas` of the current plan entry.  Each law is a property of the Deployment
    before the call and of what the call would write (`Ran.rel`); an error leaves the Deployment alone (`Ran.failed_same`). -/
theorem pdepExposure : ExposureLaws pdepPlane pdepPreds where
  init_exposes_nothing := by
    intro br ns w w' ns' r _ _ h
    obtain ⟨o, ho, rfl, _⟩ := pdep_init_inv h
    refine (CtlPDeploy.step_ran CtlPDeploy.Call.noConfusion ho).rel
      (fun d' => pdepPreds.exposure { w with dep := d' } ≤ pdepPreds.exposure w) (Int.le_refl _) ?_
    intro d0 r d' hd _ hs
    obtain ⟨_, rfl⟩ := CtlPDeploy.ctrlInitialize_some hs
    simp only [pdepPreds, hd, CtlPDeploy.initialized_limit]
    exact CtlPDeploy.limitOf_nonneg d0
  upgrade_monotone := by
    intro br ns w w' r _ _ h
    obtain ⟨o, ho, rfl, _⟩ := pdep_upgrade_inv h
    refine (CtlPDeploy.step_ran CtlPDeploy.Call.noConfusion ho).rel
      (fun d' => pdepPreds.exposure w ≤ pdepPreds.exposure { w with dep := d' }) (Int.le_refl _) ?_
    intro d0 r d' hd hrep hs
    obtain ⟨e, p, rfl⟩ := CtlPDeploy.upgrade_write rfl hs
    simp only [pdepPreds, hd, CtlPDeploy.limitOf_eq hrep,
      CtlPDeploy.limitOf_eq (show (CtlPDeploy.upgraded d0 e).replicas = some r from hrep)]
    exact Int.le_of_lt p.less
  upgrade_within := by
    intro br ns w w' r _ _ h
    obtain ⟨o, ho, rfl, _⟩ := pdep_upgrade_inv h
    refine (CtlPDeploy.step_ran CtlPDeploy.Call.noConfusion ho).rel
      (fun d' => pdepPreds.exposure { w with dep := d' } ≤ max (pdepPreds.exposure w) (pdepPreds.allowed br w)) (Int.le_max_left _ _) ?_
    intro d0 r d' hd hrep hs
    obtain ⟨e, p, rfl⟩ := CtlPDeploy.upgrade_write rfl hs
    have := CtlPDeploy.limit_le_calc e r
    have := CtlPDeploy.limitOf_nonneg d0
    simp only [pdepPreds, hd, (pdep_entryOf br ns).symm.trans p.entry,
      CtlPDeploy.limitOf_eq (show (CtlPDeploy.upgraded d0 e).replicas = some r from hrep)]
    rw [hrep]
    show newRSReplicasLimit e r ≤ max _ (calcBatchReplicas r e)
    omega
  upgrade_err_same := by
    intro br ns w w' h
    obtain ⟨o, ho, rfl, hr⟩ := pdep_upgrade_inv h
    rw [(CtlPDeploy.step_ran CtlPDeploy.Call.noConfusion ho).failed_same CtlPDeploy.res_ne fun hok => nomatch hr.mpr hok]

/-- what `CalculateBatchContext` of the partition-style Deployment control reads for Deployment `d` of size `r`: the plan entry
    of the current batch, the partition of the strategy annotation, `status.updatedReplicas`, and the
    `updatedReadyReplicas` of the extra-status annotation (0 without the annotation) -/
def pdepCtxObs (br : BR) (w : PDepW) (d : CtlPDeploy.Dep) (r : Int) : RV.BatchCtx.Obs :=
  { kind := .depPartition, replicas := r, entry := entryOf br, noNeedUpdate := br.status.noNeedUpdate,
    knobCur := (CtlPDeploy.getStrategy d).partition, updated := w.obs.updated,
    updatedReady := if d.extraStatus then w.obs.updatedReady else 0, failureThreshold := br.failureThreshold }

/-- **C11.i for the partition-style Deployment plane** — when the plane's readiness predicate holds, the Deployment exists
    (with a non-nil size), and either it has 0 replicas or the batch context `c` of `CalculateBatchContext` has at least
    the desired number of updated pods, enough ready ones within the failure threshold, and at least one ready pod when
    any is called for.  From `RV.Props.C11.ready_sound`; `h0`: the API server's counter is not negative
    (`pdep_ready_means_needs_nonneg`: without it the last clause fails). -/
theorem pdep_ready_means (br : BR) (w : PDepW) (h0 : 0 ≤ w.obs.updatedReady) (h : pdepPreds.ready br w = true) :
    ∃ d r, w.dep = some d ∧ d.replicas = some r ∧
      (r = 0 ∨
       ∃ c, calcCtx (pdepCtxObs br w d r) = .ok c ∧
         c.updated ≥ c.desired ∧ allowedUnavailable c.failureThreshold c.updated + c.updatedReady ≥ c.desired ∧
         (c.desired > 0 → c.updatedReady > 0)) := by
  simp only [pdepPreds, pdepReady, pdepInfo] at h
  cases hd : w.dep with
  | none => simp [hd, outBool] at h
  | some d =>
    cases hrep : d.replicas with
    | none => simp [hd, hrep, outBool] at h
    | some r =>
      refine ⟨d, r, rfl, hrep, ?_⟩
      simp only [hd, hrep, mkInfo] at h
      by_cases hr : r = 0
      · exact Or.inl hr
      · right
        simp only [hr, if_false] at h
        -- the record `calcCtx` is applied to is `pdepCtxObs br w d r`
        change outBool (match calcCtx (pdepCtxObs br w d r) with
          | .panic => .panic
          | .ok c => .val (decide (isBatchReady c none = .ok))) = true at h
        cases hc : calcCtx (pdepCtxObs br w d r) with
        | panic => simp [hc, outBool] at h
        | ok c =>
          simp only [hc, outBool, decide_eq_true_eq] at h
          have hur : 0 ≤ c.updatedReady := by
            obtain ⟨_, _, rfl⟩ := calcCtx_ok hc
            show 0 ≤ (if d.extraStatus then w.obs.updatedReady else 0)
            split
            · exact h0
            · exact Int.le_refl 0
          have hm := RV.Props.C11.ready_sound c none hur h
          simp only [RV.Oracle.Batch.readyMeans, Bool.and_eq_true, decide_eq_true_eq, Bool.and_true] at hm
          exact ⟨c, rfl, hm.1.1, hm.1.2, hm.2⟩

/-- a Deployment of 10 pods under rollout control at partition 20 % -/
def exPDep : CtlPDeploy.Dep :=
  { replicas := some 10, paused := true, stratType := "Recreate", stratRU := none,
    stratAnno := .valid { rollingStyle := "Partition", ru := none, paused := false, partition := .pct 20 },
    control := .this, ctrlLabel := true, stableRev := "s1", extraStatus := true, inProgress := true, tmpl := 2, rest := 0 }

/-- its status: 2 updated pods, both ready -/
def exPDepW : PDepW :=
  { dep := some exPDep,
    obs := { generation := 3, observedGeneration := 3, statusReplicas := 10, updated := 2, updatedReady := 2,
             updateRevision := "", stableRevision := "" } }

/-- a BatchRelease verifying batch 0 (20 %) of a three-batch plan -/
def exPDepBR : BR :=
  { batches := [.pct 20, .pct 50, .pct 100], partition := none, failureThreshold := none, deleting := false,
    hasFinalizer := true, rollbackAnno := false,
    status := { phase := .progressing, currentBatch := 0, batchState := .verifying, hasReadyTime := false, hash := .same,
                rolloutIDSame := true, observedReplicas := 10, updateRevision := "t2", stableRevision := "s1",
                noNeedUpdate := none, updated := 0, updatedReady := 0 } }

/-- the readiness predicate is satisfiable: 2 of 10 updated and ready for the 20 % batch … -/
example : pdepPreds.ready exPDepBR exPDepW = true := by decide

/-- … and refutable: with one of them not ready it fails -/
example : pdepPreds.ready exPDepBR { exPDepW with obs := { exPDepW.obs with updatedReady := 1 } } = false := by decide

/-- a successful `Finalize` (`batchPartition = nil`) of that world leaves a Deployment that satisfies `released`
    (control-info gone, un-paused) -/
example : ∃ w', pdepPlane.fin exPDepBR exPDepW = .val (w', .ok) ∧ pdepPreds.released exPDepBR w' = true ∧
    pdepPreds.released exPDepBR exPDepW = false :=
  ⟨_, rfl, by decide, by decide⟩

/-- a successful `Initialize` claims a Deployment as its user configured it -/
example : ∃ w' ns', pdepPlane.init exPDepBR exPDepBR.status
      { exPDepW with dep := some RV.Props.CtlPDeploy.exD } = .val (w', ns', .ok) ∧
    pdepPreds.claimed exPDepBR { exPDepW with dep := some RV.Props.CtlPDeploy.exD } w' = true ∧ pdepPreds.exposure w' = 0 :=
  ⟨_, _, rfl, by decide, by decide⟩

/-- `pdep_ready_means` needs `h0`: with a negative `updatedReadyReplicas` in the extra-status annotation and a failure
    threshold, `IsBatchReady` says ready although no pod is ready -/
theorem pdep_ready_means_needs_nonneg :
    pdepPreds.ready { exPDepBR with failureThreshold := some (.int 5) }
      { exPDepW with obs := { exPDepW.obs with updatedReady := -1 } } = true := by decide

end RV.Props.ExecutorX
