import RV.Props.ExecutorXThms
import RV.Lemmas.ExecutorXPlanes
import RV.Props.CtlBlueGreenThms
import RV.Props.C11
/-!
# The blue-green planes (Deployment, CloneSet) under the plane laws

`bgPlane kind` is a thin adapter over the blue-green model `RV.CtlBlueGreen` (`cpInitialize` / `cpUpgradeBatch` / `cpFinalize`
without API fault, BatchRelease UID 0).  The laws are derived from the inversion lemmas and property theorems of that model
(`RV.Lemmas.CtlBlueGreen`, `RV.Props.CtlBlueGreen`).

* `bgLaws` — both planes are lawful for `bgPreds`, whose `released` carries the two known-finding guards
  (`gBgPartitioned`, `gBgRestoredControlled`); the full-strength "released" is false on the code
  (`bg_released_full_FALSE_partitioned`, `bg_released_full_FALSE_restored`) and holds outside the guards
  (`bg_fin_ok_released_partial`).
* exposure: `upgrade_monotone`, `upgrade_within`, `upgrade_err_same` hold for `bgPreds` as it is; `init_exposes_nothing` is false
  in the region `bgPreds.expoOK` (`bg_init_exposes_nothing_full_FALSE_*`) and holds under the guard `bgInitQuiet`
  (`bg_init_exposes_nothing_partial`).  `bgExposure` is therefore stated for `bgPredsQuiet` = `bgPreds` with `expoOK`
  strengthened by that guard.
* readiness: `bg_ready_means` unfolds `bgPreds.ready` to the figures `CalculateBatchContext` computes (`bgCtxObs`), via
  `RV.Props.C11.ready_sound`.
-/
namespace RV.Props.ExecutorX
open RV.Arith RV.BatchCtx RV.Executor RV.ExecutorX RV.Oracle.ExecutorX

theorem bg_init_inv {kind : CtlBlueGreen.Kind} {br : BR} {ns ns' : Status} {w w' : BGW} {r : CallResult}
    (h : (bgPlane kind).init br ns w = .val (w', ns', r)) :
    ∃ o, CtlBlueGreen.cpInitialize kind w.w (bgBR br) CtlBlueGreen.noFault = .val o ∧
      w' = { w with w := o.world } ∧ (r = .ok → o.res = .ok) ∧ Records ns ns' := by
  simp only [bgPlane] at h
  split at h
  · cases h
  · cases h
  · rename_i o i ho hi
    refine ⟨o, ho, ?_⟩
    split at h
    · rename_i hres _
      cases h
      exact ⟨rfl, fun _ => hres, .mk _ _ _ _⟩
    · cases h
      exact ⟨rfl, nofun, .mk _ _ _ _⟩

theorem bg_upgrade_inv {kind : CtlBlueGreen.Kind} {br : BR} {ns : Status} {w w' : BGW} {r : CallResult}
    (h : (bgPlane kind).upgrade br ns w = .val (w', r)) :
    ∃ o, CtlBlueGreen.cpUpgradeBatch kind w.w (bgBR br) CtlBlueGreen.noFault = .val o ∧
      w' = { w with w := o.world } ∧ (r = .ok ↔ o.res = .ok) := by
  simp only [bgPlane] at h
  split at h
  · cases h
  · rename_i o ho
    cases h
    exact ⟨o, ho, rfl, resOfBool_decide _⟩

theorem bg_fin_inv {kind : CtlBlueGreen.Kind} {br : BR} {w w' : BGW} {r : CallResult}
    (h : (bgPlane kind).fin br w = .val (w', r)) :
    ∃ o, CtlBlueGreen.cpFinalize kind w.w (bgBR br) CtlBlueGreen.noFault = .val o ∧
      w' = { w with w := o.world } ∧ (r = .ok ↔ o.res = .ok) := by
  simp only [bgPlane] at h
  split at h
  · cases h
  · rename_i o ho
    cases h
    exact ⟨o, ho, rfl, resOfBool_decide _⟩

/-- **`fin_ok_released`, readable form (partial)** — a `Finalize` that returns nil has removed this BatchRelease's control-info
    (or the workload is gone), outside the two known findings: `batchPartition` set (`gBgPartitioned`), and a workload that
    carries the control-info but no saved-settings annotation (`gBgRestoredControlled`). -/
theorem bg_fin_ok_released_partial (kind : CtlBlueGreen.Kind) (br : BR) (w w' : BGW)
    (h : (bgPlane kind).fin br w = .val (w', .ok))
    (hp : gBgPartitioned br = false) (hr : gBgRestoredControlled w' = false) : bgReleasedFull w' = true := by
  obtain ⟨o, ho, rfl, hres⟩ := bg_fin_inv h
  have hok : o.res = .ok := hres.mp rfl
  unfold bgReleasedFull
  unfold gBgRestoredControlled at hr
  dsimp only at hr ⊢
  rcases RV.Lemmas.CtlBlueGreen.cpFinalize_ok_cases kind w.w (bgBR br) _ o ho hok with hpart | hnone | ⟨wl', hwl', hc⟩
  · exact absurd hpart (by simpa [bgBR, gBgPartitioned] using hp)
  · rw [hnone]
  · rw [hwl'] at hr ⊢
    dsimp only at hr ⊢
    rcases hc with ⟨hrest, _⟩ | hctl
    · rw [hrest] at hr
      simpa using hr
    · simp [bgControlled, hctl]

theorem bg_fin_ok_released (kind : CtlBlueGreen.Kind) (br : BR) (w w' : BGW)
    (h : (bgPlane kind).fin br w = .val (w', .ok)) : (bgPreds kind).released br w' = true := by
  show (gBgPartitioned br || gBgRestoredControlled w' || bgReleasedFull w') = true
  cases hp : gBgPartitioned br
  case true => rfl
  case false =>
    cases hr : gBgRestoredControlled w'
    case true => rfl
    case false => simpa using bg_fin_ok_released_partial kind br w w' h hp hr

theorem bg_init_ok_claimed (kind : CtlBlueGreen.Kind) (br : BR) (ns ns' : Status) (w w' : BGW)
    (h : (bgPlane kind).init br ns w = .val (w', ns', .ok)) : (bgPreds kind).claimed br w w' = true := by
  obtain ⟨o, ho, rfl, hres, _⟩ := bg_init_inv h
  have hok := hres rfl
  simp only [bgPreds]
  rcases RV.Lemmas.CtlBlueGreen.initialize_wl kind w.w (bgBR br) _ o ho with ⟨hsame, hctl⟩ | ⟨wl, s, hwl, _, _, _, hwl'⟩
  · obtain ⟨wl, hwl, hc⟩ := hctl hok
    rw [hsame, hwl]
    have : bgControlled wl = true := hc
    simp [this]
  · rw [hwl, hwl']
    obtain ⟨h1, h2, h3, h4, _⟩ := RV.Lemmas.CtlBlueGreen.initPatch_claims kind (bgBR br) (CtlBlueGreen.initSetting kind s wl) wl
    have h1' : (CtlBlueGreen.initPatch kind (bgBR br) (CtlBlueGreen.initSetting kind s wl) wl).ctl = .uid 0 := h1
    simp [bgControlled, h1', h2, h3, h4]

/-- **the blue-green planes are lawful** (Deployment and CloneSet): readiness = `CalculateBatchContext` → `IsBatchReady` on the
    world (`bgReady`), released = the control-info of this BatchRelease is gone *or* one of the two known-finding guards holds,
    claimed = control-info of this BatchRelease and — when newly taken — saved settings and hold. -/
theorem bgLaws (kind : CtlBlueGreen.Kind) : Laws (bgPlane kind) (bgPreds kind) where
  ensure_ok_iff := fun br _ w _ => ensure_outBool (bgReady kind br w)
  fin_ok_released := fun br w w' _ h => bg_fin_ok_released kind br w w' h
  init_frame := .of_records fun _ _ _ _ _ _ h => let ⟨_, _, _, _, hrec⟩ := bg_init_inv h; hrec
  init_ok_claimed := fun br ns w w' ns' _ h => bg_init_ok_claimed kind br ns ns' w w' h

/-- what the harness reports of the workload status besides the model's own fields (not read by `Finalize`) -/
def bgObsW : RV.ExecutorX.Obs :=
  { generation := 1, observedGeneration := 1, statusReplicas := 10, updated := 10, updatedReady := 10,
    updateRevision := "v2", stableRevision := "v1" }

/-- a CloneSet under the control of this BatchRelease (UID 0), initialised, partition `100%`, no pod updated yet (`wlCloneSet`:
    `updatedReady = ready` lets the wait of `Finalize` pass) -/
def bgWitnessCS : BGW :=
  { w := RV.Props.CtlBlueGreen.worldOf RV.Props.CtlBlueGreen.wlCloneSet [] [], obs := bgObsW }

/-- a Deployment that carries the control-info of this BatchRelease but **no** saved-settings annotation; every pod updated
    and ready -/
def bgWitnessDep : BGW :=
  { w := RV.Props.CtlBlueGreen.worldOf
      { RV.Props.CtlBlueGreen.wlInitialised with saved := .none, status := RV.Props.CtlBlueGreen.st 10 10 10 10 0 } [] [],
    obs := bgObsW }

def bgWitnessBR (partition : Option Int) (st : Status) : BR :=
  { batches := [.pct 50, .pct 100], partition := partition, failureThreshold := none, deleting := false, hasFinalizer := true,
    rollbackAnno := false, status := st }

/-- **`bgPartitionedFinalize`** — `Finalize` with `batchPartition` set (whatever the status of the BatchRelease says) returns nil
    without touching the CloneSet: the control-info of this BatchRelease is still there. -/
theorem bg_released_full_FALSE_partitioned (st : Status) :
    gBgPartitioned (bgWitnessBR (some 0) st) = true ∧
    (bgPlane .cloneSet).fin (bgWitnessBR (some 0) st) bgWitnessCS = .val (bgWitnessCS, .ok) ∧
    bgReleasedFull bgWitnessCS = false := by
  exact ⟨rfl, rfl, by decide⟩

/-- **`bgRestoredControlled`** — `Finalize` with `batchPartition` cleared on a Deployment that carries the control-info but no
    saved-settings annotation: no patch is issued, nil is returned, the control-info of this BatchRelease is still there. -/
theorem bg_released_full_FALSE_restored :
    gBgPartitioned (bgWitnessBR none default) = false ∧ gBgRestoredControlled bgWitnessDep = true ∧
    (bgPlane .deployment).fin (bgWitnessBR none default) bgWitnessDep = .val (bgWitnessDep, .ok) ∧
    bgReleasedFull bgWitnessDep = false :=
  ⟨by decide, by decide, rfl, by decide⟩

theorem bg_upgrade_err_same (kind : CtlBlueGreen.Kind) (br : BR) (ns : Status) (w w' : BGW)
    (h : (bgPlane kind).upgrade br ns w = .val (w', .err)) : w' = w := by
  obtain ⟨o, ho, rfl, hres⟩ := bg_upgrade_inv h
  rcases RV.Lemmas.CtlBlueGreen.upgrade_world kind w.w (bgBR br) _ o ho with ⟨e, _⟩ | ⟨_, _, _, p⟩
  · rw [e]
  · exact nomatch hres.mpr p.ok

theorem bg_upgrade_monotone (kind : CtlBlueGreen.Kind) (br : BR) (ns : Status) (w w' : BGW) (r : CallResult)
    (hok : (bgPreds kind).expoOK br w = true) (h : (bgPlane kind).upgrade br ns w = .val (w', r)) :
    (bgPreds kind).exposure w ≤ (bgPreds kind).exposure w' := by
  obtain ⟨o, ho, rfl, _⟩ := bg_upgrade_inv h
  show RV.Oracle.CtlBlueGreen.exposureW kind w.w ≤ RV.Oracle.CtlBlueGreen.exposureW kind o.world
  simp only [bgPreds] at hok
  cases hw : w.w.wl with
  | none =>
    rcases RV.Lemmas.CtlBlueGreen.upgrade_world kind w.w (bgBR br) _ o ho with ⟨e, _⟩ | ⟨wl, _, _, p⟩
    · rw [e]; exact Int.le_refl _
    · exact nomatch hw.symm.trans p.found
  | some wl =>
    rw [hw, Bool.and_eq_true] at hok
    obtain ⟨s, hs⟩ := Option.isSome_iff_exists.1 hok.2
    rw [RV.Lemmas.CtlBlueGreen.exposureW_some kind w.w wl hw]
    exact RV.Lemmas.CtlBlueGreen.upgrade_exposure_ge ho hw hok.1 hs

theorem bg_upgrade_within (kind : CtlBlueGreen.Kind) (br : BR) (ns : Status) (w w' : BGW) (r : CallResult)
    (hok : (bgPreds kind).expoOK br w = true) (h : (bgPlane kind).upgrade br ns w = .val (w', r)) :
    (bgPreds kind).exposure w' ≤ max ((bgPreds kind).exposure w) ((bgPreds kind).allowed br w) := by
  obtain ⟨o, ho, rfl, _⟩ := bg_upgrade_inv h
  have m := RV.Props.CtlBlueGreen.upgrade_within_step kind w.w (bgBR br) _ o ho
  unfold RV.Oracle.CtlBlueGreen.upgradeWithinStep at m
  simp only [bgPreds] at hok ⊢
  rcases RV.Lemmas.CtlBlueGreen.upgrade_cases kind w.w (bgBR br) _ o ho with ⟨hg, _⟩ | ⟨_, hw, e⟩ | ⟨wl, R, _, hw, hR, _⟩
  · cases hg
  · subst e; rw [hw]; simp only [Int.le_max_left]
  · rw [hw] at m hok ⊢
    simp only [hR] at m ⊢
    simp only [Bool.and_eq_true] at hok
    rw [RV.Lemmas.CtlBlueGreen.exposureW_some kind w.w wl hw]
    simpa [hok.1] using m

/-- a Deployment whose hold is in place (`minReadySeconds = MaxReadySeconds`, `maxUnavailable = 0`) with surge `0`, not paused,
    under the control of *another* BatchRelease (UID 1): nothing of the new revision may run -/
def bgWitnessHeldDep : BGW :=
  { w := RV.Props.CtlBlueGreen.worldOf
      { RV.Props.CtlBlueGreen.wlInitialised with
        ctl := .uid 1, ru := some { maxSurge := some (.int 0), maxUnavailable := some (.int 0) },
        status := RV.Props.CtlBlueGreen.st 10 10 0 10 0 } [] [],
    obs := bgObsW }

/-- a paused CloneSet without partition whose hold is in place, under the control of another BatchRelease -/
def bgWitnessPausedCS : BGW :=
  { w := RV.Props.CtlBlueGreen.worldOf
      { RV.Props.CtlBlueGreen.wlCloneSet with ctl := .uid 1, paused := true, partition := none } [] [],
    obs := bgObsW }

/-- **`init_exposes_nothing` is false for `bgPreds` (Deployment)** — `Initialize` of a held, un-paused Deployment with surge `0`
    that this BatchRelease does not control yet sets `maxSurge = 1`: one pod of the new revision may run where none could. -/
theorem bg_init_exposes_nothing_full_FALSE_deployment :
    (bgPreds .deployment).expoOK (bgWitnessBR (some 0) default) bgWitnessHeldDep = true ∧
    (bgPreds .deployment).exposure bgWitnessHeldDep = 0 ∧
    (match (bgPlane .deployment).init (bgWitnessBR (some 0) default) default bgWitnessHeldDep with
     | .val (w', _, .ok) => (bgPreds .deployment).exposure w'
     | _ => 0) = 1 := by
  decide

/-- **… and for the CloneSet** — `Initialize` un-pauses a paused CloneSet; without the partition `100%` of the webhook one pod
    of the new revision may run afterwards. -/
theorem bg_init_exposes_nothing_full_FALSE_cloneSet :
    (bgPreds .cloneSet).expoOK (bgWitnessBR (some 0) default) bgWitnessPausedCS = true ∧
    (bgPreds .cloneSet).exposure bgWitnessPausedCS = 0 ∧
    (match (bgPlane .cloneSet).init (bgWitnessBR (some 0) default) default bgWitnessPausedCS with
     | .val (w', _, .ok) => (bgPreds .cloneSet).exposure w'
     | _ => 0) = 1 := by
  decide

/-- the guard under which `Initialize` exposes nothing: this BatchRelease controls the workload already (then nothing is
    written), or the admission webhook prepared it (Deployment paused / CloneSet partition `100%`), or a pod of the new revision
    may run already (the initial surge of `1` adds nothing) -/
def bgInitQuiet (kind : CtlBlueGreen.Kind) (w : BGW) : Bool :=
  match w.w.wl with
  | none => true
  | some wl =>
    bgControlled wl || RV.Oracle.CtlBlueGreen.prepared kind wl || decide (1 ≤ RV.Oracle.CtlBlueGreen.exposureBG kind wl)

/-- **`init_exposes_nothing` (partial)** — under the guard `bgInitQuiet` (and without any hold condition) `Initialize`, whatever
    it returns, does not raise the exposure — from `RV.Lemmas.CtlBlueGreen.init_exposure_le`. -/
theorem bg_init_exposes_nothing_partial (kind : CtlBlueGreen.Kind) (br : BR) (ns ns' : Status) (w w' : BGW) (r : CallResult)
    (h : (bgPlane kind).init br ns w = .val (w', ns', r)) (hq : bgInitQuiet kind w = true) :
    (bgPreds kind).exposure w' ≤ (bgPreds kind).exposure w := by
  obtain ⟨o, ho, rfl, _⟩ := bg_init_inv h
  show RV.Oracle.CtlBlueGreen.exposureW kind o.world ≤ RV.Oracle.CtlBlueGreen.exposureW kind w.w
  have hwl := RV.Lemmas.CtlBlueGreen.initialize_wl kind w.w (bgBR br) _ o ho
  unfold bgInitQuiet at hq
  cases hw : w.w.wl with
  | none =>
    rcases hwl with ⟨e, _⟩ | ⟨wl, _, hwl, _⟩
    · rw [RV.Lemmas.CtlBlueGreen.exposureW_congr kind w.w o.world e]; exact Int.le_refl _
    · rw [hw] at hwl; cases hwl
  | some wl =>
    obtain ⟨hle, hprep⟩ := RV.Lemmas.CtlBlueGreen.init_exposure_le ho hw
    rw [hw] at hq
    simp only [Bool.or_eq_true, decide_eq_true_eq] at hq
    rw [RV.Lemmas.CtlBlueGreen.exposureW_some kind w.w wl hw]
    rcases hq with (hc | hp) | h1
    · -- controlled already: nothing is written
      rcases hwl with ⟨e, _⟩ | ⟨wl2, _, hwl2, hnc, _⟩
      · rw [RV.Lemmas.CtlBlueGreen.exposureW_congr kind w.w o.world e, RV.Lemmas.CtlBlueGreen.exposureW_some kind w.w wl hw]; exact Int.le_refl _
      · rw [hw] at hwl2; cases hwl2
        have : CtlBlueGreen.controlled (bgBR br) wl = true := hc
        rw [this] at hnc; cases hnc
    · -- prepared: nothing is exposed afterwards
      rw [hprep hp]; exact RV.Lemmas.CtlBlueGreen.exposureBG_nonneg kind wl
    · -- a pod may run already: the workload is not paused, and the call adds at most the initial surge of one
      have hnp : ¬ (wl.paused = true) := by
        intro hp; rw [RV.Lemmas.CtlBlueGreen.exposureBG_paused kind wl hp] at h1; omega
      have := hle fun hc => hnp hc.2.1
      omega

/-- `bgPreds` with the region of the exposure figures narrowed by the guard of `Initialize`: what `expoOK` has to be for
    **all** exposure laws to hold -/
def bgPredsQuiet (kind : CtlBlueGreen.Kind) : Preds BGW :=
  { bgPreds kind with expoOK := fun br w => (bgPreds kind).expoOK br w && bgInitQuiet kind w }

theorem bgLawsQuiet (kind : CtlBlueGreen.Kind) : Laws (bgPlane kind) (bgPredsQuiet kind) :=
  ⟨(bgLaws kind).ensure_ok_iff, (bgLaws kind).fin_ok_released, (bgLaws kind).init_frame, (bgLaws kind).init_ok_claimed⟩

/-- **exposure laws of the blue-green planes**, in the region "hold in place, surge set, `Initialize` quiet" (exposure =
    `RV.Oracle.CtlBlueGreen.exposureW`, allowed = `CalculateBatchReplicas` of the current plan entry). -/
theorem bgExposure (kind : CtlBlueGreen.Kind) : ExposureLaws (bgPlane kind) (bgPredsQuiet kind) where
  init_exposes_nothing := fun br ns w w' ns' r _ hok h =>
    bg_init_exposes_nothing_partial kind br ns ns' w w' r h (Bool.and_eq_true_iff.mp hok).2
  upgrade_monotone := fun br ns w w' r _ hok h => bg_upgrade_monotone kind br ns w w' r (Bool.and_eq_true_iff.mp hok).1 h
  upgrade_within := fun br ns w w' r _ hok h => bg_upgrade_within kind br ns w w' r (Bool.and_eq_true_iff.mp hok).1 h
  upgrade_err_same := fun br ns w w' h => bg_upgrade_err_same kind br ns w w' h

/-- **the `UpgradeBatch` laws hold for the blue-green planes with `bgPreds` as the run-time oracle uses it** (`expoOK` = the hold is in
    place and the surge is set); only `init_exposes_nothing` needs the stronger `bgPredsQuiet`. -/
theorem bgUpgradeLaws (kind : CtlBlueGreen.Kind) : UpgradeLaws (bgPlane kind) (bgPreds kind) where
  upgrade_monotone := fun br ns w w' r _ hok h => bg_upgrade_monotone kind br ns w w' r hok h
  upgrade_within := fun br ns w w' r _ hok h => bg_upgrade_within kind br ns w w' r hok h
  upgrade_err_same := fun br ns w w' h => bg_upgrade_err_same kind br ns w w' h

/-- what `CalculateBatchContext` of the blue-green controls reads for workload `wl` with `R` replicas (`bgReady`): the current
    plan entry, the current surge, `status.updatedReplicas`, and the updated-ready count (CloneSet: `status.updatedReadyReplicas`;
    Deployment: `status.readyReplicas` of the newest ReplicaSet, `0` without ReplicaSets); no failure threshold -/
def bgCtxObs (kind : CtlBlueGreen.Kind) (br : BR) (w : BGW) (wl : CtlBlueGreen.Workload) (R : Int) : RV.BatchCtx.Obs :=
  { kind := bgKindOf kind, replicas := R, entry := entryOf br, noNeedUpdate := none,
    knobCur := (CtlBlueGreen.ruSurge wl.ru).getD (.int 0), updated := wl.status.updated,
    updatedReady := (match kind with
      | .cloneSet => wl.status.updatedReady
      | .deployment => if w.w.rss.isEmpty then 0 else w.obs.updatedReady),
    failureThreshold := none }

theorem bgReady_eq (kind : CtlBlueGreen.Kind) (br : BR) (w : BGW) (wl : CtlBlueGreen.Workload) (R : Int)
    (hw : w.w.wl = some wl) (hR : wl.replicas = some R) :
    bgReady kind br w =
      if R = 0 then .val true else
      match calcCtx (bgCtxObs kind br w wl R) with
      | .panic => .panic
      | .ok c => .val (isBatchReady c none = .ok) := by
  unfold bgReady bgInfo
  simp only [hw, hR]
  rfl

/-- **what "ready" means for the blue-green planes** — when the plane's readiness predicate holds, the workload exists and either
    has no replicas, or the batch context `CalculateBatchContext` computes for it has at least the desired number of updated pods
    and of updated *ready* pods (no failure threshold), and at least one ready pod when any is called for — from
    `RV.Props.C11.ready_sound`. -/
theorem bg_ready_means (kind : CtlBlueGreen.Kind) (br : BR) (w : BGW) (h : (bgPreds kind).ready br w = true) :
    ∃ wl R, w.w.wl = some wl ∧ wl.replicas = some R ∧
      (R = 0 ∨ ∃ c, calcCtx (bgCtxObs kind br w wl R) = .ok c ∧
        c.updated ≥ c.desired ∧ c.updatedReady ≥ c.desired ∧ (c.desired > 0 → c.updatedReady > 0)) := by
  have h' : outBool (bgReady kind br w) = true := h
  cases hw : w.w.wl with
  | none =>
    have : bgReady kind br w = .val false := by unfold bgReady bgInfo; simp only [hw]
    rw [this] at h'; cases h'
  | some wl =>
    cases hR : wl.replicas with
    | none =>
      have : bgReady kind br w = .panic := by unfold bgReady bgInfo; simp only [hw, hR]
      rw [this] at h'; cases h'
    | some R =>
      refine ⟨wl, R, rfl, hR, ?_⟩
      rw [bgReady_eq kind br w wl R hw hR] at h'
      by_cases h0 : R = 0
      · exact Or.inl h0
      · right
        rw [if_neg h0] at h'
        cases hc : calcCtx (bgCtxObs kind br w wl R) with
        | panic => rw [hc] at h'; cases h'
        | ok c =>
          rw [hc] at h'
          have hrdy : isBatchReady c none = .ok := by simpa [outBool] using h'
          refine ⟨c, rfl, ?_⟩
          have hft : c.failureThreshold = none := by
            obtain ⟨_, _, rfl⟩ := calcCtx_ok hc
            rfl
          by_cases hn : 0 ≤ c.updatedReady
          · have m := RV.Props.C11.ready_sound c none hn hrdy
            simp only [RV.Oracle.Batch.readyMeans, hft, allowedUnavailable, Bool.and_eq_true, decide_eq_true_eq] at m
            obtain ⟨⟨⟨m1, m2⟩, m3⟩, _⟩ := m
            exact ⟨m1, by omega, m3⟩
          · -- a negative ready count (not a value the API server reports) never passes `IsBatchReady` for a positive target
            unfold isBatchReady at hrdy
            simp only [hft, allowedUnavailable] at hrdy
            split at hrdy
            · cases hrdy
            · split at hrdy
              · cases hrdy
              · refine ⟨by omega, by omega, by omega⟩

/-- a Deployment initialised by this BatchRelease, surge `50%`, 5 of 10 pods updated, 5 updated pods ready (newest ReplicaSet) -/
def bgReadyWorld : BGW :=
  { w := { wl := some { RV.Props.CtlBlueGreen.wlInitialised with status := RV.Props.CtlBlueGreen.st 15 15 5 10 0 },
           rss := [⟨false, CtlBlueGreen.maxReady⟩, ⟨false, 0⟩], hpaV2 := [], hpaV1 := [] },
    obs := { bgObsW with updated := 5, updatedReady := 5 } }

def bgProgressing (cb : Int) : Status :=
  { (default : Status) with phase := .progressing, currentBatch := cb, batchState := .verifying, hash := .same }

/-- the first batch (`50%` of 10) is ready on it, the second (`100%`) is not; `EnsureBatchPodsReadyAndLabeled` agrees -/
example :
    (bgPreds .deployment).ready (bgWitnessBR (some 0) (bgProgressing 0)) bgReadyWorld = true ∧
    (bgPreds .deployment).ready (bgWitnessBR (some 1) (bgProgressing 1)) bgReadyWorld = false ∧
    (match (bgPlane .deployment).ensure (bgWitnessBR (some 0) (bgProgressing 0)) (bgProgressing 0) bgReadyWorld with
     | .val .ok => true
     | _ => false) = true := by
  decide

/-- a successful `Finalize` with `batchPartition` cleared that really releases: the Deployment carried this BatchRelease's
    control-info and the saved settings, all pods updated and ready; afterwards the control-info is gone and neither guard holds -/
example :
    let br := bgWitnessBR none default
    let w : BGW := { w := RV.Props.CtlBlueGreen.worldOf
                       { RV.Props.CtlBlueGreen.wlInitialised with status := RV.Props.CtlBlueGreen.st 10 10 10 10 0 } [] [],
                     obs := bgObsW }
    bgReleasedFull w = false ∧ gBgPartitioned br = false ∧
    (match (bgPlane .deployment).fin br w with
     | .val (w', .ok) => bgReleasedFull w' && !gBgRestoredControlled w'
     | _ => false) = true := by
  decide

/-- the same on the CloneSet plane -/
example :
    (match (bgPlane .cloneSet).fin (bgWitnessBR none default) bgWitnessCS with
     | .val (w', .ok) => bgReleasedFull w' && !gBgRestoredControlled w'
     | _ => false) = true := by
  decide

/-- `Initialize` really claims (the hypothesis of `init_ok_claimed` is satisfiable with a write): a paused Deployment without
    rollout annotations -/
example :
    let w : BGW := { w := RV.Props.CtlBlueGreen.worldOf RV.Props.CtlBlueGreen.wlUser [] [], obs := bgObsW }
    (match (bgPlane .deployment).init (bgWitnessBR (some 0) default) default w with
     | .val (w', _, .ok) => (bgPreds .deployment).claimed (bgWitnessBR (some 0) default) w w' && bgInitQuiet .deployment w &&
         !(match w.w.wl with
           | some wl => bgControlled wl
           | none => true)
     | _ => false) = true := by
  decide

/-- `UpgradeBatch` really raises the exposure within the plan (the hypotheses of the `UpgradeBatch` laws are satisfiable with a
    write): initialised Deployment with surge `1`, batch `50%` of 10 → exposure 1 → 5 = allowed -/
example :
    let w : BGW := { w := RV.Props.CtlBlueGreen.worldOf
                       { RV.Props.CtlBlueGreen.wlInitialised with
                         ru := some { maxSurge := some (.int 1), maxUnavailable := some (.int 0) } } [] [],
                     obs := bgObsW }
    let br := bgWitnessBR (some 0) (bgProgressing 0)
    (bgPreds .deployment).expoOK br w = true ∧ (bgPreds .deployment).exposure w = 1 ∧ (bgPreds .deployment).allowed br w = 5 ∧
    (match (bgPlane .deployment).upgrade br br.status w with
     | .val (w', .ok) => (bgPreds .deployment).exposure w'
     | _ => 0) = 5 := by
  decide

end RV.Props.ExecutorX
