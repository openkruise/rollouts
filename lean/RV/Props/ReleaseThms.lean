import RV.Lemmas.ResetOnExit
import RV.Lemmas.RunMove
import RV.Oracle.RolloutSM
/-!
# "Release the workload" is done only when the BatchRelease is gone (C03 / C05 / C10)

Component-level theorems (every context): the clean-up task `ReleaseWorkloadControl` of `doFinalising` and stage 2 of
`doProgressingReset` leave their cursor position only in a state without BatchRelease.  The whole-reconcile form is the
oracle `releaseWaitsGone`, evaluated on every real reconcile.  A whole reconcile can also leave the position *backwards*:
`resetOnExit` clears the cursor of a Progressing rollout that is deleted / disabled, so its clean-up restarts from an empty cursor
(`release_waits_gone_restart`); the sequence that follows releases the workload again, as its last task
(`restart_releases_again`).
-/
namespace RV.Props.Release
open RV.RolloutSM RV.Oracle.RolloutSM RV.Props.Rollout

/-- **C03 / C05 / C10** — `removeBatchRelease` stops asking for a retry only when no BatchRelease is left (`removeBatchRelease_retry`,
    under the name the properties list) -/
theorem removeBatchRelease_done_gone (br : Option BR) (h : (removeBatchRelease br).1 = false) :
    (removeBatchRelease br).2.1 = none :=
  (removeBatchRelease_retry br).2 h

/-- **`doFinalising`**: from the cursor `ReleaseWorkloadControl`, any round that ends with another cursor ends without
    BatchRelease — for every exit reason, both styles, every context. -/
theorem doFinalising_release_gone (c c' : Ctx) (reason : Reason) (wr d e : Bool)
    (h : doFinalising c reason wr = some (c', d, e)) (hcur : c.sub.finStep = .releaseWorkloadControl)
    (hne : c'.sub.finStep ≠ .releaseWorkloadControl) : c'.br = none := by
  have hcur0 := finStart_cursor c reason
  rw [hcur, if_neg nofun] at hcur0
  cases doFinalising_inv h with
  | atEnd hend => cases hcur.symm.trans hend
  | restart _ hk => rw [hcur0] at hk; cases hk
  | stopped _ _ _ _ _ hrun => exact absurd ((finTask_frame hrun).2.trans hcur0) hne
  | advanced _ _ _ hrun =>
    unfold finTask at hrun
    rw [hcur0] at hrun
    simp only [Option.some.injEq, Prod.mk.injEq] at hrun
    obtain ⟨rfl, hdone, _⟩ := hrun
    exact removeBatchRelease_done_gone _ hdone

/-- **`doProgressingReset`, stage 2** (`ReleaseWorkloadControl`): the reset goes on to the canary Service only without
    BatchRelease -/
theorem prStage2_release_gone (c c' : Ctx) (d e : Bool) (h : prStage2 c = some (c', d, e))
    (hcur : c.sub.finStep = .releaseWorkloadControl) (hne : c'.sub.finStep ≠ .releaseWorkloadControl) : c'.br = none := by
  unfold prStage2 at h
  dsimp only at h
  split at h
  · simp only [Option.some.injEq, Prod.mk.injEq] at h
    obtain ⟨hc, _, _⟩ := h; subst hc
    exact absurd hcur hne
  · rename_i hdone
    have hgone := (removeBatchRelease_retry c.br).2 (by simpa using hdone)
    unfold prStage3 at h
    split at h
    · cases h
    · rename_i c2 x err hcall
      have hbr := (callTM_tm hcall).br
      split at h <;> (simp only [Option.some.injEq, Prod.mk.injEq] at h; obtain ⟨hc, _, _⟩ := h; subst hc; rw [hbr]; exact hgone)

/-- **restart on deletion / disabling** — for every world and every result of the body of a reconcile in which a Progressing
    rollout turns Terminating / Disabling: after the cursor reset the oracle `releaseWaitsGone` holds — the cursor is empty, it has
    not moved past `ReleaseWorkloadControl` -/
theorem release_waits_gone_restart (w : World) (r0 : StepResult) (hx : exitsProgressing w r0 = true) :
    releaseWaitsGone w (resetOnExit w r0) = true := by
  have hx' : exitsProgressing w (resetOnExit w r0) = true := by
    unfold exitsProgressing at hx ⊢; rw [resetOnExit_phase]; exact hx
  unfold releaseWaitsGone
  rw [resetOnExit_sub, hx']
  cases w.ro.sub with
  | none => rfl
  | some s =>
    cases r0.w.ro.sub with
    | none => rfl
    | some s' => simp [hx]

/-- … and the clean-up that starts over (exit reason "other": deletion, disabling) contains `ReleaseWorkloadControl`, as its last
    task, in both styles: the workload is released again, and that task waits for the BatchRelease to be gone
    (`doFinalising_release_gone`) -/
theorem restart_releases_again (style : Style) : (taskList style .other).getLast? = some .releaseWorkloadControl := by
  cases style <;> rfl

/-- **the exit clean-up starts from an empty cursor** — for every world: when one reconcile turns a Progressing rollout into a
    Terminating / Disabling one, the status it writes carries an empty clean-up cursor.  This is the hypothesis `h0` of the cursor
    invariant `RV.Props.Cluster.reach_inv_partial` for the deletion / disabling sequence (exit reason "other"), whose task order
    differs from that of the success / rollback clean-up or the reset that may have left a cursor behind. -/
theorem exit_starts_from_empty_cursor (w : World) (r : StepResult) (h : reconcile w = .val r) (hph : w.ro.phase = .progressing)
    (hx : r.w.ro.phase = .terminating ∨ r.w.ro.phase = .disabling) (s' : Sub) (hs : r.w.ro.sub = some s') :
    s'.finStep = .empty := by
  obtain ⟨r0, _, rfl⟩ := reconcile_val h
  rw [resetOnExit_phase] at hx
  have hfire : exitsProgressing w r0 = true := by
    unfold exitsProgressing; rcases hx with hx | hx <;> simp [hph, hx]
  rw [resetOnExit_sub, hfire] at hs
  cases h0 : r0.w.ro.sub with
  | none => rw [h0] at hs; cases hs
  | some s0 => rw [h0] at hs; simp only [Option.map_some, Option.some.injEq] at hs; rw [← hs]; rfl

end RV.Props.Release
