import RV.Props.C15
/-!
# C15 on histories that contain events by others and API faults

Model: `RV/Model/CustomHist.lean`.  A history is a list of `Event`s applied to the empty `World`:

* `addRef f o` — a ref (script `f`) to a pristine object `o` is appended to `customNetworkRefs`;
* `step b s` / `fin b` — the provider's `EnsureRoutes s` / `Finalise`, where the API server lets the
  first `b` writes of the call through and refuses every later one (`b = none`: no fault) — the call dies part-way;
* `userWrite i o` — the user deletes and re-creates / `kubectl replace`s the object of ref `i` from a
  manifest `o` (so it has no original-configuration annotation while its siblings may have one);
* `delete i`, `removeRef i` (the object stays as the provider left it), `readd j`.

`users evs` is what the user last wrote for each ref — a function of the events alone.
The only hypotheses are `EvOK`: a manifest the *user* writes does not carry the provider's annotation,
and the Env assumption on `encoding/json` at that manifest (`Codec.LawfulOn`, as in `RV.Props.C15`).

The theorems about histories are by induction over the event list with the invariant `WInv`:
*the stored original of every annotated ref is the user's last configuration of that ref, and a ref
without the annotation is at the user's last configuration* (`hist_invariant` exposes it as the
oracle `origKeptOK`, which the driver evaluates on the implementation after every event).
-/
namespace RV.Props.C15
open RV.Custom RV.Oracle.C15

/-- admissible events. -/
def EvOK (c : Codec) : Event → Prop
  | .userWrite _ o => noOrig o = true ∧ c.LawfulOn (dataOf o)
  | .addRef _ o => noOrig o = true ∧ c.LawfulOn (dataOf o)
  | _ => True

/-- the world / the user's configurations after a history that starts with nothing. -/
abbrev worldAfter (c : Codec) (evs : List Event) : World := run c evs World.empty
abbrev usersAfter (evs : List Event) : Users := users evs Users.empty

/-! ## the fault model extends the fault-free model -/

/-- with no fault injected, `ensureRoutesF` is the `ensureRoutes` of `RV/Model/Custom.lean`. -/
theorem budget_none_ensure (c : Codec) (s : Strategy) (st : List Ref) :
    ensureRoutesF c none s st = ensureRoutes c s st := ensureRoutesF_none c s st

theorem budget_none_finalise (c : Codec) (st : List Ref) : finaliseF c none st = finalise c st :=
  finaliseF_eq (.inl rfl)

/-- a call that returns success under *any* fault budget did exactly what the fault-free call does. -/
theorem ensure_ok_under_budget (c : Codec) (b : Option Nat) (s : Strategy) (st : List Ref)
    (h : (ensureRoutesF c b s st).2 ≠ .err) : ensureRoutesF c b s st = ensureRoutes c s st :=
  ensureRoutesF_ok h

theorem finalise_ok_under_budget (c : Codec) (b : Option Nat) (st : List Ref)
    (h : (finaliseF c b st).2 ≠ .err) : finaliseF c b st = finalise c st :=
  finaliseF_eq (.inr h)

/-- provider calls never touch the objects of refs that are not in the list. -/
theorem hist_parked_untouched (c : Codec) (b : Option Nat) (s : Strategy) (w : World) :
    (runEv c (.step b s) w).1.parked = w.parked ∧ (runEv c (.fin b) w).1.parked = w.parked := ⟨rfl, rfl⟩

/-- every ref — listed or removed — satisfies `HInv` against the user's last configuration of it. -/
def WInv (c : Codec) (u : Users) (w : World) : Prop :=
  All2 (HInv c) u.active w.active ∧ All2 (HInv c) u.parked w.parked

/-- a ref whose object the user has just written from the manifest `o` -/
private theorem hinv_new {c : Codec} {f : Option Script} {o : Obj} (h : noOrig o = true ∧ c.LawfulOn (dataOf o)) {r : Ref}
    (hs : r.script = f) : HInv c (f, o) { r with obj := some o } :=
  ⟨h, hs, fun x hx => by simp only [Option.some.injEq] at hx; subst hx; exact .inl rfl⟩

theorem runEv_inv (c : Codec) (e : Event) (he : EvOK c e) (u : Users) (w : World) (h : WInv c u w) :
    WInv c (usersEv e u) (runEv c e w).1 := by
  obtain ⟨ha, hp⟩ := h
  cases e with
  | step b s => exact ⟨ensureRoutesF_inv b s ha, hp⟩
  | fin b => exact ⟨finaliseF_inv b ha, hp⟩
  | userWrite i o =>
    refine ⟨?_, hp⟩
    exact ha.modifyAt (f := fun p => (p.1, o)) (g := fun r => { r with obj := some o })
      (fun p r hpr => hinv_new he hpr.2.1) i
  | delete i =>
    refine ⟨?_, hp⟩
    have := ha.modifyAt (f := id) (g := fun r => { r with obj := none })
      (fun p r hpr => ⟨hpr.1, hpr.2.1, fun x hx => by simp at hx⟩) i
    rw [modifyAt_id] at this
    exact this
  | addRef f o => exact ⟨ha.append (.cons (hinv_new (r := ⟨f, none⟩) he rfl) .nil), hp⟩
  | removeRef i =>
    simp only [runEv, usersEv]
    rcases ha.getAt i with ⟨h1, h2⟩ | ⟨a, r, h1, h2, hr⟩
    · simp only [h1, h2]; exact ⟨ha, hp⟩
    · simp only [h1, h2]; exact ⟨ha.removeAt i, hp.append (.cons hr .nil)⟩
  | readd j =>
    simp only [runEv, usersEv]
    rcases hp.getAt j with ⟨h1, h2⟩ | ⟨a, r, h1, h2, hr⟩
    · simp only [h1, h2]; exact ⟨ha, hp⟩
    · simp only [h1, h2]; exact ⟨ha.append (.cons hr .nil), hp.removeAt j⟩

theorem run_inv (c : Codec) (evs : List Event) (hev : ∀ e, e ∈ evs → EvOK c e) (u : Users) (w : World)
    (h : WInv c u w) : WInv c (users evs u) (run c evs w) := by
  induction evs generalizing u w with
  | nil => exact h
  | cons e es ih =>
    exact ih (fun e' he' => hev e' (by simp [he'])) _ _ (runEv_inv c e (hev e (by simp)) u w h)

private theorem inv_after (c : Codec) (evs : List Event) (hev : ∀ e, e ∈ evs → EvOK c e) :
    WInv c (usersAfter evs) (worldAfter c evs) :=
  run_inv c evs hev _ _ ⟨.nil, .nil⟩

/-- **C15 history invariant.**  After *any* history — provider calls that succeed, fail or die
    part-way, objects re-created by the user, refs added, removed and added again — for every ref
    (listed or removed) that exists: if the object carries the original-configuration annotation, its
    value is the dump of what the user last wrote for that ref (a stored original is never replaced
    by a modified configuration, nor by an outdated one); if it does not, the object *is* what the
    user last wrote (up to `normalise` after a restore). -/
theorem hist_invariant (c : Codec) (evs : List Event) (hev : ∀ e, e ∈ evs → EvOK c e) :
    origKeptOK c ((usersAfter evs).active.map (·.2)) ((worldAfter c evs).active.map (·.obj)) = true
    ∧ origKeptOK c ((usersAfter evs).parked.map (·.2)) ((worldAfter c evs).parked.map (·.obj)) = true :=
  ⟨origKeptOK_of_inv (inv_after c evs hev).1, origKeptOK_of_inv (inv_after c evs hev).2⟩

/-! ## (i) statelessness across foreign events and faults -/

/-- **C15 (i) on histories.**  After any history `pre`, if `EnsureRoutes s` returns success (under
    any fault budget), then every listed ref exists, every script succeeds on the configuration the
    user last wrote for *its own* ref (`freshAll` on `usersAfter pre`), and every object carries
    exactly that result plus the annotation holding that configuration (`statelessOK`) — never a
    result computed from an already modified spec, whatever happened before: earlier steps, a call
    that died part-way, a Finalise that restored only some refs, a sibling re-created without the
    annotation, refs added or removed. -/
theorem hist_stateless (c : Codec) (pre : List Event) (hpre : ∀ e, e ∈ pre → EvOK c e)
    (b : Option Nat) (s : Strategy)
    (hok : (runEv c (.step b s) (worldAfter c pre)).2 ≠ some .err) :
    ∃ ds, freshAll s (usersAfter pre).active = some ds ∧
      statelessOK c ((usersAfter pre).active.map (·.2)) ds
        ((runEv c (.step b s) (worldAfter c pre)).1.active.map (·.obj)) = true := by
  have hinv := (inv_after c pre hpre).1
  simp only [runEv, ne_eq, Option.some.injEq] at hok ⊢
  have heq := ensureRoutesF_ok hok
  rw [heq] at hok ⊢
  exact ensureRoutes_stateless s hinv hok

/-- … in particular two different histories that agree on what the user last wrote lead to
    pointwise equivalent objects after the same successful step. -/
theorem hist_history_independent (c : Codec) (pre₁ pre₂ : List Event)
    (h₁ : ∀ e, e ∈ pre₁ → EvOK c e) (h₂ : ∀ e, e ∈ pre₂ → EvOK c e)
    (hu : (usersAfter pre₁).active = (usersAfter pre₂).active)
    (b₁ b₂ : Option Nat) (s : Strategy)
    (ok₁ : (runEv c (.step b₁ s) (worldAfter c pre₁)).2 ≠ some .err)
    (ok₂ : (runEv c (.step b₂ s) (worldAfter c pre₂)).2 ≠ some .err) :
    ∃ ds, statelessOK c ((usersAfter pre₁).active.map (·.2)) ds
            ((runEv c (.step b₁ s) (worldAfter c pre₁)).1.active.map (·.obj)) = true
        ∧ statelessOK c ((usersAfter pre₁).active.map (·.2)) ds
            ((runEv c (.step b₂ s) (worldAfter c pre₂)).1.active.map (·.obj)) = true :=
  exists_and_of_eq_some (hist_stateless c pre₁ h₁ b₁ s ok₁) (hu ▸ hist_stateless c pre₂ h₂ b₂ s ok₂)

/-! ## (ii) restore across foreign events and faults -/

/-- **C15 (ii) on histories.**  After any history `pre`, if `Finalise` returns success (under any
    fault budget) then for every listed ref (`histRestoreOK`): a missing object stays missing; an
    object without the annotation is not touched; an object with it is `normalise` of what the user
    last wrote for that ref; in every case the object is the user's last configuration and no longer
    carries the annotation.  `modified` is reported iff some object carried the annotation. -/
theorem hist_restore (c : Codec) (pre : List Event) (hpre : ∀ e, e ∈ pre → EvOK c e) (b : Option Nat)
    (hok : (runEv c (.fin b) (worldAfter c pre)).2 ≠ some .err) :
    histRestoreOK ((usersAfter pre).active.map (·.2)) ((worldAfter c pre).active.map (·.obj))
        ((runEv c (.fin b) (worldAfter c pre)).1.active.map (·.obj)) = true
    ∧ (runEv c (.fin b) (worldAfter c pre)).2
        = some (.ok (anyAnnotated ((worldAfter c pre).active.map (·.obj)))) := by
  have hinv := (inv_after c pre hpre).1
  simp only [runEv, ne_eq, Option.some.injEq] at hok ⊢
  rw [finalise_ok_under_budget c b _ hok]
  exact finalise_restores_of_inv hinv

/-- what `histRestoreOK` says about one ref, in plain terms. -/
theorem histRestore1_spec (u : Obj) (b a : Option Obj) (h : histRestore1 u b a = true) :
    (b = none ∧ a = none) ∨ ∃ y, a = some y ∧ b.isSome = true ∧ (y = u ∨ y = normalise u) ∧ noOrig y = true := by
  unfold histRestore1 at h
  cases b with
  | none => cases a <;> simp_all
  | some x =>
    cases a with
    | none => simp at h
    | some y =>
      simp only [Bool.and_eq_true, Bool.or_eq_true, decide_eq_true_eq] at h
      exact .inr ⟨y, rfl, rfl, h.1.2, h.2⟩

/-! ## (iv) idempotence across foreign events and faults -/

/-- **C15 (iv) on histories.**  From *any* state (hence after any history): when `EnsureRoutes s`
    returns success under any fault budget, the same call made again (fault-free) writes nothing
    to the objects and reports `done = true`. -/
theorem hist_idempotent (c : Codec) (w : World) (b : Option Nat) (s : Strategy)
    (hok : (runEv c (.step b s) w).2 ≠ some .err) :
    runEv c (.step none s) (runEv c (.step b s) w).1 = ((runEv c (.step b s) w).1, some (.ok true)) := by
  simp only [runEv, ne_eq, Option.some.injEq] at hok ⊢
  have heq := ensureRoutesF_ok hok
  rw [heq] at hok ⊢
  rw [ensureRoutesF_none]
  cases hr : (ensureRoutes c s w.active).2 with
  | err => exact absurd hr hok
  | ok f =>
    have := ensure_idempotent c s w.active (ensureRoutes c s w.active).1 f (by rw [← hr])
    rw [this]

/-- **C15 (iv), no write at all.**  The repeated call does not merely leave the objects unchanged:
    it issues no `Update` — it succeeds, with `done = true`, even when the API server refuses every
    write (fault budget 0). -/
theorem hist_idempotent_no_write (c : Codec) (w : World) (b b' : Option Nat) (s : Strategy)
    (hok : (runEv c (.step b s) w).2 ≠ some .err) :
    runEv c (.step b' s) (runEv c (.step b s) w).1 = ((runEv c (.step b s) w).1, some (.ok true)) := by
  have h := hist_idempotent c w b s hok
  simp only [runEv, Prod.mk.injEq, Option.some.injEq] at h ⊢
  rw [ensureRoutesF_none] at h
  have hfix : ensureRoutes c s (ensureRoutesF c b s w.active).1 = ((ensureRoutesF c b s w.active).1, .ok true) := by
    apply Prod.ext
    · have := congrArg World.active h.1; simpa using this
    · exact h.2
  rw [ensureRoutesF_fix hfix b']
  exact ⟨rfl, rfl⟩

/-! ## non-vacuity: concrete histories satisfying every hypothesis
    (these `decide`s are *tests* on literals, not the ∀ claims) -/

/-- a DestinationRule and a second VirtualService manifest (what the user replaces `exObj` with). -/
def exDR : Obj :=
  { spec := some (.obj [("host", .str "svc"), ("subsets", .arr [.obj [("name", .str "v1")]])])
    labels := none, annotations := some [("team", "a")] }

def exObj' : Obj :=
  { spec := some (.obj [("http", .arr [.obj [("route", .arr [.obj [("destination", .obj [("host", .str "svc")])]]),
                                              ("timeout", .str "5s")]])])
    labels := none, annotations := none }

/-- a codec satisfying the round-trip assumption at the three manifests. -/
def exCodec3 : Codec where
  enc d := if d = dataOf exObj then "vs" else if d = dataOf exDR then "dr"
           else if d = dataOf exObj' then "vs'" else "other"
  dec s := if s = "vs" then dataOf exObj else if s = "dr" then dataOf exDR
           else if s = "vs'" then dataOf exObj' else ⟨.null, [], []⟩

def exStep (p : Int) : Strategy := ⟨.pct p, [], none⟩

/-- two refs; a 20 % step; the user re-creates the VirtualService from a *new* manifest (no annotation,
    the DestinationRule still has one); a 50 % step dies after its first write and is retried. -/
def exHist : List Event :=
  [.addRef (some (vsScript "svc" "svc-canary")) exObj, .addRef (some drScript) exDR,
   .step none (exStep 20), .userWrite 0 exObj', .step (some 1) (exStep 50)]

example : ∀ e, e ∈ exHist → EvOK exCodec3 e := by
  intro e he
  simp only [exHist, List.mem_cons, List.mem_nil_iff, or_false] at he
  rcases he with h | h | h | h | h <;> subst h
  · exact ⟨by decide, by decide, by decide⟩
  · exact ⟨by decide, by decide, by decide⟩
  · trivial
  · exact ⟨by decide, by decide, by decide⟩
  · trivial

/-- the faulty step stored the re-created object's original (write 1) and died: result `err`, the
    VirtualService carries its *new* manifest as original, the DestinationRule keeps the old one. -/
example : (runEv exCodec3 (.step (some 1) (exStep 50)) (worldAfter exCodec3 exHist.dropLast)).2 = some .err := by
  decide +kernel

example : (worldAfter exCodec3 exHist).active.map (fun r => r.obj.map origOf) = [some "vs'", some "dr"] := by
  decide +kernel

/-- the retry succeeds (hypothesis of `hist_stateless`) and writes the split of the *new* manifest. -/
example : (runEv exCodec3 (.step none (exStep 50)) (worldAfter exCodec3 exHist)).2 = some (.ok false) := by
  decide +kernel

example :
    (runEv exCodec3 (.step none (exStep 50)) (worldAfter exCodec3 exHist)).1.active.map (·.obj)
    = [some { spec := some (.obj [("http", .arr [.obj [("route", .arr [
                  .obj [("destination", .obj [("host", .str "svc")]), ("weight", .int 50)],
                  .obj [("destination", .obj [("host", .str "svc-canary")]), ("weight", .int 50)]]),
                  ("timeout", .str "5s")]])]),
              labels := none, annotations := some [(origKey, "vs'")] },
       some { spec := some (.obj [("host", .str "svc"),
                  ("subsets", .arr [.obj [("name", .str "v1")], canarySubset])]),
              labels := none, annotations := some [("team", "a"), (origKey, "dr")] }] := by
  decide +kernel

/-- a Finalise that dies after its first write: the VirtualService is restored, the DestinationRule
    is not; `err`.  A step after that stores the VirtualService again — from the restored object — and
    the retried Finalise (hypothesis of `hist_restore`) puts both back. -/
def exHist2 : List Event := exHist ++ [.step none (exStep 50), .fin (some 1), .step none (exStep 30)]

example : (runEv exCodec3 (.fin (some 1)) (worldAfter exCodec3 (exHist ++ [.step none (exStep 50)]))).2 = some .err := by
  decide +kernel

example : (worldAfter exCodec3 (exHist ++ [.step none (exStep 50), .fin (some 1)])).active.map (fun r => r.obj.map noOrig)
    = [some true, some false] := by decide +kernel

example : (runEv exCodec3 (.fin none) (worldAfter exCodec3 exHist2)).2 = some (.ok true) := by decide +kernel

example : (runEv exCodec3 (.fin none) (worldAfter exCodec3 exHist2)).1.active.map (·.obj)
    = [some (normalise exObj'), some (normalise exDR)] := by decide +kernel

end RV.Props.C15
