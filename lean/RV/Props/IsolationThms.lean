import RV.Lemmas.Isolation
import RV.Model.Traffic
/-!
  C19 — rollouts are isolated from each other: the theorems.

  Subject: the process-wide helpers all rollouts of one controller process share (`RV/Model/Isolation.lean`):
  the grace expectation map, the resource expectation map, the dynamic watch registry, and the derivation
  of the keys under which every call site of `pkg/trafficrouting/manager.go` and of the BatchRelease
  canary-style Deployment control uses them.

  What is proved (all quantifiers unbounded: any store, any trace, any number of rollouts):
    frame         an operation leaves everything under a key it does not name unchanged, and (locality) does not
                  change the result of any later operation on another key
    commute       operations on different keys commute (same store contents, same results)
    interleave    in any trace in which the rollouts use disjoint keys, each rollout observes exactly what
                  it observes when it runs alone — for the raw grace operations, for the Manager calls,
                  for the resource expectations and the BatchRelease call sites
    keys          the keys of rollouts that are about different objects are disjoint at every call site;
                  a key taken from a locally built (un-fetched) object makes this impossible
    expectations  `realCanaryController.Create` creates only when no creation of the release is pending unobserved,
                  or the pending one has waited for the timeout
    API objects   the names of the Services and Ingresses two rollouts write are disjoint — in different namespaces
                  always, in one namespace under the stated hypotheses (`footprint_disjoint_full_FALSE`: not without)
    watches       the dynamic watch registry under interleaved reconciles: a kind is registered iff it was registered
                  from the start (`init()`) or some `Watch` call for it succeeded, and a failure of one rollout's call keeps nobody else from registering
    bridge        the grace memory of the one-rollout model `RV.Traffic` is the shared map seen through one
                  rollout's keys, and no other rollout's call changes that view
  What is *not* a theorem here: freedom from data races (runtime behaviour; `tools/race_isolation.sh`).
-/
namespace RV.Props.Isolation
open RV.Isolation RV.Oracle.Isolation

/-! ## frame -/

/-- **frame, grace map**: an operation leaves the entry of every key other than its own (`o.key`) as it was -/
theorem op_frame (now : Nat) (g : Grace) (o : GOp) (k' : String) (h : k' ≠ o.key) :
    aget (Grace.apply now g o).1 k' = aget g k' :=
  Grace.local.frame now g o k' (by simpa using h)

/-- the result of any later operation `q` on another key (`SatisfiedExpectations`, `RunWithGraceSeconds`, …) is the
    same with and without `o` before it: by the locality law `q` reads only the part under `q.key`, which `o` leaves
    alone -/
theorem op_frame_obs (now now' : Nat) (g : Grace) (o q : GOp) (h : q.key ≠ o.key) :
    (Grace.apply now' (Grace.apply now g o).1 q).2 = (Grace.apply now' g q).2 := by
  have hout := Grace.local.out (fun x => x == q.key) now g o (by simpa using fun e => h e.symm)
  exact (Grace.local.obs_local (fun x => x == q.key) now' _ _ q (by simp) hout).1

/-- the recorded time of `(key, action)` -/
def lookup2 (g : Grace) (key action : String) : Option Nat := (aget g key).bind (fun e => aget e action)

theorem lookup2_observe (g : Grace) (k a a' : String) :
    lookup2 (g.observe k a) k a' = if a' = a then none else lookup2 g k a' := by
  unfold Grace.observe lookup2
  cases hg : aget g k with
  | none => simp [hg]
  | some e =>
    rw [Option.bind_some, ← aget_adel e a a']
    dsimp only
    by_cases he : (adel e a).isEmpty = true
    · rw [if_pos he, aget_adel, if_pos rfl, List.isEmpty_iff.mp he]
      rfl
    · rw [if_neg he, aget_aset, if_pos rfl]
      rfl

theorem lookup2_expect (g : Grace) (now : Nat) (k a a' : String) :
    lookup2 (g.expect now k a) k a' = if a' = a then some now else lookup2 g k a' := by
  unfold Grace.expect lookup2
  cases aget g k <;> simp [aget_aset, aget]

/-- **frame inside one key**: `RunWithGraceSeconds` for action `a` leaves the record of every other action
    of the same controller key as it was (a rollout's `restoreGateway` wait is not disturbed by its `updateRoute`) -/
theorem action_frame (g : Grace) (now : Nat) (k a a' : String) (gr : Int) (md er : Bool) (h : a' ≠ a) :
    lookup2 (runWithGraceSeconds g now k a gr md er).1 k a' = lookup2 g k a' := by
  have hobs := lookup2_observe g k a a'
  have hexp := lookup2_expect g now k a a'
  rw [if_neg h] at hobs hexp
  unfold runWithGraceSeconds
  by_cases h1 : er = true
  · simp [h1]
  · by_cases h2 : gr = 0
    · simp [h1, h2, hobs]
    · by_cases h3 : md = true
      · simp [h1, h2, h3, hexp]
      · by_cases h4 : (g.satisfied now k a gr).1 = true
        · simp [h1, h2, h3, h4, hobs]
        · simp [h1, h2, h3, h4]

/-- a failed closure is reported as retry-with-error and leaves the map untouched -/
theorem closure_error_reported (g : Grace) (now : Nat) (k a : String) (gr : Int) (md : Bool) :
    runWithGraceSeconds g now k a gr md true = (g, ⟨true, 0, true⟩) ∧
    errorReported true (runWithGraceSeconds g now k a gr md true).2.retry (runWithGraceSeconds g now k a gr md true).2.err = true := by
  simp [runWithGraceSeconds, errorReported]

/-- **frame, resource expectations** (incl. the two BatchRelease call sites) -/
theorem exp_frame (now : Nat) (st : ExpStore) (o : EOp) (k' : String) (h : k' ∉ o.keys) :
    aget (ExpStore.apply now st o).1 k' = aget st k' :=
  ExpStore.local.frame now st o k' h

/-- **frame, Manager calls**: a call leaves every grace entry under a key that is not the `graceKey` of (one of) its call(s) as it was -/
theorem manager_frame (now : Nat) (g : Grace) (o : MOp) (k' : String) (h : k' ∉ o.keys) :
    aget (MOp.apply now g o).1 k' = aget g k' :=
  MOp.local.frame now g o k' h

/-! ## commutation -/

/-- **commutation**: two operations on different keys give the same results and the same store contents
    in either order -/
theorem op_commute (now : Nat) (g : Grace) (o₁ o₂ : GOp) (h : o₁.key ≠ o₂.key) :
    (Grace.apply now (Grace.apply now g o₂).1 o₁).2 = (Grace.apply now g o₁).2 ∧
    (Grace.apply now (Grace.apply now g o₁).1 o₂).2 = (Grace.apply now g o₂).2 ∧
    ∀ k, aget (Grace.apply now (Grace.apply now g o₁).1 o₂).1 k = aget (Grace.apply now (Grace.apply now g o₂).1 o₁).1 k :=
  Grace.local.commute now g o₁ o₂ (by simpa using h)

/-! ## interleavings -/

/-- `run_restrict` in the oracle's words (`sameAsSolo`); `interleave_solo`, `manager_interleave_solo` and `exp_interleave_solo` are its instances -/
theorem solo_of_sepFor {ε Op Obs : Type} [DecidableEq Obs] {keys : Op → List String}
    {apply : Nat → AMap ε → Op → AMap ε × Obs} {glob : Nat → Nat → AMap ε → AMap ε}
    (L : Local keys apply) (G : GlobLocal glob) (p : String → Bool) (r : Nat) (tr : List (Ev Op)) (now : Nat) (m : AMap ε)
    (h : sepFor keys p r tr = true) :
    sameAsSolo r (run apply glob (now, m) tr).2 (run apply glob (now, restrict p m) (proj r tr)).2 = true ∧
    restrict p (run apply glob (now, m) tr).1.2 = (run apply glob (now, restrict p m) (proj r tr)).1.2 := by
  have := run_restrict L G p r tr (now, m) h
  exact ⟨by simp [sameAsSolo, this.2.2], this.2.1⟩

/-- **grace map, any number of rollouts**: in a trace of the whole process in which
    rollout `r`'s operations use only keys selected by `p` and no other rollout's operation uses such a key,
    `r` observes exactly what it observes when it runs alone on its part of the map (with the same clock
    ticks and the same runs of the cleaner), and its part of the map ends up the same -/
theorem interleave_solo (p : String → Bool) (r : Nat) (tr : List (Ev GOp)) (now : Nat) (g : Grace)
    (h : sepFor (fun o : GOp => [o.key]) p r tr = true) :
    sameAsSolo r (Grace.run (now, g) tr).2 (Grace.run (now, restrict p g) (proj r tr)).2 = true ∧
    restrict p (Grace.run (now, g) tr).1.2 = (Grace.run (now, restrict p g) (proj r tr)).1.2 :=
  solo_of_sepFor Grace.local Grace.globLocal p r tr now g h

/-- **interleave_solo for Manager calls** (`RouteAllTrafficToNewVersion`, `RestoreGateway`,
    `RemoveCanaryService`, `PatchStableService`, `RestoreStableService`, `FinalisingTrafficRouting`) -/
theorem manager_interleave_solo (p : String → Bool) (r : Nat) (tr : List (Ev MOp)) (now : Nat) (g : Grace)
    (h : sepFor MOp.keys p r tr = true) :
    sameAsSolo r (Grace.runM (now, g) tr).2 (Grace.runM (now, restrict p g) (proj r tr)).2 = true ∧
    restrict p (Grace.runM (now, g) tr).1.2 = (Grace.runM (now, restrict p g) (proj r tr)).1.2 :=
  solo_of_sepFor MOp.local Grace.globLocal p r tr now g h

/-- **interleave_solo for the resource expectations** and their BatchRelease call sites
    (`realCanaryController.Create`, `expectationObserved`) -/
theorem exp_interleave_solo (p : String → Bool) (r : Nat) (tr : List (Ev EOp)) (now : Nat) (st : ExpStore)
    (h : sepFor EOp.keys p r tr = true) :
    sameAsSolo r (ExpStore.run (now, st) tr).2 (ExpStore.run (now, restrict p st) (proj r tr)).2 = true ∧
    restrict p (ExpStore.run (now, st) tr).1.2 = (ExpStore.run (now, restrict p st) (proj r tr)).1.2 :=
  solo_of_sepFor ExpStore.local ExpStore.globLocal p r tr now st h

inductive Interleave {α : Type} : List α → List α → List α → Prop where
  | nil : Interleave [] [] []
  | left {x xs ys zs} : Interleave xs ys zs → Interleave (x :: xs) ys (x :: zs)
  | right {y xs ys zs} : Interleave xs ys zs → Interleave xs (y :: ys) (y :: zs)

/-- the operation sequence `ops` performed by rollout `r` -/
def asEvents {Op : Type} (r : Nat) (ops : List Op) : List (Ev Op) := ops.map (Ev.op r)

theorem Interleave.filter {α : Type} {xs ys zs : List α} (h : Interleave xs ys zs) (P : α → Bool)
    (hx : ∀ x ∈ xs, P x = true) (hy : ∀ y ∈ ys, P y = false) : zs.filter P = xs := by
  induction h with
  | nil => rfl
  | left _ ih =>
    rw [List.filter_cons_of_pos (hx _ (List.mem_cons_self ..)), ih (fun x m => hx x (List.mem_cons_of_mem _ m)) hy]
  | right _ ih =>
    rw [List.filter_cons_of_neg (by simp [hy _ (List.mem_cons_self ..)]),
      ih hx (fun y m => hy y (List.mem_cons_of_mem _ m))]

theorem Interleave.mem {α : Type} {xs ys zs : List α} (h : Interleave xs ys zs) {z : α} (hz : z ∈ zs) :
    z ∈ xs ∨ z ∈ ys := by
  induction h with
  | nil => cases hz
  | left _ ih =>
    rcases List.mem_cons.mp hz with rfl | hz
    · exact Or.inl (List.mem_cons_self ..)
    · exact (ih hz).imp_left (List.mem_cons_of_mem _)
  | right _ ih =>
    rcases List.mem_cons.mp hz with rfl | hz
    · exact Or.inr (List.mem_cons_self ..)
    · exact (ih hz).imp_right (List.mem_cons_of_mem _)

theorem proj_interleave_two {Op : Type} (xs ys : List Op) (zs : List (Ev Op))
    (h : Interleave (asEvents 1 xs) (asEvents 2 ys) zs) : proj 1 zs = asEvents 1 xs := by
  refine h.filter _ (fun x hx => ?_) (fun y hy => ?_)
  · obtain ⟨o, _, rfl⟩ := List.mem_map.mp hx
    rfl
  · obtain ⟨o, _, rfl⟩ := List.mem_map.mp hy
    rfl

theorem sepFor_interleave_two {Op : Type} (keys : Op → List String) (p : String → Bool) (xs ys : List Op)
    (zs : List (Ev Op)) (h : Interleave (asEvents 1 xs) (asEvents 2 ys) zs)
    (hx : ∀ o ∈ xs, (keys o).all p = true) (hy : ∀ o ∈ ys, (keys o).all (fun k => !p k) = true) :
    sepFor keys p 1 zs = true := by
  rw [sepFor, List.all_eq_true]
  intro e he
  rcases h.mem he with m | m
  · obtain ⟨o, ho, rfl⟩ := List.mem_map.mp m
    exact hx o ho
  · obtain ⟨o, ho, rfl⟩ := List.mem_map.mp m
    exact hy o ho
/-- **two rollouts**: if rollout 1's Manager calls `xs`
    use only keys selected by `p` and rollout 2's calls `ys` use none of them, then in *every* interleaving
    `zs` of the two sequences rollout 1 gets the results of running `xs` alone -/
theorem interleave_two (p : String → Bool) (xs ys : List MOp) (zs : List (Ev MOp)) (now : Nat) (g : Grace)
    (h : Interleave (asEvents 1 xs) (asEvents 2 ys) zs)
    (hx : ∀ o ∈ xs, (o.keys).all p = true) (hy : ∀ o ∈ ys, (o.keys).all (fun k => !p k) = true) :
    obsOf 1 (Grace.runM (now, g) zs).2 = (Grace.runM (now, restrict p g) (asEvents 1 xs)).2.map (·.2) := by
  have hs := sepFor_interleave_two MOp.keys p xs ys zs h hx hy
  have := run_restrict MOp.local Grace.globLocal p 1 zs (now, g) hs
  have hp := proj_interleave_two xs ys zs h
  unfold Grace.runM
  rw [this.2.2, ← hp]
  exact obsOf_proj_all 1 zs _

/-! ## keys, and with them the headlines -/

/-- the identity a call's key stands for: the UID of an object, or the namespaced name of the canary Service -/
inductive Ident where
  | uid (u : String)
  | named (ns name : String)
  deriving DecidableEq, Repr

/-- read off the site and the objects the call holds, not off the key text: `keys_injective` (equal text ⇒ equal
    identity) is about this -/
def identOf (x : MCall) : Option Ident :=
  match x.graceKey with
  | none => none
  | some _ =>
    match x.site with
    | .updateRoute | .restoreGateway => some (.uid x.c.ownerUID)
    | .removeCanaryService =>
      match x.c.refs with
      | [] => none
      | r :: _ => some (.named x.c.ns (getCanaryServiceName r.service x.c.onlyTrafficRouting x.c.disableGen))
    | .patchService | .restoreService =>
      match x.stable with
      | .ok o => some (.uid o.uid)
      | _ => none

/-- where the key `k` of a call comes from (`r` is the first traffic-routing ref of the call): it is the text of the
    identity the call stands for -/
inductive KeyOf (x : MCall) (r : Ref) (k : String) : Prop
  /-- `updateRoute`, `restoreGateway`: the UID of the owner -/
  | owner : x.site ≠ .removeCanaryService → identOf x = some (.uid k) → k = x.c.ownerUID → KeyOf x r k
  /-- `patchService`, `restoreService`: the UID of the fetched stable Service -/
  | stable {o : Obj} : x.site ≠ .removeCanaryService → identOf x = some (.uid k) → x.stable = .ok o → k = o.uid →
      KeyOf x r k
  /-- `removeCanaryService`: the namespaced name of the canary Service (`RemoveCanaryService` returns before
      `RunWithGraceSeconds` when `OnlyTrafficRouting` or `DisableGenerateCanaryService` is set, so where there is a key
      the canary Service name is `<service>-canary`) -/
  | canary : x.site = .removeCanaryService → identOf x = some (.named x.c.ns (r.service ++ "-canary")) →
      k = nsName x.c.ns (r.service ++ "-canary") → KeyOf x r k

/-- a call that reaches `RunWithGraceSeconds` does so under its site's action and under a key of one of the three
    sources -/
theorem graceKey_spec {x : MCall} {k a : String} (h : x.graceKey = some (k, a)) :
    a = x.site.action ∧ ∃ r rs, x.c.refs = r :: rs ∧ KeyOf x r k := by
  obtain ⟨site, ⟨ns, uid, refs, otr, dg⟩, dgr, stable, perr, cl⟩ := x
  cases refs with
  | nil => cases h
  | cons r rs =>
    cases site
    · cases perr
      · cases h; exact ⟨rfl, r, rs, rfl, .owner nofun rfl rfl⟩
      · cases h
    · cases perr
      · cases h; exact ⟨rfl, r, rs, rfl, .owner nofun rfl rfl⟩
      · cases h
    · cases otr <;> cases dg <;> cases h
      exact ⟨rfl, r, rs, rfl, .canary rfl rfl rfl⟩
    · cases otr <;> cases dg <;> cases stable <;> cases h
      exact ⟨rfl, r, rs, rfl, .stable nofun rfl rfl rfl⟩
    · cases stable <;> cases h
      exact ⟨rfl, r, rs, rfl, .stable nofun rfl rfl rfl⟩

theorem graceKey_action {x : MCall} {k a : String} (h : x.graceKey = some (k, a)) : a = x.site.action :=
  (graceKey_spec h).1

/-- at every call site, two calls that use the same `(key, action)` of the grace map are
    the same site and stand for the same object: the same owner UID, the same stable Service UID, or the same
    (namespace, canary Service name) -/
theorem keys_injective (x y : MCall) (kx ky : String × String)
    (hx : x.graceKey = some kx) (hy : y.graceKey = some ky)
    (hnx : noSlash x.c.ns = true) (hny : noSlash y.c.ns = true) (h : kx = ky) :
    x.site = y.site ∧ identOf x = identOf y := by
  subst h
  obtain ⟨ax, rx, _, _, sx⟩ := graceKey_spec hx
  obtain ⟨ay, ry, _, _, sy⟩ := graceKey_spec hy
  have hs : x.site = y.site := action_injective (ax.symm.trans ay)
  refine ⟨hs, ?_⟩
  -- the sites being the same, a UID meets a UID and a name a name
  cases sx with
  | canary cx ix kx =>
    cases sy with
    | canary _ iy ky =>
      obtain ⟨hns, hn⟩ := nsName_injective hnx hny (kx.symm.trans ky)
      rw [ix, iy, hns, hn]
    | owner ny | stable ny => exact absurd (hs.symm.trans cx) ny
  | owner nx ix | stable nx ix =>
    cases sy with
    | canary cy => exact absurd (hs.trans cy) nx
    | owner _ iy | stable _ iy => rw [ix, iy]

/-- **frame at (key, action) level for Manager calls**: a call changes no record whose action is not its own -/
theorem manager_action_frame (g : Grace) (now : Nat) (x : MCall) (k' a' : String) (h : a' ≠ x.site.action) :
    lookup2 (managerCall g now x).1 k' a' = lookup2 g k' a' := by
  rw [managerCall_eq]
  cases hk : x.graceKey with
  | none => rfl
  | some ka =>
    obtain ⟨k, a⟩ := ka
    have ha := graceKey_action hk
    by_cases hkk : k' = k
    · subst hkk
      exact action_frame g now k' a a' _ _ _ (ha ▸ h)
    · -- another key: the call is the operation `run` on the grace map
      unfold lookup2
      rw [show aget (runWithGraceSeconds g now k a _ x.cl.modified x.cl.err).1 k' = aget g k' from
        op_frame now g (.run k a _ _ _) k' hkk]

theorem keys_of_call (a : RIdent) (x : MCall) (h : callOf a x = true) :
    ∀ k ∈ (x.graceKey.map (·.1)).toList, k ∈ a.keys := by
  intro k hk
  cases hg : x.graceKey with
  | none => rw [hg] at hk; cases hk
  | some ka =>
    rw [hg] at hk
    obtain rfl : k = ka.1 := by simpa using hk
    obtain ⟨_, r, rs, hr, sx⟩ := graceKey_spec hg
    simp only [callOf, hr, Bool.and_eq_true, beq_iff_eq] at h
    obtain ⟨⟨⟨hns, ho⟩, hsvc⟩, hst⟩ := h
    cases sx with
    | owner _ _ e => rw [e, ho]; exact List.mem_cons_self ..
    | stable _ _ hst' e =>
      rw [hst'] at hst
      rw [e, beq_iff_eq.mp hst]; exact List.mem_cons_of_mem _ (List.mem_cons_self ..)
    | canary _ _ e => rw [e, hns, hsvc]; simp [RIdent.keys]

/-- **keys of different rollouts are disjoint**: if the two rollouts are about different objects, no
    controller key of one is a controller key of the other -/
theorem keys_disjoint (a b : RIdent) (ha : a.wf = true) (hb : b.wf = true) (hd : a.distinct b = true) :
    ∀ k ∈ a.keys, k ∉ b.keys := by
  simp only [RIdent.wf, Bool.and_eq_true] at ha hb
  simp only [RIdent.distinct, Bool.and_eq_true, bne_iff_ne, ne_eq, Bool.not_eq_true', Bool.and_eq_false_iff,
    beq_eq_false_iff_ne] at hd
  obtain ⟨⟨⟨⟨d1, d2⟩, d3⟩, d4⟩, d5⟩ := hd
  intro k hk hk'
  simp only [RIdent.keys, List.mem_cons, List.mem_nil_iff, or_false] at hk hk'
  have n1 := noSlash_ne_nsName a.ownerUID b.ns (b.svc ++ "-canary") ha.1.1
  have n2 := noSlash_ne_nsName a.svcUID b.ns (b.svc ++ "-canary") ha.1.2
  have n3 := noSlash_ne_nsName b.ownerUID a.ns (a.svc ++ "-canary") hb.1.1
  have n4 := noSlash_ne_nsName b.svcUID a.ns (a.svc ++ "-canary") hb.1.2
  rcases hk with rfl | rfl | rfl <;> rcases hk' with e | e | e
  · exact d1 e
  · exact d2 e
  · exact n1 e
  · exact d3 e
  · exact d4 e
  · exact n2 e
  · exact n3 e.symm
  · exact n4 e.symm
  · have := nsName_injective ha.2 hb.2 e
    have hsvc := canaryName_injective this.2
    rcases d5 with d | d
    · exact d this.1
    · exact d hsvc

/-- … a hypothesis un-fetched objects cannot meet: a Service built locally has the empty UID (`Obj.built`), so no two
    rollouts are `distinct` -/
theorem unfetched_never_distinct (a b : RIdent) (ns₁ n₁ ns₂ n₂ : String) :
    ({ a with svcUID := (Obj.built ns₁ n₁).uid } : RIdent).distinct { b with svcUID := (Obj.built ns₂ n₂).uid } = false := by
  simp [RIdent.distinct, Obj.built]

/-- … and then the `patchService` keys of any two rollouts are the same `("", "patchService")`: they share one grace
    record (test: `unfetched_FALSE`) -/
theorem unfetched_keys_collide (x y : MCall) (rx ry : Ref) (rsx rsy : List Ref) (ns₁ n₁ ns₂ n₂ : String)
    (hx : x.c.refs = rx :: rsx) (hy : y.c.refs = ry :: rsy)
    (hsx : x.site = .patchService) (hsy : y.site = .patchService)
    (hgx : (x.c.onlyTrafficRouting || x.c.disableGen) = false) (hgy : (y.c.onlyTrafficRouting || y.c.disableGen) = false)
    (hbx : x.stable = .ok (Obj.built ns₁ n₁)) (hby : y.stable = .ok (Obj.built ns₂ n₂)) :
    x.graceKey = y.graceKey := by
  unfold MCall.graceKey
  rw [hx, hy, hsx, hsy, hbx, hby]
  simp [hgx, hgy, Obj.built, Site.action]

/-- `sepFor` from an ownership relation: `K r' k` = key `k` is one of rollout `r'`'s; every operation uses only keys of
    the rollout that performs it; `p` holds on `r`'s keys and fails on everybody else's.  Both headlines go through
    this. -/
theorem sepFor_of_owned {Op : Type} (keys : Op → List String) (p : String → Bool) (r : Nat) (tr : List (Ev Op))
    (K : Nat → String → Prop) (hk : ∀ r' o, Ev.op r' o ∈ tr → ∀ k ∈ keys o, K r' k)
    (hp : ∀ k, K r k → p k = true) (hq : ∀ r' k, r' ≠ r → K r' k → p k = false) :
    sepFor keys p r tr = true := by
  simp only [sepFor, List.all_eq_true]
  intro e he
  cases e with
  | tick d => rfl
  | glob x => rfl
  | op r' o =>
    dsimp only
    by_cases hrr : r' = r
    · subst hrr
      rw [if_pos rfl, List.all_eq_true]
      exact fun k hko => hp k (hk _ _ he k hko)
    · rw [if_neg hrr, List.all_eq_true]
      intro k hko
      rw [hq r' k hrr (hk _ _ he k hko)]
      rfl

/-- the part of the grace map that belongs to rollout `a` -/
def inKeys (a : RIdent) : String → Bool := fun k => a.keys.contains k

/-- **the separation the interleaving theorem needs follows from the objects being different**: in a trace in
    which every Manager call is made for the rollout that owns it, and the rollouts are pairwise about
    different objects, rollout `r`'s calls use only `r`'s keys and nobody else's call uses one of them -/
theorem sep_of_distinct (ids : List (Nat × RIdent)) (r : Nat) (a : RIdent) (tr : List (Ev MOp))
    (hr : ids.lookup r = some a) (hall : allDistinct ids = true) (htr : traceOf ids tr = true) :
    sepFor MOp.keys (inKeys a) r tr = true := by
  refine sepFor_of_owned MOp.keys (inKeys a) r tr (fun r' k => ∃ b, ids.lookup r' = some b ∧ k ∈ b.keys) ?_ ?_ ?_
  · intro r' o he k hk
    have hte := List.all_eq_true.mp htr _ he
    dsimp only at hte
    cases hl : ids.lookup r' with
    | none => rw [hl] at hte; cases hte
    | some b =>
      rw [hl] at hte
      refine ⟨b, rfl, ?_⟩
      cases o with
      | call x => exact keys_of_call b x hte k hk
      | finalising x y z =>
        simp only [opOf, Bool.and_eq_true] at hte
        simp only [MOp.keys, List.mem_append] at hk
        rcases hk with (hk | hk) | hk
        · exact keys_of_call b x hte.1.1 k hk
        · exact keys_of_call b y hte.1.2 k hk
        · exact keys_of_call b z hte.2 k hk
  · rintro k ⟨b, hb, hkb⟩
    rw [hr] at hb; cases hb
    simpa [inKeys] using hkb
  · rintro r' k hrr ⟨b, hb, hkb⟩
    obtain ⟨wa, wb, hab⟩ := distinct_of_all RIdent.wf RIdent.distinct ids hall hr hb hrr
    simpa [inKeys] using fun hka => keys_disjoint a b wa wb hab k hka hkb

/-- **C19, Manager calls — headline**: for any number of rollouts that are pairwise about different objects
    (different Rollout/TrafficRouting UIDs, different stable Service UIDs, different namespace/Service name),
    any trace of the whole process (any interleaving of their grace-using Manager calls, clock ticks, cleaner
    runs), any initial grace map: each rollout gets exactly the retry / error / recheck results it gets when it
    runs alone -/
theorem manager_isolated (ids : List (Nat × RIdent)) (r : Nat) (a : RIdent) (tr : List (Ev MOp)) (now : Nat) (g : Grace)
    (hr : ids.lookup r = some a) (hall : allDistinct ids = true) (htr : traceOf ids tr = true) :
    sameAsSolo r (Grace.runM (now, g) tr).2 (Grace.runM (now, restrict (inKeys a) g) (proj r tr)).2 = true :=
  (manager_interleave_solo (inKeys a) r tr now g (sep_of_distinct ids r a tr hr hall htr)).1

/-! ### resource expectations: the BatchRelease call sites -/

/-- the key under which the event handler observes a canary Deployment that BatchRelease `(ns, n)` created (in its
    own namespace, with itself as controller owner) is the key under which `Create` expected it -/
theorem observed_key_matches_create (ns n : String) :
    getControllerKey ns (some ⟨"BatchRelease", n⟩) = some (nsName ns n) := by
  simp [getControllerKey]

theorem br_keys (ns n : String) (o : EOp) (h : brOpOf ns n o = true) : ∀ k ∈ o.keys, k = nsName ns n := by
  intro k hk
  cases o with
  | brCreate t ns' n' known sf ok uid =>
    simp only [brOpOf, Bool.and_eq_true, beq_iff_eq] at h
    simp only [EOp.keys] at hk
    split at hk
    · cases hk
    · simp at hk; rw [hk, h.1, h.2]
  | brObserved ns' uid ow =>
    simp only [brOpOf, Bool.and_eq_true, beq_iff_eq] at h
    simp only [EOp.keys, getControllerKey] at hk
    cases ow with
    | none => simp at hk
    | some w =>
      dsimp only at hk h
      split at hk
      · rename_i hkind
        simp at hk
        have : w.name = n := by simpa [hkind] using h.2
        rw [hk, h.1, this]
      · simp at hk
  | expect _ _ _ => simp [brOpOf] at h
  | observe _ _ _ => simp [brOpOf] at h
  | satisfied _ => simp [brOpOf] at h
  | delete _ => simp [brOpOf] at h
  | get _ => simp [brOpOf] at h

/-- **C19, BatchRelease canary Deployments — headline**: BatchReleases with different (namespace, name) never
    see each other's creation expectations: in any interleaving each one's `Create` is allowed, blocked or
    timed out exactly as when it runs alone -/
theorem br_isolated (rels : List (Nat × String × String)) (r : Nat) (ns n : String) (tr : List (Ev EOp)) (now : Nat)
    (st : ExpStore) (hr : rels.lookup r = some (ns, n)) (hall : brAllDistinct rels = true) (htr : brTraceOf rels tr = true) :
    sameAsSolo r (ExpStore.run (now, st) tr).2
      (ExpStore.run (now, restrict (fun k => k == nsName ns n) st) (proj r tr)).2 = true := by
  refine (exp_interleave_solo (fun k => k == nsName ns n) r tr now st ?_).1
  refine sepFor_of_owned EOp.keys _ r tr (fun r' k => ∃ b, rels.lookup r' = some b ∧ k = nsName b.1 b.2) ?_ ?_ ?_
  · intro r' o he k hk
    have hte := List.all_eq_true.mp htr _ he
    dsimp only at hte
    cases hl : rels.lookup r' with
    | none => rw [hl] at hte; cases hte
    | some b =>
      rw [hl] at hte
      exact ⟨b, rfl, br_keys b.1 b.2 o hte k hk⟩
  · rintro k ⟨b, hb, rfl⟩
    rw [hr] at hb; cases hb
    exact beq_self_eq_true _
  · rintro r' k hrr ⟨b, hb, rfl⟩
    obtain ⟨wa, wb, hab⟩ := distinct_of_all (fun x : String × String => noSlash x.1)
      (fun x y : String × String => relDistinct x.1 x.2 y.1 y.2) rels hall hr hb hrr
    simp only [relDistinct, Bool.not_eq_true', Bool.and_eq_false_iff, beq_eq_false_iff_ne] at hab
    rw [beq_eq_false_iff_ne]
    intro e
    obtain ⟨e1, e2⟩ := nsName_injective wb wa e
    rcases hab with d | d
    · exact d e1.symm
    · exact d e2.symm

/-- **the expectation guards creation**: `realCanaryController.Create` reports `created` only if the release had no
    unobserved creation pending, or the pending one has been unsatisfied for at least the timeout -/
theorem create_respects_expectation (st : ExpStore) (now t : Nat) (ns n : String) (known sf ok : Bool) (uid : String) :
    createAllowed (pendingOf st (nsName ns n)) (unsatAgeOf st now (nsName ns n)) t
      (brCreate st now t ns n known sf ok uid).2 = true := by
  unfold createAllowed brCreate pendingOf unsatAgeOf ExpStore.satisfied brCreateCont
  cases known with
  | true => simp
  | false =>
    cases hg : aget st (nsName ns n) with
    | none => simp [hg]
    | some e =>
      simp only [hg, Bool.false_eq_true, if_false]
      cases hf : e.objs.filter (fun x => x.2.length > 0) with
      | nil =>
        have : e.objs.any (fun x => x.2.length > 0) = false := by
          rw [List.any_eq_false]
          intro x hx hlen
          have : x ∈ e.objs.filter (fun x => x.2.length > 0) := List.mem_filter.mpr ⟨hx, hlen⟩
          rw [hf] at this; cases this
        simp [this]
      | cons x more =>
        cases hu : e.firstUnsat with
        | none =>
          by_cases ht : now - now ≥ t
          · have : t = 0 := by omega
            simp [this]
          · have ht0 : ¬ t = 0 := by omega
            cases sf <;> cases ok <;> simp [ht0]
        | some fu =>
          by_cases ht : now - fu ≥ t
          · simp [ht]
          · cases sf <;> cases ok <;> simp [ht]

/-! ## API objects -/

/-- rollouts in different namespaces never touch a common network object -/
theorem footprint_disjoint_of_ns (ns₁ svc₁ ing₁ : String) (o₁ d₁ : Bool) (ns₂ svc₂ ing₂ : String) (o₂ d₂ : Bool)
    (h : ns₁ ≠ ns₂) : noNameClash ns₁ svc₁ ing₁ o₁ d₁ ns₂ svc₂ ing₂ o₂ d₂ = true := by
  simp [noNameClash, disjointKeys, footprint, h]

/-- FULL-STRENGTH STATEMENT (false for the unchanged code, known finding F-C19-1, guard `canaryNameClash`):
      rollouts in one namespace on different Services and different Ingresses never touch a common object.
    The canary Service of a rollout on Service `web` is the stable Service of a rollout on Service `web-canary`,
    and the Manager re-selects / deletes it by name without checking who created it. -/
theorem footprint_disjoint_full_FALSE :
    ¬ (∀ ns svc₁ ing₁ svc₂ ing₂ : String, svc₁ ≠ svc₂ → ing₁ ≠ ing₂ →
        noNameClash ns svc₁ ing₁ false false ns svc₂ ing₂ false false = true) := by
  intro h
  exact absurd (h "ns" "web" "web" "web-canary" "other" (by decide) (by decide)) (by decide +kernel)

/-- the same witness as a *test* on literals -/
theorem canary_name_clash_witness :
    noNameClash "ns" "web" "web" false false "ns" "web-canary" "other" false false = false := by decide +kernel

/-- **partial (outside the guard)**: in one namespace, if neither rollout's Service / Ingress name is the other's
    name or the other's derived `-canary` name, the two rollouts touch no common object -/
theorem footprint_disjoint_partial (ns svc₁ ing₁ svc₂ ing₂ : String)
    (hs : svc₁ ≠ svc₂) (hs1 : svc₁ ++ "-canary" ≠ svc₂) (hs2 : svc₂ ++ "-canary" ≠ svc₁)
    (hi : ing₁ ≠ ing₂) (hi1 : ing₁ ++ "-canary" ≠ ing₂) (hi2 : ing₂ ++ "-canary" ≠ ing₁) :
    noNameClash ns svc₁ ing₁ false false ns svc₂ ing₂ false false = true := by
  have c1 : svc₁ ++ "-canary" ≠ svc₂ ++ "-canary" := fun e => hs (canaryName_injective e)
  have c2 : ing₁ ++ "-canary" ≠ ing₂ ++ "-canary" := fun e => hi (canaryName_injective e)
  simp [noNameClash, disjointKeys, footprint, getCanaryServiceName, hs, hs1, Ne.symm hs2, hi, hi1, Ne.symm hi2, c1, c2]

/-! ## the dynamic watch registry -/

/-- a rollout whose workload kind is registered leaves the registry alone, calls no `Watch` and is not delayed -/
theorem watch_registered_noop (w : List String) (gvk : String) (res : AddRes) (h : w.contains gvk = true) :
    reconcileWatch w gvk res = (w, false, .proceed) := by
  unfold reconcileWatch watchStart
  rw [h]; rfl

/-- for the registry, a reconcile that nothing interleaves with is `start` followed by `finish` -/
theorem reconcile_is_start_finish (s : WState) (r : Nat) (gvk : String) (res : AddRes) (h : s.inflight.contains r = false) :
    ((s.step (.start r gvk)).step (.finish r gvk res)).registry = (reconcileWatch s.registry gvk res).1 := by
  rw [step_start]
  unfold reconcileWatch
  by_cases hs : watchStart s.registry gvk = true
  · rw [if_pos hs, if_pos hs, step_finish]
    simp
  · rw [if_neg hs, if_neg hs, step_finish, h]
    simp

/-- the invariant behind `watch_registered_iff_succeeded` -/
def regInv (w0 : List String) (s : WState) : Prop :=
  ∀ k, k ∈ s.registry ↔ (k ∈ w0 ∨ k ∈ s.succeeded)

theorem regInv_step (w0 : List String) (s : WState) (e : WEv) (h : regInv w0 s) : regInv w0 (s.step e) := by
  cases e with
  | start r gvk =>
    rw [step_start]; split <;> exact h
  | finish r gvk res =>
    rw [step_finish]
    split
    · intro k
      show k ∈ (watchFinish s.registry gvk res).1 ↔ _
      rw [finish_registry_mem, h k]
      cases res with
      | err => simp
      | notServed => simp
      | added =>
        simp only [and_true, if_true, List.mem_cons]
        constructor
        · rintro ((h1 | h1) | h1)
          · exact Or.inl h1
          · exact Or.inr (Or.inr h1)
          · exact Or.inr (Or.inl h1)
        · rintro (h1 | h1 | h1)
          · exact Or.inl (Or.inl h1)
          · exact Or.inr h1
          · exact Or.inl (Or.inr h1)
    · exact h

/-- **a failed `Watch` leaves the registry unchanged** and the reconcile returns the error (so it is retried);
    nothing is claimed before success -/
theorem watch_error_keeps_registry (w : List String) (gvk : String) :
    (reconcileWatch w gvk .err).1 = w ∧
    (w.contains gvk = false → reconcileWatch w gvk .err = (w, true, .error)) := by
  unfold reconcileWatch watchStart watchFinish
  cases h : w.contains gvk <;> simp

/-- the registry only grows, and what a reconcile adds is its own kind, after a successful `Watch` -/
theorem watch_monotone (w : List String) (gvk : String) (res : AddRes) (k : String) :
    (k ∈ (reconcileWatch w gvk res).1 ↔ (k ∈ w ∨ (k = gvk ∧ gvk ∉ w ∧ res = .added))) := by
  unfold reconcileWatch watchStart
  cases h1 : w.contains gvk with
  | true =>
    have hm : gvk ∈ w := by simpa using h1
    simp only [Bool.not_true, Bool.false_eq_true, if_false]
    constructor
    · exact Or.inl
    · rintro (h | ⟨_, h, _⟩)
      · exact h
      · exact absurd hm h
  | false =>
    have hm : gvk ∉ w := by simpa using h1
    simp only [Bool.not_false, if_true]
    rw [finish_registry_mem]
    simp [hm]

/-- **frame, watch registry**: a reconcile for kind `gvk` never changes whether another kind is registered,
    whatever its own `Watch` call answers -/
theorem watch_frame (w : List String) (gvk k : String) (res : AddRes) (h : k ≠ gvk) :
    (k ∈ (reconcileWatch w gvk res).1 ↔ k ∈ w) := by
  rw [watch_monotone]
  constructor
  · rintro (h1 | ⟨h1, _⟩)
    · exact h1
    · exact absurd h1 h
  · exact Or.inl

/-- on the registry as `init()` leaves it, the six kinds it registers are never delayed, whatever `Watch` would answer -/
theorem watch_static (gvk : String) (h : staticKinds.contains gvk = true) (res : AddRes) :
    reconcileWatch staticKinds gvk res = (staticKinds, false, .proceed) :=
  watch_registered_noop staticKinds gvk res h

/-- in any trace of reconciles of any rollouts of
    arbitrary kinds, interleaved at the granularity of `Load` / return of `AddWatcherDynamically`, with arbitrary
    `Watch` failures, a kind is in the registry iff it was there initially or some `Watch` call for it succeeded -/
theorem watch_registered_iff_succeeded (w0 : List String) (tr : List WEv) :
    ∀ k, (k ∈ (WState.run ⟨w0, [], []⟩ tr).registry ↔
      (k ∈ w0 ∨ k ∈ (WState.run ⟨w0, [], []⟩ tr).succeeded)) := by
  have gen : ∀ (tr : List WEv) (s : WState), regInv w0 s → regInv w0 (s.run tr) := by
    intro tr
    induction tr with
    | nil => intro s h; exact h
    | cons e es ih => intro s h; exact ih _ (regInv_step w0 s e h)
  exact gen tr ⟨w0, [], []⟩ (by intro k; simp)

/-- **a rollout whose own `Watch` call succeeds has a watcher from then on**, whatever `pre`, `mid` (other reconciles
    starting, finishing, failing while `r` is in flight; `hmid`: `r` itself returns only once, at the `finish` shown)
    and `post` are; if `r`'s `Load` found the kind registered, its `finish` has no effect and the kind stays
    (`registry_run_mono`). -/
theorem watch_eventually (s : WState) (pre mid post : List WEv) (r : Nat) (gvk : String)
    (hmid : ∀ r' g res, WEv.finish r' g res ∈ mid → r' ≠ r) :
    gvk ∈ (s.run (pre ++ [.start r gvk] ++ mid ++ [.finish r gvk .added] ++ post)).registry := by
  rw [WState.run_append, WState.run_append, WState.run_append, WState.run_append]
  apply registry_run_mono
  generalize s.run pre = s1
  have hstart : gvk ∈ (s1.run [.start r gvk]).registry ∨ r ∈ (s1.run [.start r gvk]).inflight := by
    show gvk ∈ (s1.step (.start r gvk)).registry ∨ r ∈ (s1.step (.start r gvk)).inflight
    rw [step_start]
    by_cases hw : watchStart s1.registry gvk = true
    · right; rw [if_pos hw]; exact List.mem_cons_self ..
    · left; rw [if_neg hw]; simpa [watchStart] using hw
  -- carried across `mid`: the kind is registered already (then for good) or `r` is still in flight (only a `finish`
  -- of `r` takes it out: `hmid`)
  have hmidInv : ∀ (es : List WEv) (t : WState),
      (∀ r' g res, WEv.finish r' g res ∈ es → r' ≠ r) →
      (gvk ∈ t.registry ∨ r ∈ t.inflight) → (gvk ∈ (t.run es).registry ∨ r ∈ (t.run es).inflight) := by
    intro es
    induction es with
    | nil => intro t _ h; exact h
    | cons e es ih =>
      intro t hm h
      apply ih _ (fun r' g res he' => hm r' g res (List.mem_cons_of_mem _ he'))
      rcases h with h | h
      · exact Or.inl (registry_step_mono t e gvk h)
      · right
        cases e with
        | start r' g => rw [step_start]; split
                        · exact List.mem_cons_of_mem _ h
                        · exact h
        | finish r' g res =>
          have hne := hm r' g res (List.mem_cons_self ..)
          rw [step_finish]
          split
          · show r ∈ t.inflight.filter (· != r')
            rw [List.mem_filter]
            exact ⟨h, by simpa using fun e => hne e.symm⟩
          · exact h
  have h2 := hmidInv mid _ hmid hstart
  generalize (s1.run [.start r gvk]).run mid = s2 at h2
  show gvk ∈ (s2.step (.finish r gvk .added)).registry
  rcases h2 with h2 | h2
  · exact registry_step_mono s2 _ gvk h2
  · rw [step_finish]
    have : s2.inflight.contains r = true := by simpa using h2
    rw [if_pos this]
    show gvk ∈ (watchFinish s2.registry gvk .added).1
    rw [finish_registry_mem]; exact Or.inr ⟨rfl, rfl⟩

/-! ## the one-rollout model is the projection of the shared map -/

/-- how `RV.Traffic` sees one entry: absent / younger than the grace period / older -/
def absExp (now grace : Nat) : Option Nat → RV.Traffic.Exp
  | none => .none
  | some t => if (grace : Int) - ((now - t : Nat) : Int) ≤ 0 then .elapsed else .fresh

theorem satisfied_lookup2 (g : Grace) (now : Nat) (k a : String) (gr : Int) :
    g.satisfied now k a gr =
      match lookup2 g k a with
      | none => (true, 0)
      | some t => if gr - ((now - t : Nat) : Int) ≤ 0 then (true, 0) else (false, gr - ((now - t : Nat) : Int)) := by
  unfold Grace.satisfied lookup2
  cases aget g k with
  | none => rfl
  | some e => cases aget e a <;> rfl

/-- **the grace wrapper of `RV.Traffic` is the shared map seen through one rollout's key**: what
    `runWithGraceSeconds` leaves under `(k, a)` and the retry flag it returns are what `RV.Traffic.runGrace`
    computes from the abstraction of the entry under `(k, a)` -/
theorem bridge_runGrace (g : Grace) (now : Nat) (k a : String) (grace : Nat) (md : Bool) :
    absExp now grace (lookup2 (runWithGraceSeconds g now k a grace md false).1 k a) =
      (RV.Traffic.runGrace grace (absExp now grace (lookup2 g k a)) md).1 ∧
    (runWithGraceSeconds g now k a grace md false).2.retry =
      (RV.Traffic.runGrace grace (absExp now grace (lookup2 g k a)) md).2 := by
  unfold runWithGraceSeconds RV.Traffic.runGrace
  rw [satisfied_lookup2]
  by_cases h0 : grace = 0
  · subst h0; simp [lookup2_observe, absExp]
  · have hz : ¬ ((grace : Int) = 0) := by omega
    cases md with
    | true =>
      simp only [Bool.false_eq_true, if_false, hz, h0, if_true, lookup2_expect, absExp]
      have : ¬ ((grace : Int) - ((now - now : Nat) : Int) ≤ 0) := by omega
      simp [h0]
    | false =>
      simp only [Bool.false_eq_true, if_false, hz, h0]
      cases hl : lookup2 g k a with
      | none => simp [absExp, lookup2_observe]
      | some t =>
        by_cases hrem : (grace : Int) - ((now - t : Nat) : Int) ≤ 0
        · simp [absExp, hrem, lookup2_observe]
        · simp [absExp, hrem, hl]

/-- the `RV.Traffic.Mem` of rollout `a` inside the shared grace map -/
def memOf (g : Grace) (now grace : Nat) (a : RIdent) : RV.Traffic.Mem :=
  { patchService := absExp now grace (lookup2 g a.svcUID "patchService"),
    restoreService := absExp now grace (lookup2 g a.svcUID "restoreService"),
    restoreGateway := absExp now grace (lookup2 g a.ownerUID "restoreGateway"),
    removeCanaryService := absExp now grace (lookup2 g (nsName a.ns (a.svc ++ "-canary")) "removeCanaryService"),
    updateRoute := absExp now grace (lookup2 g a.ownerUID "updateRoute") }

/-- **other rollouts never change a rollout's `Mem`**: a Manager call that uses none of `a`'s keys leaves the
    one-rollout view of `a`, over which the theorems about `RV.Traffic` / `RV.RolloutSM` are stated, as it was -/
theorem others_keep_mem (a : RIdent) (g : Grace) (now now' grace : Nat) (o : MOp) (h : ∀ k ∈ o.keys, k ∉ a.keys) :
    memOf (MOp.apply now g o).1 now' grace a = memOf g now' grace a := by
  have f : ∀ k ∈ a.keys, aget (MOp.apply now g o).1 k = aget g k :=
    fun k hk => manager_frame now g o k (fun hko => h k hko hk)
  have f1 := f a.ownerUID (by simp [RIdent.keys])
  have f2 := f a.svcUID (by simp [RIdent.keys])
  have f3 := f (nsName a.ns (a.svc ++ "-canary")) (by simp [RIdent.keys])
  simp only [memOf, lookup2, f1, f2, f3]

/-! ## non-vacuity: concrete instances of every hypothesis, and the un-fetched mutant on the example
    (tests on literals, not the ∀ claims) -/

def exA : RIdent := ⟨"prod", "7d1e-ro-a", "web", "91aa-svc-a"⟩
def exB : RIdent := ⟨"prod", "7d1e-ro-b", "web2", "91aa-svc-b"⟩
/-- same Service name in another namespace -/
def exC : RIdent := ⟨"stage", "55c0-ro-c", "web", "0f3b-svc-c"⟩

def exCtx (a : RIdent) (grace : Int) : TRCtx := ⟨a.ns, a.ownerUID, [⟨a.svc, grace⟩], false, false⟩
def exCall (a : RIdent) (site : Site) (grace : Int) (md : Bool) : MCall :=
  ⟨site, exCtx a grace, 3, .ok ⟨a.ns, a.svc, a.svcUID⟩, false, ⟨md, false⟩⟩

def exIds : List (Nat × RIdent) := [(1, exA), (2, exB), (3, exC)]
def exTrace : List (Ev MOp) :=
  [.op 1 (.call (exCall exA .patchService 100 true)), .op 2 (.call (exCall exB .patchService 200 true)),
   .op 3 (.call (exCall exC .removeCanaryService 0 true)), .tick 100,
   .op 2 (.call (exCall exB .patchService 200 false)), .op 1 (.call (exCall exA .patchService 100 false)),
   .glob 250, .op 1 (.finalising (exCall exA .restoreService 100 true) (exCall exA .restoreGateway 100 false) (exCall exA .removeCanaryService 100 false))]

example : allDistinct exIds = true := by decide +kernel
example : traceOf exIds exTrace = true := by decide +kernel
example : sepFor MOp.keys (inKeys exA) 1 exTrace = true := by decide +kernel
/-- in the example, B is still waiting (retry) after 100 s while A is done: different grace periods, no influence -/
example : obsOf 2 (Grace.runM (0, []) exTrace).2 =
    [.call ⟨true, false, 200⟩, .call ⟨true, false, 100⟩] := by decide +kernel
example : obsOf 1 (Grace.runM (0, []) exTrace).2 =
    [.call ⟨true, false, 100⟩, .call ⟨false, false, 0⟩, .fin ⟨false, false, 100⟩] := by decide +kernel
example : exA.wf = true ∧ exB.wf = true ∧ exA.distinct exB = true ∧ exA.distinct exC = true := by decide +kernel
example : (exCall exA .patchService 100 true).graceKey = some ("91aa-svc-a", "patchService") := by decide +kernel
example : (exCall exC .removeCanaryService 0 true).graceKey = some ("stage/web-canary", "removeCanaryService") := by decide +kernel
/-- frame hypotheses are satisfiable: two different keys -/
example : (GOp.run "u1" "patchService" 100 true false).key ≠ (GOp.satisfied "u2" "patchService" 100).key := by decide +kernel
/-- BatchReleases with the same name in two namespaces, and similar names in one -/
def exRels : List (Nat × String × String) := [(1, "prod", "demo"), (2, "stage", "demo"), (3, "prod", "demo-2")]
def exBrTrace : List (Ev EOp) :=
  [.op 1 (.brCreate 300 "prod" "demo" false true true "uid-c1"), .op 2 (.brCreate 300 "stage" "demo" false true true "uid-c2"),
   .op 1 (.brCreate 300 "prod" "demo" false true true "uid-c1b"), .op 3 (.brCreate 300 "prod" "demo-2" false true true "uid-c3"),
   .op 2 (.brObserved "stage" "uid-c2" (some ⟨"BatchRelease", "demo"⟩)), .tick 400,
   .op 2 (.brCreate 300 "stage" "demo" false true true "uid-c2b"), .op 1 (.brCreate 300 "prod" "demo" false true true "uid-c1c")]
example : brAllDistinct exRels = true := by decide +kernel
example : brTraceOf exRels exBrTrace = true := by decide +kernel
example : obsOf 1 (ExpStore.run (0, []) exBrTrace).2 = [.created .created, .created .blocked, .created .created] := by decide +kernel
example : obsOf 2 (ExpStore.run (0, []) exBrTrace).2 = [.created .created, .unit, .created .created] := by decide +kernel
example : noNameClash "prod" "web" "web" false false "stage" "web" "web" false false = true := by decide +kernel
/-- the hypotheses of `footprint_disjoint_partial` are satisfiable -/
example : ("web" : String) ≠ "api" ∧ ("web" : String) ++ "-canary" ≠ "api" ∧ ("api" : String) ++ "-canary" ≠ "web" := by decide +kernel
example : staticKinds.contains "apps/v1, Kind=Deployment" = true := by decide +kernel
/-- `watch_eventually`: hypotheses satisfiable with another rollout finishing in between -/
example : ∀ r' g res, WEv.finish r' g res ∈ [WEv.start 2 "g, Kind=Foo", WEv.finish 2 "g, Kind=Foo" .err] → r' ≠ 1 := by
  intro r' g res h; simp at h; omega
example : reconcileWatch staticKinds "example.com/v1, Kind=Foo" .added = (staticKinds ++ ["example.com/v1, Kind=Foo"], true, .early) := by decide +kernel
example : reconcileWatch staticKinds "example.com/v1, Kind=Foo" .err = (staticKinds, true, .error) := by decide +kernel
/-- A's Watch fails, B (same kind) then registers it; C's in-flight Watch fails while D succeeds -/
example : (WState.run ⟨staticKinds, [], []⟩ [.start 1 "g, Kind=Foo", .finish 1 "g, Kind=Foo" .err, .start 2 "g, Kind=Foo",
    .finish 2 "g, Kind=Foo" .added, .start 3 "g, Kind=Bar", .start 4 "g, Kind=Bar", .finish 4 "g, Kind=Bar" .added,
    .finish 3 "g, Kind=Bar" .err]).registry = staticKinds ++ ["g, Kind=Foo", "g, Kind=Bar"] := by decide +kernel
/-- interleaving hypotheses are satisfiable -/
example : Interleave (asEvents 1 [MOp.call (exCall exA .patchService 100 true)]) (asEvents 2 [MOp.call (exCall exB .patchService 200 true)])
    [.op 2 (.call (exCall exB .patchService 200 true)), .op 1 (.call (exCall exA .patchService 100 true))] :=
  .right (.left .nil)

/-- the un-fetched mutant: taking the key from a locally built Service object makes two unrelated rollouts
    share their `patchService` wait (a *test* on the example; the ∀ statement is `unfetched_keys_collide`) -/
theorem unfetched_FALSE :
    let x := { exCall exA .patchService 100 true with stable := .ok (Obj.built "prod" "web") }
    let y := { exCall exB .patchService 200 true with stable := .ok (Obj.built "prod" "web2") }
    x.graceKey = y.graceKey ∧
    obsOf 2 (Grace.runM (0, []) [.op 1 (.call x), .op 2 (.call { y with cl := ⟨false, false⟩ })]).2 = [.call ⟨true, false, 200⟩] ∧
    obsOf 2 (Grace.runM (0, []) [.op 2 (.call { y with cl := ⟨false, false⟩ })]).2 = [.call ⟨false, false, 0⟩] := by decide +kernel

end RV.Props.Isolation
