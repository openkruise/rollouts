import RV.Lemmas.DepSync
/-!
# C17 — partition-style Deployment scaling respects partition, surge and availability

`s` ranges over *all* abstract states (any replicas, any int/percent/malformed partition and
fenceposts, any number of old ReplicaSets of any sizes, any status numbers); `post s` is the
state after one `syncDeployment` of the model `RV.DepSync` (tied to the Go code by suite
"depsync").  `inv` is the inductive invariant `I`; it is well-formedness only (sizes and status numbers ≥ 0, available ≤ pods,
fenceposts and annotations ≥ 0), so each clause theorem is a one-step statement from any well-formed state and needs nothing of
the history.  The clause predicates are the `Bool`
functions of `RV.Oracle.C17`, the same ones the driver evaluates on the implementation's output;
every clause is vacuous outside `inScope` (deleting / paused / scaling event: the size *is* being changed).

| clause | theorem(s) |
|---|---|
| (ii) old total never below the reserve; raised when below | `c17_ii`, `c17_ii_up` |
| (iv) availability | `c17_iv_budget`, `c17_iv_spent`, `c17_iv_partial` (guard `stale`), `c17_iv_witness`, `c17_iv_witness_new` |
| (i) new RS never raised above `max(new, limit)` | `c17_i_partial` (guard `lowerBound`), `c17_i_lowerBound`, `c17_i_witness`; no old pods: `c17_i0` |
| (iii) raising the new RS keeps total ≤ replicas + maxSurge | `c17_iii_partial` (guard `lowerBound`), `c17_iii_lowerBound`, `c17_iii_witness` |
| the clauses spelled out as inequalities | `c17_i_readable` … `c17_iv_readable` |
| `I` holds initially (hypothesis), preserved by sync / environment / every step | `inv_sync`, `inv_env`, `inv_step`, `inv_reach`, `c17_reachable` |
| (v) convergence | `c17_v_sync`, `c17_v_env`, `c17_v_progress`, `c17_v_final`, `c17_v_rounds`, `c17_v_fair` |
| non-vacuity of the partial theorems and of (v) | the `example`s at the end |
-/
namespace RV.Props.C17
open RV.Arith RV.DepSync RV.Oracle.C17

/-- **C17 (ii)** a sync never lowers the old ReplicaSets' total below what the partition reserves
    for them: `oldTotal' ≥ min(oldTotal, replicas − max(limit, new'))`. -/
theorem c17_ii (s : State) (h : inv s = true) : clauseII s (post s) = true := by
  unfold clauseII
  refine clause_intro fun hsc => ?_
  rcases (post_rolled s h hsc).oldsCase with ⟨_, ho, _⟩ | ⟨he, ro⟩
  · omega
  · rw [he]
    cases ro <;> omega

/-- **C17 (ii′)** when the old total is positive but below the reserve and the sync leaves the new
    RS alone, the old total is raised exactly to the reserve (`scaleUpOldReplicaSets`). -/
theorem c17_ii_up (s : State) (h : inv s = true) : clauseIIup s (post s) = true := by
  unfold clauseIIup
  refine clause_intro fun hg => ?_
  simp only [Bool.and_eq_true, decide_eq_true_eq] at hg
  obtain ⟨⟨⟨hsc, hsame⟩, hpos⟩, hlt⟩ := hg
  obtain ⟨hs, _, _, hr⟩ := post_rolled s h hsc
  -- the new RS was left alone (a created one is not, unless created with 0 replicas)
  have e : startSize s = newSpec s := by
    have tb := newTarget_between s (oldTotal s) (startSize s) (limit_bounds s (inv_replicas s h)).2
    rcases startSize_cases s h with ⟨_, _, e, _⟩ | c
    · exact e
    · omega
  rw [← e] at hlt ⊢
  rcases hr with ⟨hne, _⟩ | ⟨_, ro⟩
  · omega
  · cases ro <;> omega

/-- **C17 (iv, budget)** old pods removed by one sync ≤ unhealthy old pods (cleaned first) plus
    `available − (replicas − maxUnavailable)`. -/
theorem c17_iv_budget (s : State) (h : inv s = true) : clauseIVbudget s (post s) = true := by
  unfold clauseIVbudget
  refine clause_intro fun hsc => ?_
  have u0 : 0 ≤ unhealthyOld s := unhealthy_nonneg s.olds
  rcases (post_rolled s h hsc).oldsCase with ⟨_, ho, _⟩ | ⟨_, ro⟩
  · omega
  · cases ro <;> omega

/-- **C17 (iv, spent)** with the availability budget computed from the *specs* used up (`old total + available new
    pods ≤ replicas − maxUnavailable`), a sync never lowers the old ReplicaSets — for every state, stale statuses
    included (this is the part of (iv) the unchanged code keeps even there). -/
theorem c17_iv_spent (s : State) (h : inv s = true) : clauseIVspent s (post s) = true := by
  unfold clauseIVspent
  refine clause_intro fun hg => ?_
  simp only [Bool.and_eq_true, decide_eq_true_eq] at hg
  rcases (post_rolled s h hg.1).oldsCase with ⟨_, ho, _⟩ | ⟨_, ro⟩
  · omega
  · cases ro <;> omega

/- **C17 (iv), full strength** — `∀ s, inv s → clauseIV s (post s)` — is FALSE for the unchanged code:
   see `c17_iv_witness` (known finding C17-F2, guard `stale`). -/

/-- **C17 (iv), partial** with fresh ReplicaSet statuses (no RS reports more available pods than its
    spec keeps) a sync never leaves fewer than `min(available now, replicas − maxUnavailable)` pods
    available. -/
theorem c17_iv_partial (s : State) (h : inv s = true) (hg : stale s = false) :
    clauseIV s (post s) = true := by
  unfold clauseIV
  refine clause_intro fun hsc => ?_
  obtain ⟨hs, _, ha, hr⟩ := post_rolled s h hsc
  obtain ⟨f1, f2⟩ := not_stale s hg
  have k1 := kept_eq_avail s.olds f1
  -- with a fresh status every available pod of the new RS is kept, and is within the size the RS starts with
  have hnew : min (optAvail s.new) (newSpec s) = optAvail s.new ∧ optAvail s.new ≤ startSize s := by
    rcases startSize_cases s h with ⟨r, hr, _, _, _, _⟩ | c
    · have := f2 r hr
      simp only [newSpec, optSpec, optAvail, startSize, hr]
      omega
    · omega
  rw [floorAvail_eq, floorAvail_eq, hnew.1, ha]
  rcases hr with ⟨_, _, hk⟩ | ⟨he, ro⟩
  · have k0 := sumAvail_nonneg (inv_olds s h)
    have hu := maxUnavailV_bounds s h
    have tb := newTarget_between s (oldTotal s) (startSize s) (limit_bounds s (inv_replicas s h)).2
    simp only [minAvailable] at *
    omega
  · rw [he, Int.min_eq_left hnew.2]
    simp only [availTotal] at ro
    cases ro <;> omega

/- **C17 (i) and (iii), full strength** — `∀ s, inv s → clauseI s (post s)` / `clauseIII s (post s)` — are
   FALSE for the unchanged code: see `c17_i_witness`, `c17_iii_witness` (known findings C17-F1a/b,
   guard `lowerBound`: `NewRSReplicasLowerBound` creates the new RS with 1 replica when maxSurge = 0). -/

/-- **C17 (i), partial** outside the creation lower-bound region: while old pods exist, a sync never
    raises the new RS above `max(current size, partition limit)`. -/
theorem c17_i_partial (s : State) (h : inv s = true) (hg : lowerBoundRegion s = false) :
    clauseI s (post s) = true := by
  unfold clauseI
  refine clause_intro fun hc => ?_
  simp only [Bool.and_eq_true, decide_eq_true_eq] at hc
  rw [(post_rolled s h hc.1).target]
  have tl := newTarget_le s (oldTotal s) (startSize s) hc.2
  have sl := startSize_le s h hc.2
  have hl := (limit_bounds s (inv_replicas s h)).1
  rcases startSize_cases s h with ⟨_, _, e, _⟩ | ⟨hn, _⟩
  · omega
  · rw [lowerBound_zero s h hn hg] at sl
    omega

/-- **C17 (i), inside the lower-bound region** the excess is at most one pod: a created new RS has
    at most `max(limit, 1)` replicas (while old pods exist). -/
theorem c17_i_lowerBound (s : State) (h : inv s = true) (hsc : inScope s = true) (hn : s.new = none)
    (hpos : 0 < oldTotal s) : newSpec (post s) ≤ max (limit s) 1 := by
  rw [(post_rolled s h hsc).target]
  have hR := inv_replicas s h
  have tl := newTarget_le s (oldTotal s) (startSize s) hpos
  have sl := startSize_le s h hpos
  have hlb := lowerBound_bounds s hR
  have hl := limit_bounds s hR
  simp only [newSpec, hn, optSpec] at sl
  omega

/-- **C17 (i′)** with no old pods the new RS is brought to `replicas` (nothing is being rolled). -/
theorem c17_i0 (s : State) (h : inv s = true) : clauseI0 s (post s) = true := by
  unfold clauseI0
  refine clause_intro fun hc => ?_
  simp only [Bool.and_eq_true, decide_eq_true_eq] at hc
  rw [(post_rolled s h hc.1).target, hc.2, newTarget_zero_old]

/-- **C17 (iii), partial** outside the creation lower-bound region: whenever a sync raises the new
    RS, old total + new size ≤ replicas + maxSurge. -/
theorem c17_iii_partial (s : State) (h : inv s = true) (hg : lowerBoundRegion s = false) :
    clauseIII s (post s) = true := by
  unfold clauseIII
  refine clause_intro fun hc => ?_
  simp only [Bool.and_eq_true, decide_eq_true_eq] at hc
  refine raised_within_surge s h hc.1 ?_
  rcases startSize_cases s h with ⟨_, _, e, _⟩ | ⟨hn, e, _⟩
  · exact .inl (e ▸ hc.2)
  · exact .inr ⟨hn, by rw [lowerBound_zero s h hn hg, ← e]; exact hc.2⟩

/-- **C17 (iii), inside the lower-bound region** the total exceeds `replicas + maxSurge` by at most the
    one pod of the created new RS. -/
theorem c17_iii_lowerBound (s : State) (h : inv s = true) (hsc : inScope s = true) (hn : s.new = none) :
    oldTotal s + newSpec (post s) ≤ max (s.replicas + maxSurgeV s) (oldTotal s + 1) := by
  have hlb := lowerBound_bounds s (inv_replicas s h)
  by_cases hup : lowerBound s < newSpec (post s)
  · have := raised_within_surge s h hsc (.inr ⟨hn, hup⟩)
    omega
  · omega

/-! ## The same clauses spelled out as inequalities (corollaries, for reading) -/

theorem c17_i_readable (s : State) (h : inv s = true) (hsc : inScope s = true)
    (hg : lowerBoundRegion s = false) (hold : 0 < oldTotal s) :
    newSpec (post s) ≤ max (newSpec s) (limit s) := by
  have := c17_i_partial s h hg
  simpa [clauseI, hsc, hold] using this

theorem c17_ii_readable (s : State) (h : inv s = true) (hsc : inScope s = true) :
    min (oldTotal s) (s.replicas - max (limit s) (newSpec (post s))) ≤ oldTotal (post s) := by
  have := c17_ii s h
  simp only [clauseII, hsc, reserve, Bool.not_true, Bool.false_or] at this
  exact of_decide_eq_true this

theorem c17_iii_readable (s : State) (h : inv s = true) (hsc : inScope s = true)
    (hg : lowerBoundRegion s = false) (hup : newSpec s < newSpec (post s)) :
    oldTotal s + newSpec (post s) ≤ s.replicas + maxSurgeV s := by
  have := c17_iii_partial s h hg
  simpa [clauseIII, hsc, hup] using this

/-- (iv) spelled out: pods that are available and kept by the specs never drop below
    `min(what was kept, replicas − maxUnavailable)` -/
theorem c17_iv_readable (s : State) (h : inv s = true) (hsc : inScope s = true) (hg : stale s = false) :
    min (floorAvail s) (s.replicas - maxUnavailV s) ≤ floorAvail (post s) := by
  have := c17_iv_partial s h hg
  simp only [clauseIV, hsc, minAvailable, Bool.not_true, Bool.false_or] at this
  exact of_decide_eq_true this

/-! ## The invariant `I` -/

/-- The closed system: controller syncs interleaved in any order with environment steps and user actions. -/
inductive Step : State → State → Prop
  | sync (s : State) : Step s (post s)
  /-- ReplicaSet controller / kubelet: pods move toward spec, availability changes (also flaps) -/
  | env {s t : State} : EnvStep s t → Step s t
  | scale (s : State) (n : Int) : 0 ≤ n → Step s { s with replicas := n }
  | partition (s : State) (p : IntOrPct) : Step s { s with partition := p }
  | pause (s : State) (b : Bool) : Step s { s with paused := b }
  /-- new revision: the current new RS becomes an old one -/
  | newRevision (s : State) : Step s { s with new := none, olds := s.olds ++ s.new.toList }
  /-- rollback: an old RS becomes the new one -/
  | rollback (s : State) (l₁ l₂ : List RS) (r : RS) : s.olds = l₁ ++ r :: l₂ →
      Step s { s with new := some r, olds := l₁ ++ l₂ ++ s.new.toList }

inductive Reach (s₀ : State) : State → Prop
  | refl : Reach s₀ s₀
  | step {s t : State} : Reach s₀ s → Step s t → Reach s₀ t

/-- **`I` is preserved by a sync** — every path of `syncDeployment`: rolling, scaling, status only. -/
theorem inv_sync (s : State) (h : inv s = true) : inv (post s) = true := inv_post s h

theorem inv_env (s t : State) (h : inv s = true) (he : EnvStep s t) : inv t = true := env_inv s t h he

/-- **`I` is inductive**: preserved by every step of the closed system. -/
theorem inv_step (s t : State) (h : inv s = true) (hs : Step s t) : inv t = true := by
  obtain ⟨h1, h2, h3, ⟨q1, q2⟩, h6⟩ := (inv_iff s).mp h
  cases hs with
  | sync => exact inv_post s h
  | env he => exact env_inv s t h he
  | scale n hn => exact (inv_iff _).mpr ⟨hn, h2, h3, ⟨q1, q2⟩, h6⟩
  | partition p => exact (inv_iff _).mpr ⟨h1, h2, h3, ⟨q1, q2⟩, h6⟩
  | pause b => exact (inv_iff _).mpr ⟨h1, h2, h3, ⟨q1, q2⟩, h6⟩
  | newRevision =>
    exact (inv_iff _).mpr ⟨h1, h2, h3, ⟨append_all q1 (all_toList q2), fun _ hr => nomatch hr⟩, h6⟩
  | rollback l₁ l₂ r he =>
    have hq : ∀ x ∈ l₁ ++ r :: l₂, Q x := he ▸ q1
    simp only [List.forall_mem_append, List.forall_mem_cons] at hq
    exact (inv_iff _).mpr ⟨h1, h2, h3, ⟨append_all (append_all hq.1 hq.2.2) (all_toList q2),
      fun x hx => Option.some.inj hx ▸ hq.2.1⟩, h6⟩

theorem inv_reach (s₀ s : State) (h : inv s₀ = true) (hr : Reach s₀ s) : inv s = true := by
  induction hr with
  | refl => exact h
  | step _ hs ih => exact inv_step _ _ ih hs

/-- Safety of every reachable sync: from every state reachable from one satisfying `I`, a sync satisfies (ii), (ii′),
    (i′), (iv, budget), and outside their guards (i), (iii) (`lowerBoundRegion`) and (iv) (`stale`); (iv, spent) needs
    only `I`: `c17_iv_spent`. -/
theorem c17_reachable (s₀ s : State) (h : inv s₀ = true) (hr : Reach s₀ s) :
    clauseII s (post s) = true ∧ clauseIIup s (post s) = true ∧ clauseI0 s (post s) = true ∧
    clauseIVbudget s (post s) = true ∧
    (lowerBoundRegion s = false → clauseI s (post s) = true ∧ clauseIII s (post s) = true) ∧
    (stale s = false → clauseIV s (post s) = true) := by
  have hi := inv_reach s₀ s h hr
  exact ⟨c17_ii s hi, c17_ii_up s hi, c17_i0 s hi, c17_iv_budget s hi,
    fun hg => ⟨c17_i_partial s hi hg, c17_iii_partial s hi hg⟩, fun hg => c17_iv_partial s hi hg⟩

/-! ## (v) Convergence when the partition covers all replicas -/

/-- **C17 (v), variant never increases**: under `live` (I, rolling path, covering partition, live
    fenceposts) a sync does not increase the variant, and `live` is kept. -/
theorem c17_v_sync (s : State) (h : live s = true) :
    live (post s) = true ∧ variant (post s) ≤ variant s := by
  obtain ⟨i0, sc0, cv0, _⟩ := live_elim _ h
  exact ⟨live_post s h, (variant_post_le s i0 sc0 cv0).1⟩

/-- **C17 (v), environment steps** keep `live` and the variant. -/
theorem c17_v_env (s t : State) (h : live s = true) (he : EnvStep s t) :
    live t = true ∧ variant t = variant s := ⟨env_live s t h he, env_variant s t he⟩

/-- **C17 (v), progress**: from a settled, non-final state a sync strictly decreases the variant —
    there is no stuck non-final state. -/
theorem c17_v_progress (s : State) (h : live s = true) (hs : settled s = true) (hf : final s = false) :
    variant (post s) < variant s := by
  obtain ⟨i0, sc0, cv0, l0⟩ := live_elim _ h
  exact variant_post_lt s i0 sc0 cv0 l0 hs hf

theorem c17_v_final (s : State) (h : inv s = true) : variant s = 0 ↔ final s = true :=
  variant_zero_iff s h

/-- **C17 (v), healthy schedule**: alternating syncs with a ReplicaSet controller that catches up
    (`round`), the Deployment reaches new = replicas ∧ old = 0 within `variant s + 1` rounds (the first round only has to
    settle the state: `live_round` promises no decrease, `round_lt` needs `settled`). -/
theorem c17_v_rounds (s : State) (h : live s = true) : final (rounds (variant s + 1) s) = true := by
  obtain ⟨l1, s1, v1⟩ := live_round s h
  exact rounds_converge (variant s) (round s) l1 s1 v1

/-- a run of the closed system restricted to syncs and environment steps -/
def IsRun (σ : Nat → State) : Prop := ∀ i, σ (i + 1) = post (σ i) ∨ EnvStep (σ i) (σ (i + 1))
/-- fairness + healthy environment: again and again the ReplicaSet controller catches up and a sync
    runs on the settled state -/
def Fair (σ : Nat → State) : Prop := ∀ i, ∃ j, i ≤ j ∧ settled (σ j) = true ∧ σ (j + 1) = post (σ j)

/-- **C17 (v), any fair schedule**: every fair run from a `live` state reaches a final state. -/
theorem c17_v_fair (σ : Nat → State) (h0 : live (σ 0) = true) (hrun : IsRun σ) (hfair : Fair σ) :
    ∃ k, final (σ k) = true := by
  have hlive : ∀ i, live (σ i) = true := by
    intro i
    induction i with
    | zero => exact h0
    | succ i ih =>
      rcases hrun i with e | e
      · rw [e]; exact live_post _ ih
      · exact env_live _ _ ih e
  have hstep : ∀ i, variant (σ (i + 1)) ≤ variant (σ i) := by
    intro i
    rcases hrun i with e | e
    · rw [e]; exact (c17_v_sync _ (hlive i)).2
    · exact Nat.le_of_eq (env_variant _ _ e)
  have hmono : ∀ i d, variant (σ (i + d)) ≤ variant (σ i) := by
    intro i d
    induction d with
    | zero => exact Nat.le_refl _
    | succ d ih => exact Nat.le_trans (hstep (i + d)) ih
  have key : ∀ n i, variant (σ i) ≤ n → ∃ k, final (σ k) = true := by
    intro n
    induction n with
    | zero => exact fun i hv => ⟨i, (variant_zero_iff _ (live_elim _ (hlive i)).1).mp (by omega)⟩
    | succ n ih =>
      intro i hv
      obtain ⟨j, hij, hs, hp⟩ := hfair i
      cases hf : final (σ j) with
      | true => exact ⟨j, hf⟩
      | false =>
        have h1 := c17_v_progress _ (hlive j) hs hf
        obtain ⟨d, rfl⟩ := Nat.exists_eq_add_of_le hij
        have h2 := hmono i d
        rw [← hp] at h1
        exact ih (i + d + 1) (by omega)
  exact key _ 0 (Nat.le_refl _)


/-! ## Witnesses of the known findings (negation of the full-strength clauses) and non-vacuity -/

/-- an RS named by one byte, annotations in line with `R` replicas and `m` max replicas -/
def rs (idx : Int) (c : Nat) (created revision spec pods avail R m : Int) : RS :=
  { idx := idx, name := [c], created := created, revision := revision, spec := spec, pods := pods,
    avail := avail, desired := some R, maxAnno := some m }

/-- findings C17-F1a/b: 4 replicas, partition 0, maxSurge 0, maxUnavailable 1, one full old RS, no new RS yet -/
def wLowerBound : State :=
  { replicas := 4, partition := .int 0, rolling := true, maxSurge := some (.int 0),
    maxUnavailable := some (.int 1), paused := false, deleting := false, statusReplicas := 4, now := 3,
    new := none, olds := [rs 0 97 0 1 4 4 4 4 4] }

/-- **witness (i)**: the new RS is created with 1 replica although the partition allows 0
    (real code: corpus/depsync/finding-1-lowerbound.jsonl). -/
theorem c17_i_witness :
    inv wLowerBound = true ∧ lowerBoundRegion wLowerBound = true ∧
    clauseI wLowerBound (post wLowerBound) = false := by decide +kernel

/-- **witness (iii)**: …and the total becomes replicas + maxSurge + 1. -/
theorem c17_iii_witness :
    inv wLowerBound = true ∧ lowerBoundRegion wLowerBound = true ∧
    clauseIII wLowerBound (post wLowerBound) = false := by decide +kernel

/-- finding C17-F2 (old RS): 4 replicas, maxUnavailable 1, maxSurge 2, partition 100%; old RS `b` was
    scaled 4 → 2 earlier but its status still reports 4 available pods; old RS `a` has 3 unhealthy pods
    that use up the clean-up budget, so the clean-up never reaches (and never rejects) `b` -/
def wStale : State :=
  { replicas := 4, partition := .pct 100, rolling := true, maxSurge := some (.int 2),
    maxUnavailable := some (.int 1), paused := false, deleting := false, statusReplicas := 10, now := 5,
    new := some (rs (-1) 110 2 3 1 1 1 4 6),
    olds := [rs 0 97 0 1 3 3 0 4 6, rs 1 98 1 2 2 4 4 4 6] }

/-- **witness (iv)**: 3 of the available pods are kept by the specs before the sync, 1 after it,
    below replicas − maxUnavailable = 3 (real code: corpus/depsync/finding-2-stale.jsonl, line 1). -/
theorem c17_iv_witness :
    inv wStale = true ∧ stale wStale = true ∧ clauseIV wStale (post wStale) = false ∧
    floorAvail wStale = 3 ∧ minAvailable wStale = 3 ∧ floorAvail (post wStale) = 1 := by decide +kernel

/-- finding C17-F2 (new RS): the new RS was scaled to 0 but still reports 2 available pods -/
def wStaleNew : State :=
  { replicas := 4, partition := .int 5, rolling := true, maxSurge := some (.int 0),
    maxUnavailable := some (.int 1), paused := false, deleting := false, statusReplicas := 6, now := 3,
    new := some (rs (-1) 110 1 2 0 2 2 4 4),
    olds := [rs 0 97 0 1 4 4 4 4 4] }

/-- **witness (iv), second form** (corpus/depsync/finding-2-stale.jsonl, line 2): 4 kept before, 1 after. -/
theorem c17_iv_witness_new :
    inv wStaleNew = true ∧ stale wStaleNew = true ∧ clauseIV wStaleNew (post wStaleNew) = false ∧
    floorAvail wStaleNew = 4 ∧ floorAvail (post wStaleNew) = 1 := by decide +kernel

/-- non-vacuity of the partial theorems and of the scope: an ordinary mid-rollout state (10 replicas,
    partition 5, surge 2, unavailable 2; old 6+2, new 2) is in scope, satisfies `I`, is outside both
    guards, and the sync really acts on it (new RS 2 → 4). -/
def wMid : State :=
  { replicas := 10, partition := .int 5, rolling := true, maxSurge := some (.int 2),
    maxUnavailable := some (.int 2), paused := false, deleting := false, statusReplicas := 10, now := 5,
    new := some (rs (-1) 110 2 3 2 2 2 10 12),
    olds := [rs 0 97 0 1 6 6 6 10 12, rs 1 98 1 2 2 2 2 10 12] }

example : inv wMid = true ∧ inScope wMid = true ∧ lowerBoundRegion wMid = false ∧ stale wMid = false ∧
    0 < oldTotal wMid ∧ newSpec (post wMid) = 4 ∧ oldTotal (post wMid) = 8 := by decide +kernel

/-- non-vacuity of (ii′): old total 3 below the reserve 5 → raised to 5 -/
def wLow : State :=
  { wMid with olds := [rs 0 97 0 1 2 2 2 10 12, rs 1 98 1 2 1 1 1 10 12],
              new := some (rs (-1) 110 2 3 5 5 5 10 12) }
example : inv wLow = true ∧ inScope wLow = true ∧ oldTotal wLow = 3 ∧ reserve wLow (newSpec wLow) = 5 ∧
    oldTotal (post wLow) = 5 := by decide +kernel

/-- non-vacuity of (iv): the rolling scale-down really removes available old pods, down to the floor:
    11 available, replicas − maxUnavailable = 8, unhealthy pod cleaned first -/
def wDown : State :=
  { wMid with maxSurge := some (.int 2), partition := .pct 100,
              olds := [rs 0 97 0 1 6 6 5 10 12, rs 1 98 1 2 4 4 4 10 12],
              new := some (rs (-1) 110 2 3 2 2 2 10 12) }
example : inv wDown = true ∧ inScope wDown = true ∧ stale wDown = false ∧ floorAvail wDown = 11 ∧
    minAvailable wDown = 8 ∧ oldTotal (post wDown) = 6 ∧ floorAvail (post wDown) = 8 := by decide +kernel

/-- non-vacuity of (v): a live, settled, non-final state; one sync lowers the variant; the healthy
    schedule finishes within `variant + 1` rounds (tests on literals, not the ∀ claim). -/
def wCover : State :=
  { replicas := 3, partition := .pct 100, rolling := true, maxSurge := some (.int 1),
    maxUnavailable := some (.int 0), paused := false, deleting := false, statusReplicas := 3, now := 5,
    new := some (rs (-1) 110 2 3 0 0 0 3 4),
    olds := [rs 0 97 0 1 2 2 2 3 4, rs 1 98 1 2 1 1 1 3 4] }
example : live wCover = true ∧ settled wCover = true ∧ final wCover = false ∧ variant wCover = 6 ∧
    variant (post wCover) = 5 := by decide +kernel
set_option maxRecDepth 8000 in
example : final (rounds 7 wCover) = true ∧ newSpec (rounds 7 wCover) = 3 ∧ oldTotal (rounds 7 wCover) = 0 := by
  decide +kernel

end RV.Props.C17
