import RV.Lemmas.DepCtl
/-!
# The advanced Deployment controller around `syncDeployment` (slice `depctl`; attached to C17, C07, C08, C06)

`w` ranges over *all* worlds one `ReconcileDeployment.Reconcile` can start from: any combination of control-info
annotation, strategy type, `spec.paused`, strategy annotation (absent / unparsable / parsed with any rolling style,
partition, fenceposts, paused flag), selector, webhook configuration (present / absent / terminating), status as
read, extra-status annotation, ReplicaSets of any number / sizes / statuses (the state of `RV.DepSync`), and any
injected API fault.  `reconcile w` is the model of one Reconcile (`RV.Model.DepCtl`, tied to the Go code by suite
`depctl`), `post w` the world the next Reconcile reads.  The clause predicates are the `Bool` functions of
`RV.Oracle.DepCtl`, the same ones the driver evaluates on the *implementation's* outcome.

| clause | theorems |
|---|---|
| 1 only ours | `gate_characterised`, `only_ours`, `only_ours_frame` |
| 2 admission protection | `protection_restores_native`, `protection_one_write`, `protection_idempotent` |
| 3 extra status | `extra_status_exact`, `expected_is_partition_limit`, `extra_status_fixed_point` |
| 4 requeue | `satisfied_iff`, `requeue_until_satisfied`, `requeue_drives_progress`, `status_fresh_after_rolling` |
| 5 errors | `errors_aggregated_partial` (guard `swallowedScaleDown`), `errors_aggregated_full_FALSE`, `both_attempted` |
| 6 paused / deleting | `paused_scales_only`, `deleting_status_only` |
| watches | `watch_passes_relevant_updates`, `watch_drops_foreign`, `watch_drops_status_only`, `rs_event_wakes_owner`, `hook_event_wakes_protected`, `under_control_is_recreate` |
-/
namespace RV.Props.DepCtl
open RV.Arith RV.DepSync RV.DepCtl RV.Oracle.DepCtl RV.Oracle.C17 RV.Lemmas.DepCtl

/-! ## 1. only ours -/

/-- who is "ours": exactly a Deployment with the control-info annotation, strategy type `Recreate`, `spec.paused`,
    a parsable strategy annotation and a rolling style other than `Canary`. -/
theorem gate_characterised (w : World) :
    newController w = true ↔
      w.ctrl = true ∧ w.stype = .recreate ∧ w.specPaused = true ∧ w.anno = .ok ∧ w.style ≠ .canary :=
  newController_iff w

/-- **only ours**: a Deployment that does not exist, is not under rollout control, has an absent / unparsable
    strategy annotation, or rolls in canary style gets no write at all. -/
theorem only_ours (w : World) : onlyOurs w (reconcile w) = true := by
  unfold onlyOurs
  refine guard_intro fun hg => ?_
  -- the guard names the branch taken, and that branch is `quiet`
  simp only [Bool.or_eq_true, ignoredW_iff, Bool.and_eq_true, Bool.not_eq_true'] at hg
  rcases hg with ⟨a, b, c⟩ | ⟨a, b⟩
  · rw [reconcile_ignored w a b c]; simp [quiet, sameSizes]
  · rw [reconcile_notFound w a b]; simp [quiet, sameSizes]

/-- a Deployment that is not ours, as a frame: no API write, and the next Reconcile reads the same object and the
    same ReplicaSets. -/
theorem only_ours_frame (w : World) (hg : w.fault.getD = false) (hp : w.present = true)
    (hc : newController w = false) :
    (reconcile w).calls = [] ∧ (reconcile w).untouched = true ∧ (reconcile w).res = .ok ∧
    (reconcile w).stype = w.stype ∧ (reconcile w).ru = w.ru ∧ (reconcile w).extra = w.extra ∧
    (reconcile w).new = w.s.new ∧ (reconcile w).olds = w.s.olds ∧
    (reconcile w).statusReplicas = w.s.statusReplicas ∧ (reconcile w).statusUpdated = w.statusUpdated ∧
    (reconcile w).obsGen = w.obsGen := by
  rw [reconcile_ignored w hg hp hc]
  simp [quiet]

-- non-vacuity: a canary-style Deployment with old pods to roll is ignored; the same Deployment in partition style is scaled
private def wEx : World :=
  { present := true, ctrl := true, stype := .recreate, ru := none, specPaused := true, anno := .ok, style := .partition,
    sel := .normal, hook := .present, gen := 2, obsGen := 2, statusUpdated := 2, newReady := 1, extra := .absent, fault := {},
    s := { replicas := 10, partition := .int 4, rolling := true, maxSurge := some (.int 2), maxUnavailable := some (.pct 20),
           paused := false, deleting := false, statusReplicas := 10, now := 3,
           new := some { idx := -1, name := [1], created := 1, revision := 2, spec := 2, pods := 2, avail := 2, desired := some 10, maxAnno := some 12 },
           olds := [{ idx := 0, name := [0], created := 0, revision := 1, spec := 8, pods := 8, avail := 8, desired := some 10, maxAnno := some 12 }] } }
example : ignoredW { wEx with style := .canary } = true ∧ (reconcile { wEx with style := .canary }).calls = [] := by decide +kernel
example : ignoredW wEx = false ∧ (reconcile wEx).calls = [.scale (-1) 4 true, .extra (.canon 1 4) true] := by decide +kernel

/-! ## 2. admission protection -/

/-- **protection restores the native strategy**: webhook configuration absent or terminating ⇒ the only write is the
    strategy patch; it sets `type: RollingUpdate` with the saved rollingUpdate parameters; no ReplicaSet is scaled,
    the extra status is not touched; a failed patch is returned as an error. -/
theorem protection_restores_native (w : World) : protection w (reconcile w) = true := by
  unfold protection
  refine guard_intro fun hpw => ?_
  obtain ⟨_, _, hc, _, _⟩ := (protectionW_iff w).mp hpw
  rw [reconcile_of_protectionW w hpw]
  rcases protectOut_cases w hc with ⟨_, e⟩ | ⟨_, e⟩ <;> rw [e] <;> simp [quiet, sameSizes]

/-- the protection branch issues at most one write, the strategy patch -/
theorem protection_one_write (w : World) (h : protectionW w = true) :
    (reconcile w).calls.length ≤ 1 ∧ ∀ c ∈ (reconcile w).calls, c.isProtect = true := by
  obtain ⟨_, _, hc, _, _⟩ := (protectionW_iff w).mp h
  rw [reconcile_of_protectionW w h]
  rcases protectOut_cases w hc with ⟨_, e⟩ | ⟨_, e⟩ <;> rw [e] <;> simp [Call.isProtect]

/-- idempotent: once the patch went through, the next Reconcile finds a `RollingUpdate` Deployment — not ours —
    and writes nothing. -/
theorem protection_idempotent (w : World) (h : protectionW w = true) (hf : w.fault.protect = false) :
    ignoredW (post w) = true ∧ (reconcile (post w)).calls = [] ∧ (reconcile (post w)).untouched = true := by
  obtain ⟨_, hp, hc, _, _⟩ := (protectionW_iff w).mp h
  obtain ⟨hf', _⟩ | ⟨_, e⟩ := protectOut_cases w hc
  · rw [hf] at hf'; cases hf'
  have hpost : (post w).stype = .rollingUpdate ∧ (post w).present = true ∧ (post w).fault = {} := by
    simp [DepCtl.post, reconcile_of_protectionW w h, e, hp]
  have hnc : newController (post w) = false := by
    rw [← Bool.not_eq_true, newController_iff, hpost.1]
    simp
  have hg : (post w).fault.getD = false := by rw [hpost.2.2]
  refine ⟨(ignoredW_iff _).mpr ⟨hg, hpost.2.1, hnc⟩, ?_, ?_⟩ <;>
    rw [reconcile_ignored (post w) hg hpost.2.1 hnc] <;> simp [quiet]

example : protectionW { wEx with hook := .absent } = true ∧
    (reconcile { wEx with hook := .absent }).calls = [.protect true] ∧
    (reconcile { wEx with hook := .absent }).ru = some (some (.int 2), some (.pct 20)) := by decide +kernel

/-! ## 3. extra status -/

/-- **extra status exact**: on the sync path the annotation afterwards is (ready pods of the new ReplicaSet or 0,
    `NewRSReplicasLimit(partition)`), and it is patched exactly when the text differs — whatever `syncDeployment`
    returned; only a failing patch leaves the old text. -/
theorem extra_status_exact (w : World) : extraExact w (reconcile w) = true := by
  unfold extraExact
  refine guard_intro fun hg => ?_
  simp only [Bool.and_eq_true, bne_iff_ne, ne_eq] at hg
  obtain ⟨hn, hs⟩ := hg
  rw [reconcile_of_normalW w hn, normalOut_extraCalls w hs, normalOut_extra w hs]
  simp

/-- the expected number in the annotation is the partition limit of `RV.DepSync` (what C17 scales the new
    ReplicaSet towards) and the ready number is the new ReplicaSet's `status.readyReplicas` -/
theorem expected_is_partition_limit (w : World) (hn : normalW w = true) (hs : w.sel ≠ .bad)
    (hf : w.fault.extra = false) :
    (reconcile w).extra = .canon (match w.s.new with | none => 0 | some _ => w.newReady) (RV.DepSync.limit w.s) := by
  rw [reconcile_of_normalW w hn, normalOut_extra w hs, extraAfter, hf]
  rfl

example : (reconcile wEx).extra = .canon 1 4 := by decide +kernel

/-- **fixed point**: after a Reconcile on the sync path whose extra-status patch (if any) went through, the next
    Reconcile — nothing else having moved — issues no extra-status write (`written only when it differs`). -/
theorem extra_status_fixed_point (w : World) (hn : normalW w = true) (hs : w.sel ≠ .bad)
    (hf : w.fault.extra = false) : extraFixedPoint (reconcile (post w)) = true := by
  obtain ⟨_, hp, hc, _, hh⟩ := (normalW_iff w).mp hn
  have hpost := post_normal w hn
  -- the patch went through: the annotation the next Reconcile reads is the wanted one
  have hex : (normalOut w).extra = wantExtra w := by rw [normalOut_extra w hs, extraAfter, hf]; rfl
  rw [hex] at hpost
  have hn2 : normalW (post w) = true := by
    rw [normalW_iff, hpost]
    exact ⟨rfl, hp, hc, rfl, hh⟩
  have hwant : wantExtra (post w) = wantExtra w := by
    have hr : readyOf (post w) = readyOf w := by
      rw [hpost]
      cases hnew : w.s.new with
      | none => simp only [readyOf, hnew]; split <;> rfl
      | some r =>
        have h2 := syncPart_new_isSome w (by simp [hnew])
        simp only [readyOf, hnew]
        cases h3 : (syncPart w).new with
        | none => simp [h3] at h2
        | some _ => rfl
    simp only [wantExtra, hr]; rw [hpost]; rfl
  have hs2 : (post w).sel ≠ .bad := by rw [hpost]; exact hs
  have he2 : (post w).extra = wantExtra w := by rw [hpost]
  rw [reconcile_of_normalW _ hn2]
  unfold extraFixedPoint
  rw [normalOut_extraCalls _ hs2, hwant, he2]
  simp

example : normalW wEx = true ∧ (reconcile wEx).calls.any (·.isExtra) = true ∧
    (reconcile (post wEx)).calls.any (·.isExtra) = false := by decide +kernel

/-! ## 4. requeue -/

/-- `DeploymentRolloutSatisfied` succeeds exactly when the status *as read* has observed the generation, counts
    `spec.replicas` pods and at least the partition limit of updated ones. -/
theorem satisfied_iff (w : World) :
    satisfied w = true ↔ w.gen ≤ w.obsGen ∧ w.s.statusReplicas = w.s.replicas ∧ limit w.s ≤ w.statusUpdated := by
  simp [satisfied, Int.not_lt]

/-- **requeue until satisfied**: without an error the Reconcile asks for `RequeueAfter` exactly when
    `DeploymentRolloutSatisfied` fails; and with a fresh status it never reports "done, no requeue" while the new
    ReplicaSet has fewer pods than the partition limit or the pod total differs from `spec.replicas`. -/
theorem requeue_until_satisfied (w : World) : requeueUntilSatisfied w (reconcile w) = true := by
  unfold requeueUntilSatisfied requeueExact requeueDrives
  by_cases hn : normalW w = true
  case neg => simp [hn]
  rw [reconcile_of_normalW w hn]
  have hres : (normalOut w).res = .err ∨ ((normalOut w).res = if satisfied w then .ok else .requeue) := by
    rw [normalOut_res]
    cases (normalOut w).errs.isEmpty
    · left; rfl
    · right; rfl
  rw [Bool.and_eq_true]
  refine ⟨by simpa [hn] using hres, guard_intro fun hg => ?_⟩
  simp only [fresh, Bool.and_eq_true, Bool.or_eq_true, decide_eq_true_eq, beq_iff_eq, bne_iff_ne, ne_eq] at hg
  obtain ⟨⟨_, ⟨f1, f2⟩, f3⟩, hlow⟩ := hg
  rcases hres with e | e
  · rw [e]; rfl
  · have hns : satisfied w = false := by
      cases hsat : satisfied w with
      | false => rfl
      | true =>
        have := (satisfied_iff w).mp hsat
        rcases hlow with h | h
        · omega
        · exact absurd (by omega) h
    rw [e, hns]; rfl

/-- the second half of `requeue_until_satisfied` as an implication: on the sync path, a Reconcile that ends with "done, no requeue" from a fresh status
    has found the partition's worth of updated pods and exactly `spec.replicas` pods — so as long as C17 (v)'s
    progress is still due (new ReplicaSet below the limit, or a pod count other than `spec.replicas`) the Reconcile
    keeps itself scheduled. -/
theorem requeue_drives_progress (w : World) (hn : normalW w = true) (hf : fresh w = true)
    (hok : (reconcile w).res = .ok) :
    limit w.s ≤ optPods w.s.new ∧ sumPods w.s.olds + optPods w.s.new = w.s.replicas := by
  have h := requeue_until_satisfied w
  simp only [requeueUntilSatisfied, Bool.and_eq_true] at h
  simpa [requeueDrives, hn, hf, hok, Int.not_lt] using h.2

example : normalW wEx = true ∧ fresh wEx = true ∧ (reconcile wEx).res = .requeue := by decide +kernel
example : (reconcile { wEx with statusUpdated := 4 }).res = .ok ∧ fresh { wEx with statusUpdated := 4 } = false := by decide +kernel

/-- the requeue decision reads the status *as fetched*; this is the link that makes it speak about real pods: after a
    Reconcile on the rolling path (no ReplicaSet write fault) the status the next Reconcile reads is fresh. -/
theorem status_fresh_after_rolling (w : World) (hn : normalW w = true) (hs : w.sel = .normal)
    (hsc : inScope w.s = true) (hok : ∀ r ∈ w.s.olds, rsOk r = true) (hk : w.fault.scaleAt = none) :
    fresh (post w) = true := by
  have hsp : syncPart w = syncOk w.s := by rw [syncPart_normal hs, hk]; rfl
  have hsy : sync w.s = rolloutRolling w.s := sync_inScope w.s hsc
  obtain ⟨herr, hst⟩ := rolling_status w.s
  -- the rolling sync returns no error, so it closes with the status sync: generation observed, pods counted
  simp only [fresh, post_normal w hn, normalOut, hsp, syncOk, hsy, herr, Bool.not_false, if_true, Bool.true_or,
    Bool.and_eq_true, decide_eq_true_eq, beq_iff_eq]
  refine ⟨⟨Int.le_refl _, ?_⟩, trivial⟩
  rw [hst, rolling_pods]

example : inScope wEx.s = true ∧ fresh (post wEx) = true ∧ (reconcile (post wEx)).res = .requeue := by decide +kernel

/-! ## 5. errors -/

/- Without the guard, `errorsReported w (reconcile w)` is FALSE on the unchanged code: a failing scale-down write of an
   old ReplicaSet on the rolling path is dropped; the witness is `errors_aggregated_full_FALSE`. -/

/-- **errors aggregated** (partial: outside guard `swallowedScaleDown`): every failed API call — the Get of the
    Deployment or of the webhook configuration, the protection patch, any ReplicaSet size write, the extra-status
    patch — makes the Reconcile return an error (retry); sync and extra-status errors are both listed. -/
theorem errors_aggregated_partial (w : World) (hg : swallowRegion w = false) :
    errorsReported w (reconcile w) = true := by
  unfold errorsReported errorsReportedCore
  have hr := reconcile_cases w
  generalize reconcile w = o at hr ⊢
  cases hr with
  | getErr h => simp [quiet]
  | notFound h1 h2 =>
    have : reachesHook w = false := by rw [← Bool.not_eq_true, reachesHook_iff]; simp [h2]
    simp [quiet, this, h1]
  | ignored h =>
    obtain ⟨a, _, c⟩ := (ignoredW_iff w).mp h
    have : reachesHook w = false := by rw [← Bool.not_eq_true, reachesHook_iff]; simp [c]
    simp [quiet, this, a]
  | hookErr h h4 => simp [quiet]
  | protect h =>
    obtain ⟨h1, _, h3, h4, _⟩ := (protectionW_iff w).mp h
    rcases protectOut_cases w h3 with ⟨_, e⟩ | ⟨_, e⟩ <;> rw [e] <;>
      simp [quiet, h1, h4, Call.isProtect, Call.isExtra, Call.isScale, Call.failed]
  | normal hnw =>
      obtain ⟨h1', _, _, h4', _⟩ := (normalW_iff w).mp hnw
      simp only [h1', h4', Bool.not_false, Bool.true_or, Bool.and_false, Bool.true_and, Bool.and_eq_true,
        Bool.or_eq_true, Bool.not_eq_true', beq_iff_eq]
      have hscale : ∀ c ∈ (syncPart w).calls, c.isProtect = false ∧ c.isExtra = false :=
        fun c hc => ⟨isProtect_of_isScale c (syncPart_calls_scale w c hc), isExtra_of_isScale c (syncPart_calls_scale w c hc)⟩
      -- a failing sync write is reported (outside the guard)
      have hsync : (syncPart w).fired = true → (normalOut w).res = .err ∧ (normalOut w).errs.contains .sync = true := by
        intro hf
        rcases syncPart_fault w with ⟨a, _, _⟩ | ⟨_, b, c⟩
        · rw [a] at hf; cases hf
        · have hsw : (syncPart w).swallowed = false := by
            simp only [swallowRegion, hnw, c, beq_self_eq_true, Bool.true_and] at hg
            rw [syncPart_normal c]; exact hg
          exact normalOut_err_of_sync w (by rw [b, hsw]; rfl)
      rw [normalOut_calls]
      simp only [List.any_append, Bool.or_eq_false_iff, List.any_eq_false]
      refine ⟨⟨⟨.inl ⟨fun c hc => by simp [(hscale c hc).1], ?_⟩, ?_⟩, ?_⟩, ?_⟩
      · -- no protection patch on this path
        split <;> simp [Call.isProtect]
      · -- extra-status patch
        by_cases hx : needPatch w = true ∧ w.fault.extra = true
        · exact .inr (normalOut_err_of_extra w hx.1 hx.2)
        · refine .inl ⟨fun c hc => by simp [(hscale c hc).2], ?_⟩
          split
          · rename_i hnp
            have : w.fault.extra = false := by simpa [hnp] using hx
            simp [Call.isExtra, Call.failed, this]
          · simp
      · -- ReplicaSet size writes
        rcases syncPart_fault w with ⟨_, _, c⟩ | ⟨a, _, _⟩
        · refine .inl ⟨fun x hx => by simp [c x hx], ?_⟩
          split <;> simp [Call.isScale]
        · exact .inr (hsync a)
      · -- whatever fault fired
        cases hf : (normalOut w).fired
        · exact .inl rfl
        · rw [normalOut_fired] at hf
          simp only [Bool.or_eq_true, Bool.and_eq_true] at hf
          rcases hf with hf | hf
          · exact .inr (hsync hf).1
          · exact .inr (normalOut_err_of_extra w hf.1 hf.2).1

/-- the guard is not empty on the unchanged code: `reconcileOldReplicaSets` drops the errors of
    `cleanupUnhealthyReplicas` and `scaleDownOldReplicaSetsForRollingUpdate` (`if err != nil { return false, nil }`).
    Witness: new RS at the partition limit, old RS above its reserve, the scale-down write fails — the Reconcile
    reports no error (and here, with a status that looks settled, not even a requeue). -/
theorem errors_aggregated_full_FALSE :
    ∃ w : World, swallowRegion w = true ∧ errorsReported w (reconcile w) = false ∧ (reconcile w).res = .ok := by
  refine ⟨{ wEx with statusUpdated := 4, fault := { scaleAt := some 0 },
                     s := { wEx.s with new := some { idx := -1, name := [1], created := 1, revision := 2, spec := 4, pods := 4, avail := 4,
                                                     desired := some 10, maxAnno := some 12 } } }, ?_⟩
  decide +kernel

/-- a failing `syncDeployment` does not keep `patchExtraStatus` from being attempted -/
theorem both_attempted (w : World) : bothAttempted w (reconcile w) = true := by
  unfold bothAttempted
  refine guard_intro fun hg => ?_
  simp only [Bool.and_eq_true, beq_iff_eq] at hg
  obtain ⟨⟨hn, hs⟩, _⟩ := hg
  -- the extra-status writes of the sync path do not depend on what the sync returned
  rw [reconcile_of_normalW w hn, normalOut_extraCalls w (by simp [hs])]
  simp

example : swallowRegion wEx = false ∧
    (reconcile { wEx with fault := { scaleAt := some 0, extra := true } }).errs = [.sync, .extra] := by decide +kernel

/-! ## 6. paused / deleting -/

/-- **paused scales only**: with `strategy.paused` (and no deletion) the rolling path is not taken — no ReplicaSet
    is created, and when the sizes already add up to `spec.replicas` no size is written at all (in particular the
    new ReplicaSet is not grown towards the partition); **deleting**: with a deletion timestamp no ReplicaSet size
    is written.  Holds under every injected fault. -/
theorem paused_scales_only (w : World) : pausedScalesOnly w (reconcile w) = true := by
  unfold pausedScalesOnly
  rw [Bool.and_eq_true]
  refine ⟨guard_intro fun hg => ?_, guard_intro fun hg => ?_⟩
  · simp only [Bool.and_eq_true, beq_iff_eq, Bool.not_eq_true'] at hg
    obtain ⟨⟨⟨hn, hs⟩, hp⟩, hd⟩ := hg
    rw [Bool.and_eq_true]
    refine ⟨guard_intro fun hnone => ?_, guard_intro fun hq => ?_⟩
    · -- no creation
      simp only [Bool.and_eq_true, Option.isNone_iff_eq_none] at hnone
      have : (reconcile w).new = (syncF w.s w.fault.scaleAt).new := by
        rw [reconcile_of_normalW w hn, ← syncPart_normal hs]; rfl
      rw [this, syncF_new_none_of_paused w.s _ hd hp hnone.1 (by simpa [idxOk, NotNew] using hnone.2)]
      rfl
    · -- sizes that add up are left alone
      simp only [Bool.and_eq_true, beq_iff_eq] at hq
      refine noScale_normal w hn (syncPart_calls_nil w ?_)
      rw [sync_paused w.s hd hp]; exact syncScale_quiet w.s hq.1 hq.2
  · simp only [Bool.and_eq_true] at hg
    exact noScale_normal w hg.1 (syncPart_calls_nil w (sync_deleting_writes w.s hg.2))

/-- the deletion half on its own -/
theorem deleting_status_only (w : World) (hn : normalW w = true) (hd : w.s.deleting = true) :
    ∀ c ∈ (reconcile w).calls, c.isScale = false := by
  have h := noScale_normal w hn (syncPart_calls_nil w (sync_deleting_writes w.s hd))
  simpa [noScale] using h

-- non-vacuity: the same world grows the new RS when not paused, and leaves every size alone when paused
example : (reconcile wEx).calls.any (·.isScale) = true ∧
    normalW { wEx with s := { wEx.s with paused := true } } = true ∧ invCore wEx.s = true ∧ totalSpec wEx.s = wEx.s.replicas ∧
    (reconcile { wEx with s := { wEx.s with paused := true } }).calls.any (·.isScale) = false := by decide +kernel
example : (reconcile { wEx with s := { wEx.s with deleting := true } }).calls = [.extra (.canon 1 4) true] := by decide +kernel

/-! ## watches (`add`) -/

/-- what a Reconcile reads from the Deployment object itself is its spec (generation), its annotations and its
    deletion timestamp: an update of a Deployment under rollout control that changes any of them passes the predicate -/
theorem watch_passes_relevant_updates (e : DepEvt) (hu : e.evt = .update)
    (hc : e.newCtrl = true ∧ e.newStype = .recreate ∧ e.newPaused = true)
    (hch : e.oldGen ≠ e.newGen ∨ e.newDeleting = true ∨ e.annoSame = false) : depPredicate e = true := by
  unfold depPredicate
  rcases hch with h | h | h <;> simp [hu, hc.1, hc.2.1, hc.2.2, h]

/-- an update of a Deployment that is not under rollout control never wakes the controller -/
theorem watch_drops_foreign (e : DepEvt) (hu : e.evt = .update)
    (hc : ¬ (e.newCtrl = true ∧ e.newStype = .recreate ∧ e.newPaused = true)) : depPredicate e = false := by
  unfold depPredicate
  cases h1 : e.newCtrl <;> cases h2 : e.newPaused <;> simp_all

/-- a status-only update (what the controller's own status writes produce) does not wake it: no self-triggered loop -/
theorem watch_drops_status_only (e : DepEvt) (hu : e.evt = .update) (hg : e.oldGen = e.newGen)
    (hd : e.newDeleting = false) (ha : e.annoSame = true) : depPredicate e = false := by
  unfold depPredicate
  simp only [hu, hg, hd, ha]
  split <;> simp

/-- a ReplicaSet event wakes the Deployment that controls it -/
theorem rs_event_wakes_owner (pre post : List Owner) (o : Owner) (hpre : ∀ x ∈ pre, x.controller = false)
    (hc : o.controller = true) (hd : o.isDeployment = true) (ha : o.isApps = true) :
    ownerRequests (pre ++ o :: post) = [o.name] := by
  have : (pre ++ o :: post).find? (·.controller) = some o := by
    rw [List.find?_append, List.find?_eq_none.mpr (by simpa using hpre)]
    simp [hc]
  simp [ownerRequests, this, hd, ha]

/-- when the webhook configuration is deleted (or gets a deletion timestamp) every labelled Deployment that still
    has strategy type `Recreate` — in particular every Deployment `reconcile` would protect — is enqueued -/
theorem hook_event_wakes_protected (evt : Evt) (deleting : Bool) (deps : List HookDep) (d : HookDep)
    (he : evt = .delete ∨ deleting = true) (hd : d ∈ deps) (hl : d.labelled = true) (hs : d.stype = .recreate) :
    d.name ∈ hookRequests evt true deleting false deps := by
  have h1 : (evt != Evt.delete && !deleting) = false := by rcases he with h | h <;> simp [h]
  simp only [hookRequests, Bool.not_true, Bool.false_eq_true, if_false, h1, List.mem_map, List.mem_filter]
  exact ⟨d, ⟨hd, by simp [hl, hs]⟩, rfl⟩

-- non-vacuity of the watch theorems
example : depPredicate { evt := .update, newCtrl := true, newStype := .recreate, newPaused := true, oldGen := 2, newGen := 2,
                         newDeleting := false, annoSame := false } = true := by decide +kernel
example : depPredicate { evt := .update, newCtrl := true, newStype := .recreate, newPaused := true, oldGen := 2, newGen := 2,
                         newDeleting := false, annoSame := true } = false := by decide +kernel
example : depPredicate { evt := .update, newCtrl := true, newStype := .rollingUpdate, newPaused := true, oldGen := 2, newGen := 3,
                         newDeleting := false, annoSame := false } = false := by decide +kernel
example : ownerRequests [⟨true, true, "x", false⟩, ⟨true, true, "d", true⟩] = ["d"] ∧
    ownerRequests [⟨false, true, "sts", true⟩, ⟨true, true, "d", false⟩] = [] := by decide +kernel
example : hookRequests .update true true false [⟨"a", true, .recreate⟩, ⟨"b", true, .rollingUpdate⟩, ⟨"c", false, .recreate⟩] = ["a"] ∧
    hookRequests .update true false false [⟨"a", true, .recreate⟩] = [] ∧
    hookRequests .delete true false false [⟨"a", true, .recreate⟩] = ["a"] := by decide +kernel

/-- a Deployment under rollout control has strategy type `Recreate`, so it is among those
    `hook_event_wakes_protected` enqueues -/
theorem under_control_is_recreate (w : World) (h : newController w = true) : w.stype = .recreate :=
  stype_of_newController h

end RV.Props.DepCtl
