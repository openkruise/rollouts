import RV.Lemmas.ClosedLoop
import RV.Lemmas.ClosedLoopBG
import RV.Props.ReconcileThms
/-!
# The blue-green closed loop (C01, C04, C05, C06, C09, C10)

`RV.ClosedLoopBG` writes the closed loop once, over any workload world and the control plane that serves it, and
instantiates it with (i) the canary / partition-style CloneSet loop — `closedloop_is_instance`: `RV.ClosedLoop.step` IS
that instance, so the theorems of `RV.Props.ClosedLoop` are theorems about `step csLoop` — and (ii) blue-green over a CloneSet with HPAs.

The theorems below quantify over **every history** (`Reach`: any list of labels `ro | br | env | release rev | approve |
tick | crash | delete`, a rollback being the `release` of the stable revision), every plan, every replica count, every user
configuration of the CloneSet (`User`), by induction on the label list.  What is proved where:

* over every history, all labels: the **world invariant** (`bg_world_inv`) and its corollaries `bg_old_pods_kept`,
  `bg_no_promotion_while_held`, `bg_settings_restored_partial`, and what can crash a reconciler (`bg_total_partial`);
* for every state (no reachability needed), one transition: `bg_crash`, `bg_refuses_continuous_ro` /
  `_br_partial`, `bg_finalize_needs_resume` (the BatchRelease half of `bg_traffic_before_scale_down`) and — in
  `RV.Props.ClosedLoopBGResume` — `bg_resume_only_in_cleanup` (the Rollout half, as a localisation);
* `_partial` says exactly what is missing; every `_full_FALSE` is a concrete history evaluated by the kernel on the model and
  replayed on the real controllers from `corpus/closedloopbg/`.
-/
namespace RV.Props.ClosedLoopBG
open RV.Arith IntOrPct RV.Traffic RV.ClosedLoopBG RV.Oracle.ClosedLoopBG RV.Lemmas.ClosedLoopBG
open RV.ClosedLoop (CBr Label CS)
open RV.CtlBlueGreen (Workload HPA maxReady)
open RV.RolloutSM (World WL Sub StepResult reconcile reconcileCore inRolling handleFinalizer calculateStatus)
open RV.ExecutorX (bgPlane bgInfo mkInfo syncVia entryOf bgBR bgReady)
open RV.Executor (BR Status Event syncDecide refreshStatus isPlanFinalizing isPlanChanged isPlanUnhealthy signalRecalculate resetStatus)

/-- **`closedloop_is_instance`** — the transition function of the canary / partition-style closed loop is the generic one
    over `csLoop` (for every state and label; a panic on one side is a panic on the other).  The BatchRelease step goes through
    `executor_is_instance`: `RV.Executor.reconcile` is `reconcileX csPlane`. -/
theorem closedloop_is_instance (s : CS) (l : Label) :
    (RV.ClosedLoop.step s l).map ofCS = step csLoop (ofCS s) l := by
  cases l with
  | ro =>
    show (RV.ClosedLoop.stepRo s).map ofCS = stepRo csLoop (ofCS s)
    unfold RV.ClosedLoop.stepRo stepRo
    by_cases hg : s.gone = true
    · have : (ofCS s).gone = true := hg
      rw [if_pos hg, if_pos this]; rfl
    · have hg' : ¬ (ofCS s).gone = true := hg
      rw [if_neg hg, if_neg hg']
      have hw : roWorld csLoop (ofCS s) = some (RV.ClosedLoop.roWorld s) := rfl
      rw [hw]
      dsimp only
      cases RolloutSM.reconcile (RV.ClosedLoop.roWorld s) with
      | panic => rfl
      | val r =>
        dsimp only [Option.map_some]
        congr 1
        unfold RV.ClosedLoop.landRo landRo ofCS
        have key : ∀ (ob : Option CBr) (nb : Option RolloutSM.BR) (w : Option RV.ClosedLoop.CWl) (v : Option RolloutSM.WL),
            RV.ClosedLoop.landBR ob nb (RV.ClosedLoop.annoLand w v) = landBR csLoop ob nb (annoLand csLoop w v) := by
          intro ob nb w v
          cases ob <;> cases nb <;> cases w <;> cases v <;> rfl
        simp only [key]
  | br =>
    show (RV.ClosedLoop.stepBr s).map ofCS = stepBr csLoop (ofCS s)
    unfold RV.ClosedLoop.stepBr stepBr
    cases hb : s.br with
    | none =>
      have : (ofCS s).br = none := hb
      simp only [this]; rfl
    | some b =>
      have : (ofCS s).br = some b := hb
      simp only [this]
      rw [RV.Props.ExecutorX.executor_is_instance]
      have hp : csLoop.proj (ofCS s).world = s.wl.map RV.ClosedLoop.exWl := rfl
      rw [hp]
      have hpl : csLoop.plane = ExecutorX.csPlane := rfl
      rw [hpl]
      cases ExecutorX.reconcileX ExecutorX.csPlane (RV.ClosedLoop.exBr b) (s.wl.map RV.ClosedLoop.exWl) with
      | panic => rfl
      | val o => rfl
  | env => rfl
  | release rev => rfl
  | approve =>
    show (some (RV.ClosedLoop.approve s)).map ofCS = some (approve (ofCS s))
    unfold RV.ClosedLoop.approve approve
    simp only [Option.map_some, Option.some.injEq]
    by_cases hg : s.gone = true
    · have : (ofCS s).gone = true := hg
      rw [if_pos hg, if_pos this]
    · have hg' : ¬ (ofCS s).gone = true := hg
      rw [if_neg hg, if_neg hg']
      have hsub : (ofCS s).ro.sub = s.ro.sub := rfl
      rw [hsub]
      cases s.ro.sub with
      | none => rfl
      | some sub =>
        dsimp only
        split <;> rfl
  | tick => rfl
  | crash => rfl
  | delete =>
    show (some (RV.ClosedLoop.delete s)).map ofCS = some (delete (ofCS s))
    unfold RV.ClosedLoop.delete delete
    simp only [Option.map_some, Option.some.injEq]
    by_cases hg : s.gone = true
    · have : (ofCS s).gone = true := hg
      rw [if_pos hg, if_pos this]
    · have hg' : ¬ (ofCS s).gone = true := hg
      rw [if_neg hg, if_neg hg']
      have hf : (ofCS s).ro.hasFinalizer = s.ro.hasFinalizer := rfl
      rw [hf]
      split <;> rfl

/-- `Reach s0 ls s`: running the labels `ls` (any labels, in any order) from `s0` ends in `s` without a panic -/
inductive Reach : BS → List Label → BS → Prop
  | nil (s : BS) : Reach s [] s
  | snoc (s0 s s' : BS) (ls : List Label) (l : Label) : Reach s0 ls s → bgStep s l = some s' → Reach s0 (ls ++ [l]) s'

/-- the initial states: a Healthy blue-green Rollout with any plan over a CloneSet that runs one revision with the user's
    configuration `u` (any replicas, `minReadySeconds`, `maxSurge`, `maxUnavailable`, update-strategy type, HPAs), no
    BatchRelease, nothing left of an earlier release on the network.  `userOK`: the CloneSet is not paused,
    `minReadySeconds` is below `MaxReadySeconds` and `replicas` is not negative. -/
structure Init (u : User) (s : BS) : Prop where
  user : userOK u = true
  wl : s.world.wl = some (userWl u)
  rev : s.world.updateRevision = s.world.currentRevision
  hpa2 : s.world.hpaV2 = u.hpaV2
  hpa1 : s.world.hpaV1 = u.hpaV1
  anno : s.world.inProgressAnno = false
  br : s.br = none
  present : s.gone = false
  style : s.ro.style = .blueGreen
  phase : s.ro.phase = .healthy
  net : netClean s.net = true

theorem init_world (u : User) (s : BS) (h : Init u s) : worldInv u s.world = true := by
  obtain ⟨hp, _, hR⟩ := (userOK_iff u).1 h.user
  exact (worldInv_iff u _).2 ⟨_, h.wl, ⟨rfl, rfl, hp, rfl, Or.inl ⟨rfl, rfl, rfl⟩, Or.inl rfl⟩,
    rfl, rfl, hR, Int.le_refl _, fun _ => Int.le_refl _, fun e => absurd h.rev e, Or.inl rfl⟩

/-- The Rollout controller reaches the CloneSet only through the in-progress annotation and the foreign-making of an old control
    annotation; the executor only through the three patches of the blue-green control (`reconcileX_wl`); the rest is the CloneSet
    controller and the admission webhook. -/
theorem world_step (u : User) (hu : userOK u = true) (s s' : BS) (l : Label) (h : worldInv u s.world = true)
    (hs : bgStep s l = some s') : worldInv u s'.world = true :=
  step_world bgLoop hs (worldInv u · = true) h (fun a w => setAnno_worldInv u a w) (disown_worldInv u)
    (fun _ o _ ho => br_worldInv u _ s.world o h ho) (env_spec u hu _ h).1 (fun rev => release_worldInv u hu rev _ h)

/-- **`bg_world_inv`** (C05 / C06) — every state of every history from an initial state satisfies the world invariant:
    the CloneSet keeps the user's size, is neither paused nor deleted; either it carries no saved-settings annotation, has the
    user's `minReadySeconds` / `maxSurge` / `maxUnavailable` and no control-info, or the annotation holds exactly the user's
    settings and the blue-green hold (`minReadySeconds = MaxReadySeconds`, `maxUnavailable = 0`) is installed; the partition
    is absent or the webhook's 100 %; all pods are ready and at least `replicas` of them are of the stable revision. -/
theorem bg_world_inv (u : User) (s0 s : BS) (ls : List Label) (h0 : Init u s0) (hr : Reach s0 ls s) :
    worldInv u s.world = true := by
  induction hr with
  | nil => exact init_world u _ h0
  | snoc s s' ls l _ hs ih => exact world_step u h0.user s s' l ih hs

/-- **`bg_old_pods_kept`** (C01 / C04) — in every state of every history: while two revisions exist, at least `replicas`
    ready pods are of the stable (current) revision — under the hold and outside it (`stableKept` is the oracle the harness
    evaluates on the real controllers' states; it asks for it under the hold; the second clause of `oldPodsKept`, new-revision pods
    within the batches up to the batch partition, is not proved here, only evaluated). -/
theorem bg_old_pods_kept (u : User) (s0 s : BS) (ls : List Label) (h0 : Init u s0) (hr : Reach s0 ls s) :
    stableKept u s.world = true ∧
    (∀ wl, s.world.wl = some wl → s.world.updateRevision ≠ s.world.currentRevision →
      u.replicas ≤ wl.status.ready - wl.status.updatedReady) := by
  obtain ⟨wl, hwl, _, hp⟩ := (worldInv_iff u _).1 (bg_world_inv u s0 s ls h0 hr)
  have key : s.world.updateRevision ≠ s.world.currentRevision → u.replicas ≤ wl.status.ready - wl.status.updatedReady :=
    fun hne => by rw [hp.updatedReady]; exact hp.two hne
  refine ⟨?_, fun wl' hwl' => by cases hwl.symm.trans hwl'; exact key⟩
  unfold stableKept
  rw [hwl]
  dsimp only
  split
  · rename_i hc; exact decide_eq_true (key hc.2)
  · rfl

/-- **`bg_no_promotion_while_held`** (C01 / C04) — the old pods counted by `bg_old_pods_kept` stay the stable revision: while the CloneSet is under the
    hold (saved-settings annotation present, or still at the webhook's partition 100 %) and has pods at all, no transition —
    in particular no round of the CloneSet controller — makes the update revision the current one.  Old pods are replaced
    only after `Finalize` has removed the annotation, i.e. (`bg_finalize_needs_resume`) after the Rollout controller has resumed
    the workload. -/
theorem bg_no_promotion_while_held (u : User) (s0 s s' : BS) (ls : List Label) (l : Label) (h0 : Init u s0) (hr : Reach s0 ls s)
    (hs : bgStep s l = some s') (wl : Workload) (hwl : s.world.wl = some wl) (hh : hold wl = true) (hR : 0 < u.replicas) :
    s'.world.currentRevision = s.world.currentRevision :=
  step_world bgLoop hs (·.currentRevision = s.world.currentRevision) rfl (fun a w e => (bgSetAnno_currentRevision a w).trans e)
    (fun _ e => e) (fun _ _ _ _ => rfl) ((env_spec u h0.user _ (bg_world_inv u s0 s ls h0 hr)).2 wl hwl hh hR)
    (fun rev => bgRelease_currentRevision rev _)

/-- **`bg_settings_restored_partial`** (C05) — in every state of every history in which the CloneSet no longer carries the
    saved-settings annotation — in particular after every `Finalize` that ran its restoring patch, whatever the exit reason,
    whatever was interleaved — the settings are the user's again: `minReadySeconds`, `maxSurge`, `maxUnavailable`
    (`effSetting`), not paused, the update-strategy type, no control-info; and the partition is absent **or still the
    webhook's 100 %** (guard `csPartitionKept`: blue-green `Finalize` never clears it — `bg_settings_restored_full_FALSE_partition`).

    partial: (a) that every *terminal* state has the annotation removed is not part of this theorem — it was false before the
    cursor reset in `Reconcile` (fixed finding `bgCursorCarried`; regression example `bg_settings_restored_cursor_reset`) and
    needs the Rollout-side clean-up invariant lifted to this loop (judged by the oracle `settingsRestored` at full strength on the
    walks of the real controllers); (b) the HPA target and the network objects are judged by the oracle
    `settingsRestored` on the walks of the real controllers (plane-level theorem: `RV.Props.CtlBlueGreen.finalize_restores_hpa`). -/
theorem bg_settings_restored_partial (u : User) (s0 s : BS) (ls : List Label) (h0 : Init u s0) (hr : Reach s0 ls s)
    (wl : Workload) (hwl : s.world.wl = some wl) (hsaved : wl.saved = .none) :
    (wl.partition = none → wlRestored u wl = true) ∧ (wl.partition = none ∨ wl.partition = some (pct 100)) := by
  obtain ⟨wl', hwl', hc, _⟩ := (worldInv_iff u _).1 (bg_world_inv u s0 s ls h0 hr)
  cases hwl'.symm.trans hwl
  refine ⟨fun hp => ?_, hc.part⟩
  rcases hc.saved with ⟨_, he, hctl⟩ | ⟨hs, _⟩
  · unfold wlRestored
    simp only [Bool.and_eq_true, decide_eq_true_eq, Option.isNone_iff_eq_none]
    exact ⟨⟨⟨⟨⟨hsaved, hctl⟩, he⟩, by rw [hc.paused, ((userOK_iff u).1 h0.user).1]⟩, hc.stype⟩, hp⟩
  · rw [hsaved] at hs; cases hs

/-- **`bg_crash`** (C06) — what the label `crash` does to one state: it empties the in-memory grace expectations and nothing
    else — the Rollout, the BatchRelease, the CloneSet, the HPAs and the network objects are what they were, hence so are the
    world invariant, `stableKept`, `settingsRestored` and `oldPodsKept` (none of which reads the grace memory).  That the theorems
    over `Reach` cover histories with crashes is not this theorem: `crash` is one of the labels `Reach` ranges over. -/
theorem bg_crash (u : User) (s : BS) :
    bgStep s .crash = some { s with mem := Mem.empty } ∧
    (worldInv u s.world = true → worldInv u ({ s with mem := Mem.empty } : BS).world = true) ∧
    stableKept u ({ s with mem := Mem.empty } : BS).world = stableKept u s.world ∧
    settingsRestored u { s with mem := Mem.empty } = settingsRestored u s ∧
    oldPodsKept { s with mem := Mem.empty } = oldPodsKept s :=
  ⟨rfl, id, rfl, rfl, rfl⟩

/-- a history extended by `crash` is a history: this, not `bg_crash`, is why crashes are covered -/
theorem Reach.crash (s0 s : BS) (ls : List Label) (hr : Reach s0 ls s) : Reach s0 (ls ++ [.crash]) { s with mem := Mem.empty } :=
  Reach.snoc s0 s _ ls .crash hr rfl

/-- **`bg_finalize_needs_resume`** (C04 / C10, the BatchRelease half of `bg_traffic_before_scale_down`) — for EVERY state
    (reachable or not): a BatchRelease reconcile removes the saved-settings annotation — i.e. restores `minReadySeconds` and
    `maxUnavailable`, after which the CloneSet controller may replace the old pods — only when the BatchRelease's
    `batchPartition` has been cleared, which only the Rollout controller's clean-up task `ResumeWorkload` does. -/
theorem bg_finalize_needs_resume (s s' : BS) (hs : bgStep s .br = some s') (hrel : settingsReleased s s' = true) :
    ∃ b, s.br = some b ∧ b.partition = none := by
  unfold settingsReleased at hrel
  cases hw : s.world.wl with
  | none => rw [hw] at hrel; cases hrel
  | some wl =>
    rw [hw] at hrel
    rcases stepBr_cases bgLoop s s' hs with ⟨_, rfl⟩ | ⟨b, o, hb, ho, rfl⟩
    · rw [hw] at hrel; simp at hrel
    · refine ⟨b, hb, ?_⟩
      rw [show (bgLoop.land s.world o.wl).wl = o.wl.w.wl from rfl] at hrel
      rcases reconcileX_wl _ s.world wl o hw ho with e | ⟨sv, _, e⟩ | ⟨x, _, e⟩ | ⟨sv, _, hpart, _, _⟩
      · rw [e] at hrel; simp at hrel
      · rw [e] at hrel; simp [CtlBlueGreen.initPatch] at hrel
      · rw [e] at hrel; simp [CtlBlueGreen.upgradePatch] at hrel
        exact absurd (of_decide_eq_true hrel.2) hrel.1
      · -- the restoring patch: `Finalize` saw no batch partition
        have : (ExecutorX.bgBR (Executor.withFinalizer (RV.ClosedLoop.exBr b))).partitioned = b.partition.isSome := rfl
        rw [this] at hpart
        cases hp : b.partition with
        | none => rfl
        | some p => rw [hp] at hpart; cases hpart

/-- of the CloneSet a Rollout reconcile lands the in-progress annotation only, which `exposureOf` does not read -/
theorem landRo_exposure (s : BS) (r : StepResult) (hbr : r.w.br = s.br.map RV.ClosedLoop.roBr) (hnet : r.w.net = s.net) :
    exposureOf (landRo bgLoop s r) = exposureOf s := by
  have ha : ∀ v, (annoLand bgLoop s.world v).wl = s.world.wl ∧ (annoLand bgLoop s.world v).hpaV2 = s.world.hpaV2 ∧
      (annoLand bgLoop s.world v).hpaV1 = s.world.hpaV1 := by
    have hset : ∀ a, (bgSetAnno a s.world).wl = s.world.wl ∧ (bgSetAnno a s.world).hpaV2 = s.world.hpaV2 ∧
        (bgSetAnno a s.world).hpaV1 = s.world.hpaV1 := by
      intro a; rw [bgSetAnno_frame]; exact ⟨rfl, rfl, rfl⟩
    intro v
    cases v with
    | none => exact ⟨rfl, rfl, rfl⟩
    | some x => exact hset _
  obtain ⟨a1, a2, a3⟩ := ha r.w.wl
  unfold exposureOf landRo
  dsimp only
  rw [hbr, hnet]
  cases s.br with
  | none => simp only [Option.map_none, landBR, a1, a2, a3]
  | some c => simp only [Option.map_some, landBR, RV.Lemmas.ClosedLoop.updatedBr_id, a1, a2, a3]

/-- a reconcile of a rolling blue-green rollout whose workload has moved on to yet another revision (no rollback, not paused) only
    rewrites the status, whether the workload's status is consistent (the continuous release is refused) or not (the reconcile waits) -/
theorem reconcile_superseded (w : World) (wl : WL) (os : Sub) (r : StepResult)
    (hph : w.ro.phase = .progressing) (hr : w.ro.reason = .inRolling) (hdel : w.ro.deleting = false)
    (hnp : w.ro.paused = false) (hbg : w.ro.style = .blueGreen) (hwl : w.wl = some wl) (hos : w.ro.sub = some os)
    (hne : os.canaryRev ≠ "") (hrev : wl.canaryRev ≠ os.canaryRev) (hnrb : wl.inRollback = false)
    (h : reconcile w = .val r) :
    r.w.wl = w.wl ∧ r.w.br = w.br ∧ r.w.net = w.net ∧ r.w.mem = w.mem ∧ r.roGone = false ∧ r.w.ro.reason = .inRolling ∧
    ∃ s', r.w.ro.sub = some s' ∧ s'.curIdx = os.curIdx ∧ s'.state = os.state := by
  have hgone : (handleFinalizer w.ro).2.1 = false :=
    Bool.eq_false_iff.mpr fun hg => by rw [((RV.Props.Rollout.handleFinalizer_guard w.ro).1 hg).1] at hdel; cases hdel
  have key : ∃ W rq ws s0, r = RolloutSM.resetOnExit w (RolloutSM.result w W rq false ws) ∧ W = { w with ro := W.ro } ∧
      W.ro.reason = .inRolling ∧ W.ro.sub = some s0 ∧ s0.curIdx = os.curIdx ∧ s0.state = os.state := by
    cases hc : wl.consistent with
    | false =>
      -- the workload status is not consistent: the reconcile only waits
      obtain ⟨r0, h0, rfl⟩ := RolloutSM.reconcile_val h
      have hfr := RV.Props.Reconcile.hf_frame w.ro
      rw [RolloutSM.reconcileCore_wait (hwl ▸ RolloutSM.calculateStatus_none (by rw [hfr, hdel]; exact Bool.false_ne_true)
        (by rw [hc]; exact Bool.false_ne_true))] at h0
      cases h0
      exact ⟨_, _, _, os, rfl, rfl, by rw [hfr]; exact hr, by rw [hfr]; exact hos, rfl, rfl⟩
    | true =>
      obtain ⟨r0, hir, rfl⟩ := RV.Props.Reconcile.reconcile_live h hph hr hos hwl hc
      -- `doProgressingInRolling` refuses the continuous release: it returns the status it was given
      have hnrb' : ¬ wl.inRollback = true := by rw [hnrb]; exact Bool.false_ne_true
      cases RolloutSM.inRolling_refuses hir hos hnrb' (by show ¬ w.ro.paused = true; rw [hnp]; exact Bool.false_ne_true)
        (by exact hbg) ⟨hne, hrev, hnrb'⟩
      refine ⟨{ w with ro := RV.Props.Reconcile.newStatus w.ro (RolloutSM.liveSub w.ro wl os) },
        false, (handleFinalizer w.ro).2.2 ++ [], _, rfl, rfl, hr, rfl, rfl, rfl⟩
  obtain ⟨W, rq, ws, s0, rfl, hW, hre, hs0, b1, b2⟩ := key
  rw [RolloutSM.resetOnExit_wl, RolloutSM.resetOnExit_br, RolloutSM.resetOnExit_net, RolloutSM.resetOnExit_mem,
    RolloutSM.resetOnExit_roGone, RolloutSM.resetOnExit_reason]
  exact ⟨by rw [hW]; rfl, by rw [hW]; rfl, by rw [hW]; rfl, by rw [hW]; rfl, hgone, hre,
    _, RolloutSM.resetOnExit_sub_some _ _ _ hs0, b1, b2⟩

theorem superseded_iff (s : BS) : superseded s = true ↔
    s.gone = false ∧ s.ro.style = .blueGreen ∧ s.ro.phase = .progressing ∧ s.ro.reason = .inRolling ∧ s.ro.deleting = false ∧
    s.ro.paused = false ∧ ∃ wl os, s.world.wl = some wl ∧ s.ro.sub = some os ∧ os.canaryRev ≠ "" ∧
      os.canaryRev ≠ s.world.updateRevision ∧ s.world.updateRevision ≠ s.world.currentRevision := by
  unfold superseded
  cases s.ro.sub with
  | none => simp
  | some os =>
    simp only [Bool.and_eq_true, Bool.not_eq_true', decide_eq_true_eq, Option.isSome_iff_exists, ne_eq, and_assoc,
      Option.some.injEq, exists_and_left, exists_and_right, exists_eq_left', @eq_comm _ RolloutSM.Style.blueGreen]

/-- **`bg_refuses_continuous`, the Rollout controller** (C10) — for EVERY state (reachable or not): while the workload is on a
    revision newer than the one the blue-green rollout is releasing (and it is not the stable one: the user has not rolled back),
    a Rollout reconcile changes nothing that is exposed — not the CloneSet's settings and markers, not the HPAs, not a network
    object, not the BatchRelease's plan — and the rollout stays on its step, in its step state, InRolling. -/
theorem bg_refuses_continuous_ro (s s' : BS) (hsup : superseded s = true) (hs : bgStep s .ro = some s') :
    refusesContinuous s .ro s' = true := by
  obtain ⟨hgone, hstyle, hph, hr, hdel, hnp, wl0, os, hwl0, hos, hne, hrev, hnotstable⟩ := (superseded_iff s).1 hsup
  rcases stepRo_cases bgLoop s s' hs with ⟨hg, _⟩ | ⟨_, v, r, hv, hrec, rfl⟩
  · rw [hgone] at hg; cases hg
  obtain ⟨wv, rfl, hcan, hnrb⟩ : ∃ wv, v = some wv ∧ wv.canaryRev = s.world.updateRevision ∧ wv.inRollback = false := by
    have hv : bgView s.world = some v := hv
    unfold bgView at hv
    rw [hwl0] at hv
    dsimp only at hv
    split at hv
    · cases hv
    · cases hv
      have : ¬ s.world.currentRevision = s.world.updateRevision := fun e => hnotstable e.symm
      exact ⟨_, rfl, rfl, by simp [this]⟩
  obtain ⟨_, e1, e2, _, e3, e4, sx, e5, e6, e7⟩ :=
    reconcile_superseded _ wv os r hph hr hdel hnp hstyle rfl hos hne (by rw [hcan]; exact fun e => hrev e.symm) hnrb hrec
  unfold refusesContinuous
  dsimp only
  rw [if_pos hsup, landRo_exposure s r e1 e2, hos, show (landRo bgLoop s r).ro.sub = some sx from e5]
  simp only [decide_true, Bool.true_and, Bool.and_eq_true, decide_eq_true_eq, Bool.not_eq_true']
  exact ⟨⟨⟨e6.symm, e7.symm⟩, e4⟩, e3⟩

/-- the sync step of the executor stops when it finds the workload on another revision than the one it recorded (and the
    release is Progressing, not finalizing): whatever else it finds first — an unobserved generation, a changed plan, a cursor
    outside the plan, a scaling — either stops as well or changes the status, which is persisted before anything acts -/
theorem sync_stops_superseded (br : BR) (info : ExecutorX.Info) (hph : br.status.phase = .progressing)
    (hnf : isPlanFinalizing br = false) (hrev : br.status.updateRevision ≠ "")
    (hne : info.updateRevision ≠ br.status.updateRevision) (hcur : info.updateRevision ≠ info.currentRevision)
    (hnp : info.statusReplicas ≠ info.updated) :
    ((syncDecide br br.status (Executor.syncInfo br br.status (some info)).1 (Executor.syncInfo br br.status (some info)).2).2 ||
      decide (refreshStatus (syncDecide br br.status (Executor.syncInfo br br.status (some info)).1
        (Executor.syncInfo br br.status (some info)).2).1 (Executor.syncInfo br br.status (some info)).2 ≠ br.status)) = true := by
  have hdel : br.deleting = false := by
    unfold isPlanFinalizing at hnf
    simp only [Bool.or_eq_false_iff] at hnf
    exact hnf.1.1
  have hnc : ¬ br.status.phase = .completed := by rw [hph]; decide
  -- what `SyncWorkloadInformation` reports: the generation is not observed yet, the size changed, or another template
  obtain ⟨ev, hsi, hev⟩ : ∃ ev, Executor.syncInfo br br.status (some info) = (ev, some info) ∧
      (ev = .stillReconciling ∨ (ev = .replicasChanged ∧ info.replicas ≠ br.status.observedReplicas) ∨
        ev = .podTemplateChanged) := by
    unfold Executor.syncInfo
    rw [if_neg (by rw [hdel]; exact Bool.false_ne_true)]
    dsimp only
    by_cases hobs : info.observedGeneration ≥ info.generation
    · rw [if_neg (not_not_intro hobs), if_neg hnp]
      by_cases hsc : br.status.observedReplicas ≠ -1 ∧ info.replicas ≠ br.status.observedReplicas
      · rw [if_pos hsc]; exact ⟨_, rfl, Or.inr (Or.inl ⟨rfl, hsc.2⟩)⟩
      · rw [if_neg hsc, if_neg (fun h => hcur h.2.1), if_pos ⟨hrev, hne⟩]
        exact ⟨_, rfl, Or.inr (Or.inr rfl)⟩
    · rw [if_pos hobs]; exact ⟨_, rfl, Or.inl rfl⟩
  rw [hsi]
  dsimp only
  apply (Bool.or_eq_true _ _).mpr
  generalize hr : syncDecide br br.status ev (some info) = r
  rcases RV.Executor.syncDecide_inv hr with h | h | ⟨_, hch⟩ | ⟨_, hu⟩ | ⟨⟨_, _, hch, hu⟩, _⟩
  · exact absurd h hnc
  · rw [hnf] at h; cases h
  · -- a changed plan is recalculated: the recorded hash changes
    right
    rw [decide_eq_true_eq]
    intro heq
    have := congrArg (·.hash) heq
    unfold isPlanChanged at hch
    simp only [Bool.and_eq_true, ne_eq, decide_eq_true_eq] at hch
    simp [refreshStatus, signalRecalculate] at this
    exact hch.1 this.symm
  · -- a cursor outside the plan resets the status
    right
    rw [decide_eq_true_eq]
    intro heq
    have := congrArg (·.phase) heq
    simp [refreshStatus, resetStatus, hph] at this
  · subst hr
    rcases hev with rfl | ⟨rfl, hsc⟩ | rfl
    · left; unfold syncDecide; simp [hnf, hch, hu, hph]
    · -- scaling: the recorded size changes
      right
      rw [decide_eq_true_eq]
      intro heq
      have := congrArg (·.observedReplicas) heq
      unfold syncDecide at this
      simp [hnf, hch, hu, hph, refreshStatus] at this
      exact hsc this
    · left; unfold syncDecide; simp [hnf, hch, hu, hph]

/-- landing what was projected changes nothing: the spec of the CloneSet is the same, so the generation is not bumped -/
theorem bgLand_proj (b : BW) : bgLand b (bgProj b) = b := by
  unfold bgLand bgProj
  cases hb : b.wl with
  | none => cases b; simp_all
  | some wl => cases b; simp_all

/-- **`bg_refuses_continuous`, the BatchRelease controller** (C10) — for EVERY state: while the workload is on a newer
    revision and the BatchRelease supervises the release it was created for (`brSupervises`), a BatchRelease reconcile stops
    after its sync step: nothing exposed changes.
    partial: outside `brSupervises` lies the open finding `supersedeBeforeInit` (the BatchRelease has not recorded its revision
    yet, or has recorded the newer one) — `bg_refuses_continuous_full_FALSE`. -/
theorem bg_refuses_continuous_br_partial (s s' : BS) (hsup : superseded s = true) (hg : brSupervises s = true)
    (hs : bgStep s .br = some s') : refusesContinuous s .br s' = true := by
  obtain ⟨hgone, _, _, hr, _, _, wl, os, hwl, hos, _, _, hnotstable⟩ := (superseded_iff s).1 hsup
  suffices h : s'.world = s.world ∧ s'.net = s.net ∧ s'.ro = s.ro ∧ s'.gone = s.gone ∧
      s'.br.map (fun b => ({ batches := b.batches, partition := b.partition, deleting := b.deleting } : BrPlan)) =
        s.br.map (fun b => { batches := b.batches, partition := b.partition, deleting := b.deleting }) by
    obtain ⟨h1, h2, h3, h4, h5⟩ := h
    have hexp : exposureOf s' = exposureOf s := by unfold exposureOf; rw [h1, h2, h5]
    unfold refusesContinuous
    dsimp only
    rw [if_pos hsup, h3, hos, hexp, h4, hgone, hr]
    simp
  rcases stepBr_cases bgLoop s s' hs with ⟨_, rfl⟩ | ⟨b, o, hb, ho, rfl⟩
  · exact ⟨rfl, rfl, rfl, rfl, rfl⟩
  unfold brSupervises at hg
  rw [hb, hwl] at hg
  simp only [Bool.and_eq_true, Bool.not_eq_true', decide_eq_true_eq, ne_eq] at hg
  obtain ⟨⟨⟨⟨⟨hpart, hdel⟩, hphase⟩, hrec⟩, hnew⟩, hnprom⟩ := hg
  cases ExecutorX.reconcileX_rec (P := bgPlane .cloneSet) (w := bgProj s.world) ho with
  | gone hd => rw [show (RV.ClosedLoop.exBr b).deleting = b.deleting from rfl, hdel] at hd; cases hd
  | stopped =>
    refine ⟨?_, rfl, rfl, rfl, ?_⟩
    · exact bgLand_proj _
    · show (Option.map (RV.ClosedLoop.stLand b) (some _)).map _ = _
      rw [hb]; rfl
  | executed _ hinfo h1 h2 =>
    -- the sync step cannot let the executor run: it stops or changes the status
    exfalso
    have hinit : Executor.initializedStatus (RV.ClosedLoop.exBr b).status = (Executor.withFinalizer (RV.ClosedLoop.exBr b)).status :=
      if_neg (by show ¬ b.st.phase = .empty; rw [hphase]; decide)
    rw [hinit] at hinfo h1 h2
    -- the plane's SyncWorkloadInformation is the event chain on the parsed CloneSet
    simp only [bgPlane, syncVia] at hinfo
    rw [if_neg (by show ¬ b.deleting = true; rw [hdel]; exact Bool.false_ne_true), bgInfo_proj _ wl hwl] at hinfo
    cases hrep : wl.replicas with
    | none => rw [hrep] at hinfo; cases hinfo
    | some R0 =>
      rw [hrep] at hinfo
      injection hinfo with hinfo
      have hstop := sync_stops_superseded (Executor.withFinalizer (RV.ClosedLoop.exBr b))
        (mkInfo R0 s.world.generation s.world.observedGeneration wl.status.replicas wl.status.updated wl.status.updatedReady
          s.world.updateRevision s.world.currentRevision) hphase
        (by show (b.deleting || decide (b.st.phase = .finalizing) || b.partition.isNone) = false
            cases hp : b.partition with
            | none => rw [hp] at hpart; cases hpart
            | some p => rw [hdel, hphase]; rfl)
        hrec (fun e => hnew e.symm) hnotstable hnprom
      rw [hinfo] at hstop
      dsimp only at hstop
      rw [h1] at hstop
      exact of_decide_eq_true hstop h2

/-- the ControllerFinder never crashes in a reachable state (`spec.replicas` is there) -/
theorem bg_finder_total (u : User) (s0 s : BS) (ls : List Label) (h0 : Init u s0) (hr : Reach s0 ls s) :
    ∃ w, roWorld bgLoop s = some w := by
  obtain ⟨wl, hwl, hc, _⟩ := (worldInv_iff u _).1 (bg_world_inv u s0 s ls h0 hr)
  unfold roWorld
  show ∃ w, (match bgView s.world with | none => none | some v => _) = some w
  unfold bgView
  rw [hwl]
  simp only [hc.replicas]
  exact ⟨_, rfl⟩

/-- **`bg_total_partial`** (C09) — in every state of every history from an initial state:
    (i) no transition other than the two reconcilers can crash (for every state at all);
    (ii) the Rollout reconcile does not crash unless the world the finder hands it is `corrupted` in the sense of
         `RV.Props.Reconcile.reconcile_total` (a Progressing condition without reason, an InRolling rollout without sub-status or with a
         step index outside the plan, a BatchRelease without batch partition while rolling) — that the finder itself never crashes is `bg_finder_total`;
    (iii) the BatchRelease reconcile can crash only in `UpgradeBatch` or the readiness check, and only when the persisted current batch
          lies outside the plan (`CalculateBatchContext` indexes `Batches[currentBatch]`).
    partial: that reachable states are never `corrupted` and that `0 ≤ currentBatch < #batches` whenever the executor indexes the plan
    needs the Rollout-side invariants (step index, partition = step − 1) lifted to this loop; on the walks of the real controllers the
    oracle `C09.bg_total` (no panic in any transition) is evaluated instead. -/
theorem bg_total_partial (u : User) (s0 s : BS) (ls : List Label) (h0 : Init u s0) (hr : Reach s0 ls s) :
    (∀ l, l ≠ .ro → l ≠ .br → bgStep s l ≠ none) ∧
    (∀ w, roWorld bgLoop s = some w → RV.Oracle.RolloutSM.corrupted w = false → bgStep s .ro ≠ none) ∧
    (bgStep s .br = none → ∃ b, s.br = some b ∧ entryOf (Executor.withFinalizer (RV.ClosedLoop.exBr b)) = none) := by
  refine ⟨?_, ?_, ?_⟩
  · intro l h1 h2
    cases l <;> first | exact absurd rfl h1 | exact absurd rfl h2 | (unfold bgStep; simp [step])
  · intro w hw hc
    unfold bgStep
    simp only [step, stepRo]
    split
    · simp
    · rw [hw]
      dsimp only
      have := RV.Props.Reconcile.reconcile_total w hc
      cases hrec : RolloutSM.reconcile w with
      | panic => exact absurd hrec this
      | val r => simp
  · intro hs
    unfold bgStep at hs
    simp only [step, stepBr] at hs
    split at hs
    · cases hs
    · rename_i b hb
      refine ⟨b, hb, ?_⟩
      split at hs
      · rename_i hpanic
        -- the world invariant: the CloneSet exists and has `spec.replicas`
        obtain ⟨wl, hwl, hc, _⟩ := (worldInv_iff u _).1 (bg_world_inv u s0 s ls h0 hr)
        have hrep := hc.replicas
        have hpw : (bgProj s.world).w.wl = some wl := hwl
        have hbi := bgInfo_proj s.world wl hwl
        rw [hrep] at hbi
        dsimp only at hbi
        cases he : entryOf (Executor.withFinalizer (RV.ClosedLoop.exBr b)) with
        | none => rfl
        | some e =>
        exfalso
        -- with `spec.replicas` and the plan entry there, no call of the blue-green control crashes
        have hcall : ∀ op, ∃ out, CtlBlueGreen.call .cloneSet op (bgProj s.world).w
            (bgBR (Executor.withFinalizer (RV.ClosedLoop.exBr b))) CtlBlueGreen.noFault = .val out := fun op => by
          refine RV.Props.CtlBlueGreen.no_panic .cloneSet op _ _ _ ?_
          have : CtlBlueGreen.entryOf (bgBR (Executor.withFinalizer (RV.ClosedLoop.exBr b))) = some e := he
          unfold RV.Oracle.CtlBlueGreen.panicAllowed
          rw [hpw]
          simp [hrep, this]
        have hpl : bgLoop.plane = bgPlane .cloneSet := rfl
        have hpj : bgLoop.proj s.world = bgProj s.world := rfl
        rw [hpl, hpj] at hpanic
        rcases RV.Props.ExecutorX.x_panics_only_in_plane (bgPlane .cloneSet) _ _ hpanic with
          ⟨ns, h⟩ | ⟨ns, h⟩ | ⟨ns, h⟩ | ⟨ns, h⟩ | h
        · simp only [bgPlane, syncVia] at h
          split at h
          · cases h
          · rw [hbi] at h; cases h
        · obtain ⟨out, hout⟩ := hcall .init
          simp only [bgPlane] at h
          simp only [CtlBlueGreen.call] at hout
          rw [hout, hbi] at h
          dsimp only at h
          split at h <;> cases h
        · obtain ⟨out, hout⟩ := hcall .upgrade
          simp only [bgPlane] at h
          simp only [CtlBlueGreen.call] at hout
          rw [hout] at h
          cases h
        · simp only [bgPlane] at h
          have hready : ∃ v, bgReady .cloneSet (Executor.withFinalizer (RV.ClosedLoop.exBr b)) (bgProj s.world) = .val v := by
            unfold bgReady
            rw [hbi]
            dsimp only
            split
            · exact ⟨_, rfl⟩
            · rw [hpw]
              dsimp only
              unfold RV.BatchCtx.calcCtx
              rw [he]
              exact ⟨_, rfl⟩
          obtain ⟨v, hv⟩ := hready
          rw [hv] at h
          cases h
        · obtain ⟨out, hout⟩ := hcall .fin
          simp only [bgPlane] at h
          simp only [CtlBlueGreen.call] at hout
          rw [hout] at h
          cases h
      · cases hs

theorem reach_append (s0 s s' : BS) (ls ls' : List Label) (h1 : Reach s0 ls s) (h2 : bgRun s ls' = some s') :
    Reach s0 (ls ++ ls') s' := by
  induction ls' generalizing s ls with
  | nil =>
    simp only [bgRun, run, Option.some.injEq] at h2
    subst h2; simpa using h1
  | cons l rest ih =>
    simp only [bgRun, run] at h2
    split at h2
    · cases h2
    · rename_i t ht
      have := ih t (ls ++ [l]) (Reach.snoc s0 s t ls l h1 ht) h2
      simpa using this

/-- a run of `bgRun` is a history: the runs the tests below evaluate are histories the theorems over `Reach` speak of -/
theorem reach_of_run (s s' : BS) (ls : List Label) (h : bgRun s ls = some s') : Reach s ls s' := by
  simpa using reach_append s s s' [] ls (Reach.nil s) h

def exU : User :=
  { replicas := 4, minReadySeconds := 5, maxSurge := some (pct 25), maxUnavailable := some (int 1), paused := false,
    stype := .expected, hpaV2 := [{ av := .same, kindSame := true, name := some 0 }], hpaV1 := [] }

def exRo : RolloutSM.Rollout :=
  { style := .blueGreen, steps := [⟨.pct 50, some 50, .manual⟩, ⟨.pct 100, none, .short⟩], paused := false, disabled := false,
    deleting := false, hasFinalizer := true, hasTraffic := true, disableGen := false, rollbackInBatch := false, grace := 3,
    phase := .healthy, reason := .none, condAge := .none, succeeded := none, term := .none, sub := none, realPartition := true }

def exS0 : BS :=
  { gone := false, ro := exRo,
    world := { wl := some (userWl exU), hpaV2 := exU.hpaV2, hpaV1 := [], generation := 1, observedGeneration := 1,
               updateRevision := "v1", currentRevision := "v1", inProgressAnno := false },
    br := none, net := { stableExists := true, stableSel := none, canarySvc := none, stableIngress := true, canaryIng := none },
    mem := Mem.empty }

def exRound : List Label := [.ro, .br, .env, .approve, .tick]
def rounds (n : Nat) : List Label := (List.replicate n exRound).flatten

/-- the hypotheses of the history theorems are satisfiable -/
example : Init exU exS0 :=
  { user := by decide, wl := rfl, rev := rfl, hpa2 := rfl, hpa1 := rfl, anno := rfl, br := rfl, present := rfl, style := rfl,
    phase := rfl, net := by decide }

/-- test (`bg_world_inv`, `bg_old_pods_kept`, `bg_no_promotion_while_held` are about states like this one): 17 fair rounds after the
    release of `v2` the rollout waits at step 1 — the hold is installed (minReadySeconds = MaxReadySeconds, the HPA disabled), 2 surge pods of
    `v2` run next to the 4 pods of `v1`, half of the traffic goes to the canary Service -/
example : (bgRun exS0 (.release "v2" :: rounds 17)).map (fun s =>
      s.ro.reason == .inRolling && (match s.ro.sub with | some x => x.curIdx == 1 && x.state == .ready | none => false) &&
      (match s.world.wl with | some w => hold w && w.minReadySeconds == maxReady && w.status.replicas == 6 && w.status.updated == 2 | none => false) &&
      s.world.hpaV2.map (·.name) == [some 1] && s.net.canaryIng == some 50 && worldInv exU s.world && stableKept exU s.world && oldPodsKept s) =
    some true := by decide +kernel

/-- test (`bg_settings_restored_partial` applies: the annotation is gone): the whole rollout finishes within 50 fair rounds — Healthy, no
    BatchRelease, every setting the user's again, the HPA re-enabled, the network objects gone, all 4 pods on `v2` -/
example : (bgRun exS0 (.release "v2" :: rounds 50)).map (fun s =>
      s.ro.phase == .healthy && s.br.isNone && terminal s && settingsRestored exU s &&
      (match s.world.wl with | some w => w.status.replicas == 4 && w.status.updated == 4 | none => false) && s.world.currentRevision == "v2") =
    some true := by decide +kernel

/-- test: the same with a crash of the controllers after every round (`crash` is a label of `Reach`: `Reach.crash`) -/
example : (bgRun exS0 (.release "v2" :: (List.replicate 50 (exRound ++ [.crash])).flatten)).map (fun s =>
      s.ro.phase == .healthy && terminal s && settingsRestored exU s) = some true := by decide +kernel

/-- test (`bg_refuses_continuous`): `v3` pushed while step 1 waits — superseded, the BatchRelease supervises — and 10 fair rounds later
    nothing that is exposed has changed; then the user rolls back to `v1` and the rollout is cancelled (Succeeded = false), everything restored
    but the partition -/
example : (bgRun exS0 (.release "v2" :: rounds 17 ++ [.release "v3", .env])).map exposureOf =
      (bgRun exS0 (.release "v2" :: rounds 17 ++ [.release "v3", .env] ++ rounds 10)).map exposureOf ∧
    (bgRun exS0 (.release "v2" :: rounds 17 ++ [.release "v3", .env])).map (fun s => superseded s && brSupervises s) = some true ∧
    (bgRun exS0 (.release "v2" :: rounds 17 ++ [.release "v3", .env] ++ rounds 10)).map (fun s => superseded s && brSupervises s) = some true := by
  decide +kernel

/-- **finding `csPartitionKept` in the closed loop — `bg_settings_restored_full_FALSE_partition`**: "every terminal state has the user's
    configuration back" is FALSE on the unchanged code.  Step 1 waits with 2 surge pods; the user rolls back to `v1` (the admission webhook
    holds the change back at partition 100 %); the rollback runs to its end — Healthy, Succeeded = false, BatchRelease gone, settings and HPA
    restored — and the CloneSet keeps `partition: 100%`: it will not follow its template until somebody clears it. -/
theorem bg_settings_restored_full_FALSE_partition :
    (bgRun exS0 (.release "v2" :: rounds 17 ++ [.release "v1"] ++ rounds 16)).map (fun s =>
      terminal s && s.ro.succeeded == some false && !settingsRestored exU s && gCsPartitionKept s &&
      (match s.world.wl with
       | some w => w.saved == .none && w.ctl == .none && w.minReadySeconds == 5 && w.partition == some (pct 100)
       | none => false)) = some true := by decide +kernel

/-- **fixed finding `bgCursorCarried` — regression example `bg_settings_restored_cursor_reset`**: the Rollout is deleted while its
    success clean-up waits at `ResumeWorkload` (the longest task: all pods have to be replaced).  Before the repair the deletion sequence continued from that
    cursor — `ResumeWorkload → ReleaseWorkloadControl → END` — and never ran what it has *before* `ResumeWorkload` in its own order
    (`RouteTrafficToStable`, `RemoveCanaryService`): the Rollout object was gone and the canary Ingress (weight 100) still there.
    With the cursor reset in `Reconcile` (`RV.RolloutSM.resetOnExit`) the reconcile that turns Progressing into Terminating clears the
    cursor; the deletion sequence runs from its first task, and ten rounds later the Rollout is gone with everything restored. -/
theorem bg_settings_restored_cursor_reset :
    -- the cursor when the user deletes the Rollout, and after the first reconcile that sees the deletion
    (bgRun exS0 (.release "v2" :: rounds 37)).map (fun s =>
      s.ro.phase == .progressing && s.ro.reason == .finalising && s.ro.sub.map (·.finStep) == some .resumeWorkload) = some true ∧
    (bgRun exS0 (.release "v2" :: rounds 37 ++ [.delete, .ro])).map (fun s =>
      s.ro.phase == .terminating && s.ro.sub.map (·.finStep) == some .empty) = some true ∧
    -- where the deletion ends
    (bgRun exS0 (.release "v2" :: rounds 37 ++ [.delete] ++ rounds 10)).map (fun s =>
      s.gone && terminal s && settingsRestored exU s && s.br.isNone && s.net.canaryIng.isNone && s.net.canarySvc.isNone) = some true := by
  decide +kernel

/-- **finding `bgRollbackNoSurge` — `bg_rollback_completes_full_FALSE`**: the user rolls back before the first pod of `v2` exists (the
    BatchRelease has just taken the CloneSet over).  No pod of another revision exists, so the finder reports no rollback
    (`updatedReplicas = replicas`); the Rollout controller takes `v1` for a *newer* revision, which blue-green refuses ("please rollback first").
    30 fair rounds later nothing has moved: InRolling, step 1 StepUpgrade, the hold still on the CloneSet, the HPA still disabled. -/
theorem bg_rollback_completes_full_FALSE :
    (bgRun exS0 (.release "v2" :: rounds 6 ++ [.release "v1"] ++ rounds 30)).map (fun s =>
      rollbackUnseen s && s.ro.phase == .progressing && s.ro.reason == .inRolling &&
      (match s.ro.sub with | some x => x.curIdx == 1 && x.state == .upgrade | none => false) && s.br.isSome &&
      (match s.world.wl with | some w => w.saved != .none && w.minReadySeconds == maxReady | none => false) &&
      s.world.hpaV2.map (·.name) == [some 1]) = some true := by decide +kernel

/-- **known finding `supersedeBeforeInit` in the blue-green loop — `bg_refuses_continuous_full_FALSE`**: `v3` is pushed when the
    BatchRelease for `v2` has just been created (nothing recorded: `brSupervises` fails).  `Initialize` records `v3`, `UpgradeBatch` raises
    the surge, the CloneSet controller starts 2 pods of `v3` — while the Rollout says step 1 of `v2` and refuses `v3`. -/
theorem bg_refuses_continuous_full_FALSE :
    (bgRun exS0 (.release "v2" :: rounds 5 ++ [.release "v3", .br, .env])).map (fun s => superseded s && !brSupervises s && adopted s) =
      some true ∧
    (bgRun exS0 (.release "v2" :: rounds 5 ++ [.release "v3", .br, .env, .br, .env, .br, .env, .br, .env])).map (fun s =>
      superseded s && s.world.updateRevision == "v3" &&
      (match s.world.wl with | some w => w.partition == none && w.status.updated == 2 | none => false) &&
      (match s.ro.sub with | some x => x.canaryRev == "v2" && x.curIdx == 1 | none => false)) = some true := by decide +kernel

end RV.Props.ClosedLoopBG
