import RV.Lemmas.Validate
/-!
# C09 (validation part) — what the Rollout validating webhook promises the controllers

Property C09, second sentence: *"Validation also keeps the structural promises the
controllers depend on: non-empty, non-decreasing steps, one Rollout per workload, and no
change of workload reference, traffic routing, style or step count while a release is
progressing."*  Quantifier: every Rollout spec, v1beta1 and v1alpha1, create and update.

`handleB` / `handleA` (`RV.Model.Validate`) are the transcription of
`RolloutCreateUpdateHandler.Handle` for the two API versions **after** the six repairs
`fixes/C09V-1 … 6.patch`; the correspondence suite `validate` compares them with the real
handler on every run, and evaluates the oracles below on the real handler's decisions.

All statements quantify over **every** store content (`List Stored`, any length), every
partition limit, every object (any number of steps, any values) — no bounds.

How to read the oracles (`RV.Oracle.C09V`):
* `specOKB r` / `specOKA r` = workload reference of a supported kind (v1beta1: exactly one strategy block, blue-green
  only for Deployment / CloneSet) ∧ steps non-empty ∧ every
  step has a valid replicas entry (v1alpha1: or a weight) ∧ `stepsNonDecreasing` ∧ traffic /
  weight in range ∧ at most one traffic routing, with a service and a named provider.
* `stepsNonDecreasing`: **every two steps of the same type** (both integer, or both percentage;
  a v1alpha1 weight-only step counts as a percentage), in plan order, do not decrease — see
  `nonDecreasing_meaning`.  An integer step and a percentage step are *not* comparable without the
  workload size; validation does not (and cannot) order them, and no claim is made about them.
* `unchangedB` / `unchangedA`: workload reference, traffic routings, rolling style (v1alpha1: the
  lower-cased style annotation, which with the reference determines the style) and number of
  steps are equal in old and new object.
* `noConflict`: no other Rollout of the namespace references the same workload (API group, kind,
  name).
-/
namespace RV.Props.C09Validate
open RV.Validate RV.Oracle.C09V RV.Arith

/-! ## meaning of the non-decreasing oracle -/

/-- `pairNonDecr` is the pairwise statement: for all positions `i < j` of the same type,
    `valueᵢ ≤ valueⱼ`. -/
theorem nonDecreasing_meaning (l : List (Bool × Int)) :
    pairNonDecr l = true ↔ l.Pairwise (fun a b => a.1 = b.1 → a.2 ≤ b.2) := by
  induction l with
  | nil => simp [pairNonDecr]
  | cons a rest ih =>
    simp only [pairNonDecr, Bool.and_eq_true, List.all_eq_true, List.pairwise_cons, ih]
    constructor
    · rintro ⟨h1, h2⟩
      refine ⟨fun b hb e => ?_, h2⟩
      have := h1 b hb
      simp only [Bool.or_eq_true, bne_iff_ne, ne_eq, decide_eq_true_eq] at this
      rcases this with h | h
      · exact absurd e h
      · exact h
    · rintro ⟨h1, h2⟩
      refine ⟨fun b hb => ?_, h2⟩
      simp only [Bool.or_eq_true, bne_iff_ne, ne_eq, decide_eq_true_eq]
      by_cases e : a.1 = b.1
      · exact Or.inr (h1 b hb e)
      · exact Or.inl e

/-- for a plan whose steps are all of one type the oracle is plain sortedness -/
theorem nonDecreasing_single_type (l : List (Bool × Int)) (t : Bool) (hall : ∀ k ∈ l, k.1 = t)
    (h : pairNonDecr l = true) : l.Pairwise (fun a b => a.2 ≤ b.2) := by
  rw [nonDecreasing_meaning] at h
  exact h.imp_of_mem fun {a b} ha hb hab => hab ((hall a ha).trans (hall b hb).symm)

/-! ## (i) structure of every admitted spec -/

/-- **v1beta1, create or update: an admitted Rollout has a supported workload reference, non-empty
    steps, valid replicas in every step, non-decreasing comparable steps, traffic in range and at
    most one (usable) traffic routing.** -/
theorem accepted_spec_v1beta1 (store : List Stored) (limit : Int) (op : Op) (obj : RolloutB)
    (old : Option RolloutB) (hop : op ≠ .other)
    (h : handleB store limit op obj old = .allowed) : specOKB obj = true := by
  exact (validateB_ok (handleB_allowed hop h)).1

/-- **v1alpha1, create or update: the same promises** (a step may carry a weight instead of
    replicas; every weight present is in (0,100]). -/
theorem accepted_spec_v1alpha1 (store : List Stored) (limit : Int) (op : Op) (obj : RolloutA)
    (old : Option RolloutA) (hop : op ≠ .other)
    (h : handleA store limit op obj old = .allowed) : specOKA obj = true := by
  exact (validateA_ok (handleA_allowed hop h)).1

/-! ## (ii) nothing structural changes while a release is progressing -/

/-- **v1beta1: an admitted update of a Rollout whose stored phase is Progressing or Terminating
    leaves workload reference, traffic routings, rolling style and step count unchanged**
    (and there was an old object with a strategy block to compare with). -/
theorem accepted_update_immutable_v1beta1 (store : List Stored) (limit : Int) (obj : RolloutB)
    (old : Option RolloutB) (h : handleB store limit .update obj old = .allowed)
    (hp : progressing store obj.ns obj.name = true) :
    ∃ o, old = some o ∧ unchangedB o obj = true := by
  simp only [handleB] at h
  cases old with
  | none => cases (respond_allowed h).2
  | some o =>
    obtain ⟨errs, he, himp⟩ := validateUpdateB_spec store limit o obj
    have hu := (respond_allowed (respond_allowed h).2).1
    rw [he] at hu
    cases hu
    exact ⟨o, rfl, himp rfl hp⟩

/-- **v1alpha1: the same** (style = the rolling-style annotation, compared case-insensitively). -/
theorem accepted_update_immutable_v1alpha1 (store : List Stored) (limit : Int) (obj : RolloutA)
    (old : Option RolloutA) (h : handleA store limit .update obj old = .allowed)
    (hp : progressing store obj.ns obj.name = true) :
    ∃ o, old = some o ∧ unchangedA o obj = true := by
  simp only [handleA] at h
  cases old with
  | none => cases (respond_allowed h).2
  | some o =>
    obtain ⟨errs, he, himp⟩ := validateUpdateA_spec store limit o obj
    have hu := (respond_allowed (respond_allowed h).2).1
    rw [he] at hu
    cases hu
    exact ⟨o, rfl, himp rfl hp⟩

/-! ## (iii) one Rollout per workload -/

/-- **v1beta1: an admitted Rollout is the only one of its namespace that references its workload**
    (API group, kind, name), whatever the store holds. -/
theorem accepted_no_conflict_v1beta1 (store : List Stored) (limit : Int) (op : Op) (obj : RolloutB)
    (old : Option RolloutB) (hop : op ≠ .other)
    (h : handleB store limit op obj old = .allowed) :
    noConflict store obj.ns obj.name obj.ref = true := by
  exact (validateB_ok (handleB_allowed hop h)).2

/-- **v1alpha1: the same; in particular the workload reference is present.** -/
theorem accepted_no_conflict_v1alpha1 (store : List Stored) (limit : Int) (op : Op) (obj : RolloutA)
    (old : Option RolloutA) (hop : op ≠ .other)
    (h : handleA store limit op obj old = .allowed) :
    ∃ ref, obj.ref = some ref ∧ noConflict store obj.ns obj.name ref = true := by
  exact (validateA_ok (handleA_allowed hop h)).2

/-! ## (iv) totality: the handler does not panic on any decodable request -/

/-- **v1beta1: `Handle` never reaches a nil dereference**, for every object, old object (present,
    absent, with or without strategy blocks) and store. -/
theorem handle_total_v1beta1 (store : List Stored) (limit : Int) (op : Op) (obj : RolloutB)
    (old : Option RolloutB) : handleB store limit op obj old ≠ .panic := by
  cases op with
  | other => nofun
  | create => simp only [handleB]; exact respond_ne_panic (validateB_ne_none _ _ _) nofun
  | update =>
    simp only [handleB]
    refine respond_ne_panic (validateB_ne_none _ _ _) ?_
    cases old with
    | none => nofun
    | some o =>
      obtain ⟨errs, he, _⟩ := validateUpdateB_spec store limit o obj
      exact respond_ne_panic (by rw [he]; nofun) nofun

/-- **v1alpha1: `Handle` never reaches a nil dereference** (workloadRef, canary block, weight and
    replicas may all be absent). -/
theorem handle_total_v1alpha1 (store : List Stored) (limit : Int) (op : Op) (obj : RolloutA)
    (old : Option RolloutA) : handleA store limit op obj old ≠ .panic := by
  cases op with
  | other => nofun
  | create => simp only [handleA]; exact respond_ne_panic (validateA_ne_none _ _ _) nofun
  | update =>
    simp only [handleA]
    refine respond_ne_panic (validateA_ne_none _ _ _) ?_
    cases old with
    | none => nofun
    | some o =>
      obtain ⟨errs, he, _⟩ := validateUpdateA_spec store limit o obj
      exact respond_ne_panic (by rw [he]; nofun) nofun


/-! ## non-vacuity: concrete requests that satisfy the hypotheses

(`decide` on literals — these are *tests* that the hypotheses are satisfiable by non-trivial
inputs and that the repaired behaviour rejects the finding witnesses; the ∀ claims are the
theorems above.) -/
section Examples

private def dep : Ref := ⟨"apps/v1", "Deployment", "w1"⟩
private def depOtherVersion : Ref := ⟨"apps/v1beta1", "Deployment", "w1"⟩
private def cs : Ref := ⟨"apps.kruise.io/v1alpha1", "CloneSet", "w1"⟩
private def ing : TR := { service := "svc", ingress := some ⟨"", "ing"⟩ }
private def i1 : Step := { replicas := some (.int 1) }
private def i3 : Step := { replicas := some (.int 3) }
private def i5 : Step := { replicas := some (.int 5) }
private def p10 : Step := { replicas := some (.pct 10) }
private def p10t : Step := { replicas := some (.pct 10), traffic := some (.pct 10) }
private def p100 : Step := { replicas := some (.pct 100) }
private def w20 : Step := { weight := some 20 }
private def w5 : Step := { weight := some 5 }
private def p50w : Step := { replicas := some (.pct 50), weight := some 50 }
private def p20w500 : Step := { replicas := some (.pct 20), weight := some 500 }

/-- a v1beta1 canary Rollout with a mixed int/percent plan, traffic and an ingress routing -/
private def goodB : RolloutB :=
  { ns := "ns1", name := "r1", ref := dep, canary := some { steps := [i1, p10t, i3, p100], trs := some [ing] } }
/-- a v1alpha1 partition-style Rollout with a weight-only step -/
private def goodA : RolloutA :=
  { ns := "ns1", name := "r1", anno := "Partition", ref := some cs,
    canary := some { steps := [w20, i3, p50w], trs := some [ing] } }
/-- the object is stored and Progressing; two other Rollouts exist (other workload / other namespace) -/
private def storeB : List Stored :=
  [{ ns := "ns1", name := "r1", ref := some dep, phase := "Progressing" },
   { ns := "ns1", name := "r2", ref := some cs, phase := "Healthy" },
   { ns := "ns2", name := "r9", ref := some dep, phase := "Healthy" }]
private def storeA : List Stored :=
  [{ ns := "ns1", name := "r1", ref := some cs, phase := "Terminating" },
   { ns := "ns1", name := "r2", ref := some dep, phase := "Healthy" }]

-- hypotheses of (i) and (iii) are satisfiable (create and update, both versions)
example : handleB storeB 50 .create goodB none = .allowed := by decide +kernel
example : handleA storeA 50 .create goodA none = .allowed := by decide +kernel
-- hypotheses of (ii) are satisfiable: an admitted update while Progressing / Terminating
example : handleB storeB 50 .update goodB (some goodB) = .allowed ∧ progressing storeB "ns1" "r1" = true := by decide +kernel
example : handleA storeA 50 .update goodA (some goodA) = .allowed ∧ progressing storeA "ns1" "r1" = true := by decide +kernel
-- … and the immutability really bites: dropping a step while Progressing is denied (both versions)
example : handleB storeB 50 .update { goodB with canary := some { steps := [i1, p10t, i3], trs := some [ing] } } (some goodB)
    = .denied 422 [.immutSteps] := by decide +kernel
example : handleA storeA 50 .update { goodA with canary := some { steps := [w20, i3], trs := some [ing] } } (some goodA)
    = .denied 422 [.immutSteps] := by decide +kernel

/-! the witnesses of corpus/validate/finding-{1,2,3,5,6}.jsonl by number (finding-4, a v1alpha1 update that drops steps
    while Progressing, is the `immutSteps` example above): each is denied with the error named, none reaches a nil
    dereference -/
-- 1: v1alpha1 object without workloadRef: denied with "WorkloadRef is required"
example : handleA [] 50 .create { goodA with ref := none } none = .denied 422 [.refRequired] := by decide +kernel
-- 2: old object without a strategy block while Progressing: denied
example : handleB storeB 50 .update goodB (some { goodB with canary := none }) = .denied 422 [.immutStyle] := by decide +kernel
example : handleA storeA 50 .update goodA (some { goodA with canary := none }) = .denied 422 [.immutStyle] := by decide +kernel
-- 3: v1alpha1 weight 500 next to replicas
example : handleA [] 50 .create { goodA with canary := some { steps := [p20w500] } } none = .denied 422 [.weightBad] := by decide +kernel
-- 5: 5, 10%, 3 — a decrease hidden behind a step of the other type
example : handleB [] 50 .create { goodB with canary := some { steps := [i5, p10, i3] } } none = .denied 422 [.nonDecr] := by decide +kernel
example : handleA [] 50 .create { goodA with canary := some { steps := [w20, i1, w5] } } none = .denied 422 [.nonDecr] := by decide +kernel
-- 6: apps/v1beta1 Deployment w1 is the workload apps/v1 Deployment w1
example : handleB storeB 50 .create { goodB with name := "r7", ref := depOtherVersion } none = .denied 422 [.conflict] := by decide +kernel

end Examples

end RV.Props.C09Validate
