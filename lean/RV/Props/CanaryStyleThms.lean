/-
  Canary-style Deployment rollouts (`v1beta1.IsRealPartition(rollout) = false`: workloadRef apps/v1 Deployment with
  `canary.enableExtraWorkloadForCanary`) in the model of one Rollout reconcile.

  C03.iv  the first step (with traffic) leaves `BeforeStepUpgrade` towards the upgrade only with the stable Service pinned to
          the stable revision — whatever the step's replicas (model level `initStep`, and for a whole reconcile)
  C04     the full-replica handling (`RestoreStableService` in `BeforeStepUpgrade`, the bypass past `StepTrafficRouting`
          after `StepUpgrade`) is partition-style only: a canary-style step never takes it
  C03     `StepUpgrade` records the workload's pod-template hash of this very reconcile
  first: what `PatchStableService` leaves behind (`ps_spec`, oracle `patchMeansPinned`)
-/
import RV.Lemmas.RollingStep
import RV.Lemmas.Traffic
namespace RV.Props.CanaryStyle
open RV.Arith RV.Traffic RV.RolloutSM RV.Oracle.RolloutSM RV.Props.Rollout RV.Props.Reconcile

/-- `PatchStableService` with a traffic routing ref and canary Service generation enabled: unless it reports an
    error, the stable Service exists and selects the stable revision afterwards.  (Not `RV.Props.Traffic.ps_spec`, of which this is the
    reading for a call without error; the property C03 lists it under this name.) -/
theorem ps_spec (c : TCtx) (n : Net) (m : Mem) (href : c.hasRef = true) (hdg : c.disableGen = false)
    (herr : (patchStableService c n m).err = false) :
    (patchStableService c n m).net.stableExists = true ∧ (patchStableService c n m).net.stableSel.getD "" = c.stableRev := by
  obtain ⟨hn, he, hk⟩ := RV.Props.Traffic.ps_spec c n m
  -- it fails exactly when the stable Service is missing
  have hex : n.stableExists = true := by
    cases hx : n.stableExists with
    | true => rfl
    | false => rw [he.mpr ⟨href, hdg, hx⟩] at herr; cases herr
  refine ⟨?_, hk href hdg hex⟩
  rcases hn with h | ⟨_, _, h⟩ <;> rw [h] <;> exact hex

/-- the run-time oracle `patchMeansPinned` holds of the model's `PatchStableService`, for every context, network state and memory -/
theorem patch_means_pinned (c : TCtx) (n : Net) (m : Mem) :
    RV.Oracle.Traffic.patchMeansPinned c (patchStableService c n m) = true := by
  unfold RV.Oracle.Traffic.patchMeansPinned
  by_cases h : (c.hasRef && !c.disableGen && !(patchStableService c n m).err) = true
  · simp only [Bool.and_eq_true, Bool.not_eq_true'] at h
    obtain ⟨⟨href, hdg⟩, herr⟩ := h
    obtain ⟨h1, h2⟩ := ps_spec c n m href hdg herr
    simp [href, hdg, herr, h1, h2]
  · simp only [Bool.not_eq_true] at h
    simp [h]

/-- **C03.iv (`BeforeStepUpgrade`)** — for every canary rollout that generates its canary Service, every step with
    traffic that is not a partition-style full step, and every context at step index 1: when `BeforeStepUpgrade` is left
    (the batch is handed to the BatchRelease), the stable Service exists and selects the stable revision recorded in
    the status. -/
theorem initStep_first_pins_of_not_full (ro : Rollout) (step : Step) (c c' : Ctx) (err : Bool)
    (hstyle : ro.style = .canary) (hdg : ro.disableGen = false)
    (hnf : ¬ (scaledV step.replicas c.wl.replicas true ≥ c.wl.replicas ∧ ro.realPartition = true))
    (htr : stepHasTraffic step = true) (hro : c.ro = ro) (hhas : ro.hasTraffic = true)
    (hidx : c.sub.curIdx = 1) (hinit : c.sub.state = .init)
    (h : initStep ro step c = .ok c' err) (hleft : c'.sub.state ≠ .init) :
    c'.net.stableExists = true ∧ c'.net.stableSel.getD "" = c'.sub.stableRev := by
  -- the one Manager call of this `BeforeStepUpgrade` is `PatchStableService`
  have hk : stateCall ro step c.wl c.sub = some .pin := by
    unfold stateCall
    rw [hinit]
    dsimp only
    rw [if_neg (by simp [htr]), if_pos hstyle, if_neg hnf, if_pos ⟨hidx, by simp [hdg]⟩]
  obtain ⟨t, ht, he, hn, hs⟩ := initStep_left hinit hk h hleft
  obtain ⟨f1, _, f2, f3, _⟩ := trCtx_inv ht
  rw [hn, hs, ← f3]
  exact ps_spec { t with hasRevKey := c.wlSeen } c.net c.mem (by simp [f1, hro, hhas]) (by simp [f2, hro, hdg]) he

/-- **C03.iv (`BeforeStepUpgrade`, canary style)** — for every canary-style rollout (`realPartition = false`) that
    generates its canary Service, every step with traffic — *whatever its replicas* — and every context at step
    index 1: when `BeforeStepUpgrade` is left, the stable Service exists and selects the stable revision. -/
theorem initStep_first_pins (ro : Rollout) (step : Step) (c c' : Ctx) (err : Bool)
    (hstyle : ro.style = .canary) (hreal : ro.realPartition = false) (hdg : ro.disableGen = false)
    (htr : stepHasTraffic step = true) (hro : c.ro = ro) (hhas : ro.hasTraffic = true)
    (hidx : c.sub.curIdx = 1) (hinit : c.sub.state = .init)
    (h : initStep ro step c = .ok c' err) (hleft : c'.sub.state ≠ .init) :
    c'.net.stableExists = true ∧ c'.net.stableSel.getD "" = c'.sub.stableRev :=
  initStep_first_pins_of_not_full ro step c c' err hstyle hdg (by simp [hreal]) htr hro hhas hidx hinit h hleft

/-- non-vacuity: a canary-style first step of 100 % with traffic, stable Service un-pinned, no grace period:
    the step leaves `BeforeStepUpgrade` and the Service is pinned to `v1`. (A test on one input, not the ∀ claim.) -/
example :
    let step : Step := { replicas := .pct 100, weight := some 20, pause := .manual }
    let ro : Rollout := { (default : Rollout) with style := .canary, steps := [step], hasTraffic := true, grace := 0, phase := .progressing, reason := .inRolling, realPartition := false }
    let sub : Sub := { (default : Sub) with curIdx := 1, nextIdx := -1, state := .init, stableRev := "v1", canaryRev := "v2", lastUpdate := .elapsed }
    let wl : WL := { consistent := true, inProgressAnno := true, canaryRev := "v2", stableRev := "v1", inRollback := false, replicas := 5, generation := 2, podTemplateHash := "" }
    let net : Net := { stableExists := true, stableSel := none, canarySvc := none, stableIngress := true, canaryIng := none }
    let c : Ctx := { ro := ro, sub := sub, wl := wl, br := none, net := net, mem := Mem.empty }
    (match initStep ro step c with
     | .ok c' _ => some (c'.sub.state, c'.net.stableSel)
     | .panic => none) = some (.upgrade, some "v1") := by
  decide

/-- **C03.iv (whole reconcile)** — for every world with a readable workload: when one reconcile moves a rolling
    canary rollout (traffic routing configured, canary Service generation enabled) out of `BeforeStepUpgrade` of its first
    step, a step with traffic — i.e. hands the first batch to the BatchRelease, before which no canary pod exists —
    the stable Service exists and selects the stable revision afterwards.  For a canary-style rollout
    (`realPartition = false`) whatever the step's replicas; for a partition-style one unless the step replaces every
    stable pod (the case of `full_step_unpins_first`). -/
theorem first_step_pins_stable (w : World) (r : StepResult) (h : reconcile w = .val r) : firstStepPinsStable w r = true := by
  unfold firstStepPinsStable
  cases hos : w.ro.sub with
  | none => rfl
  | some os =>
  cases hs' : r.w.ro.sub with
  | none => rfl
  | some s' =>
  cases hw : w.wl with
  | none => rfl
  | some wl =>
  dsimp only
  split
  · rename_i hc
    obtain ⟨hnow, hrr, hhas, hcons, hinit, hleft, hcur, hfirst⟩ := hc
    obtain ⟨nx, c', err, f, hrun, rfl, hnet⟩ :=
      reconcile_progress h hos hs' hw hnow (Or.inl hinit) hleft
        (by rw [hinit]; rcases hleft with h1 | h1 | h1 <;> rw [h1] <;> simp)
    obtain ⟨st, hstep, hstyle, hdg, htr, hone, hnf⟩ := (pinnedFirstStep_iff _ _ _).mp hfirst
    have hin := runCanary_init_left hrun hinit hleft hstep htr
    have y := syncStep_sameStep (toCtx { w with ro := newStatus w.ro (liveSub w.ro wl os) }
      { liveSub w.ro wl os with nextIdx := nx } wl)
    have hpin := initStep_first_pins_of_not_full (newStatus w.ro _) st _ c' err hstyle hdg (by rw [y.wl]; exact hnf)
      htr y.ro hhas (y.curIdx.trans hone) (y.state.trans hinit) hin
      (by rcases hleft with h1 | h1 | h1 <;> rw [h1] <;> simp)
    rw [hnet]
    simp [hpin.1, hpin.2]
  · rfl

/-- `StepUpgrade` ends in the same sub-state, in `StepTrafficRouting`, or — only for a partition-style canary rollout
    on a step whose replicas cover the whole workload — in `StepMetricsAnalysis` -/
theorem upgradeStep_bypass (ro : Rollout) (step : Step) (c c' : Ctx) (err : Bool)
    (h : upgradeStep ro step c = .ok c' err) :
    c'.sub.state = c.sub.state ∨ c'.sub.state = .trafficRouting ∨
    (c'.sub.state = .metricsAnalysis ∧ ro.style = .canary ∧ ro.realPartition = true ∧
      scaledV step.replicas c.wl.replicas true ≥ c.wl.replicas) := by
  rw [upgradeStep_eq] at h
  cases h
  rcases upgradeOut_sub ro step c with ⟨_, hs⟩ | ⟨_, hs⟩
  · exact .inl (by rw [hs])
  · rw [hs]
    dsimp only
    split
    · rename_i hb; exact .inr (.inr ⟨rfl, hb.1, hb.2.2, hb.2.1⟩)
    · exact .inr (.inl rfl)

/-- **C04 (scope of the full-step clause)** — a step counts as "replaces every stable pod" only for a partition-style
    canary rollout: `full_step_unpins_first` demands an un-pinned stable Service of no canary-style rollout. -/
theorem fullStep_partition_only (ro : Rollout) (s : Sub) (wl : WL) (h : fullStep ro s wl = true) :
    ro.style = .canary ∧ ro.realPartition = true := by
  unfold fullStep at h
  split at h
  · simp only [Bool.and_eq_true, decide_eq_true_eq] at h
    exact ⟨h.1.1.1, h.2⟩
  · cases h

/-- **C03 / C04 (one `runCanary`)** — for every context: a round of the release manager that starts in `BeforeStepUpgrade` or
    `StepUpgrade` and ends in `StepMetricsAnalysis` — i.e. skips `StepTrafficRouting` — belongs to a partition-style
    canary rollout.  A canary-style rollout (`realPartition = false`) never skips it. -/
theorem runCanary_bypass (c0 c' : Ctx) (err : Bool) (h : runCanary c0 = .ok c' err)
    (hfrom : c0.sub.state = .init ∨ c0.sub.state = .upgrade) (hto : c'.sub.state = .metricsAnalysis) :
    c0.ro.style = .canary ∧ c0.ro.realPartition = true := by
  cases runCanary_move h with
  | jump _ _ _ _ h1 => rcases h1 with h1 | ⟨h1, _⟩ <;> cases h1.symm.trans hto
  | advance _ _ _ _ _ h1 => cases h1.symm.trans hto
  | inStep _ _ _ hm =>
    cases hm with
    | stay h1 => rw [hto] at h1; rcases hfrom with e | e <;> cases h1.trans e
    | upgraded _ _ _ _ _ h1 =>
      rw [hto] at h1
      split at h1
      · rename_i hb; exact ⟨hb.1, hb.2.2⟩
      · cases h1
    | toUpgrade _ h1 => cases h1.symm.trans hto
    | routed h0 | analysed h0 | pauseDone h0 | complete h0 => rcases hfrom with e | e <;> cases h0.symm.trans e

/-- **C03 / C04 (whole reconcile)** — for every world with a readable workload: a reconcile that takes a rolling
    rollout from `BeforeStepUpgrade` / `StepUpgrade` straight to `StepMetricsAnalysis` (the step's traffic routing is skipped)
    is a reconcile of a partition-style canary rollout; a canary-style rollout always passes `StepTrafficRouting`. -/
theorem bypass_partition_only (w : World) (r : StepResult) (h : reconcile w = .val r) : bypassPartitionOnly w r = true := by
  unfold bypassPartitionOnly
  cases hos : w.ro.sub with
  | none => rfl
  | some os =>
  cases hs' : r.w.ro.sub with
  | none => rfl
  | some s' =>
  cases hw : w.wl with
  | none => rfl
  | some wl =>
  dsimp only
  split
  · rename_i hc
    obtain ⟨hnow, hrr, hcons, hfrom, hto⟩ := hc
    obtain ⟨nx, c', err, f, hrun, rfl, hnet⟩ :=
      reconcile_progress h hos hs' hw hnow hfrom (Or.inr (Or.inr hto))
        (by rw [hto]; rcases hfrom with hf | hf <;> rw [hf] <;> simp)
    obtain ⟨b1, b2⟩ := runCanary_bypass _ c' err hrun hfrom hto
    simp [show w.ro.style = .canary from b1, show w.ro.realPartition = true from b2]
  · rfl

/-- non-vacuity of the bypass statement: a partition-style 100 % step whose batch is reported ready does skip
    `StepTrafficRouting`; the same world as a canary-style rollout does not. (A test on two inputs.) -/
example :
    let step : Step := { replicas := .pct 100, weight := some 20, pause := .manual }
    let ro : Rollout := { (default : Rollout) with style := .canary, steps := [step], hasTraffic := true, grace := 0, phase := .progressing, reason := .inRolling }
    let sub : Sub := { (default : Sub) with curIdx := 1, nextIdx := -1, state := .upgrade, stableRev := "v1", canaryRev := "v2", lastUpdate := .elapsed }
    let wl : WL := { consistent := true, inProgressAnno := true, canaryRev := "v2", stableRev := "v1", inRollback := false, replicas := 5, generation := 2 }
    let br : BR := { (desiredBR ro "v2" 0 false) with batchReady := true, hashSame := true }
    let net : Net := { stableExists := true, stableSel := some "v1", canarySvc := none, stableIngress := true, canaryIng := none }
    let c : Ctx := { ro := ro, sub := sub, wl := wl, br := some br, net := net, mem := Mem.empty }
    let st (o : RunOut) : Option StepState := match o with | .ok c' _ => some c'.sub.state | .panic => none
    st (upgradeStep ro step c) = some .metricsAnalysis ∧
    st (upgradeStep { ro with realPartition := false } step { c with ro := { ro with realPartition := false } }) = some .trafficRouting := by
  decide

/-- **C03 (one `runCanary`)** — for every context: a round of the release manager that starts in `BeforeStepUpgrade` /
    `StepUpgrade` and ends in `StepTrafficRouting` / `StepMetricsAnalysis` (the step's pods were reported ready)
    records the workload's current `PodTemplateHash` — the canary ReplicaSet's hash for a canary-style Deployment. -/
theorem runCanary_podHash (c0 c' : Ctx) (err : Bool) (h : runCanary c0 = .ok c' err)
    (hfrom : c0.sub.state = .init ∨ c0.sub.state = .upgrade)
    (hto : c'.sub.state = .trafficRouting ∨ c'.sub.state = .metricsAnalysis) :
    c'.sub.podHash = c0.wl.podTemplateHash := by
  cases runCanary_move h with
  | jump _ _ _ _ h1 =>
    rcases h1 with h1 | ⟨_, hu⟩
    · rw [h1] at hto; simp at hto
    · unfold Upgraded at hu; rcases hfrom with e | e <;> rw [e] at hu <;> simp at hu
  | advance _ _ _ _ _ h1 => rw [h1] at hto; simp at hto
  | inStep _ _ _ hm =>
    cases hm with
    | stay h1 => rw [h1] at hto; rcases hfrom with e | e <;> rw [e] at hto <;> simp at hto
    | upgraded _ _ _ _ _ _ hph => exact hph
    | toUpgrade _ h1 => rw [h1] at hto; simp at hto
    | routed h0 | analysed h0 | pauseDone h0 | complete h0 => rcases hfrom with e | e <;> cases h0.symm.trans e

/-- **C03 (whole reconcile)** — for every world with a readable workload: a reconcile that finds the step's pods ready
    (status from `BeforeStepUpgrade` / `StepUpgrade` to `StepTrafficRouting` / `StepMetricsAnalysis`) records the workload's
    `PodTemplateHash` as reported by the finder in this very reconcile. -/
theorem upgrade_records_pod_hash (w : World) (r : StepResult) (h : reconcile w = .val r) : upgradeRecordsPodHash w r = true := by
  unfold upgradeRecordsPodHash
  cases hos : w.ro.sub with
  | none => rfl
  | some os =>
  cases hs' : r.w.ro.sub with
  | none => rfl
  | some s' =>
  cases hw : w.wl with
  | none => rfl
  | some wl =>
  dsimp only
  split
  · rename_i hc
    obtain ⟨hnow, hrr, hcons, hfrom, hto⟩ := hc
    obtain ⟨nx, c', err, f, hrun, rfl, hnet⟩ :=
      reconcile_progress h hos hs' hw hnow hfrom (hto.elim (fun hx => Or.inr (Or.inl hx)) (fun hx => Or.inr (Or.inr hx)))
        (by rcases hto with hx | hx <;> rw [hx] <;> rcases hfrom with hf | hf <;> rw [hf] <;> simp)
    have hb : c'.sub.podHash = wl.podTemplateHash := runCanary_podHash _ c' err hrun hfrom hto
    simp [hb]
  · rfl

end RV.Props.CanaryStyle
