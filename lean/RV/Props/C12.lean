import RV.Lemmas.LabelPatch
/-!
# C12 — pod batch labels

Model: `RV/Model/LabelPatch.lean` (literal transcription of
`pkg/controller/batchrelease/labelpatch/{patcher,filter}.go` **with** `fixes/C12-1.patch`:
a pod of this release whose batch-id label is not in `1 … len(batches)` is skipped in the first loop, where the
unchanged code indexes `plannedUpdatedReplicasForBatches[podBatchID-1]` out of range, defect #1).  Oracles: `RV/Oracle/C12.lean`.

Reading guide.  `patchPodBatchLabel env cfg pods` is one labelling pass over the list `pods`
handed to the patcher; its result `.done err ps` lists the `Patch` calls that were issued, in
order (`err = true`: the pass returned an error after them).  `applyPatches id ps pods` are the
pods afterwards.  The patcher judges "pod of the new revision" on the pod's labels *after* it
filled in `controller-revision-hash` from the owning ReplicaSet; `resolvePods env [] pods = some rps`
is that view (`rps[i].eff` = the hash used for pod `i`), `= none` means a ReplicaSet look-up
failed.  `planned` are the per-batch increments of the plan (`plannedIncrements`).

Every theorem is for **arbitrary** pod lists (any length, any label values: foreign,
non-numeric, out-of-range, empty), arbitrary plans, replica counts, current batch, ReplicaSet
tables and update revisions.
-/
namespace RV.Props.C12
open RV.Arith RV.LabelPatch RV.Oracle.C12

/-! ## Setting: what the increments are -/

/-- `calculatePlannedStepIncrements` returns one entry per batch of the plan. -/
theorem increments_length {batches : List IntOrPct} {R c : Int} {planned : List Int}
    (h : plannedIncrements batches R c = some planned) : planned.length = batches.length :=
  plannedIncrements_length h

/-- Entry `i ≤ currentBatch` of the increments is the cumulative target of batch `i` minus the
    cumulative target of batch `i-1` — "the number of pods batch `i` adds under the plan";
    entries behind the current batch are `0`. -/
theorem increments_meaning {batches : List IntOrPct} {R : Int} {c : Nat} {planned : List Int}
    (hc : c < batches.length) (h : plannedIncrements batches R c = some planned)
    (i : Nat) (hi : i < batches.length) :
    planned[i]? = some (if i = 0 then cumTarget batches R 0
                        else if i ≤ c then cumTarget batches R i - cumTarget batches R (i - 1) else 0) := by
  obtain ⟨s, p', h', g1, g2⟩ := plannedIncrements_loops (R := R) (show (c : Int) < batches.length by omega)
  cases h.symm.trans h'
  have hn : ((c : Int) + 1).toNat = c + 1 := by omega
  rw [g2 i, Int.toNat_natCast]
  by_cases hj : 1 ≤ i ∧ i ≤ c
  · rw [if_pos hj, g1 i, g1 (i - 1), hn, if_pos (by omega), if_pos (by omega), if_neg (by omega), if_pos hj.2]
    rfl
  · rw [if_neg hj, g1 i, hn]
    by_cases e : i = 0
    · subst e; simp
    · rw [if_neg (by omega), if_neg e, if_neg (by omega)]
      simp [hi]

/-! ## (i) only live pods of the new revision are labelled -/

/-- **C12.i**  Every patch that sets rollout-id / batch-id addresses a pod that is not
    terminating and is consistent with the update revision. -/
theorem live_new {env : Env} {cfg : Cfg} {pods : List Pod} {planned : List Int} {rps : List RPod}
    {e : Bool} {ps : List Patch}
    (hp : plannedIncrements cfg.batches cfg.replicas cfg.currentBatch = some planned)
    (hr : resolvePods env [] pods = some rps)
    (h : patchPodBatchLabel env cfg pods = .done e ps) :
    okLive cfg rps ps = true :=
  targets_all (patch_facts hp hr h).targets fun _ hc => (isCand_iff.mp hc).1

/-- A failed ReplicaSet look-up ends the pass with an error before any patch is issued. -/
theorem rs_lookup_error {env : Env} {cfg : Cfg} {pods : List Pod} {planned : List Int}
    (hp : plannedIncrements cfg.batches cfg.replicas cfg.currentBatch = some planned)
    (hr : resolvePods env [] pods = none) :
    patchPodBatchLabel env cfg pods = .done true [] :=
  patch_rsErr hp hr

/-! ## (ii) a batch is never over-labelled -/

/-- **C12.ii**  For every batch number `b` (every natural number, in or out of the plan): the
    number of live new-revision pods carrying `(rollout-id, b)` after the pass is at most the
    maximum of that number before the pass and the increment of batch `b`.  This holds for the
    patches actually issued, also when the pass stops early with an error.  `hlen`: the pass writes the batch number as
    a decimal label and it is counted afterwards through `strconv.Atoi`, which gives back the number written only up to
    `math.MaxInt64` (`RV.LabelPatch.atoi_itoa`). -/
theorem budget {env : Env} {cfg : Cfg} {pods : List Pod} {planned : List Int} {rps : List RPod}
    {e : Bool} {ps : List Patch}
    (hp : plannedIncrements cfg.batches cfg.replicas cfg.currentBatch = some planned)
    (hr : resolvePods env [] pods = some rps)
    (h : patchPodBatchLabel env cfg pods = .done e ps)
    (hlen : cfg.batches.length ≤ maxInt64) (b : Nat) :
    (labelled cfg b (withPods rps (applyPatches cfg.rolloutId ps pods)) : Int) ≤
      max (labelled cfg b rps : Int) (increment planned b) := by
  have f := patch_facts hp hr h
  have c1 := (count_after hp hr h hlen).1 b
  have c2 := f.budget b
  rw [budget_slots] at c2
  rw [c1]
  split at c2
  · omega
  · have : increment planned b = 0 := increment_out (by omega)
    omega

/-- the run-time oracle of (ii) is the same statement -/
theorem budget_oracle {env : Env} {cfg : Cfg} {pods : List Pod} {planned : List Int} {rps : List RPod}
    {e : Bool} {ps : List Patch}
    (hp : plannedIncrements cfg.batches cfg.replicas cfg.currentBatch = some planned)
    (hr : resolvePods env [] pods = some rps)
    (h : patchPodBatchLabel env cfg pods = .done e ps)
    (hlen : cfg.batches.length ≤ maxInt64) :
    okBudget cfg planned rps (withPods rps (applyPatches cfg.rolloutId ps pods)) = true := by
  unfold okBudget
  rw [List.all_eq_true]
  intro b _
  unfold okBudgetAt
  exact decide_eq_true (budget hp hr h hlen b)

/-- Every label patch carries a batch number of the plan (`1 ≤ b ≤ #batches`). -/
theorem batch_in_plan {env : Env} {cfg : Cfg} {pods : List Pod} {planned : List Int} {rps : List RPod}
    {e : Bool} {ps : List Patch}
    (hp : plannedIncrements cfg.batches cfg.replicas cfg.currentBatch = some planned)
    (hr : resolvePods env [] pods = some rps)
    (h : patchPodBatchLabel env cfg pods = .done e ps) :
    ∀ p ∈ ps, ∀ n, p.batch = some n → 1 ≤ n ∧ n ≤ cfg.batches.length := by
  intro p hpm n hn
  have := (patch_facts hp hr h).range p hpm n hn
  rw [plannedIncrements_length hp] at this
  exact this

/-! ## (iii) a pod labelled for this release is never relabelled -/

/-- **C12.iii**  No patch that sets rollout-id / batch-id addresses a pod whose rollout-id label
    already equals `ctx.RolloutID` — whatever its batch-id label says. -/
theorem never_relabelled {env : Env} {cfg : Cfg} {pods : List Pod} {planned : List Int} {rps : List RPod}
    {e : Bool} {ps : List Patch}
    (hp : plannedIncrements cfg.batches cfg.replicas cfg.currentBatch = some planned)
    (hr : resolvePods env [] pods = some rps)
    (h : patchPodBatchLabel env cfg pods = .done e ps) :
    okFresh cfg rps ps = true :=
  targets_all (patch_facts hp hr h).targets fun _ hc => by rw [(isCand_iff.mp hc).2]; rfl

/-- No pod receives two label patches in one pass. -/
theorem patched_once {env : Env} {cfg : Cfg} {pods : List Pod} {planned : List Int} {rps : List RPod}
    {e : Bool} {ps : List Patch}
    (hp : plannedIncrements cfg.batches cfg.replicas cfg.currentBatch = some planned)
    (hr : resolvePods env [] pods = some rps)
    (h : patchPodBatchLabel env cfg pods = .done e ps) :
    ps.Pairwise fun p q => p.batch.isSome = true → q.batch.isSome = true → p.idx ≠ q.idx :=
  (patch_facts hp hr h).distinct

/-! ## (iv) repeating the pass changes nothing -/

/-- every ReplicaSet hash is a non-empty string (`util.ComputeHash` returns the encoded
    decimal digits of a 32-bit number) -/
def hashesNonEmpty (env : Env) : Bool := env.rsHash.all fun x => x.2 != ""

/-- **C12.iv**  After a pass that returned without error, a second pass over the resulting
    pods issues no patch at all. -/
theorem idempotent {env : Env} {cfg : Cfg} {pods : List Pod} {planned : List Int} {rps : List RPod}
    {ps : List Patch}
    (hp : plannedIncrements cfg.batches cfg.replicas cfg.currentBatch = some planned)
    (hr : resolvePods env [] pods = some rps)
    (h : patchPodBatchLabel env cfg pods = .done false ps)
    (he : hashesNonEmpty env = true) (hlen : cfg.batches.length ≤ maxInt64) :
    okIdem (patchPodBatchLabel env cfg (applyPatches cfg.rolloutId ps pods)) = true := by
  have he' : NonEmptyVals env.rsHash := by
    intro x hx
    have := List.all_eq_true.mp he x hx
    simpa using this
  rw [second_pass_none hp hr h he' hlen]
  rfl

/-! ## (v) foreign and stale labels are not counted -/

instance (cfg : Cfg) (p q : Pod) : Decidable (ForeignEq cfg p q) := by
  unfold ForeignEq; exact inferInstance

/-- **C12.v**  The rollout-id / batch-id label values of pods that do not carry the rollout-id
    of this release have no influence on the pass: two pod lists that differ only in such
    values (the differing pods staying foreign) get exactly the same patches.  In particular a
    foreign pod's batch-id never consumes the budget of a batch. -/
theorem foreign_not_counted (env : Env) (cfg : Cfg) (pods pods' : List Pod)
    (hf : Pointwise (ForeignEq cfg) pods pods') :
    patchPodBatchLabel env cfg pods' = patchPodBatchLabel env cfg pods :=
  patch_foreign env cfg pods pods' hf

/-- the instance of (v) that is replayed on the real code on every run -/
theorem foreign_scramble (env : Env) (cfg : Cfg) (pods : List Pod) (hid : cfg.rolloutId ≠ "") :
    okForeign (patchPodBatchLabel env cfg pods) (patchPodBatchLabel env cfg (pods.map (scramble cfg))) = true := by
  rw [patch_foreign env cfg pods _ (pointwise_map _ _ (foreignEq_scramble cfg hid) pods)]
  simp [okForeign]

/-- **C12.v through the exported entry point**, for each of the three filters: relabelling
    foreign pods (any `f` that keeps every pod `ForeignEq` to itself, e.g. `scramble`) changes
    neither what the filter selects nor the patches. -/
theorem top_foreign_not_counted (env : Env) (k : FilterKind) (cfg : Cfg) (f : Pod → Pod)
    (hf : ∀ p, ForeignEq cfg p (f p)) (pods : List Pod) :
    (patchTop env k cfg (pods.map f)).2 = (patchTop env k cfg pods).2 := by
  unfold patchTop
  have he : (pods.map f).isEmpty = pods.isEmpty := by cases pods <;> rfl
  rw [he, applyFilter_map k cfg f hf]
  split
  · rfl
  · cases applyFilter k cfg pods with
    | none => rfl
    | some fp =>
      simp only [Option.map_some]
      exact patch_foreign env cfg fp _ (pointwise_map _ _ hf fp)

/-- Pods of this release whose batch-id is not a batch of the plan (non-numeric, `0`, negative,
    beyond the last batch) consume no budget either: the slots the second loop has for batch `b` (`slots` of the
    budgets `decAll` leaves, which is what the first loop leaves: `RV.LabelPatch.scan_eq`) are exactly
    `max 0 (increment b − #labelled(id, b))`. -/
theorem budget_left (cfg : Cfg) (planned : List Int) (rps : List RPod) (b : Nat) :
    (slots (decAll cfg planned rps).reverse).count b =
      if 1 ≤ b ∧ b ≤ planned.length then (increment planned b - (labelled cfg b rps : Int)).toNat else 0 :=
  budget_slots cfg planned rps b

/-! ## (vi) no label value can crash the patcher -/

/-- **C12.vi**  With `ctx.CurrentBatch < len(batches)` the pass never panics — for every pod
    list and every label value. -/
theorem no_panic (env : Env) (cfg : Cfg) (pods : List Pod) (hc : curInRange cfg = true) :
    noPanic (patchPodBatchLabel env cfg pods) = true := by
  obtain ⟨planned, hp⟩ := plannedIncrements_some (R := cfg.replicas) (by simpa [curInRange] using hc)
  cases hr : resolvePods env [] pods with
  | none => rw [patch_rsErr hp hr]; rfl
  | some rps =>
    rw [patch_decompose hp hr]
    split <;> rfl

/-- **C12.vi** for the exported entry point `PatchPodBatchLabel` with any of the three filters
    (`namesOk`: the ordered filter's `sort.Slice` is not asked to compare a pod whose *name*
    has no `-`; names are not labels). -/
theorem top_no_panic (env : Env) (k : FilterKind) (cfg : Cfg) (pods : List Pod)
    (hc : curInRange cfg = true) (hn : namesOk k pods = true) :
    noPanic (patchTop env k cfg pods).2 = true := by
  unfold patchTop
  split
  · rfl
  · obtain ⟨fp, hfp⟩ := applyFilter_some k cfg pods hn
    rw [hfp]
    exact no_panic env cfg fp hc

/-- The filters hand the patcher only pods of `ctx.Pods` (so (i) and (iii) speak about pods of
    the workload). -/
theorem filters_invent_no_pod (k : FilterKind) (cfg : Cfg) (pods fp : List Pod)
    (h : applyFilter k cfg pods = some fp) : ∀ p ∈ fp, p ∈ pods := by
  cases k with
  | none => cases h; exact fun _ hp => hp
  | unordered => cases h; rw [filterUnordered_eq]; exact selectPods_subset cfg _ _ pods
  | ordered =>
    simp only [applyFilter, filterOrdered_eq, Option.map_eq_some_iff] at h
    obtain ⟨s, hs, rfl⟩ := h
    exact fun p hp => (sortPods_mem pods s hs p).mp (selectPods_subset cfg _ _ s p hp)

/-- With no rollout-id or no pods nothing is patched. -/
theorem top_early (env : Env) (k : FilterKind) (cfg : Cfg) (pods : List Pod)
    (h : cfg.rolloutId = "" ∨ pods = []) : patchTop env k cfg pods = (pods, .done false []) := by
  unfold patchTop
  rcases h with h | h <;> simp [h]

/-! ## Non-vacuity and regression tests (tests on literals, not the ∀ claims) -/

section Examples

def mkPod (name : String) (ctrl : Option String) (rid bid : Option String) (term : Bool := false) : Pod :=
  { name := name, terminating := term, missing := false, tmplHash := none, ctrlHash := ctrl,
    owner := .none, rolloutId := rid, batchId := bid, noNeed := none }

/-- plan 25 % / 100 % of 4 replicas, second batch: increments `[1, 3]` -/
def xCfg : Cfg := { rolloutId := "r1", updateRevision := "rev-new", batches := [.pct 25, .pct 100],
                    replicas := 4, currentBatch := 1 }

/-- one pod already labelled `(r1, 2)`, one stale `(r0, 1)`, one of this release with an
    out-of-range batch-id `"7"`, two fresh new pods, one old-revision pod, one terminating -/
def xPods : List Pod :=
  [ mkPod "p-0" (some "rev-new") (some "r1") (some "2"),
    mkPod "p-1" (some "rev-new") (some "r0") (some "1"),
    mkPod "p-2" (some "rev-new") (some "r1") (some "7"),
    mkPod "p-3" (some "rev-new") none none,
    mkPod "p-4" (some "rev-new") none none,
    mkPod "p-5" (some "rev-old") none none,
    mkPod "p-6" (some "rev-new") none none true ]

def xRps : List RPod := xPods.map fun p => ⟨p, p.ctrlHash, none⟩

/-- the hypotheses of (i)–(iv) hold on a non-trivial input: three label patches
    (batch 2 for `p-4`, `p-3`; batch 1 for the stale `p-1`), none for `p-0`, `p-2`, `p-5`, `p-6` -/
example : plannedIncrements xCfg.batches xCfg.replicas xCfg.currentBatch = some [1, 3] ∧
    resolvePods ⟨[]⟩ [] xPods = some xRps ∧
    patchPodBatchLabel ⟨[]⟩ xCfg xPods = .done false [⟨4, some 2, none⟩, ⟨3, some 2, none⟩, ⟨1, some 1, none⟩] ∧
    hashesNonEmpty ⟨[]⟩ = true ∧ xCfg.batches.length ≤ maxInt64 ∧ curInRange xCfg = true := by decide +kernel

/-- … and the conclusions evaluate as stated on it (batch 2: 1 before, 3 after = increment) -/
example : labelled xCfg 2 xRps = 1 ∧
    labelled xCfg 2 (withPods xRps (applyPatches "r1" [⟨4, some 2, none⟩, ⟨3, some 2, none⟩, ⟨1, some 1, none⟩] xPods)) = 3 ∧
    increment [1, 3] 2 = 3 ∧
    patchPodBatchLabel ⟨[]⟩ xCfg (applyPatches "r1" [⟨4, some 2, none⟩, ⟨3, some 2, none⟩, ⟨1, some 1, none⟩] xPods)
      = .done false [] := by decide +kernel

/-- a Deployment-style input: the hash comes from the ReplicaSet, both pods get it patched -/
def dPods : List Pod :=
  [ { mkPod "d-0" none none none with tmplHash := some "t", owner := .rs "rs-new" "u1" },
    { mkPod "d-1" none (some "r1") (some "1") with tmplHash := some "t", owner := .rs "rs-new" "u1" } ]

example : resolvePods ⟨[("rs-new", "h9")]⟩ [] dPods = some [⟨dPods[0], some "h9", some "h9"⟩, ⟨dPods[1], some "h9", some "h9"⟩] ∧
    hashesNonEmpty ⟨[("rs-new", "h9")]⟩ = true ∧
    patchPodBatchLabel ⟨[("rs-new", "h9")]⟩ { xCfg with updateRevision := "demo-h9" } dPods
      = .done false [⟨0, some 2, some "h9"⟩, ⟨1, none, some "h9"⟩] := by decide +kernel

/-- (v): the hypothesis of `foreign_not_counted` holds of the scrambled list, which is not the original one (the stale
    pod `p-1` carries other label values) -/
example : Pointwise (ForeignEq xCfg) xPods (xPods.map (scramble xCfg)) ∧
    (xPods.map (scramble xCfg))[1]! ≠ xPods[1]! :=
  ⟨pointwise_map _ _ (foreignEq_scramble xCfg (by decide)) xPods, by decide +kernel⟩

/-- Defect #1 witnesses (batch-id "0", "7", "-3", and further out-of-plan, overflowing and non-numeric values, on a pod
    of the current release; the unchanged code indexes `plannedUpdatedReplicasForBatches[podBatchID-1]` out of range):
    the fixed code skips such a pod and labels the fresh one. -/
example : ∀ bid ∈ ["0", "7", "-3", "007", "-9223372036854775808", "99999999999999999999", "abc", ""],
    patchPodBatchLabel ⟨[]⟩ { xCfg with currentBatch := 0 }
      [mkPod "p-0" (some "rev-new") none none, mkPod "p-1" (some "rev-new") (some "r1") (some bid)]
      = .done false [⟨0, some 1, none⟩] := by decide +kernel

/-- outside the hypothesis of (vi): `CurrentBatch = len(batches)` indexes the plan out of range -/
example : patchPodBatchLabel ⟨[]⟩ { xCfg with currentBatch := 2 } xPods = .panic := by decide +kernel

/-- outside `namesOk`: the ordered filter panics on a pod name without `-` (two pods or more) -/
example : applyFilter .ordered xCfg [mkPod "nodash" none none none, mkPod "sts-1" none none none] = none := by decide +kernel

end Examples

end RV.Props.C12
