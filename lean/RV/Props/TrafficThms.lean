import RV.Lemmas.TrafficBridge
/-!
# Theorems about the traffic-routing Manager (used by C03, C04, C05, C07, C10)

All statements quantify over every network state (any selector values, any canary weight),
every expectation-map state and every context (grace period, step weight, revisions).

The Manager's functions are characterised one by one in `RV/Lemmas/Traffic.lean`.  The Manager is the instance `nginxW` of
the provider-parametric one (`RV/Lemmas/TrafficBridge.lean`): what is proved for every lawful provider in
`RV/Props/TrafficXThms.lean` / `TrafficXConv.lean` — done means routed, Services before routes, the fixed point, the two
convergence theorems — is obtained here from there.
-/
namespace RV.Props.Traffic
open RV.Traffic RV.Oracle.Traffic

section instance_of_the_generic_manager
open RV.TrafficX RV.Oracle.TrafficX RV.Props.TrafficX

/-- **C03.iii** — `DoTrafficRouting` reports *done* for a weight step only when the canary
    Service exists and selects the canary revision, the stable Service is pinned to the
    stable revision, and the canary share configured on the gateway equals exactly the
    step's weight. -/
theorem done_means_routed (c : TCtx) (n : Net) (m : Mem) :
    doneMeansRouted c (doTrafficRouting c n m).net (doTrafficRouting c n m).done = true := by
  rw [← doTR_is_instance c n m]
  have hX := doneX_means_routed nginxOps nginxW_lawful (ctxX c) Api.ok (netX n) m trivial
  generalize doTrafficRoutingX nginxOps (some nginxW) (ctxX c) Api.ok (netX n) m = o at hX ⊢
  unfold doneMeansRouted
  split
  · rename_i hd
    cases hw : c.weight with
    | none => rfl
    | some w =>
      obtain ⟨_, hin, hsp, _⟩ := hX hd.2 (weight_is_step c w hw) hd.1
      -- the provider's spec is the route clause of the oracle, `servicesInPlace` its Service clause
      have hroute : (o.net.g.2 = some w || (w = 0 && o.net.g.2 = none)) = true := by
        rw [show (ctxX c).strategy = some w from hw] at hsp
        rcases hsp with h | ⟨h0, h⟩
        · simp [h]
        · simp [h, h0]
      have hsvc : (c.disableGen || (o.net.canarySvc = some c.canaryRev && o.net.stableSel = some c.stableRev)) = true := by
        simp only [servicesInPlace, noGen_ctxX, Bool.or_eq_true, Bool.and_eq_true, beq_iff_eq] at hin
        simp only [Bool.or_eq_true, Bool.and_eq_true, decide_eq_true_eq]
        exact hin
      exact (Bool.and_eq_true _ _).mpr ⟨hroute, hsvc⟩
  · rfl

/-- **C04 / C03** — a call of `DoTrafficRouting` that changes the gateway found the canary Service
    already selecting the canary revision and the stable Service already pinned; it does not
    touch the Services in the same call. -/
theorem services_before_routes (c : TCtx) (n : Net) (m : Mem) :
    servicesBeforeRoutes c n (doTrafficRouting c n m).net = true := by
  rw [← doTR_is_instance c n m]
  unfold servicesBeforeRoutes
  split
  · rename_i hc
    obtain ⟨_, hin, _, _, h5, _⟩ := servicesX_before_routes nginxOps nginxW_lawful (ctxX c) Api.ok (netX n) m
      (.inl fun h => hc.1 (congrArg (·.2) h))
    simp only [servicesInPlace, noGen_ctxX, show c.disableGen = false by simpa using hc.2.2, Bool.false_or,
      Bool.and_eq_true, beq_iff_eq] at hin
    have h5' : (doTrafficRoutingX nginxOps (some nginxW) (ctxX c) Api.ok (netX n) m).net.canarySvc = n.canarySvc := h5
    have h1 : n.canarySvc = some c.canaryRev := hin.1
    have h2 : n.stableSel = some c.stableRev := hin.2
    simp [outOld, netOld, h1, h2, h5'.trans h1]
  · rfl

/-- **C07.iii** — when `DoTrafficRouting` reports *done* it has changed nothing: no API write,
    same network state, same expectation map.  Re-applying the same step is therefore a no-op
    that reports *done* again. -/
theorem done_is_fixed_point (c : TCtx) (n : Net) (m : Mem) (hdone : (doTrafficRouting c n m).done = true) :
    (doTrafficRouting c n m).net = n ∧ (doTrafficRouting c n m).mem = m ∧ (doTrafficRouting c n m).writes = [] ∧
    doTrafficRouting c (doTrafficRouting c n m).net (doTrafficRouting c n m).mem = doTrafficRouting c n m := by
  rw [← doTR_is_instance c n m] at hdone
  have hX := (doneX_is_fixed_point nginxOps nginxW_lawful (ctxX c) Api.ok (netX n) m trivial hdone Api.ok rfl).2
  rw [(doneX_strict nginxOps nginxW nginxW_strict (ctxX c) Api.ok (netX n) m hdone).1] at hX
  have e : doTrafficRouting c n m = ⟨true, false, n, m, false, []⟩ := by rw [← doTR_is_instance c n m, hX]; rfl
  rw [e]; exact ⟨rfl, rfl, rfl, e⟩

/-- **C07.iii (traffic routing converges)** — for every routing context with a route to manage, every network
    state in which the stable Service and Ingress exist, and every grace memory: if the caller comes back
    whenever its grace period has elapsed, `DoTrafficRouting` reports *done* after at most **four** further
    rounds — there is no state from which it keeps rewriting the network. -/
theorem doTR_converges (c : TCtx) (n : Net) (m : Mem) (w : Nat) (href : c.hasRef = true) (hw : c.weight = some w)
    (hex : n.stableExists = true) (hing : n.stableIngress = true) (hl : c.lastUpdate ≠ .fresh)
    (hrev : c.disableGen = true ∨ (c.stableRev ≠ "" ∧ c.canaryRev ≠ "")) :
    ∃ k, k ≤ 3 ∧ (doTrafficRouting c (iterNet c (k + 1) n) m).done = true := by
  obtain ⟨k, hk, hd⟩ := doTRX_converges_done nginxOps nginxW_lawful_ing nginxW_healthy (ctxX c) (netX n) m href
    (weight_is_step c w hw) hex hing (fun h => hl h.1) (hrev.imp_left (noGen_ctxX c).trans)
  rw [iterNetX_nginx] at hd
  have hd' : (doTrafficRouting c (iterNet c k n) m).done = true := by rw [← doTR_is_instance]; exact hd
  -- a done round is a fixed point, so the next round is done as well
  refine ⟨k, hk, ?_⟩
  rw [iterNet_succ, stepNet, doTR_mem c _ Mem.empty m, (done_is_fixed_point c _ m hd').1]
  exact hd'

/-- **one round of the clean-up makes progress**: it reports done, or strictly less is left afterwards -/
theorem fin_round_progress (c : TCtx) (n : Net) (m : Mem) (href : c.hasRef = true) (hg : c.grace ≠ 0) (hm : NoFresh m) :
    (finalisingTrafficRouting c n m).err = false ∧
    ((finalisingTrafficRouting c n m).done = true ∨
     leftover c (finalisingTrafficRouting c n m).net (tick (finalisingTrafficRouting c n m).mem) < leftover c n m) := by
  obtain ⟨he, _, _, hp⟩ := fin_round_progressX nginxW_lawful (ctxX c) (netX n) m trivial href
    (by rw [graceSec_ctxX]; exact hg) hm
  rw [← finalising_is_instance c n m]
  refine ⟨he, hp.imp id fun h => ?_⟩
  rw [← leftoverX_nginx, ← leftoverX_nginx] at h
  exact h

/-- **C05 / C07 (the traffic clean-up converges)** — for every routing context, every network state and every
    grace memory without a running period (e.g. the empty memory after a restart): if the caller comes back
    whenever its grace period has elapsed, `FinalisingTrafficRouting` reports *done* after at most
    `leftover ≤ 9` rounds (no round returns an error: `fin_round_progress`) — and by `finalising_order_partial` /
    `RV.Props.TRSM.finalising_done_clean` *done* means the stable Service is un-pinned, the canary route withdrawn and the
    canary Service removed, in that order. -/
theorem finalising_converges (c : TCtx) (n : Net) (m : Mem) (href : c.hasRef = true) (hg : c.grace ≠ 0) (hm : NoFresh m) :
    ∃ k, k ≤ 9 ∧ (finalisingTrafficRouting c (finIter c k (n, m)).1 (finIter c k (n, m)).2).done = true := by
  obtain ⟨k, hk, hd⟩ := finalisingX_converges nginxW_lawful (ctxX c) (netX n) m trivial href
    (by rw [graceSec_ctxX]; exact hg) hm
  refine ⟨k, hk, ?_⟩
  rw [show (n, m) = (netOld (netX n, m).1, (netX n, m).2) from rfl, finIterX_nginx, ← finalising_is_instance]
  exact hd

end instance_of_the_generic_manager

/-- an expectation whose period has elapsed behaves exactly like no expectation (so the harness may report
    both alike, and the background cleaner that drops elapsed entries changes nothing observable) -/
theorem runGrace_elapsed_none (g : Nat) (md : Bool) : runGrace g .elapsed md = runGrace g .none md := by
  unfold runGrace; split
  · rfl
  · split <;> rfl

theorem runGrace_cases (g : Nat) (e : Exp) (md : Bool) :
    (runGrace g e md).2 = false ∨ (runGrace g e md).2 = true := by
  cases (runGrace g e md).2 <;> simp

theorem before_shapes (x y z : List String)
    (hx : x = [] ∨ x = ["unpinStable"]) (hy : y = [] ∨ y = ["deleteCanaryIngress"])
    (hz : z = [] ∨ z = ["deleteCanarySvc"]) :
    before (x ++ y ++ z) "deleteCanaryIngress" "deleteCanarySvc" = true ∧
    before (x ++ y ++ z) "unpinStable" "deleteCanaryIngress" = true := by
  rcases hx with rfl | rfl <;> rcases hy with rfl | rfl <;> rcases hz with rfl | rfl <;> decide

/-- **C04 / C10 (partial: outside known finding noRevKey)** — `FinalisingTrafficRouting` un-pins the
    stable Service first, withdraws the route to the canary Service next and deletes the canary
    Service last; the canary Service is deleted only in a call that found (or left) no route to it;
    *done* means everything is restored.  Hypothesis: the revision label key is known, i.e. the
    controller could read the workload (see `finalising_order_full_FALSE`). -/
theorem finalising_order_partial (c : TCtx) (n : Net) (m : Mem) (hk : c.hasRevKey = true) :
    finalisingOrder c n (finalisingTrafficRouting c n m) = true := by
  -- The three calls `r1`, `r2`, `r3` each write at most their own one write (`before_shapes`: so the order is right whichever
  -- of them run) and the call ends at the first that asks for a retry (`finalising_cases`): the oracle's clauses are then the
  -- frames and post-conditions of the calls that ran (un-pinned, no canary route, no canary Service).
  cases href : c.hasRef
  · simp [finalisingOrder, finalisingTrafficRouting, href]
    decide
  have k1 := rs_spec c n m
  have k2 := rg_spec c (restoreStableService c n m).net (restoreStableService c n m).mem
  have k3 := rc_spec c (restoreGateway c (restoreStableService c n m).net (restoreStableService c n m).mem).net
    (restoreGateway c (restoreStableService c n m).net (restoreStableService c n m).mem).mem
  obtain ⟨-, hc⟩ := finalising_cases c n m href
  generalize restoreStableService c n m = r1 at k1 k2 k3 hc
  generalize restoreGateway c r1.net r1.mem = r2 at k2 k3 hc
  generalize removeCanaryService c r2.net r2.mem = r3 at k3 hc
  generalize finalisingTrafficRouting c n m = o at hc ⊢
  have hsh := before_shapes r1.writes r2.writes r3.writes k1.writes k2.writes k3.writes
  have hsh2 := before_shapes r1.writes r2.writes [] k1.writes k2.writes (.inl rfl)
  have hsh1 := before_shapes r1.writes [] [] k1.writes (.inl rfl) (.inl rfl)
  simp only [List.append_nil] at hsh2 hsh1
  simp only [List.append_assoc] at hsh
  have nc1 : "deleteCanarySvc" ∉ r1.writes := by rcases k1.writes with h | h <;> rw [h] <;> decide
  have nc2 : "deleteCanarySvc" ∉ r2.writes := by rcases k2.writes with h | h <;> rw [h] <;> decide
  have c2 : r2.net.canaryIng = none := k2.post href
  unfold finalisingOrder
  rcases hc with ⟨_, hd, hn, _, hw⟩ | ⟨_, _, hd, hn, _, hw⟩ | ⟨_, _, hd, hn, _, hw⟩ <;> rw [hd, hn, hw]
  · simp [hsh1, nc1, k1.kept (·.canarySvc) rfl]
  · simp [hsh2, nc1, nc2, c2]
  · have c3 : r3.net.canaryIng = none := (k3.kept (·.canaryIng) rfl).trans c2
    have hss : (r3.net.stableSel.getD "" == "" || !r3.net.stableExists) = true := by
      rw [k3.kept (·.stableSel) rfl, k2.kept (·.stableSel) rfl, k3.kept (·.stableExists) rfl, k2.kept (·.stableExists) rfl,
        k1.kept (·.stableExists) rfl]
      cases hse : n.stableExists
      · simp
      · simp [k1.post href hse hk]
    cases hdg : c.disableGen
    · simp [hsh, c3, hss, k3.post href hdg]
    · simp [hsh, c3, hss]

/-- The full-strength statement is FALSE on the unchanged code: when the controller cannot read the
    workload (it is gone, or its status is not yet consistent) the revision label key is empty,
    `RestoreStableService` finds nothing to remove, and the whole sequence reports *done* while the
    stable Service is still pinned to the old revision. -/
theorem finalising_order_full_FALSE :
    ∃ c n m, c.hasRevKey = false ∧ finalisingOrder c n (finalisingTrafficRouting c n m) = false := by
  refine ⟨{ hasRef := true, grace := 0, weight := none, disableGen := false, stableRev := "v1", canaryRev := "v2",
            lastUpdate := .none, hasRevKey := false },
          { stableExists := true, stableSel := some "v1", canarySvc := some "v2", stableIngress := true, canaryIng := some 20 },
          Mem.empty, rfl, by decide⟩

/-- for `RestoreStableService`, `RestoreGateway` and `PatchStableService` `TOut.done` is the *retry* flag of
    `runWithGraceSeconds` (`done = true`: come back after the grace period), and with a grace period configured a call
    that does not ask for a retry has issued no write -/
theorem restore_done_nowrite (c : TCtx) (n : Net) (m : Mem) (hg : c.grace ≠ 0) :
    ((restoreStableService c n m).done = false → (restoreStableService c n m).writes = [] ∧ (restoreStableService c n m).net = n) ∧
    ((restoreGateway c n m).done = false → (restoreGateway c n m).writes = [] ∧ (restoreGateway c n m).net = n) ∧
    ((patchStableService c n m).done = false → (patchStableService c n m).writes = [] ∧ (patchStableService c n m).net = n) := by
  -- each call by its guards: without a ref, the object or anything to modify it writes nothing; a modification with a grace
  -- period configured asks for the retry
  refine ⟨?_, ?_, ?_⟩
  · unfold restoreStableService runGrace
    by_cases h1 : c.hasRef = true
    · by_cases h2 : n.stableExists = true
      · by_cases h3 : n.stableSel.getD "" = "" <;> by_cases h4 : c.hasRevKey = true <;> simp [h1, h2, h3, h4, hg]
      · simp [h1, h2]
    · simp [h1]
  · unfold restoreGateway runGrace finaliseGw
    by_cases h1 : c.hasRef = true
    · obtain ⟨a, b, cs, d, e⟩ := n
      cases e <;> simp [h1, hg]
    · simp [h1]
  · unfold patchStableService runGrace
    by_cases h1 : c.hasRef = true
    · by_cases h0 : c.disableGen = true
      · simp [h1, h0]
      · by_cases h2 : n.stableExists = true
        · by_cases h3 : n.stableSel.getD "" = c.stableRev <;> simp [h1, h0, h2, h3, hg]
        · simp [h1, h0, h2]
    · simp [h1]

/-- **C05 (frame)** — each Manager call writes only the objects it is responsible for. -/
theorem call_frame (c : TCtx) (n : Net) (m : Mem) :
    frame "patchStableService" n (patchStableService c n m).net = true ∧
    frame "restoreStableService" n (restoreStableService c n m).net = true ∧
    frame "restoreGateway" n (restoreGateway c n m).net = true ∧
    frame "removeCanaryService" n (removeCanaryService c n m).net = true := by
  have hs := rs_spec c n m
  have hg := rg_spec c n m
  have hc := rc_spec c n m
  -- each call leaves the network as it was or with its own field changed (`ps_spec`, `Restored.kept`)
  refine ⟨?_, ?_, ?_, ?_⟩
  · rcases (ps_spec c n m).1 with h | ⟨_, _, h⟩ <;> rw [h] <;> simp [frame]
  · simp [frame, hs.kept (·.canarySvc) rfl, hs.kept (·.canaryIng) rfl, hs.kept (·.stableIngress) rfl, hs.kept (·.stableExists) rfl]
  · simp [frame, hg.kept (·.canarySvc) rfl, hg.kept (·.stableSel) rfl, hg.kept (·.stableExists) rfl]
  · simp [frame, hc.kept (·.stableSel) rfl, hc.kept (·.canaryIng) rfl, hc.kept (·.stableExists) rfl]

/-- the provider step converges in at most three rounds: create the canary Ingress, set the weight, verify -/
theorem routeStep_converges (n : Net) (m : Mem) (w : Nat) (hing : n.stableIngress = true) :
    (routeStep n m w).done = true ∨
    (routeStep (routeStep n m w).net m w).done = true ∨
    (routeStep (routeStep (routeStep n m w).net m w).net m w).done = true := by
  -- by the canary Ingress: absent (done at weight 0; else created at weight 0, then set, then verified), at another weight
  -- (set, then verified), at the weight (verified)
  unfold routeStep ensureRoutes
  cases hci : n.canaryIng with
  | none =>
    by_cases hw0 : w = 0
    · left; simp [hw0]
    · right
      by_cases h0 : (0 : Nat) = w
      · exact absurd h0.symm hw0
      · right
        simp [hw0, hing, h0]
  | some x =>
    by_cases hx : x = w
    · left; simp [hx]
    · right; left
      simp [hx]

theorem finalising_immediate (c : TCtx) (n : Net) (m : Mem) (hg : c.grace = 0) :
    (finalisingTrafficRouting c n m).done = true ∧ (finalisingTrafficRouting c n m).err = false := by
  -- with grace 0 `runGrace` never asks for a retry, so none of the three calls ends the round
  unfold finalisingTrafficRouting restoreStableService restoreGateway removeCanaryService runGrace finaliseGw
  by_cases href : c.hasRef = true
  · by_cases hex : n.stableExists = true
    · by_cases hd : c.disableGen = true <;> simp [href, hex, hd, hg]
    · by_cases hd : c.disableGen = true <;> simp [href, hex, hd, hg]
  · simp [href]

def exCtx : TCtx :=
  { hasRef := true, grace := 3, weight := some 20, disableGen := false, stableRev := "v1", canaryRev := "v2",
    lastUpdate := .elapsed }
def exRouted : Net :=
  { stableExists := true, stableSel := some "v1", canarySvc := some "v2", stableIngress := true, canaryIng := some 20 }
def exFresh : Net :=
  { stableExists := true, stableSel := none, canarySvc := none, stableIngress := true, canaryIng := none }

/-- a routed step reports done (hypothesis of `done_is_fixed_point`) -/
example : (doTrafficRouting exCtx exRouted Mem.empty).done = true := by decide
/-- from a fresh network the first call is not done and creates the canary Service before any route -/
example : (doTrafficRouting exCtx exFresh Mem.empty).done = false ∧
    (doTrafficRouting exCtx exFresh Mem.empty).net.canaryIng = none := by decide
/-- finalising a routed network takes several rounds: the first one only un-pins the stable Service -/
example : (finalisingTrafficRouting exCtx exRouted Mem.empty).done = false ∧
    (finalisingTrafficRouting exCtx exRouted Mem.empty).writes = ["unpinStable"] := by decide
/-- with the grace period off everything is restored in one call, in the proved order -/
example : (finalisingTrafficRouting { exCtx with grace := 0 } exRouted Mem.empty).writes =
    ["unpinStable", "deleteCanaryIngress", "deleteCanarySvc"] := by decide

theorem runGrace_retry_pos (g : Nat) (e : Exp) (md : Bool) (h : (runGrace g e md).2 = true) : g > 0 := by
  unfold runGrace at h
  split at h
  · cases h
  · omega

/-- **C07** — every retry-style Manager call (`PatchStableService`, `RestoreStableService`, `RestoreGateway`,
    `RemoveCanaryService`, `RouteAllTrafficToNewVersion`) that says "retry" without an error was configured with a
    positive grace period: with `gracePeriodSeconds: 0` ("no need to wait") no call ever asks to be re-run, so the
    reconciler never waits for a recheck whose duration is zero.  Every context, network state and memory. -/
theorem retry_needs_grace (call : String) (f : TCtx → Net → Mem → TOut) (c : TCtx) (n : Net) (m : Mem)
    (hf : (call = "patchStableService" ∧ f = patchStableService) ∨ (call = "restoreStableService" ∧ f = restoreStableService) ∨
          (call = "restoreGateway" ∧ f = restoreGateway) ∨ (call = "removeCanaryService" ∧ f = removeCanaryService) ∨
          (call = "routeAllToNew" ∧ f = routeAllToNew))
    (hd : (f c n m).done = true) (he : (f c n m).err = false) : c.grace > 0 := by
  rcases Nat.eq_zero_or_pos c.grace with hg | hg
  · -- with grace 0 `runGrace` answers `(none, false)`: the only `done = true` left is the error return of
    -- `RouteAllTrafficToNewVersion`
    exfalso
    rcases hf with ⟨_, rfl⟩ | ⟨_, rfl⟩ | ⟨_, rfl⟩ | ⟨_, rfl⟩ | ⟨_, rfl⟩
    · by_cases h1 : c.hasRef = true <;> by_cases h2 : c.disableGen = true <;> by_cases h3 : n.stableExists = true <;>
        simp [patchStableService, runGrace, hg, h1, h2, h3] at hd he
    · by_cases h1 : c.hasRef = true <;> by_cases h3 : n.stableExists = true <;>
        simp [restoreStableService, runGrace, hg, h1, h3] at hd
    · by_cases h1 : c.hasRef = true <;> simp [restoreGateway, runGrace, hg, h1] at hd
    · by_cases h1 : c.hasRef = true <;> by_cases h2 : c.disableGen = true <;>
        simp [removeCanaryService, runGrace, hg, h1, h2] at hd
    · by_cases h1 : c.hasRef = true <;> by_cases h2 : (ensureRoutes n 100).2.2 = true <;>
        simp [routeAllToNew, runGrace, hg, h1, h2] at hd he
  · exact hg

/-- the same for `FinalisingTrafficRouting`: "not done" without an error means one of its three parts asked for
    a retry, which needs a positive grace period -/
theorem finalising_wait_needs_grace (c : TCtx) (n : Net) (m : Mem) (href : c.hasRef = true)
    (hd : (finalisingTrafficRouting c n m).done = false) (he : (finalisingTrafficRouting c n m).err = false) : c.grace > 0 := by
  obtain ⟨_, ⟨d1, _⟩ | ⟨_, d2, _⟩ | ⟨_, _, d3, _⟩⟩ := finalising_cases c n m href
  · exact retry_needs_grace "restoreStableService" _ c n m (Or.inr (Or.inl ⟨rfl, rfl⟩)) d1 (rs_spec c n m).err
  · exact retry_needs_grace "restoreGateway" _ c _ _ (Or.inr (Or.inr (Or.inl ⟨rfl, rfl⟩))) d2 (rg_spec c _ _).err
  · rw [hd] at d3
    exact retry_needs_grace "removeCanaryService" _ c _ _ (Or.inr (Or.inr (Or.inr (Or.inl ⟨rfl, rfl⟩))))
      (by simpa using d3.symm) (rc_spec c _ _).err

/-- non-vacuity: a configured grace period and a Service that has to be re-selected do give a retry -/
example : (patchStableService ⟨true, 3, some 20, false, "v1", "v2", Age.none, true⟩ ⟨true, none, none, true, none⟩ Mem.empty).done = true := by
  decide

end RV.Props.Traffic
