import RV.Lemmas.ReconcileFrame
/-!
# C01 across edits of the plan — `recalculateCanaryStep` covers what was already released

`recalc_covers`: the index `recalculateCanaryStep` returns is a step of the new plan whose replicas are at least what
the BatchRelease's `batchPartition` had authorised under the old plan, whenever the new plan has such a step.
`inRolling_recalc_covers`: the plan-changed branch of `doProgressingInRolling` leaves the rollout on that step or about
to move to it.  Every plan, every replica count, every BatchRelease.
-/
namespace RV.Props.Recalc
open RV.Arith RV.Traffic RV.RolloutSM RV.Oracle.RolloutSM RV.Props.Rollout RV.Props.Reconcile

theorem go_covers (ro : Rollout) (wl : WL) (cr : Int) (order : List Nat) (acc : Int)
    (hex : ∃ i ∈ order, ∃ st, ro.steps[i]? = some st ∧ cr ≤ scaledV st.replicas wl.replicas true)
    (hord : ∀ i ∈ order, i < ro.steps.length) :
    ∃ st, ro.steps[(recalculateCanaryStep.go ro wl cr order acc - 1).toNat]? = some st ∧
      cr ≤ scaledV st.replicas wl.replicas true ∧ 1 ≤ recalculateCanaryStep.go ro wl cr order acc := by
  obtain ⟨j, hj, st, hst, hcov⟩ := hex
  rcases recalc_go_spec ro wl cr order acc hord with ⟨hnil, _⟩ | ⟨i, hi, hgo, ⟨st', hst', hc⟩ | hall⟩
  · rw [hnil] at hj; cases hj
  · refine ⟨st', ?_, hc, by omega⟩
    have : (recalculateCanaryStep.go ro wl cr order acc - 1).toNat = i := by omega
    rw [this]; exact hst'
  · exact absurd hcov (hall j hj st hst)

/-- **`recalculateCanaryStep` covers what was released**: for every plan, status, workload and BatchRelease whose
    partition points into its own plan — if some step of the (new) plan allows at least the replicas the BatchRelease's
    partition entry stands for, the recalculated index is such a step. -/
theorem recalc_covers (ro : Rollout) (s : Sub) (wl : WL) (b : BR) (rel k : Int)
    (hk : recalculateCanaryStep ro s wl (some b) = some k) (hrel : releasedByBR b wl = some rel)
    (hex : (List.range ro.steps.length).any (fun i => coversIdx ro wl rel ((i : Int) + 1)) = true) :
    coversIdx ro wl rel k = true := by
  unfold releasedByBR at hrel
  cases hp : b.partition with
  | none => rw [hp] at hrel; cases hrel
  | some p =>
    rw [hp] at hrel
    dsimp only at hrel
    by_cases hneg : p < 0
    · rw [if_pos hneg] at hrel; cases hrel
    · rw [if_neg hneg] at hrel
      cases he : b.batches[p.toNat]? with
      | none => rw [he] at hrel; cases hrel
      | some e =>
        rw [he] at hrel
        rw [recalc_eq ro s wl b p e hp hneg he] at hk
        simp only [Option.map_some, Option.some.injEq] at hrel hk
        subst hrel
        -- a covering step exists in the visiting order
        rw [List.any_eq_true] at hex
        obtain ⟨i, hi, hcov⟩ := hex
        have hin : i < ro.steps.length := by simpa using hi
        unfold coversIdx stepReplicas at hcov
        rw [if_neg (by omega)] at hcov
        have hidx : ((i : Int) + 1 - 1).toNat = i := by omega
        rw [hidx] at hcov
        have hget : ro.steps[i]? = some ro.steps[i] := by simp [hin]
        rw [hget] at hcov
        simp only [Option.map_some, decide_eq_true_eq] at hcov
        obtain ⟨st, hst, hc, h1⟩ := go_covers ro wl (scaledV e wl.replicas true) (visitOrder ro.steps.length (s.curIdx - 1)) 0
          ⟨i, visitOrder_complete _ _ i hin, ro.steps[i], hget, hcov⟩ (visitOrder_bound _ _)
        subst hk
        unfold coversIdx stepReplicas
        rw [if_neg (by omega), hst]
        simp [hc]

theorem inRolling_recalc_covers (w : World) (old ns : Rollout) (s os : Sub) (wl : WL) (b : BR) (r : StepResult) (s' : Sub) (rel : Int)
    (hold : old.sub = some os) (hbr : w.br = some b)
    (h : inRolling w old ns s wl = .val r) (hs' : r.w.ro.sub = some s')
    (hnp : ns.paused = false) (hnr : wl.inRollback = false) (hrev : wl.canaryRev = os.canaryRev) (hhash : os.hash = .differs)
    (hrel : releasedByBR b wl = some rel)
    (hex : (List.range ns.steps.length).any (fun i => coversIdx ns wl rel ((i : Int) + 1)) = true) :
    coversIdx ns wl rel s'.curIdx = true ∨ coversIdx ns wl rel s'.nextIdx = true := by
  have hnc : ¬ Continuous os wl := fun hc => hc.2.1 hrev
  have hpc : PlanChanged os := by rw [PlanChanged, hhash]; exact ⟨nofun, nofun⟩
  cases inRolling_dispatch h hold with
  | cancelling hrb | rollbackInBatch _ hrb => cases hnr.symm.trans hrb.1
  | paused _ hp => cases hnp.symm.trans hp
  | continuousBlueGreen _ _ hc | reset _ _ hc => exact (hnc hc).elim
  | completed _ _ _ hh | run _ _ _ hh => exact (hh hpc).elim
  | planSame _ _ _ _ hre =>
    cases hs'
    exact Or.inr (recalc_covers ns s wl b rel _ (hbr ▸ hre) hrel hex)
  | planJump _ _ _ _ newIdx hre _ s2 j hj =>
    cases hs'
    have hcov := recalc_covers ns s wl b rel newIdx (hbr ▸ hre) hrel hex
    cases j with
    | false => cases (doCanaryJump_false hj).1; exact Or.inr hcov
    | true => rw [(doCanaryJump_true hj).2.2.1]; exact Or.inl hcov

/-- **C01, across edits of the plan (whole reconcile)** — for every world: when the plan was edited while a step is in
    progress, the reconcile that takes the new plan up leaves the rollout on, or about to move to, a step of the new plan
    that allows at least what the BatchRelease's partition had already authorised under the old plan (if the new plan has
    such a step).  What counts is the *partition* the Rollout wrote, not the batch the BatchRelease happens to have reached. -/
theorem recalc_covers_released (w : World) (r : StepResult) (h : reconcile w = .val r) : recalcCovers w r = true := by
  unfold recalcCovers
  cases hw : w.wl with
  | none => rfl
  | some wl =>
  cases hos : w.ro.sub with
  | none => rfl
  | some os =>
  cases hs' : r.w.ro.sub with
  | none => rfl
  | some s' =>
  cases hb : w.br with
  | none => rfl
  | some b =>
  dsimp only
  split
  · rename_i hc
    obtain ⟨hnow, hnp, hcons, hnr, hrev, hhash, -, hne⟩ := hc
    cases hrel : releasedByBR b wl with
    | none => rfl
    | some rel =>
      dsimp only
      split
      · rename_i hex
        obtain ⟨hph, hr, -⟩ := (inRollingNow_iff _).mp hnow
        obtain ⟨r0, hir, rfl⟩ := reconcile_live h hph hr hos hw hcons
        rw [land_err] at hne
        obtain ⟨s0, h0, rfl⟩ := land_sub (by simpa using hne) hs'
        have := inRolling_recalc_covers w w.ro _ _ os wl b r0 s0 rel hos hb hir h0
          (show w.ro.paused = false by simpa using hnp) (by simpa using hnr) hrev hhash hrel hex
        rcases this with h1 | h1
        · simp [show coversIdx w.ro wl rel s0.curIdx = true from h1]
        · simp [show coversIdx w.ro wl rel s0.nextIdx = true from h1]
      · rfl
  · rfl

end RV.Props.Recalc
