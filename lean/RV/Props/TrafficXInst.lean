import RV.Lemmas.TrafficBridge
import RV.Lemmas.TrafficXGw
import RV.Lemmas.TrafficXIg
import RV.Lemmas.TrafficXCu
/-!
# The three real providers and their composite are lawful; the Manager theorems instantiated

* `gateway_lawful`, `ingress_lawful`, `custom_lawful`: the provider laws (`RV.TrafficX.LawfulProvider`) for the
  Gateway API, canary-Ingress and custom (Lua) provider models — proved from the theorems / lemmas of C13, C14,
  C15 (`RV/Lemmas/TrafficXGw.lean`, `…Ig.lean`, `…Cu.lean`).
* `composite_pair_lawful`, `composite_last_lawful`: the laws are preserved by `CompositeController`.
* `newNetworkProvider_full_lawful`: the provider `newNetworkProvider` builds for a ref with custom refs, an
  Ingress **and** a Gateway (`CompositeController` of the three) is lawful.
* the generic Manager theorems instantiated: *done* ⇒ Gateway weights `100−w` / `w`, canary annotations =
  `script(stable, step)`, custom object = `f(original, step)`.
* `traffic_is_instance`: the nginx-only model `RV.Traffic` is the instance `nginxW` (the seven equations of
  `RV/Lemmas/TrafficBridge.lean` in one statement).
-/
namespace RV.Props.TrafficX
open RV.TrafficX RV.Traffic RV.Oracle.TrafficX

/-- **Gateway API provider** — lawful on routes of reachable shape with two different Service names; `spec` =
    the stored route is a fixed point of the builder for the step and satisfies the step's clause of C13
    (weight step: every rule with a stable ref has stable `100−w` / canary `w`); `clean` = no canary ref and
    Finalise has nothing to do; at most 1 round of rewriting. -/
theorem gateway_lawful (c : RV.Gateway.Conf) :
    LawfulProvider (gwProvider c) (gwInv c) (fun st s => gwSpecB c s st = true) (fun st => gwCleanB c st = true)
      (gwMu c) 1 := gw_lawful c

/-- **canary-Ingress provider** — lawful on every state reachable from "stable Ingress `st`, no canary Ingress";
    `spec` = the canary annotations are a fixed point of the class's script for the step **and** equal
    `script(stable annotations, step)` (history independence), with exactly the re-targeted stable paths;
    `clean` = the canary Ingress is gone (or marked for deletion); at most 2 rounds of rewriting. -/
theorem ingress_lawful (cfg : RV.Ingress.Cfg) (st : RV.Ingress.Ingress) :
    LawfulProvider (igProvider cfg) (RV.Ingress.Inv cfg st)
      (fun w s => igSpecB cfg s w = true ∧ igFreshB cfg s w = true) (fun w => igCleanB w = true) (igMu cfg) 2 :=
  ig_lawful cfg st

/-- **custom (Lua) provider** — lawful on every state in which each referenced object is the user's manifest
    `us[i]` or carries it as its stored original; `spec` = `EnsureRoutes` for the step has nothing to do **and**
    every object is `f(original, step)`; `clean` = no object carries the original-configuration annotation;
    at most 1 round of rewriting. -/
theorem custom_lawful (c : RV.Custom.Codec) (us : List (Option RV.Custom.Script × RV.Custom.Obj)) :
    LawfulProvider (cuProvider c) (cuInv c us)
      (fun st s => cuSpecB c s st = true ∧ cuStatelessB c s us st = true) (fun st => cuCleanB st = true)
      (cuMu c) 1 := cu_lawful c us

variable {S G G₁ G₂ : Type}

/-- **composite of lawful providers is lawful**: two members over disjoint objects — invariant, spec and `clean`
    are the conjunctions, the variants add up -/
theorem composite_pair_lawful {P : Provider S G₁} {Q : Provider S G₂}
    {I₁ : G₁ → Prop} {sp₁ : G₁ → S → Prop} {cl₁ : G₁ → Prop} {μ₁ : G₁ → S → Nat} {b₁ : Nat}
    {I₂ : G₂ → Prop} {sp₂ : G₂ → S → Prop} {cl₂ : G₂ → Prop} {μ₂ : G₂ → S → Nat} {b₂ : Nat}
    (hP : LawfulProvider P I₁ sp₁ cl₁ μ₁ b₁) (hQ : LawfulProvider Q I₂ sp₂ cl₂ μ₂ b₂) :
    LawfulProvider (composite [onFst P, onSnd Q]) (fun g => I₁ g.1 ∧ I₂ g.2) (fun g s => sp₁ g.1 s ∧ sp₂ g.2 s)
      (fun g => cl₁ g.1 ∧ cl₂ g.2) (fun g s => μ₁ g.1 s + μ₂ g.2 s) (b₁ + b₂) := by
  have h : composite [onFst P, onSnd Q] = pairP P (seq Q idle) := by
    show seq (onFst P) (seq (onSnd Q) idle) = seq (onFst P) (onSnd (seq Q idle))
    rw [onSnd_idle, onSnd_seq]
  rw [h]
  exact pairP_lawful hP (seq_idle_lawful hQ)

/-- the last member of the loop keeps its laws -/
theorem composite_last_lawful {P : Provider S G} {Inv : G → Prop} {spec : G → S → Prop} {clean : G → Prop}
    {μ : G → S → Nat} {bound : Nat} (h : LawfulProvider P Inv spec clean μ bound) :
    LawfulProvider (composite [P]) Inv spec clean μ bound := seq_idle_lawful h

theorem composite3_eq (C : Provider S G) (I : Provider S G₁) (R : Provider S G₂) :
    composite [onFst C, onSnd (onFst I), onSnd (onSnd R)] = pairP C (pairP I (seq R idle)) := by
  show seq (onFst C) (seq (onSnd (onFst I)) (seq (onSnd (onSnd R)) idle)) =
    seq (onFst C) (onSnd (seq (onFst I) (onSnd (seq R idle))))
  have h1 : (idle : Provider S (G × (G₁ × G₂))) = onSnd (onSnd idle) := by rw [← onSnd_idle, ← onSnd_idle]
  rw [h1, onSnd_seq, onSnd_seq, onSnd_seq]

/-- the objects of the three providers, with their invariants -/
def CInv (p : PCfg) (cls : RV.Ingress.Class) (us : List (Option RV.Custom.Script × RV.Custom.Obj))
    (st : RV.Ingress.Ingress) (g : CNet) : Prop :=
  cuInv p.codec us g.1 ∧ RV.Ingress.Inv ⟨cls, p.ingName, p.stable, p.canary⟩ st g.2.1 ∧ gwInv ⟨p.stable, p.canary⟩ g.2.2

/-- **the provider `newNetworkProvider` builds for custom refs + Ingress + Gateway is lawful**: *verified* means
    that every member's objects carry the step, `clean` that every member's objects are clean; it needs at most
    1 + 2 + 1 rounds of rewriting.  (`hne`: with equal Service names no provider is built at all —
    `newNetworkProvider_sameService_refused`.) -/
theorem newNetworkProvider_full_lawful (p : PCfg) (cls : RV.Ingress.Class)
    (us : List (Option RV.Custom.Script × RV.Custom.Obj)) (st : RV.Ingress.Ingress)
    (hc : p.custom = true) (hi : p.ingress = some (some cls)) (hg : p.gateway = true) (hne : p.canary ≠ p.stable) :
    ∃ P μ, mkProvider p = some P ∧
      LawfulProvider P (CInv p cls us st)
        (fun g s => (cuSpecB p.codec s g.1 = true ∧ cuStatelessB p.codec s us g.1 = true) ∧
          (igSpecB ⟨cls, p.ingName, p.stable, p.canary⟩ s g.2.1 = true ∧
            igFreshB ⟨cls, p.ingName, p.stable, p.canary⟩ s g.2.1 = true) ∧
          gwSpecB ⟨p.stable, p.canary⟩ s g.2.2 = true)
        (fun g => cuCleanB g.1 = true ∧ igCleanB g.2.1 = true ∧ gwCleanB ⟨p.stable, p.canary⟩ g.2.2 = true)
        μ 4 := by
  have hl : providerList p = [onFst (cuProvider p.codec), onSnd (onFst (igProvider ⟨cls, p.ingName, p.stable, p.canary⟩)),
      onSnd (onSnd (gwProvider ⟨p.stable, p.canary⟩))] := by
    simp [providerList, hc, hi, hg]
  refine ⟨composite (providerList p),
    fun g s => cuMu p.codec g.1 s + (igMu ⟨cls, p.ingName, p.stable, p.canary⟩ g.2.1 s + gwMu ⟨p.stable, p.canary⟩ g.2.2 s),
    ?_, ?_⟩
  · simp [mkProvider, gatewayRefused, RV.Gateway.Conf.refused, hi, hl, hne]
  · rw [hl, composite3_eq]
    exact pairP_lawful (cu_lawful p.codec us)
      (pairP_lawful (ig_lawful ⟨cls, p.ingName, p.stable, p.canary⟩ st) (seq_idle_lawful (gw_lawful ⟨p.stable, p.canary⟩)))

/-- a ref with a Gateway only: `newNetworkProvider` returns the Gateway provider itself -/
theorem newNetworkProvider_gateway_lawful (p : PCfg) (hc : p.custom = false) (hi : p.ingress = none) (hg : p.gateway = true)
    (hne : p.canary ≠ p.stable) :
    mkProvider p = some (onSnd (onSnd (gwProvider ⟨p.stable, p.canary⟩))) ∧
    LawfulProvider (onSnd (onSnd (gwProvider ⟨p.stable, p.canary⟩)) : Provider Strat CNet)
      (fun g => gwInv ⟨p.stable, p.canary⟩ g.2.2) (fun g s => gwSpecB ⟨p.stable, p.canary⟩ s g.2.2 = true)
      (fun g => gwCleanB ⟨p.stable, p.canary⟩ g.2.2 = true) (fun g s => gwMu ⟨p.stable, p.canary⟩ g.2.2 s) 1 :=
  ⟨by simp [mkProvider, gatewayRefused, RV.Gateway.Conf.refused, providerList, hc, hi, hg, hne], onSnd_lawful (onSnd_lawful (gw_lawful _))⟩

/-- a ref with custom refs only -/
theorem newNetworkProvider_custom_lawful (p : PCfg) (us : List (Option RV.Custom.Script × RV.Custom.Obj))
    (hc : p.custom = true) (hi : p.ingress = none) (hg : p.gateway = false) :
    mkProvider p = some (onFst (cuProvider p.codec)) ∧
    LawfulProvider (onFst (cuProvider p.codec) : Provider Strat CNet)
      (fun g => cuInv p.codec us g.1) (fun g s => cuSpecB p.codec s g.1 = true ∧ cuStatelessB p.codec s us g.1 = true)
      (fun g => cuCleanB g.1 = true) (fun g s => cuMu p.codec g.1 s) 1 :=
  ⟨by simp [mkProvider, gatewayRefused, providerList, hc, hi, hg], onFst_lawful (cu_lawful _ _)⟩

/-- a ref with an Ingress only -/
theorem newNetworkProvider_ingress_lawful (p : PCfg) (cls : RV.Ingress.Class) (st : RV.Ingress.Ingress)
    (hc : p.custom = false) (hi : p.ingress = some (some cls)) (hg : p.gateway = false) :
    mkProvider p = some (onSnd (onFst (igProvider ⟨cls, p.ingName, p.stable, p.canary⟩))) ∧
    LawfulProvider (onSnd (onFst (igProvider ⟨cls, p.ingName, p.stable, p.canary⟩)) : Provider Strat CNet)
      (fun g => RV.Ingress.Inv ⟨cls, p.ingName, p.stable, p.canary⟩ st g.2.1)
      (fun g s => igSpecB ⟨cls, p.ingName, p.stable, p.canary⟩ s g.2.1 = true ∧
        igFreshB ⟨cls, p.ingName, p.stable, p.canary⟩ s g.2.1 = true)
      (fun g => igCleanB g.2.1 = true) (fun g s => igMu ⟨cls, p.ingName, p.stable, p.canary⟩ g.2.1 s) 2 :=
  ⟨by simp [mkProvider, gatewayRefused, providerList, hc, hi, hg], onSnd_lawful (onFst_lawful (ig_lawful _ _))⟩

theorem ne_of_gwInv {c : RV.Gateway.Conf} {st : Option (List RV.Gateway.Rule)} (h : gwInv c st) : c.canary ≠ c.stable :=
  fun e => RV.Gateway.ne_of_confOk h.1 e.symm

/-- the constructor refuses exactly the configurations outside the hypothesis `confOk` of the C13 theorems: every
    Gateway provider that exists satisfies it -/
theorem refused_iff_not_confOk (c : RV.Gateway.Conf) : c.refused = !RV.Oracle.C13.confOk c := by
  unfold RV.Gateway.Conf.refused RV.Oracle.C13.confOk
  by_cases h : c.canary = c.stable
  · rw [h]; simp
  · have h' : ¬ c.stable = c.canary := fun e => h e.symm
    have e1 : (c.canary == c.stable) = false := by simpa using h
    have e2 : (c.stable != c.canary) = true := by simpa using h'
    rw [e1, e2]; rfl

/-- A ref with a Gateway and a canary Service name equal to the
    stable one: `NewGatewayTrafficRouting` returns an error, whatever else the ref names -/
theorem newNetworkProvider_sameService_refused (p : PCfg) (hg : p.gateway = true) (he : p.canary = p.stable) :
    mkProvider p = none := by
  unfold mkProvider
  split
  · rfl
  · simp [gatewayRefused, RV.Gateway.Conf.refused, hg, he]

/-- … so a Gateway provider that exists has two different Service names (`confOk`): the first half of its
    invariant `gwInv` is established by the constructor, it is not an assumption about the user's input -/
theorem newNetworkProvider_some_distinct (p : PCfg) (P : Provider Strat CNet) (h : mkProvider p = some P)
    (hg : p.gateway = true) : RV.Oracle.C13.confOk ⟨p.stable, p.canary⟩ = true := by
  by_cases he : p.canary = p.stable
  · rw [newNetworkProvider_sameService_refused p hg he] at h; cases h
  · simp only [RV.Oracle.C13.confOk, bne_iff_ne, ne_eq]
    exact fun e => he e.symm

/-- `getCanaryServiceName` returns the stable name exactly when no canary Service is generated
    (`OnlyTrafficRouting` or `DisableGenerateCanaryService`) -/
theorem canaryServiceName_eq_stable_iff (stable : String) (onlyTR disableGen : Bool) :
    canaryServiceName stable onlyTR disableGen = stable ↔ (onlyTR || disableGen) = true := by
  unfold canaryServiceName
  cases h : (onlyTR || disableGen)
  · simp only [Bool.false_eq_true, if_false, iff_false]
    intro e
    have := congrArg String.length e
    simp only [String.length_append] at this
    have h7 : "-canary".length = 7 := by decide
    omega
  · simp

/-- **C05 / C07** — `DisableGenerateCanaryService` / `OnlyTrafficRouting` together with a
    Gateway API ref (the region of the fixed finding `sameServiceGateway`): every Manager call returns the error
    of `newNetworkProvider` instead of completion and **touches no provider object** — the user's HTTPRoute (and
    every object of the other members of the ref) stays exactly as it is; `DoTrafficRouting` reports *done* only
    when there is nothing to route, `FinalisingTrafficRouting` never.  Stated with the decidable oracle the driver
    evaluates on the implementation's output (`sameG = true`: the objects are literally unchanged). -/
theorem sameService_refused (p : PCfg) (hg : p.gateway = true) (he : p.canary = p.stable)
    (c : XCtx Strat) (a : Api) (n : XNet CNet) (m : Mem) (bare : Bool) :
    ((doTrafficRoutingB stratOps (mkProvider p) c a n m bare).net.g = n.g ∧
      refusedX "doTrafficRouting" c (isStep stratOps c.strategy) true (doTrafficRoutingB stratOps (mkProvider p) c a n m bare) = true) ∧
    ((finalisingTrafficRoutingX (mkProvider p) c a n m).net.g = n.g ∧
      refusedX "finalisingTrafficRouting" c (isStep stratOps c.strategy) true (finalisingTrafficRoutingX (mkProvider p) c a n m) = true) ∧
    (restoreGatewayX (mkProvider p) c a n m = .same false c.hasRef n m a ∧
      refusedX "restoreGateway" c (isStep stratOps c.strategy) true (restoreGatewayX (mkProvider p) c a n m) = true) ∧
    (routeAllToNewX stratOps (mkProvider p) c a n m = .same false c.hasRef n m a ∧
      refusedX "routeAllToNew" c (isStep stratOps c.strategy) true (routeAllToNewX stratOps (mkProvider p) c a n m) = true) ∧
    (c.hasRef = true → initializeX (mkProvider p) c n = true) := by
  rw [newNetworkProvider_sameService_refused p hg he]
  obtain ⟨h1, h2, h3, h4⟩ := refused_untouched (G := CNet) stratOps c a n m bare
  refine ⟨⟨(refused_doTR stratOps c a n m bare).1, h1⟩, ⟨(refused_finalising c a n m).1, h2⟩,
    ⟨refused_restoreGateway c a n m, h3⟩, ⟨refused_routeAll stratOps c a n m, h4⟩, ?_⟩
  intro href
  unfold initializeX
  simp only [href, not_true_eq_false, if_false]
  split <;> rfl

/-- **C07 (full strength: no assumption on the Service names)** — a ref with a Gateway,
    **whatever** canary Service name the Manager hands to the provider: on a healthy API server, with the stable
    Service present and the stored route of reachable shape, `DoTrafficRouting` for a step that has something to
    route reports *done* — or an error the caller sees — after at most 2 further rounds.  With two different
    names this is `doTRX_converges` for the lawful Gateway provider; with equal names (no canary Service of its
    own) the provider is refused and the error is returned at once, the route untouched.
    (Before rollouts commit 978d35f a match step doubled the generated rules on every round there
    and never settled: `sameConf_match_step_grows`.) -/
theorem gateway_ref_converges (p : PCfg) (hc : p.custom = false) (hi : p.ingress = none) (hg : p.gateway = true)
    (c : XCtx Strat) (n : XNet CNet) (m : Mem) (href : c.hasRef = true)
    (hstep : isStep stratOps c.strategy = true) (hex : n.stableExists = true)
    (hinv : ∀ r, n.g.2.2 = some r → RV.Oracle.C13.inv ⟨p.stable, p.canary⟩ r = true)
    (hw : ¬ (c.lastUpdate = .fresh ∧ c.doGrace > 0))
    (hrev : c.noGen = true ∨ (c.stableRev ≠ "" ∧ c.canaryRev ≠ "")) :
    ∃ k, k ≤ 2 ∧ settled (doTrafficRoutingX stratOps (mkProvider p) c Api.ok
      (iterNetO stratOps (mkProvider p) c m k n) m) := by
  by_cases he : p.canary = p.stable
  · rw [newNetworkProvider_sameService_refused p hg he]
    obtain ⟨k, hk, hs⟩ := refused_converges (G := CNet) stratOps c n m href hstep hex hw hrev
    exact ⟨k, by omega, hs⟩
  · obtain ⟨hmk, hL⟩ := newNetworkProvider_gateway_lawful p hc hi hg he
    rw [hmk]
    have hco := newNetworkProvider_some_distinct p _ hmk hg
    obtain ⟨k, hk, hs⟩ := doTRX_converges stratOps hL c n m href hstep hex ⟨hco, hinv⟩ hw hrev
    exact ⟨k, hk, by rw [iterNetO_some]; exact hs⟩

/-- **C05 (full strength: no assumption on the Service names)** — a ref with a
    Gateway, whatever canary Service name the Manager hands to the provider: when `FinalisingTrafficRouting`
    reports *done* the two names differ and the route is clean (no canary ref, `Finalise` has nothing to do); with
    equal names the call is never *done* and the route is **untouched** — the user's own rule for the Service is
    not taken for the canary rule and dropped (which is what the code did before rollouts commit
    978d35f: `sameConf_finalise_deletes_user_rule`). -/
theorem gateway_ref_finalise_total (p : PCfg) (hc : p.custom = false) (hi : p.ingress = none) (hg : p.gateway = true)
    (c : XCtx Strat) (a : Api) (n : XNet CNet) (m : Mem) (href : c.hasRef = true)
    (hinv : ∀ r, n.g.2.2 = some r → RV.Oracle.C13.inv ⟨p.stable, p.canary⟩ r = true) :
    ((finalisingTrafficRoutingX (mkProvider p) c a n m).done = true →
      p.canary ≠ p.stable ∧ gwCleanB ⟨p.stable, p.canary⟩ (finalisingTrafficRoutingX (mkProvider p) c a n m).net.g.2.2 = true) ∧
    (p.canary = p.stable → (finalisingTrafficRoutingX (mkProvider p) c a n m).net.g = n.g ∧
      (finalisingTrafficRoutingX (mkProvider p) c a n m).done = false) := by
  constructor
  · intro hd
    by_cases he : p.canary = p.stable
    · rw [newNetworkProvider_sameService_refused p hg he] at hd
      rw [(refused_finalising c a n m).2.2.2.2 href] at hd
      cases hd
    · obtain ⟨hmk, hL⟩ := newNetworkProvider_gateway_lawful p hc hi hg he
      rw [hmk] at hd ⊢
      have hco := newNetworkProvider_some_distinct p _ hmk hg
      obtain ⟨_, _, _, _, _, _, _, _, _, hdone, _⟩ := finalisingX_shape hL c a n m ⟨hco, hinv⟩ href
      exact ⟨he, (hdone hd).1⟩
  · intro he
    rw [newNetworkProvider_sameService_refused p hg he]
    exact ⟨(refused_finalising c a n m).1, (refused_finalising c a n m).2.2.2.2 href⟩

/-- The nginx-only model `RV.Traffic` (Manager over "nginx canary Ingress with a weight") is
    the instance of the generic Manager at the provider `nginxW`, on a healthy API server: all seven Manager
    functions agree.  `RV/Props/TrafficThms.lean` obtains its theorems about `DoTrafficRouting` and the convergence of the
    clean-up from the generic ones through these equations and `nginxW_lawful`. -/
theorem traffic_is_instance (c : TCtx) (n : Net) (m : Mem) :
    outOld (patchStableServiceX (ctxX c) Api.ok (netX n) m) = patchStableService c n m ∧
    outOld (restoreStableServiceX (ctxX c) Api.ok (netX n) m) = restoreStableService c n m ∧
    outOld (restoreGatewayX (some nginxW) (ctxX c) Api.ok (netX n) m) = restoreGateway c n m ∧
    outOld (removeCanaryServiceX (ctxX c) Api.ok (netX n) m) = removeCanaryService c n m ∧
    outOld (routeAllToNewX nginxOps (some nginxW) (ctxX c) Api.ok (netX n) m) = routeAllToNew c n m ∧
    outOld (finalisingTrafficRoutingX (some nginxW) (ctxX c) Api.ok (netX n) m) = finalisingTrafficRouting c n m ∧
    outOld (doTrafficRoutingX nginxOps (some nginxW) (ctxX c) Api.ok (netX n) m) = doTrafficRouting c n m :=
  ⟨patchStable_is_instance c n m, restoreStable_is_instance c n m, restoreGateway_is_instance c n m,
   removeCanary_is_instance c n m, routeAll_is_instance c n m, finalising_is_instance c n m, doTR_is_instance c n m⟩

theorem weight_step_is_a_step (s : Strat) (w : Int) (hw : s.weight = some w) : isStep stratOps s = true := by
  unfold Strat.weight at hw
  cases ht : s.traffic with
  | none => rw [ht] at hw; cases hw
  | some t => simp [isStep, stratOps, ht]

/-- **C03 for the Gateway API (`doneX_means_routed` instantiated)** — a ref with a Gateway: when `DoTrafficRouting`
    reports *done* for a weight step `w`, both Services are in place and in the stored HTTPRoute **every rule with
    a stable ref has stable weight `100 − w` and canary weight `w`** — exactly the step's value. -/
theorem done_gateway_weights (p : PCfg) (hc : p.custom = false) (hi : p.ingress = none) (hg : p.gateway = true)
    (c : XCtx Strat) (a : Api) (n : XNet CNet) (m : Mem) (hinv : gwInv ⟨p.stable, p.canary⟩ n.g.2.2)
    (href : c.hasRef = true) (w : Int) (hw : c.strategy.weight = some w) (hne : w ≠ -1) (hm : c.strategy.mts = [])
    (hd : (doTrafficRoutingX stratOps (mkProvider p) c a n m).done = true) :
    servicesInPlace c (doTrafficRoutingX stratOps (mkProvider p) c a n m).net = true ∧
    ∃ rules, (doTrafficRoutingX stratOps (mkProvider p) c a n m).net.g.2.2 = some rules ∧
      ∀ (i : Nat) (r : RV.Gateway.Rule), rules[i]? = some r → RV.Oracle.C13.hasSvc r.refs p.stable = true →
        (RV.Oracle.C13.findSvc r.refs p.stable).map (·.weight) = some (some (100 - w)) ∧
        (RV.Oracle.C13.findSvc r.refs p.canary).map (·.weight) = some (some w) := by
  obtain ⟨hmk, hL⟩ := newNetworkProvider_gateway_lawful p hc hi hg (ne_of_gwInv hinv)
  rw [hmk] at hd ⊢
  obtain ⟨_, hin, hspec, _, _⟩ := doneX_means_routed stratOps hL c a n m hinv href
    (weight_step_is_a_step c.strategy w hw) hd
  refine ⟨hin, ?_⟩
  simp only [gwSpecB] at hspec
  cases hst : (doTrafficRoutingX stratOps (some (onSnd (onSnd (gwProvider ⟨p.stable, p.canary⟩)))) c a n m).net.g.2.2 with
  | none => rw [hst] at hspec; cases hspec
  | some rules =>
    rw [hst] at hspec
    simp only [Bool.and_eq_true, beq_iff_eq] at hspec
    refine ⟨rules, rfl, ?_⟩
    intro i r hr hs
    have hb : RV.Gateway.buildDesired ⟨p.stable, p.canary⟩ rules (some w) [] = .ok rules := by
      rw [← hw, ← hm]; exact hspec.1
    obtain ⟨r', hr', h1, h2⟩ := RV.Props.C13.weight_step_split ⟨p.stable, p.canary⟩ hinv.1 rules rules w hb hne i r hr hs
    rw [hr] at hr'
    cases hr'
    exact ⟨h1, h2⟩

/-- **C03 for the composite (`doneX_means_routed` instantiated)** — a ref with custom refs, an Ingress **and** a
    Gateway: when `DoTrafficRouting` reports *done*, the Services are in place and **every** member carries the
    step: each custom object is `f(original, step)`, the canary annotations are `script(stable, step)` on exactly
    the re-targeted stable paths, the HTTPRoute satisfies the step's clause. -/
theorem done_full_all_members (p : PCfg) (cls : RV.Ingress.Class)
    (us : List (Option RV.Custom.Script × RV.Custom.Obj)) (st : RV.Ingress.Ingress)
    (hc : p.custom = true) (hi : p.ingress = some (some cls)) (hg : p.gateway = true)
    (c : XCtx Strat) (a : Api) (n : XNet CNet) (m : Mem) (hinv : CInv p cls us st n.g)
    (href : c.hasRef = true) (hs : isStep stratOps c.strategy = true)
    (hd : (doTrafficRoutingX stratOps (mkProvider p) c a n m).done = true) :
    servicesInPlace c (doTrafficRoutingX stratOps (mkProvider p) c a n m).net = true ∧
    cuStatelessB p.codec c.strategy us (doTrafficRoutingX stratOps (mkProvider p) c a n m).net.g.1 = true ∧
    igFreshB ⟨cls, p.ingName, p.stable, p.canary⟩ c.strategy (doTrafficRoutingX stratOps (mkProvider p) c a n m).net.g.2.1 = true ∧
    gwSpecB ⟨p.stable, p.canary⟩ c.strategy (doTrafficRoutingX stratOps (mkProvider p) c a n m).net.g.2.2 = true := by
  obtain ⟨P, μ, hmk, hL⟩ := newNetworkProvider_full_lawful p cls us st hc hi hg (ne_of_gwInv hinv.2.2)
  rw [hmk] at hd ⊢
  obtain ⟨_, hin, hspec, _, _⟩ := doneX_means_routed stratOps hL c a n m hinv href hs hd
  exact ⟨hin, hspec.1.2, hspec.2.1.2, hspec.2.2⟩

/-- **C05 for the composite (`finalisingX_shape`: *done* ⇒ clean, instantiated)**: *done* ⇒ every member is clean -/
theorem finalising_done_full_clean (p : PCfg) (cls : RV.Ingress.Class)
    (us : List (Option RV.Custom.Script × RV.Custom.Obj)) (st : RV.Ingress.Ingress)
    (hc : p.custom = true) (hi : p.ingress = some (some cls)) (hg : p.gateway = true)
    (c : XCtx Strat) (a : Api) (n : XNet CNet) (m : Mem) (hinv : CInv p cls us st n.g) (href : c.hasRef = true)
    (hd : (finalisingTrafficRoutingX (mkProvider p) c a n m).done = true) :
    cleanB p (finalisingTrafficRoutingX (mkProvider p) c a n m).net.g = true := by
  obtain ⟨P, μ, hmk, hL⟩ := newNetworkProvider_full_lawful p cls us st hc hi hg (ne_of_gwInv hinv.2.2)
  rw [hmk] at hd ⊢
  obtain ⟨_, _, _, _, _, _, _, _, _, hdone, _⟩ := finalisingX_shape hL c a n m hinv href
  obtain ⟨hcl, _⟩ := hdone hd
  simp [cleanB, hc, hi, hg, hcl.1, hcl.2.1, hcl.2.2]

/-- **C06 (`read_fault_reported` instantiated)** — custom refs + Ingress + Gateway in one ref: whichever `Get`
    fails (the stable Service, the k-th custom ref, the canary or stable Ingress, the HTTPRoute — first or second
    read), `FinalisingTrafficRouting` and `RestoreGateway` return the error and do not report completion. -/
theorem read_fault_reported_full (p : PCfg) (cls : RV.Ingress.Class)
    (us : List (Option RV.Custom.Script × RV.Custom.Obj)) (st : RV.Ingress.Ingress)
    (hc : p.custom = true) (hi : p.ingress = some (some cls)) (hg : p.gateway = true)
    (c : XCtx Strat) (a : Api) (n : XNet CNet) (m : Mem) (hinv : CInv p cls us st n.g) :
    ((finalisingTrafficRoutingX (mkProvider p) c a n m).panic = false →
      readFailed a (finalisingTrafficRoutingX (mkProvider p) c a n m).a = true →
      (finalisingTrafficRoutingX (mkProvider p) c a n m).err = true ∧ (finalisingTrafficRoutingX (mkProvider p) c a n m).done = false) ∧
    ((restoreGatewayX (mkProvider p) c a n m).panic = false → readFailed a (restoreGatewayX (mkProvider p) c a n m).a = true →
      (restoreGatewayX (mkProvider p) c a n m).err = true) ∧
    ((doTrafficRoutingX stratOps (mkProvider p) c a n m).panic = false →
      readFailed a (doTrafficRoutingX stratOps (mkProvider p) c a n m).a = true →
      (doTrafficRoutingX stratOps (mkProvider p) c a n m).err = true) := by
  obtain ⟨P, μ, hmk, hL⟩ := newNetworkProvider_full_lawful p cls us st hc hi hg (ne_of_gwInv hinv.2.2)
  rw [hmk]
  obtain ⟨h1, h2, _, h4, _⟩ := read_fault_reported stratOps hL c a n m hinv
  exact ⟨h2, h4, h1⟩

/-! ## fixed finding `sameServiceGateway`: what the refusal protects from

The two facts below are about the route *builders* (`RV.Gateway.ensureRoutes` / `finalise`) run with a
configuration the constructor refuses (`newNetworkProvider_sameService_refused`): they record what the builders
do with equal Service names (the behaviour of the code before rollouts commit 978d35f) and why equal names are
refused rather than served.  No Manager call reaches the builders with such a configuration (`sameService_refused`). -/

section finding
open RV.Gateway

/-- `DisableGenerateCanaryService` / `OnlyTrafficRouting`: the providers get the stable Service name twice -/
def sameConf : Conf := { stable := "svc", canary := "svc" }

/-- the user's route: one rule to the Service -/
def sameRoute : List Rule :=
  [{ mts := [], filters := "", refs := [{ kind := some "Service", name := "svc", weight := some 1, rest := "{}" }] }]

/-- the configuration is refused by `newNetworkProvider` … -/
theorem sameConf_refused (p : PCfg) (hg : p.gateway = true) (hs : p.stable = sameConf.stable)
    (hc : p.canary = sameConf.canary) : mkProvider p = none :=
  newNetworkProvider_sameService_refused p hg (by rw [hs, hc]; rfl)

/-- … because the builders cannot tell the user's backendRef from the canary ref there: a weight step followed by
    `Finalise` would **delete the user's rule** (test on a literal) -/
theorem sameConf_finalise_deletes_user_rule :
    RV.Oracle.C13.confOk sameConf = false ∧
    (finalise sameConf (ensureRoutes sameConf (some sameRoute) { traffic := some (.pct 20), ms := [] }).store).store
      = some [] := by decide +kernel

/-- … and a match step would double the generated rules on every round (test on a literal) -/
theorem sameConf_match_step_grows :
    let s : Step := { traffic := none, ms := [{ path := none, headers := [⟨some "Exact", "user", "a"⟩], queryParams := [] }] }
    let r1 := (ensureRoutes sameConf (some sameRoute) s).store
    let r2 := (ensureRoutes sameConf r1 s).store
    let r3 := (ensureRoutes sameConf r2 s).store
    r1.map List.length = some 2 ∧ r2.map List.length = some 4 ∧ r3.map List.length = some 8 := by decide +kernel

end finding

/-! ## non-vacuity (tests on literals: the hypotheses of the theorems are met by ordinary states) -/

section examples
open RV.Props.C13 (c0 o0)

/-- the invariant of the Gateway provider holds of a non-trivial user route -/
example : gwInv c0 (some o0) := ⟨by decide +kernel, fun r h => by cases h; decide⟩

/-- a 30 % step, revisions known, grace elapsed -/
def exCtx : XCtx Strat :=
  { hasRef := true, grace := 3, strategy := { traffic := some "30%", mts := [], rhm := none }, disableGen := false,
    stableRev := "v1", canaryRev := "v2", lastUpdate := .elapsed }
def exNet : XNet (Option (List RV.Gateway.Rule)) :=
  { stableExists := true, stableSel := some "v1", canarySvc := some "v2", g := some o0 }

/-- a Gateway-only ref: the first round of the 30 % step (Services in place) updates the route and is not done … -/
example : (doTrafficRoutingX stratOps (some (gwProvider c0)) exCtx Api.ok exNet Mem.empty).done = false ∧
    (doTrafficRoutingX stratOps (some (gwProvider c0)) exCtx Api.ok exNet Mem.empty).writes = ["updateRoute"] := by
  decide +kernel

/-- … the second round is done and carries the split 70 / 30 -/
example :
    let n1 := (doTrafficRoutingX stratOps (some (gwProvider c0)) exCtx Api.ok exNet Mem.empty).net
    (doTrafficRoutingX stratOps (some (gwProvider c0)) exCtx Api.ok n1 Mem.empty).done = true ∧
    gwSpecB c0 exCtx.strategy n1.g = true := by decide +kernel

/-- from a fresh network the first round only creates the canary Service and pins the stable one: the provider is
    not touched (hypothesis of `servicesX_before_routes`) -/
example : (doTrafficRoutingX stratOps (some (gwProvider c0)) exCtx Api.ok
      { exNet with stableSel := none, canarySvc := none } Mem.empty).writes = ["createCanarySvc", "patchStable"] := by
  decide +kernel

/-- a read fault on the second `Get` (the HTTPRoute) is reported -/
example : (doTrafficRoutingX stratOps (some (gwProvider c0)) exCtx { r := some 3 } exNet Mem.empty).err = true := by
  decide +kernel

/-- the clean-up with the grace period off: un-pin, provider, canary Service — in the proved order -/
example : (finalisingTrafficRoutingX (some (gwProvider c0)) { exCtx with grace := 0 } Api.ok
      { exNet with g := (doTrafficRoutingX stratOps (some (gwProvider c0)) exCtx Api.ok exNet Mem.empty).net.g }
      Mem.empty).writes = ["unpinStable", "updateRoute", "deleteCanarySvc"] := by decide +kernel

/-- `disableGenerateCanaryService` with a Gateway ref: canary name = stable name -/
def sameP : PCfg :=
  { custom := false, ingress := none, gateway := true, stable := "svc", canary := canaryServiceName "svc" false true,
    ingName := "ing", codec := ⟨fun _ => "{}", fun _ => default⟩ }
def sameCtx : XCtx Strat := { exCtx with disableGen := true, grace := 0, strategy := { traffic := some "20%", mts := [], rhm := none } }
def sameNet : XNet CNet :=
  { stableExists := true, stableSel := none, canarySvc := none, g := ([], (⟨none, none⟩, some sameRoute)) }

/-- the region of `sameService_refused` is inhabited by an ordinary configuration … -/
example : sameP.gateway = true ∧ sameP.canary = sameP.stable ∧ sameCtx.noGen = true := by decide +kernel

example : (mkProvider sameP).isNone = true := by
  rw [newNetworkProvider_sameService_refused sameP rfl (by decide +kernel)]; rfl

/-- … and its conclusion is not vacuous: the weight step returns the error with the user's route as it was, and so does
    the clean-up (before the repair the same walk ended with the rule for `svc` deleted:
    `sameConf_finalise_deletes_user_rule`) -/
example :
    (doTrafficRoutingB stratOps (none : Option (Provider Strat CNet)) sameCtx Api.ok sameNet Mem.empty false).err = true ∧
    (doTrafficRoutingB stratOps (none : Option (Provider Strat CNet)) sameCtx Api.ok sameNet Mem.empty false).net.g.2.2 = some sameRoute ∧
    (finalisingTrafficRoutingX (none : Option (Provider Strat CNet)) sameCtx Api.ok sameNet Mem.empty).err = true ∧
    (finalisingTrafficRoutingX (none : Option (Provider Strat CNet)) sameCtx Api.ok sameNet Mem.empty).net.g.2.2 = some sameRoute := by
  decide +kernel

/-- the hypotheses of `gateway_ref_converges` / `gateway_ref_finalise_total` are met on both sides of the case
    split: equal names (above) and two different names with a non-trivial user route -/
example : c0.canary ≠ c0.stable ∧ ∀ r, some o0 = some r → RV.Oracle.C13.inv c0 r = true :=
  ⟨by decide +kernel, fun r h => by cases h; decide⟩

end examples

end RV.Props.TrafficX
