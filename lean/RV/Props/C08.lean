import RV.Lemmas.Webhook
/-!
# C08 — no unsupervised release: admission pauses every relevant change

Model: `RV.Webhook.handle` (`WorkloadHandler.Handle` / `UnifiedWorkloadHandler.Handle` with
`handleDeployment`, `handleCloneSet`, `handleDaemonSet`, `handleStatefulSetLikeWorkload`,
`fetchMatchedRollout`, `isEffectiveDeploymentRevisionChange`, `EqualIgnoreHash`).
Specification: `RV.Oracle.C08` (`mustHoldRollout`, `heldBack`, `holdFrame`, … and the four
oracles `holdOk`, `frameOk`, `repauseOk`, `totalOk`, which the driver also evaluates on the
outcome of the real handlers).

Every theorem quantifies over **all** requests: any old/new object, any list of Rollouts, any
list of ReplicaSets, any webhook configuration.
-/
namespace RV.Props.C08
open RV.Webhook RV.Oracle.C08 RV.Arith

/-- The fate of a request under the model: the admitted object, or a rejection
    (`Errored` response, or handler panic under `failurePolicy: Fail`). -/
def run (rq : Req) : Outcome := outcome rq (handle rq)

/-- The hypothesis of C08.i spelled out: `mustHoldRollout rq = some r` says exactly that the request
    is selected by the webhook, concerns an eligible workload (running replicas, see `eligible`),
    is a release change, `r` is the first active Rollout referencing the workload, `r` has a
    strategy, and — with traffic routing — the workload runs a single revision. -/
theorem mustHold_iff (rq : Req) (r : Rollout) :
    mustHoldRollout rq = some r ↔
      (selected rq = true ∧ eligible rq = true ∧ releaseChange rq.old rq.new = true
        ∧ matchedRollout rq.new rq.rollouts = some r ∧ r.emptyRelease = false
        ∧ (r.hasTraffic = true → singleRevision rq = true)) := by
  unfold mustHoldRollout
  cases selected rq <;> cases eligible rq <;> cases releaseChange rq.old rq.new <;>
    cases hm : matchedRollout rq.new rq.rollouts <;> simp
  rename_i r'
  cases he : r'.emptyRelease <;> cases ht : r'.hasTraffic <;> cases hs : singleRevision rq <;> simp
  all_goals (intro h; subst h; simp_all)

/-- **C08.i (hold).** A selected workload with running replicas that receives a release change
    while the first active Rollout referencing it is `r` (non-empty strategy; with traffic routing
    only while a Deployment / CloneSet runs a single revision) is admitted *patched*:
    held back (paused / partition `100%` / partition `32767`), marked in-progress for `r`,
    and otherwise identical to the submitted object (a Deployment may in addition get the
    stable-revision label of one of its running ReplicaSets with a different template) — for every well-formed request except an
    Advanced DaemonSet without `updateStrategy.rollingUpdate` (see `daemonSet_without_rollingUpdate`). -/
theorem held_and_marked (rq : Req) (r : Rollout)
    (hm : mustHoldRollout rq = some r) (hw : wellFormed rq = true) (hds : dsNoRollingUpdate rq = false) :
    ∃ o, handle rq = .patched o ∧ heldBack (wkind rq) o = true ∧ o.inProgress = .rollout r.name
      ∧ holdFrame (wkind rq) rq.new o = true ∧ stableRevOk rq o = true := by
  obtain ⟨hsel, helig⟩ := mustHold_selected hm
  obtain ⟨hdry, hmeta, hrs, hus⟩ := (wellFormed_iff rq).mp hw
  rw [handle_kinds hsel hdry (eligible_kind helig).2, hm]
  cases hk : wkind rq with
  | notHandled => exact absurd hk (eligible_kind helig).1
  | deployment =>
    simp only []
    have hsome := findCanary_isSome (activeRS rq) rq.new fun rs h =>
      List.all_eq_true.mp hrs rs (List.mem_filter.mp h).1
    rcases hf : findCanaryAndStableReplicaSet (activeRS rq) rq.new with _ | ⟨a, _ | s⟩
    · simp [hf] at hsome
    · exact ⟨_, rfl, by simp [heldBack], rfl, by simp [holdFrame], by simp [stableRevOk]⟩
    · obtain ⟨hmem, hne⟩ := findCanary_stable hf
      refine ⟨_, rfl, by simp [heldBack], rfl, by simp [holdFrame], ?_⟩
      simp only [stableRevOk, Bool.or_eq_true, List.any_eq_true, Bool.and_eq_true, beq_iff_eq, bne_iff_ne]
      exact Or.inr ⟨s, hmem, rfl, hne⟩
  | cloneSet =>
    exact ⟨_, rfl, by simp [heldBack], rfl, by simp [holdFrame], by simp [stableRevOk]⟩
  | daemonSet =>
    obtain ⟨hn', ho'⟩ := hus hk
    simp only [hn', ho', Bool.and_self, Bool.not_true, Bool.false_eq_true, if_false]
    unfold dsNoRollingUpdate at hds
    simp only [hk, beq_self_eq_true, Bool.true_and] at hds
    -- of the five shapes of `updateStrategy` only the one with a `rollingUpdate` block is left
    rcases hn : rq.new.us with _ | _ | ⟨t, _ | _ | p⟩ <;> simp [hn, typedUSOk] at hds hn'
    refine ⟨_, rfl, by simp [heldBack, maxInt16], rfl, ?_, by simp [stableRevOk]⟩
    -- putting the submitted `us` back gives the submitted object
    simp [holdFrame, usTypeKept, hn]
    rw [← hn]
  | stsLike =>
    simp only [hmeta, Bool.not_true, Bool.and_false, Bool.false_eq_true, if_false]
    refine ⟨_, rfl, ?_, rfl, ?_, by simp [stableRevOk]⟩
    · rcases hn : rq.new.us with _ | _ | ⟨t, ru⟩ <;> simp [heldBack, setStatefulSetPartition, maxInt16]
    · rcases hn : rq.new.us with _ | _ | ⟨t, ru⟩ <;> (simp [holdFrame, setStatefulSetPartition, usTypeKept, hn]; rw [← hn])

/-- **C08.iv (totality).** Whatever the shape of the request — also shapes no API server
    produces — a request that must be held is never admitted without being held back and marked:
    the only other outcomes are rejections (`Errored`, or a panic under `failurePolicy: Fail`). -/
theorem never_admitted_unheld (rq : Req) (r : Rollout) (hm : mustHoldRollout rq = some r) :
    ∀ o, run rq = .admitted o → heldBack (wkind rq) o = true ∧ o.inProgress = .rollout r.name := by
  obtain ⟨hsel, helig⟩ := mustHold_selected hm
  intro o ho
  unfold run at ho
  cases hdry : rq.dryRunSet
  · simp [handle_noDryRun hsel hdry, outcome] at ho
  rw [handle_kinds hsel hdry (eligible_kind helig).2, hm] at ho
  cases hk : wkind rq with
  | notHandled => exact absurd hk (eligible_kind helig).1
  | deployment =>
    rw [hk] at ho
    rcases hf : findCanaryAndStableReplicaSet (activeRS rq) rq.new with _ | ⟨a, _ | s⟩ <;>
      simp [hf, outcome] at ho <;> subst ho <;> simp [heldBack]
  | cloneSet =>
    rw [hk] at ho
    simp [outcome] at ho; subst ho; simp [heldBack]
  | daemonSet =>
    rw [hk] at ho
    by_cases hbad : (!(typedUSOk rq.new.us && typedUSOk rq.old.us)) = true
    · simp [hbad, outcome] at ho
    · simp only [hbad] at ho
      rcases hn : rq.new.us with _ | _ | ⟨t, _ | _ | p⟩ <;> simp [hn, outcome] at ho
      subst ho; simp [heldBack, maxInt16]
  | stsLike =>
    rw [hk] at ho
    by_cases hbad : (eligible rq && rq.new.rolloutId != "" && !rq.oldMetaPresent) = true
    · simp [hbad, outcome] at ho
    · simp only [hbad] at ho
      simp [outcome] at ho; subst ho
      rcases hn : rq.new.us with _ | _ | ⟨t, ru⟩ <;> simp [heldBack, setStatefulSetPartition, maxInt16]

/-- **Observation III.3 #15.** An Advanced DaemonSet without `updateStrategy.rollingUpdate` that
    must be held makes `handleDaemonSet` dereference nil: the handler panics and, the webhooks being
    registered with `failurePolicy: Fail`, the update is rejected — not admitted. -/
theorem daemonSet_without_rollingUpdate (rq : Req) (r : Rollout)
    (hm : mustHoldRollout rq = some r) (hw : wellFormed rq = true) (hds : dsNoRollingUpdate rq = true) :
    handle rq = .panic := by
  obtain ⟨hsel, _⟩ := mustHold_selected hm
  obtain ⟨hdry, _, _, hus⟩ := (wellFormed_iff rq).mp hw
  unfold dsNoRollingUpdate at hds
  simp only [Bool.and_eq_true, beq_iff_eq] at hds
  obtain ⟨hk, hds⟩ := hds
  obtain ⟨hn', ho'⟩ := hus hk
  rw [handle_kinds hsel hdry (by simp [hk]), hm, hk]
  simp only [hn', ho', Bool.and_self, Bool.not_true, Bool.false_eq_true, if_false]
  rcases hn : rq.new.us with _ | _ | ⟨t, _ | _ | p⟩ <;> simp [hn] at hds ⊢

/-- **C08.ii (frame).** A request that need not be held and is not an in-progress Deployment is
    never patched; unless it is malformed or the webhook configuration is missing it is allowed,
    i.e. the submitted object is admitted unchanged. -/
theorem unchanged_otherwise (rq : Req) (hm : mustHoldRollout rq = none) (hip : depInProgress rq = false) :
    (∀ o, handle rq ≠ .patched o) ∧
    (wellFormed rq = true → (rq.cfg.isSome = true ∨ rq.op ≠ "UPDATE" ∨ rq.subResource ≠ "") → handle rq = .allowed) := by
  cases hsel : selected rq
  · rcases handle_unselected hsel with h | ⟨h, hc, ho, hs⟩ | ⟨h, hd⟩
    · simp [h]
    · simp [h, hc, ho, hs]
    · refine ⟨by simp [h], ?_⟩
      intro hw; rw [((wellFormed_iff rq).mp hw).1] at hd; cases hd
  · cases hdry : rq.dryRunSet
    · rw [handle_noDryRun hsel hdry]
      refine ⟨by simp, ?_⟩
      intro hw; rw [((wellFormed_iff rq).mp hw).1] at hdry; cases hdry
    have hab : wkind rq = .deployment → rq.new.inProgress = .absent := fun hk =>
      Decidable.byContradiction fun h => absurd ((depInProgress_iff rq).mpr ⟨hk, hsel, h⟩) (by simp [hip])
    rw [handle_kinds hsel hdry hab, hm]
    cases hk : wkind rq with
    | notHandled | deployment | cloneSet => simp
    | daemonSet =>
      simp only []
      split
      · rename_i hbad
        refine ⟨by simp, ?_⟩
        intro hw
        obtain ⟨hn, ho⟩ := ((wellFormed_iff rq).mp hw).2.2.2 hk
        simp [hn, ho] at hbad
      · simp
    | stsLike =>
      simp only []
      split
      · rename_i hbad
        refine ⟨by simp, ?_⟩
        intro hw
        simp [((wellFormed_iff rq).mp hw).2.1] at hbad
      · simp

/-- **C08.ii / C08.iii (in-progress Deployments).** A selected Deployment carrying the in-progress
    marker is admitted (given `dryRun`, which an API server always sets); the admitted object differs from the submitted one at most in
    `spec.paused`, `spec.strategy` and the strategy annotation; and it **is paused** whenever the
    release is canary- or partition-style (no original-strategy annotation, or strategy annotation
    with rolling style Partition) or the update is a release change. In particular an edit that
    sets `paused=false` in the middle of such a release is corrected. -/
theorem inProgress_repaused (rq : Req) (hip : depInProgress rq = true) (hdry : rq.dryRunSet = true) :
    ∃ o, run rq = .admitted o
      ∧ { o with paused := rq.new.paused, stratType := rq.new.stratType, stratRU := rq.new.stratRU,
                 stratAnno := rq.new.stratAnno } = rq.new
      ∧ ((repauseStyle rq.new = true ∨ releaseChange rq.old rq.new = true) → o.paused = true) := by
  obtain ⟨hk, hsel, hne⟩ := (depInProgress_iff rq).mp hip
  unfold run
  rw [handle_dispatch hsel hdry, hk]
  simp only []
  rw [handleDeployment_inProgress hne]
  obtain ⟨c, o, he, hf, hp⟩ := handleDeploymentInProgress_spec rq.new rq.old
  rw [he]
  cases c
  · refine ⟨rq.new, by simp [finish, outcome], rfl, ?_⟩
    intro h; exact (hp h).2 rfl
  · refine ⟨o, by simp [finish, outcome], hf, ?_⟩
    intro h; exact (hp h).1

/-- without `dryRun` — a shape no API server produces — the handler panics before it looks at the Deployment -/
theorem inProgress_noDryRun (rq : Req) (hip : depInProgress rq = true) (hdry : rq.dryRunSet = false) :
    run rq = .panic ∧ wellFormed rq = false := by
  refine ⟨?_, ?_⟩
  · rw [run, handle_noDryRun ((depInProgress_iff rq).mp hip).2.1 hdry]; rfl
  · rw [← Bool.not_eq_true, wellFormed_iff, hdry]; simp

/-! ## the four oracles hold on the model, for every request

These are the statements the driver re-evaluates on the outcome of the *real* handlers
(`holds` entries `C08.hold`, `C08.total`, `C08.frame`, `C08.repause`): `hold_ok` is C08.i, `frame_ok` C08.ii,
`repause_ok` C08.iii and `total_ok` C08.iv, each as the Bool oracle of `RV.Oracle.C08`. -/

theorem hold_ok (rq : Req) : holdOk rq (run rq) = true := by
  unfold holdOk
  cases hm : mustHoldRollout rq with
  | none => rfl
  | some r =>
    simp only []
    cases hw : wellFormed rq
    · simp
    · cases hds : dsNoRollingUpdate rq
      · obtain ⟨o, ho, h1, h2, h3, h4⟩ := held_and_marked rq r hm hw hds
        simp [run, ho, outcome, h1, h2, h3, h4]
      · have := daemonSet_without_rollingUpdate rq r hm hw hds
        simp [run, this, outcome]

theorem total_ok (rq : Req) : totalOk rq (run rq) = true := by
  unfold totalOk
  cases hm : mustHoldRollout rq with
  | none => rfl
  | some r =>
    simp only []
    cases hr : run rq with
    | admitted o =>
      obtain ⟨h1, h2⟩ := never_admitted_unheld rq r hm o hr
      simp [h1, h2]
    | rejected => rfl
    | panic => rfl

theorem frame_ok (rq : Req) : frameOk rq (run rq) = true := by
  unfold frameOk
  cases hm : mustHoldRollout rq with
  | some r => rfl
  | none =>
    simp only [Option.isSome_none, Bool.false_eq_true, if_false]
    cases hip : depInProgress rq
    · simp only [Bool.false_eq_true, if_false]
      obtain ⟨h1, h2⟩ := unchanged_otherwise rq hm hip
      cases hh : handle rq with
      | allowed => simp [run, hh, outcome]
      | patched o => exact absurd hh (h1 o)
      | errored | panic =>
        simp only [run, hh, outcome]
        cases hw : wellFormed rq
        · simp
        · simp only [Bool.not_true, Bool.false_or]
          have h3 := h2 hw
          cases hc : rq.cfg with
          | some c => simp [hc, hh] at h3
          | none =>
            by_cases ho : rq.op = "UPDATE" <;> by_cases hs : rq.subResource = "" <;> simp [hc, hh, ho, hs] at h3 ⊢
    · simp only [if_true]
      cases hdry : rq.dryRunSet
      · simp [inProgress_noDryRun rq hip hdry]
      · obtain ⟨o, ho, hf, _⟩ := inProgress_repaused rq hip hdry
        simp [ho, hf]

theorem repause_ok (rq : Req) : repauseOk rq (run rq) = true := by
  unfold repauseOk
  split
  · rename_i h
    simp only [Bool.and_eq_true, Bool.or_eq_true] at h
    obtain ⟨hip, hst⟩ := h
    cases hdry : rq.dryRunSet
    · simp [inProgress_noDryRun rq hip hdry]
    · obtain ⟨o, ho, _, hp⟩ := inProgress_repaused rq hip hdry
      simp [ho, hp hst]
  · rfl

/-! ## well-formed requests are not turned away -/

/-- **C08.ii (no spurious failure: the part of `frameOk` about well-formed requests).** With the webhook configuration present, a well-formed request
    is always admitted (patched or unchanged) — the handlers neither panic nor return an error —
    except for the one case of `daemonSet_without_rollingUpdate`. -/
theorem no_failure (rq : Req) (hw : wellFormed rq = true) (hc : rq.cfg.isSome = true)
    (hds : (dsNoRollingUpdate rq && (mustHoldRollout rq).isSome) = false) :
    ∃ o, run rq = .admitted o := by
  cases hm : mustHoldRollout rq with
  | some r =>
    have hds' : dsNoRollingUpdate rq = false := by simpa [hm] using hds
    obtain ⟨o, ho, _⟩ := held_and_marked rq r hm hw hds'
    exact ⟨o, by simp [run, ho, outcome]⟩
  | none =>
    cases hip : depInProgress rq
    · have h := (unchanged_otherwise rq hm hip).2 hw (Or.inl hc)
      exact ⟨rq.new, by simp [run, h, outcome]⟩
    · have hdry : rq.dryRunSet = true := ((wellFormed_iff rq).mp hw).1
      obtain ⟨o, ho, _⟩ := inProgress_repaused rq hip hdry
      exact ⟨o, ho⟩

/-! ## non-vacuity: concrete requests satisfying the hypotheses (tests, by evaluation) -/

def exObj : Obj :=
  { group := "apps", kind := "Deployment", name := "web", workloadType := "deployment",
    replicas := some 3, rolloutId := "", tmplPresent := true, tmpl := { body := 1, hash := "h1" },
    inProgress := .absent, paused := false, stratType := "RollingUpdate", stratRU := none,
    stratAnno := .absent, hasOrigStrategy := false, stableRev := "", csPartition := none,
    statusReplicas := 3, statusUpdated := 3, us := .absent, rest := 0 }

def exRollout (kind apiVersion : String) : Rollout :=
  { name := "r1", deleting := false, phaseDisabled := false, refApiVersion := apiVersion, refKind := kind,
    refName := "web", emptyRelease := false, hasTraffic := true }

def exRS : RS :=
  { deleting := false, replicas := some 3, ctrl := .same, selected := true, tmplBody := 1,
    hashLabel := "h1", revision := some 1, created := 100 }

def exCfg : Option (List WH) :=
  some [{ rules := [false], sel := .existsWorkloadType }, { rules := [true], sel := .existsWorkloadType }]

/-- a Deployment whose pod template changes; the first Rollout is being deleted, the second matches -/
def exDep : Req :=
  { unified := false, op := "UPDATE", subResource := "", dryRunSet := true, cfg := exCfg,
    old := exObj, new := { exObj with tmpl := { body := 2, hash := "" } }, oldMetaPresent := true,
    rollouts := [{ exRollout "Deployment" "apps/v1" with name := "r0", deleting := true }, exRollout "Deployment" "apps/v1"],
    rss := [exRS] }

/-- a CloneSet whose rollout-id changes (template unchanged) -/
def exCS : Req :=
  { exDep with
    old := { exObj with group := "apps.kruise.io", kind := "CloneSet", rolloutId := "1" },
    new := { exObj with group := "apps.kruise.io", kind := "CloneSet", rolloutId := "2" },
    rollouts := [exRollout "CloneSet" "apps.kruise.io/v1alpha1"], rss := [] }

/-- an Advanced DaemonSet with / without a `rollingUpdate` block -/
def exDS (ru : RUBlock) : Req :=
  { exDep with
    old := { exObj with group := "apps.kruise.io", kind := "DaemonSet", us := .present "RollingUpdate" ru },
    new := { exObj with group := "apps.kruise.io", kind := "DaemonSet", us := .present "RollingUpdate" ru,
                        tmpl := { body := 2, hash := "" } },
    rollouts := [exRollout "DaemonSet" "apps.kruise.io/v1alpha1"], rss := [] }

/-- a custom StatefulSet-like kind through the unified handler, no `updateStrategy` at all -/
def exSts : Req :=
  { exDep with
    unified := true,
    old := { exObj with group := "games.example.io", kind := "GameServerSet", workloadType := "StatefulSet" },
    new := { exObj with group := "games.example.io", kind := "GameServerSet", workloadType := "StatefulSet",
                        tmpl := { body := 2, hash := "" } },
    rollouts := [exRollout "GameServerSet" "games.example.io/v1"], rss := [] }

/-- an in-progress canary-style Deployment that a user un-pauses -/
def exUnpause : Req :=
  { exDep with
    old := { exObj with inProgress := .rollout "r1", paused := true },
    new := { exObj with inProgress := .rollout "r1", paused := false } }

/-- an annotation-only edit (nothing modelled changes) -/
def exNoChange : Req := { exDep with new := exObj }

-- hypotheses of `held_and_marked` / `never_admitted_unheld` are satisfiable for every kind (tests)
example : mustHoldRollout exDep = some (exRollout "Deployment" "apps/v1") ∧ wellFormed exDep = true
    ∧ dsNoRollingUpdate exDep = false := by decide +kernel
example : mustHoldRollout exCS = some (exRollout "CloneSet" "apps.kruise.io/v1alpha1") ∧ wellFormed exCS = true
    ∧ dsNoRollingUpdate exCS = false := by decide +kernel
example : (mustHoldRollout (exDS (.present none))).isSome = true ∧ wellFormed (exDS (.present none)) = true
    ∧ dsNoRollingUpdate (exDS (.present none)) = false := by decide +kernel
example : (mustHoldRollout exSts).isSome = true ∧ wellFormed exSts = true
    ∧ dsNoRollingUpdate exSts = false := by decide +kernel
-- hypotheses of `daemonSet_without_rollingUpdate`
example : (mustHoldRollout (exDS .absent)).isSome = true ∧ wellFormed (exDS .absent) = true
    ∧ dsNoRollingUpdate (exDS .absent) = true := by decide +kernel
-- hypotheses of `unchanged_otherwise`
example : mustHoldRollout exNoChange = none ∧ depInProgress exNoChange = false ∧ wellFormed exNoChange = true
    ∧ exNoChange.cfg.isSome = true := by decide +kernel
-- hypotheses of `inProgress_repaused`, with the premise of its last conjunct
example : depInProgress exUnpause = true ∧ exUnpause.dryRunSet = true ∧ repauseStyle exUnpause.new = true
    ∧ exUnpause.new.paused = false := by decide +kernel
-- what the model answers on these (tests)
example : run exDep = .admitted { exDep.new with paused := true, inProgress := .rollout "r1", stableRev := "h1" } := by
  decide +kernel
example : run exCS = .admitted { exCS.new with csPartition := some (.pct 100), inProgress := .rollout "r1" } := by
  decide +kernel
example : run exSts = .admitted { exSts.new with us := .present "RollingUpdate" (.present (some 32767)),
                                                 inProgress := .rollout "r1" } := by decide +kernel
example : run (exDS .absent) = .panic := by decide +kernel
example : run exUnpause = .admitted { exUnpause.new with paused := true } := by decide +kernel
example : run exNoChange = .admitted exNoChange.new := by decide +kernel

end RV.Props.C08
