/-
  C05 / C06 — the clean-up sequence as an inductive invariant over reconciles.

  `finInv reason ro cursor br net` says: every task of the exit reason's task list that lies before the
  persisted cursor still has its effect in the cluster.  It holds trivially when the cursor is
  empty, is preserved by every round of `doFinalising` (whatever the grace memory holds — in
  particular after a crash has emptied it) and by every step of the environment that does not
  re-create what the rollout removed, and at END it gives the clean cluster of C05.

  Also here, independent of the invariant: C04, a partition-style full step leaves `BeforeStepUpgrade` with the stable Service un-pinned
  (`initStep_full_unpins`), and the arithmetic behind C01.5 (`exposure_within_current_step`).
-/
import RV.Lemmas.RunMove
import RV.Lemmas.Traffic
import RV.Oracle.Cluster
namespace RV.Props.Cluster
open RV.Arith RV.Traffic RV.RolloutSM RV.Oracle.Cluster RV.Props.Traffic RV.Props.Rollout

/-- a task that reports completion (no retry, no error) has established its post-condition
    (partial: `wlSeen`, i.e. outside known finding noRevKey) -/
theorem finTask_done_post (c c' : Ctx) (wr : Bool) (hk : c.wlSeen = true)
    (h : finTask c wr = some (c', false, false)) :
    post c.sub.finStep c'.ro c'.br c'.net = true := by
  unfold finTask at h
  split at h
  · -- resumeWorkload
    rename_i hf
    simp only [Option.some.injEq, Prod.mk.injEq] at h
    obtain ⟨hc, hr, _⟩ := h
    subst hc
    rw [hf]; unfold post; dsimp only
    unfold finalizingBatchRelease at hr ⊢
    cases hb : c.br with
    | none => rfl
    | some b =>
      rw [hb] at hr; dsimp only at hr ⊢
      split at hr
      · rename_i hh; rw [if_pos hh]; simp [hh.1, hh.2]
      · split at hr <;> simp at hr
  · -- releaseWorkloadControl
    rename_i hf
    simp only [Option.some.injEq, Prod.mk.injEq] at h
    obtain ⟨hc, hr, _⟩ := h
    subst hc
    rw [hf]; unfold post; dsimp only
    rw [(removeBatchRelease_retry c.br).2 hr]
    rfl
  · -- routeTrafficToStable
    rename_i hf
    rw [hf]; unfold post
    obtain ⟨t, _, ht, rfl, rfl, _, _⟩ := callTM_inv h
    obtain ⟨href, _⟩ := trCtx_inv ht
    have hs := (rg_spec { t with hasRevKey := c.wlSeen } c.net c.mem).post
    cases htr : c.ro.hasTraffic with
    | false => rfl
    | true => simp [hs (href.trans htr)]
  · -- restoreStableService
    rename_i hf
    rw [hf]; unfold post
    obtain ⟨t, _, ht, rfl, rfl, _, _⟩ := callTM_inv h
    obtain ⟨href, _⟩ := trCtx_inv ht
    have h := rs_spec { t with hasRevKey := c.wlSeen } c.net c.mem
    cases htr : c.ro.hasTraffic with
    | false => rfl
    | true =>
      cases hse : c.net.stableExists with
      | false => simp [h.kept (·.stableExists) rfl, hse]
      | true => simp [h.post (href.trans htr) hse hk]
  · -- removeCanaryService
    rename_i hf
    rw [hf]; unfold post
    obtain ⟨t, _, ht, rfl, rfl, _, _⟩ := callTM_inv h
    obtain ⟨href, _, hgen, _⟩ := trCtx_inv ht
    have hs := (rc_spec { t with hasRevKey := c.wlSeen } c.net c.mem).post
    cases htr : c.ro.hasTraffic with
    | false => rfl
    | true =>
      cases hdg : c.ro.disableGen with
      | true => rfl
      | false => simp [hs (href.trans htr) (hgen.trans hdg)]
  · rename_i hf; rw [hf]; rfl
  · simp at h

/-- nothing the rollout removed has come back (network part) -/
def NetLE (n n' : Net) : Prop :=
  n'.stableExists = n.stableExists ∧ (n.stableSel.getD "" = "" → n'.stableSel.getD "" = "") ∧
  (n.canaryIng = none → n'.canaryIng = none) ∧ (n.canarySvc = none → n'.canarySvc = none)

/-- nothing the rollout removed has come back (BatchRelease part): a deleted BatchRelease stays deleted,
    a resumed and completed one stays so -/
def BrLE (br br' : Option BR) : Prop :=
  (br = none → br' = none) ∧
  (∀ b, br = some b → b.partition.isNone = true → b.phaseCompleted = true →
     br' = none ∨ ∃ b', br' = some b' ∧ b'.partition.isNone = true ∧ b'.phaseCompleted = true)

theorem NetLE.refl (n : Net) : NetLE n n := ⟨rfl, id, id, id⟩
theorem BrLE.refl (b : Option BR) : BrLE b b := ⟨id, fun b h hp hc => Or.inr ⟨b, h, hp, hc⟩⟩

theorem post_mono (t : FinStep) (ro : Rollout) (br br' : Option BR) (n n' : Net)
    (hn : NetLE n n') (hb : BrLE br br') (h : post t ro br n = true) : post t ro br' n' = true := by
  obtain ⟨h1, h2, h3, h4⟩ := hn
  obtain ⟨b1, b2⟩ := hb
  unfold post at h ⊢
  cases t <;> dsimp only at h ⊢
  · -- resumeWorkload
    cases hbr : br with
    | none => rw [b1 hbr]
    | some b =>
      rw [hbr] at h; dsimp only at h
      simp only [Bool.and_eq_true] at h
      rcases b2 b hbr h.1 h.2 with h' | ⟨b', h', hp, hc⟩
      · rw [h']
      · rw [h']; simp [hp, hc]
  · -- releaseWorkloadControl
    cases hbr : br with
    | none => rw [b1 hbr]; rfl
    | some b => rw [hbr] at h; simp at h
  · -- routeTrafficToStable
    cases htr : ro.hasTraffic with
    | false => rfl
    | true =>
      rw [htr] at h; simp only [Bool.not_true, Bool.false_or, Option.isNone_iff_eq_none] at h
      simp [h3 h]
  · -- restoreStableService
    cases htr : ro.hasTraffic with
    | false => rfl
    | true =>
      rw [htr] at h; rw [h1]
      cases hse : n.stableExists with
      | false => rfl
      | true =>
        rw [hse] at h; simp only [Bool.not_true, Bool.false_or, beq_iff_eq] at h
        simp [h2 h]
  · -- removeCanaryService
    cases htr : ro.hasTraffic with
    | false => rfl
    | true =>
      cases hdg : ro.disableGen with
      | true => simp
      | false =>
        rw [htr, hdg] at h; simp only [Bool.not_true, Bool.false_or, Option.isNone_iff_eq_none] at h
        simp [h4 h]

theorem callTM_le {f : TCtx → Net → Mem → TOut} {c c' : Ctx} {rt e : Bool}
    (hf : ∀ t n m, NetLE n (f t n m).net) (h : callTM f c = some (c', rt, e)) :
    NetLE c.net c'.net ∧ c'.br = c.br ∧ c'.ro = c.ro := by
  obtain ⟨_, _, _, rfl, rfl, _, _⟩ := callTM_inv h
  exact ⟨hf _ _ _, rfl, rfl⟩

theorem rs_le (t : TCtx) (n : Net) (m : Mem) : NetLE n (restoreStableService t n m).net := by
  unfold restoreStableService
  split
  · exact NetLE.refl n
  · split
    · exact NetLE.refl n
    · dsimp only
      split
      · exact ⟨rfl, fun _ => rfl, id, id⟩
      · exact NetLE.refl n

theorem rg_le (t : TCtx) (n : Net) (m : Mem) : NetLE n (restoreGateway t n m).net := by
  unfold restoreGateway finaliseGw
  split
  · exact NetLE.refl n
  · cases h : n.canaryIng <;> exact ⟨rfl, id, fun _ => rfl, id⟩

theorem rc_le (t : TCtx) (n : Net) (m : Mem) : NetLE n (removeCanaryService t n m).net := by
  unfold removeCanaryService
  split
  · exact NetLE.refl n
  · split
    · exact NetLE.refl n
    · exact ⟨rfl, id, id, fun _ => rfl⟩

/-- **frame** — whatever a clean-up task does (complete, retry or fail), it re-creates nothing;
    `routeTrafficToNew` (first task of the blue-green success list only) is the one exception -/
theorem finTask_le (c c' : Ctx) (wr rt e : Bool) (hne : c.sub.finStep ≠ .routeTrafficToNew)
    (h : finTask c wr = some (c', rt, e)) :
    NetLE c.net c'.net ∧ BrLE c.br c'.br ∧ c'.ro = c.ro := by
  unfold finTask at h
  split at h
  · simp only [Option.some.injEq, Prod.mk.injEq] at h
    obtain ⟨hc, _, _⟩ := h
    subst hc
    refine ⟨NetLE.refl _, ?_, rfl⟩
    dsimp only
    unfold finalizingBatchRelease
    cases hb : c.br with
    | none => exact BrLE.refl _
    | some b =>
      dsimp only
      split
      · exact BrLE.refl _
      · split
        · exact BrLE.refl _
        · rename_i h1 h2
          refine ⟨fun h => (by cases h), fun b0 hb0 hp hc => ?_⟩
          cases hb0
          exact absurd ⟨hp, hc⟩ h1
  · simp only [Option.some.injEq, Prod.mk.injEq] at h
    obtain ⟨hc, _, _⟩ := h
    subst hc
    refine ⟨NetLE.refl _, ?_, rfl⟩
    dsimp only
    unfold removeBatchRelease
    cases hb : c.br with
    | none => exact BrLE.refl _
    | some b =>
      dsimp only
      split
      · exact BrLE.refl _
      · refine ⟨fun h => (by cases h), fun b0 hb0 hp hc => Or.inr ⟨_, rfl, ?_, ?_⟩⟩ <;> cases hb0 <;> assumption
  · obtain ⟨a, b, d⟩ := callTM_le rg_le h; exact ⟨a, b ▸ BrLE.refl _, d⟩
  · obtain ⟨a, b, d⟩ := callTM_le rs_le h; exact ⟨a, b ▸ BrLE.refl _, d⟩
  · obtain ⟨a, b, d⟩ := callTM_le rc_le h; exact ⟨a, b ▸ BrLE.refl _, d⟩
  · rename_i hf; exact absurd hf hne
  · simp only [Option.some.injEq, Prod.mk.injEq] at h
    obtain ⟨hc, _, _⟩ := h
    subst hc
    exact ⟨NetLE.refl _, BrLE.refl _, rfl⟩

-- facts about `taskList` / `nextTask` / `doneTasks` by enumeration of style × reason × cursor

theorem tbl_next_done (style : Style) (reason : Reason) (cur : FinStep)
    (hin : cur ∈ taskList style reason) :
    doneTasks (taskList style reason) (nextTask (taskList style reason) cur) =
      doneTasks (taskList style reason) cur ++ [cur] := by
  cases style <;> cases reason <;> cases cur <;> revert hin <;> decide

theorem tbl_next_ok (style : Style) (reason : Reason) (cur : FinStep)
    (hin : cur ∈ taskList style reason ∨ cur = .empty) :
    cursorOk (taskList style reason) (nextTask (taskList style reason) cur) = true := by
  cases style <;> cases reason <;> cases cur <;> revert hin <;> decide

theorem tbl_first_done (style : Style) (reason : Reason) :
    doneTasks (taskList style reason) (nextTask (taskList style reason) .empty) = [] := by
  cases style <;> cases reason <;> decide

theorem tbl_known_in (style : Style) (reason : Reason) (cur : FinStep)
    (hok : cursorOk (taskList style reason) cur = true) (hk : finKnown style cur = true) :
    cur ∈ taskList style reason := by
  cases style <;> cases reason <;> cases cur <;> revert hok hk <;> decide

theorem tbl_empty_done (style : Style) (reason : Reason) :
    doneTasks (taskList style reason) .empty = [] := by
  cases style <;> cases reason <;> decide

theorem tbl_toNew_first (style : Style) (reason : Reason) :
    doneTasks (taskList style reason) .routeTrafficToNew = [] := by
  cases style <;> cases reason <;> decide

theorem startCursor_frame (c : Ctx) (nx : FinStep) :
    (startCursor c nx).br = c.br ∧ (startCursor c nx).net = c.net ∧ (startCursor c nx).wlSeen = c.wlSeen ∧
    (startCursor c nx).ro = c.ro := by
  unfold startCursor; split <;> exact ⟨rfl, rfl, rfl, rfl⟩

theorem finInv_mono (reason : Reason) (ro : Rollout) (cur : FinStep) (br br' : Option BR) (n n' : Net)
    (hn : NetLE n n') (hb : BrLE br br') (h : finInv reason ro cur br n = true) :
    finInv reason ro cur br' n' = true := by
  unfold finInv at h ⊢
  rw [List.all_eq_true] at h ⊢
  exact fun t ht => post_mono t ro br br' n n' hn hb (h t ht)

/-- **C05 / C06 — the clean-up invariant is inductive.**  For every rollout, exit reason, network and
    BatchRelease state and every content of the grace memory (in particular the empty memory a crashed
    controller restarts with): if every task before the persisted cursor still has its effect, one more
    round of `doFinalising` — whether its task completes, retries or fails — leaves a cursor the
    reason's list can interpret and every task before *that* cursor has its effect.
    (partial: `wlSeen`, i.e. outside known finding noRevKey, where `RestoreStableService` reports
    completion without touching the Service.) -/
theorem doFinalising_inv_partial (c c' : Ctx) (reason : Reason) (wr d e : Bool) (hk : c.wlSeen = true)
    (hok : cursorOk (taskList c.ro.style reason) c.sub.finStep = true)
    (hinv : finInv reason c.ro c.sub.finStep c.br c.net = true)
    (h : doFinalising c reason wr = some (c', d, e)) :
    c'.ro = c.ro ∧ cursorOk (taskList c.ro.style reason) c'.sub.finStep = true ∧
    finInv reason c'.ro c'.sub.finStep c'.br c'.net = true := by
  obtain ⟨fro, fbr, fnet, fseen, fcur⟩ := finStart_frame c reason
  -- a cursor at the first task claims nothing
  have firstOk := tbl_next_ok c.ro.style reason .empty (Or.inr rfl)
  have first : ∀ br n, finInv reason c.ro (nextTask (taskList c.ro.style reason) .empty) br n = true :=
    fun br n => by unfold finInv; rw [tbl_first_done]; rfl
  -- a task that ran at a cursor of the list leaves the earlier tasks' effects in place
  have keep : ∀ cr rt e, finTask (finStart c reason) wr = some (cr, rt, e) → c.sub.finStep ≠ .empty →
      c.sub.finStep ∈ taskList c.ro.style reason → finInv reason c.ro c.sub.finStep cr.br cr.net = true := by
    intro cr rt e hrun hemp hin
    rw [if_neg hemp] at fcur
    by_cases hnew : c.sub.finStep = .routeTrafficToNew
    · unfold finInv; rw [hnew, tbl_toNew_first]; rfl
    · obtain ⟨h1, h2, _⟩ := finTask_le _ _ _ _ _ (fcur ▸ hnew) hrun
      exact finInv_mono _ _ _ _ _ _ _ (fnet ▸ h1) (fbr ▸ h2) hinv
  cases doFinalising_inv h with
  | atEnd =>
    rw [stripAnno_eq]
    exact ⟨rfl, hok, hinv⟩
  | restart => exact ⟨fro, firstOk, fro.symm ▸ first _ _⟩
  | stopped _ hkn _ _ _ hrun =>
    have hro : c'.ro = c.ro := (finTask_frame hrun).1.ro.trans fro
    rw [(finTask_frame hrun).2, hro, fcur]
    by_cases hemp : c.sub.finStep = .empty
    · rw [if_pos hemp]; exact ⟨rfl, firstOk, first _ _⟩
    · rw [fcur, if_neg hemp] at hkn
      rw [if_neg hemp]; exact ⟨rfl, hok, keep c' _ _ hrun hemp (tbl_known_in _ _ _ hok hkn)⟩
  | advanced _ hkn cr hrun =>
    have hro : cr.ro = c.ro := (finTask_frame hrun).1.ro.trans fro
    dsimp only
    rw [hro]
    by_cases hemp : c.sub.finStep = .empty
    · rw [hemp]; exact ⟨rfl, firstOk, first _ _⟩
    · rw [fcur, if_neg hemp] at hkn
      have hin := tbl_known_in _ _ _ hok hkn
      have hpost := finTask_done_post _ _ _ (fseen.trans hk) hrun
      rw [fcur, if_neg hemp, hro] at hpost
      refine ⟨rfl, tbl_next_ok _ _ _ (Or.inl hin), ?_⟩
      have hkeep := keep cr _ _ hrun hemp hin
      unfold finInv at hkeep ⊢
      rw [tbl_next_done _ _ _ hin, List.all_append, hkeep]
      simp [hpost]

/-- at END the invariant is the clean cluster of C05: no BatchRelease, no canary route, no canary
    Service (unless the user supplied it), stable Service un-pinned -/
theorem end_means_clean (reason : Reason) (ro : Rollout) (br : Option BR) (n : Net)
    (h : finInv reason ro .end_ br n = true) :
    br = none ∧ (ro.hasTraffic = true → n.canaryIng = none ∧ (ro.disableGen = false → n.canarySvc = none) ∧
      (n.stableExists = true → n.stableSel.getD "" = "")) := by
  unfold finInv doneTasks at h
  rw [if_pos rfl, List.all_eq_true] at h
  have h1 := h .releaseWorkloadControl (by cases hs : ro.style <;> cases reason <;> decide)
  have h2 := h .routeTrafficToStable (by cases hs : ro.style <;> cases reason <;> decide)
  have h3 := h .removeCanaryService (by cases hs : ro.style <;> cases reason <;> decide)
  have h4 := h .restoreStableService (by cases hs : ro.style <;> cases reason <;> decide)
  unfold post at h1 h2 h3 h4
  dsimp only at h1 h2 h3 h4
  refine ⟨by simpa using h1, fun htr => ?_⟩
  rw [htr] at h2 h3 h4
  refine ⟨by simpa using h2, fun hdg => (by rw [hdg] at h3; simpa using h3), fun hse => (by rw [hse] at h4; simpa using h4)⟩

/-- one event of the closed loop while a rollout is being finalised for `reason`:
    a reconcile round of the rollout controller (any grace memory, any `waitReady`), or a step of
    anything else in the cluster — the BatchRelease controller, the workload controller, the API
    server's garbage collection, a **crash** of the rollout controller (the in-memory `mem` is replaced
    by anything) — that re-creates nothing the rollout removed and leaves the rollout object alone. -/
inductive Event (reason : Reason) : Ctx → Ctx → Prop
  | round (c c' : Ctx) (wr d e : Bool) : c.wlSeen = true → doFinalising c reason wr = some (c', d, e) → Event reason c c'
  | env (c c' : Ctx) : c'.ro = c.ro → c'.sub.finStep = c.sub.finStep → NetLE c.net c'.net → BrLE c.br c'.br → Event reason c c'

inductive Reach (reason : Reason) : Ctx → Ctx → Prop
  | refl (c : Ctx) : Reach reason c c
  | step (c c' c'' : Ctx) : Reach reason c c' → Event reason c' c'' → Reach reason c c''

/-- **C05 / C06 (every history, every crash point)** — start the clean-up with an empty cursor; after
    any finite sequence of reconcile rounds, crashes and foreign steps, every task before the persisted
    cursor has its effect.  (partial: every `round` has `wlSeen`, i.e. outside known finding noRevKey.) -/
theorem reach_inv_partial (reason : Reason) (c0 c : Ctx) (h0 : c0.sub.finStep = .empty) (hr : Reach reason c0 c) :
    c.ro = c0.ro ∧ cursorOk (taskList c0.ro.style reason) c.sub.finStep = true ∧
    finInv reason c0.ro c.sub.finStep c.br c.net = true := by
  induction hr with
  | refl => rw [h0]; exact ⟨rfl, rfl, (by unfold finInv; rw [tbl_empty_done]; rfl)⟩
  | step c' c'' _ hev ih =>
    obtain ⟨i1, i2, i3⟩ := ih
    cases hev with
    | round wr d e hk hd =>
      obtain ⟨r1, r2, r3⟩ := doFinalising_inv_partial c' c'' reason wr d e hk (by rw [i1]; exact i2) (by rw [i1]; exact i3) hd
      rw [i1] at r1 r2
      rw [r1] at r3
      exact ⟨r1, r2, r3⟩
    | env e1 e2 e3 e4 =>
      rw [e2]
      exact ⟨e1.trans i1, i2, finInv_mono _ _ _ _ _ _ _ e3 e4 i3⟩

/-- **C05** — whenever the cursor reads END (the only situation in which `doFinalising` reports *done*, `doFinalising_cursor`) the
    cluster is clean: no BatchRelease, no canary route, no generated canary Service, stable Service un-pinned. -/
theorem reach_end_clean_partial (reason : Reason) (c0 c : Ctx) (h0 : c0.sub.finStep = .empty) (hr : Reach reason c0 c)
    (hend : c.sub.finStep = .end_) :
    c.br = none ∧ (c0.ro.hasTraffic = true → c.net.canaryIng = none ∧ (c0.ro.disableGen = false → c.net.canarySvc = none) ∧
      (c.net.stableExists = true → c.net.stableSel.getD "" = "")) := by
  obtain ⟨_, _, h⟩ := reach_inv_partial reason c0 c h0 hr
  rw [hend] at h
  exact end_means_clean _ _ _ _ h

/-- non-vacuity: a concrete mid-rollout state whose first clean-up round runs and changes the cluster -/
example :
    let n : Net := { stableExists := true, stableSel := some "v1", canarySvc := some "v2", stableIngress := true, canaryIng := some 20 }
    let ro : Rollout := { (default : Rollout) with style := .canary, steps := [⟨.pct 20, some 20, .manual⟩], hasTraffic := true, grace := 3 }
    let sub : Sub := { (default : Sub) with curIdx := 1, finStep := .empty, stableRev := "v1", canaryRev := "v2", podHash := "v2" }
    let c : Ctx := { ro := ro, sub := sub, wl := default, br := some default, net := n, mem := Mem.empty }
    (doFinalising c .success false).map (fun r => (r.1.sub.finStep, r.1.net.stableSel, r.2.1)) =
      some (.restoreStableService, none, false) := by decide

/-- **C04 (stable half)** — for every partition-style rollout, step and context: when a canary step with traffic whose
    replicas cover the whole workload leaves `BeforeStepUpgrade` (the batch is handed to the BatchRelease), the
    stable Service exists un-pinned — for the first step as well.  (Outside known finding noRevKey.) -/
theorem initStep_full_unpins (ro : Rollout) (step : Step) (c c' : Ctx) (err : Bool)
    (hstyle : ro.style = .canary) (hreal : ro.realPartition = true) (htr : stepHasTraffic step = true) (hro : c.ro = ro)
    (hhas : ro.hasTraffic = true) (hseen : c.wlSeen = true) (hinit : c.sub.state = .init)
    (hfull : scaledV step.replicas c.wl.replicas true ≥ c.wl.replicas)
    (h : initStep ro step c = .ok c' err) (hleft : c'.sub.state ≠ .init) :
    c'.net.stableExists = true → c'.net.stableSel.getD "" = "" := by
  -- the one Manager call of this `BeforeStepUpgrade` is `RestoreStableService`
  have hk : stateCall ro step c.wl c.sub = some .unpin := by
    unfold stateCall
    rw [hinit]
    dsimp only
    rw [if_neg (by simp [htr]), if_pos hstyle, if_pos ⟨hfull, hreal⟩]
  -- the Service was restored in this reconcile (or already was): what the call leaves behind
  obtain ⟨tc, ht, -, hn, -⟩ := initStep_left hinit hk h hleft
  rw [hn]
  have h := rs_spec { tc with hasRevKey := c.wlSeen } c.net c.mem
  exact fun hse => h.post ((trCtx_inv ht).1.trans (hro ▸ hhas)) (h.kept (·.stableExists) rfl ▸ hse) hseen

/-! ### C01.5 — the exposure chain across the two controllers

The three links are proved about three different pieces of code.  `exposure_within_current_step` is the arithmetic that
composes them: it takes them as hypotheses about a partition `p`, a batch `cb` and a step `cur`; no reconciler occurs in it
(link 1 for the model is `upgrade_partition_tracks_step`, which it does not use).
1. (Rollout controller) whatever `doCanaryUpgrade` leaves behind, the BatchRelease's batch partition is
   the current step index − 1 (`upgrade_partition_tracks_step`);
2. (BatchRelease executor) the executor's current batch never passes the partition
   (`RV.Props.Executor.within_partition`) and advances only from a batch that passed its readiness check
   (`batch_advance_guarded`);
3. (control plane) the knob written for batch `cb` exposes at most what plan entry `cb` allows, up to the
   < 1 % percent slack (`RV.Props.C01.write_exposure_bound`).
For a plan whose entries are non-decreasing in the pods they ask for, (1)–(3) give: the workload's exposure
is within what the rollout's *current* step allows (`exposure_within_current_step`). -/

open RV.BatchCtx RV.Oracle.Batch in
/-- plan entries never ask for fewer pods than an earlier entry -/
def PlanMonotone (R : Int) (plan : List IntOrPct) : Prop :=
  ∀ (i j : Nat) (a b : IntOrPct), i ≤ j → plan[i]? = some a → plan[j]? = some b → calcBatchReplicas R a ≤ calcBatchReplicas R b

/-- link 1: after `doCanaryUpgrade` (create, update or accept), the BatchRelease asks for exactly the
    batch of the current step -/
theorem upgrade_partition_tracks_step (ro : Rollout) (s : Sub) (wl : WL) (br : Option BR) (b : BR)
    (h : (doCanaryUpgrade ro s wl br).2.1 = some b) : b.partition = some (s.curIdx - 1) := by
  rw [doCanaryUpgrade_br] at h
  -- created for the step's batch; found with the wanted spec; or rewritten to it
  cases br with
  | none => cases h; rfl
  | some b0 =>
    cases hb : brSpecEq b0 (desiredBR ro (getRolloutID wl) (s.curIdx - 1) wl.inRollback) with
    | true => rw [runBatchRelease_current hb] at h; cases h; exact (brSpecEq_plan hb).2
    | false => rw [runBatchRelease_update hb] at h; cases h; rfl

open RV.BatchCtx RV.Oracle.Batch in
/-- **C01.5 (composition)** — for every workload kind, size and monotone plan: if the BatchRelease's
    partition is the rollout's current step − 1, the executor's current batch has not passed the partition,
    and the knob in force was written for that batch within its allowance, then the workload's exposure is
    within what the rollout's current step allows (for a CloneSet percent entry: within < 1 % of the size). -/
theorem exposure_within_current_step (kind : Kind) (R : Int) (plan : List IntOrPct) (cur cb : Nat) (p : Int)
    (ecb ecur : IntOrPct) (w : IntOrPct)
    (hmono : PlanMonotone R plan) (hpart : p = (cur : Int) - 1) (hcb : (cb : Int) ≤ p)
    (h1 : plan[cb]? = some ecb) (h2 : plan[cur - 1]? = some ecur)
    (hw : exposureBound kind R ecb none w = true) :
    exposureOf kind w R ≤ calcBatchReplicas R ecur ∨ 100 * (exposureOf kind w R - calcBatchReplicas R ecur) < max R 1 := by
  have hle : calcBatchReplicas R ecb ≤ calcBatchReplicas R ecur := hmono cb (cur - 1) ecb ecur (by omega) h1 h2
  unfold exposureBound allowed at hw
  dsimp only at hw
  split at hw
  · right
    have := of_decide_eq_true hw
    omega
  · left
    have := of_decide_eq_true hw
    omega

open RV.BatchCtx RV.Oracle.Batch in
/-- non-vacuity: 10 replicas, plan 20 % / 50 %, executor at batch 1 -/
example : PlanMonotone 10 [IntOrPct.pct 20, IntOrPct.pct 50] ∧
    exposureBound .cloneSet 10 (IntOrPct.pct 50) none (desKnob .cloneSet 10 (IntOrPct.pct 50) none) = true := by
  refine ⟨?_, by decide⟩
  intro i j a b hij ha hb
  rcases i with _ | _ | i <;> rcases j with _ | _ | j <;> simp at ha hb <;> (try omega) <;> (subst ha; subst hb; decide)

end RV.Props.Cluster
