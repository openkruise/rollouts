import RV.Lemmas.Gateway
/-!
# C13 — Gateway API routes: exact split, narrow matches, clean restore

Model: `RV/Model/Gateway.lean` (literal transcription of `pkg/trafficrouting/network/gateway/gateway.go` after rollouts
commits 6e62f8e, 03a5563, cc2e3e0, 8714a33, the four C13 repairs; on the tree before them the check reports
`corpus/gateway/finding-*.jsonl`).
Oracles: `RV/Oracle/C13.lean`.  All quantifiers are unbounded: every route (any number
of rules, matches, filters, backend-less rules, foreign backends, any weights), every
weight in `Int`, every list of user matches, every list of steps.

Hypotheses used, all decidable and evaluated by the driver on every run-time case:
* `confOk c`       — the stable and the canary Service have different names;
* `canaryFree c o` — the route the user wrote does not reference the canary Service;
* `inv c r`        — shape of every route reachable from a canary-free one (theorem
                     `reachable`), needed where a clause talks about mid-sequence states.
-/
namespace RV.Props.C13
open RV.Gateway RV.Oracle.C13

/-- **C13.i** A weight step of `w` never panics and its output satisfies `weightOk`:
    same number of rules; a rule without stable ref is returned unchanged; in a rule with
    a stable ref the matches and filters are unchanged, the stable ref differs only by its
    weight `100 - w`, the canary ref is the previous canary ref (or a copy of the stable
    ref under the canary name) with weight `w`, and every other ref is untouched. -/
theorem weight_step (c : Conf) (hc : confOk c = true) (rules : List Rule) (w : Int)
    (hw : w ≠ -1) :
    ∃ out, buildDesired c rules (some w) [] = .ok out ∧ weightOk c w rules out = true :=
  ⟨_, buildDesired_weight c rules hw,
    all2_map _ _ _ fun r _ => ruleWeightOk_weightRule (ne_of_confOk hc) w r⟩

/-- **C13.i, frame, spelled out**: position by position, a rule that does not reference
    the stable Service is not altered (whatever else it contains). -/
theorem weight_step_frame (c : Conf) (rules out : List Rule) (w : Int)
    (h : buildDesired c rules (some w) [] = .ok out) (hw : w ≠ -1) :
    out.length = rules.length ∧
    ∀ (i : Nat) (r : Rule), rules[i]? = some r → hasSvc r.refs c.stable = false →
      out[i]? = some r := by
  cases (buildDesired_weight c rules hw).symm.trans h
  refine ⟨List.length_map _, fun i r hr hs => ?_⟩
  rw [List.getElem?_map, hr, Option.map_some, weightRule_noStable (findSvc_eq_none.2 hs)]

/-- **C13.i, split, spelled out**: in every rule that targets the stable Service the
    stable ref ends up with weight `100 - w` and the canary ref with weight `w`. -/
theorem weight_step_split (c : Conf) (hc : confOk c = true) (rules out : List Rule) (w : Int)
    (h : buildDesired c rules (some w) [] = .ok out) (hw : w ≠ -1) :
    ∀ (i : Nat) (r : Rule), rules[i]? = some r → hasSvc r.refs c.stable = true →
      ∃ r' : Rule, out[i]? = some r' ∧
        (findSvc r'.refs c.stable).map (·.weight) = some (some (100 - w)) ∧
        (findSvc r'.refs c.canary).map (·.weight) = some (some w) := by
  cases (buildDesired_weight c rules hw).symm.trans h
  intro i r hr hs
  exact ⟨_, by rw [List.getElem?_map, hr]; rfl, weightRule_share (ne_of_confOk hc) w r hs⟩

/-- **C13.ii** A match step never panics and its output satisfies `matchOk`: it starts
    with the user's rules (generated rules of an earlier match step dropped, rules still
    carrying the canary ref of a weight step restored), in order, and everything after
    them is a generated rule that (a) has at least one match, (b) copies the filters of
    one user rule targeting the stable Service and has that rule's stable ref, renamed to
    the canary Service, as its only backend, (c) has only narrow matches. -/
theorem match_step (c : Conf) (hc : confOk c = true) (rules : List Rule) (w : Option Int)
    (hw : w ≠ some (-1)) (ms : List UMatch) (hms : ms ≠ []) :
    ∃ out, buildDesired c rules w ms = .ok out ∧ matchOk c ms rules out = true := by
  have hc' := ne_of_confOk hc
  refine ⟨_, buildDesired_match c rules hw hms, ?_⟩
  rw [buildHeader_eq hc']
  unfold matchOk
  simp only [List.take_left', List.drop_left', beq_self_eq_true, Bool.true_and, List.all_eq_true]
  intro k hk
  obtain ⟨orig, ho, hg⟩ := genRules_spec rules ms k hk
  exact canaryRuleOk_of_genFrom ho hg

/-- **C13.ii, originals kept, spelled out**: on a route the user wrote (no canary ref)
    the output is exactly the user's rules followed by generated rules. -/
theorem match_step_keeps_originals (c : Conf) (hc : confOk c = true) (rules out : List Rule)
    (hfree : canaryFree c rules = true) (w : Option Int) (hw : w ≠ some (-1))
    (ms : List UMatch) (hms : ms ≠ []) (h : buildDesired c rules w ms = .ok out) :
    ∃ gen, out = rules ++ gen ∧ gen.all (canaryRuleOk c ms rules) = true := by
  obtain ⟨out', h', hok⟩ := match_step c hc rules w hw ms hms
  rw [h] at h'; cases h'
  unfold matchOk at hok
  rw [userRules_of_canaryFree hfree] at hok
  simp only [Bool.and_eq_true, beq_iff_eq] at hok
  refine ⟨out.drop rules.length, ?_, hok.2⟩
  conv => lhs; rw [← List.take_append_drop rules.length out, hok.1]

section semantics
variable {Req : Type} (sem : Sem Req)

/-- **C13.ii, meaning of "narrow"**: under *every* interpretation of the individual
    path / header / query / method conditions, a request accepted by a generated rule
    satisfies one of the user's matches; if that match has no path (header / query match)
    the request also satisfies the conditions of the user rule the generated rule was
    derived from (same filters, targets the stable Service). -/
theorem generated_rule_narrow (c : Conf) (ms : List UMatch) (users : List Rule) (k : Rule)
    (hk : canaryRuleOk c ms users k = true) (q : Req) (hq : sem.acceptsRule k q = true) :
    ∃ u ∈ ms, sem.acceptsU u q = true ∧
      (u.path = none → ∃ orig ∈ users, hasSvc orig.refs c.stable = true ∧
        k.filters = orig.filters ∧ sem.acceptsRule orig q = true) := by
  unfold canaryRuleOk at hk
  simp only [Bool.and_eq_true, Bool.not_eq_eq_eq_not, Bool.not_true, List.any_eq_true] at hk
  obtain ⟨hne, orig, ho, hk⟩ := hk
  cases hs : findSvc orig.refs c.stable with
  | none => simp [hs] at hk
  | some s =>
    simp only [hs, Bool.and_eq_true, beq_iff_eq, List.all_eq_true] at hk
    obtain ⟨⟨hf, _⟩, hn⟩ := hk
    simp only [Sem.acceptsRule, hne, Bool.false_or, List.any_eq_true] at hq
    obtain ⟨m', hm', hacc⟩ := hq
    have hnm := hn m' hm'
    simp only [narrowMatch, Bool.or_eq_true, List.any_eq_true, Bool.and_eq_true, beq_iff_eq] at hnm
    rcases hnm with ⟨u, hu, hp, rfl⟩ | ⟨u, hu, ⟨_, hr⟩, horig⟩
    · refine ⟨u, hu, by rw [← acceptsM_ofU]; exact hacc, ?_⟩
      intro hnone; rw [hnone] at hp; cases hp
    · refine ⟨u, hu, acceptsU_of_refinesU sem hr hacc, fun _ =>
        ⟨orig, ho, hasSvc_of_findSvc hs, hf, ?_⟩⟩
      simp only [Sem.acceptsRule, Bool.or_eq_true, List.any_eq_true]
      rcases horig with he | ⟨m0, hm0, hr0⟩
      · exact Or.inl he
      · exact Or.inr ⟨m0, hm0, acceptsM_of_refinesM sem hr0 hacc⟩

end semantics

/-- **C13.iii** Finalise (weight −1) on any route of reachable shape: no canary ref is
    left, every generated rule is gone, every other rule is kept, in order, unchanged
    except that its canary ref is removed and its stable weight is normalised to 1. -/
theorem finalise_step (c : Conf) (hc : confOk c = true) (rules : List Rule)
    (hi : inv c rules = true) (ms : List UMatch) :
    ∃ out, buildDesired c rules (some (-1)) ms = .ok out ∧ finaliseOk c rules out = true := by
  have hc' := ne_of_confOk hc
  refine ⟨_, buildDesired_finalise c rules ms, ?_⟩
  unfold finaliseOk
  rw [canaryFree_finaliseRules hc' hi, finaliseRules_eq hc' hi]
  simp

/-- **C13.iii, kept rules, spelled out**: a rule without canary ref (in particular a
    backend-less rule such as a redirect) is never dropped by Finalise — no hypothesis. -/
theorem finalise_keeps_user_rule (c : Conf) (r : Rule) (h : hasSvc r.refs c.canary = false) :
    finaliseRule c r = some (normaliseRule c r) := by
  rw [finaliseRule_eq, h, dropCanary_of_canaryFree h]; rfl

/-- Invariant of the provider: after any list of `EnsureRoutes` calls on a route the user
    wrote, the stored route has reachable shape and Finalise would restore the original. -/
theorem reachable (c : Conf) (hc : confOk c = true) (o : List Rule)
    (hfree : canaryFree c o = true) (steps : List Step) :
    ∃ r, runSteps c (some o) steps = some r ∧ inv c r = true ∧
      finaliseRules c r = o.map (normaliseRule c) := by
  have hc' := ne_of_confOk hc
  -- `runSteps` folds `EnsureRoutes` over the steps; carried along: what is stored has reachable shape and Finalise
  -- would make of it what it makes of the original
  refine List.foldlRecOn steps _
    (motive := fun st => ∃ r, st = some r ∧ inv c r = true ∧ finaliseRules c r = o.map (normaliseRule c))
    ⟨o, rfl, inv_of_canaryFree hfree, finaliseRules_of_canaryFree hc' hfree⟩ ?_
  rintro _ ⟨r, rfl, hi, hf⟩ s _
  -- one call stores the same rules (the builder panics) or the builder's output
  cases hb : buildDesired c r s.weight s.ms with
  | panic => exact ⟨r, by rw [ensureRoutes_panic hb], hi, hf⟩
  | ok d =>
    have hp := step_preserves hc' hi hb
    exact ⟨d, ensureRoutes_store hb, hp.1, hp.2.trans hf⟩

/-- **C13.iv** For every route the user wrote and **every list of steps** (weight steps,
    match steps, steps with both, malformed traffic strings, even steps whose call panics),
    `Finalise` after the steps stores the original route up to the stated normalisation
    (stable weight 1): every user rule is back, in order, nothing else is left. -/
theorem sequence_restores (c : Conf) (hc : confOk c = true) (o : List Rule)
    (hfree : canaryFree c o = true) (steps : List Step) :
    ∃ final, (finalise c (runSteps c (some o) steps)).store = some final ∧
      restoredOk c o final = true := by
  obtain ⟨r, hr, _, hfin⟩ := reachable c hc o hfree steps
  refine ⟨o.map (normaliseRule c), ?_, by simp [restoredOk]⟩
  rw [hr, finalise_store, hfin]

/-- **C13.v** Applying the same step to its own output changes nothing (weight step,
    match step, finalise, nil weight), on every route of reachable shape. -/
theorem step_idempotent (c : Conf) (hc : confOk c = true) (r r' : List Rule)
    (hi : inv c r = true) (w : Option Int) (ms : List UMatch)
    (h : buildDesired c r w ms = .ok r') : buildDesired c r' w ms = .ok r' :=
  step_idem (ne_of_confOk hc) hi h

/-- **C13.v at the provider**: the second `EnsureRoutes` call for the same step reports
    *verified* and leaves the stored route alone. -/
theorem ensureRoutes_second_call (c : Conf) (hc : confOk c = true) (r : List Rule)
    (hi : inv c r = true) (s : Step) (hok : (ensureRoutes c (some r) s).err = "ok") :
    ensureRoutes c (ensureRoutes c (some r) s).store s =
      { ret := true, err := "ok", store := (ensureRoutes c (some r) s).store } := by
  cases hb : buildDesired c r s.weight s.ms with
  | panic => rw [ensureRoutes_panic hb] at hok; exact absurd (show ("panic" : String) = "ok" from hok) (by decide)
  | ok d =>
    have hid := step_idem (ne_of_confOk hc) hi hb
    rw [ensureRoutes_store hb, ensureRoutes_ok hid]
    simp

/-- the second `Finalise` call reports "nothing to do" and leaves the route alone. -/
theorem finalise_second_call (c : Conf) (hc : confOk c = true) (r : List Rule)
    (hi : inv c r = true) :
    finalise c (finalise c (some r)).store =
      { ret := false, err := "ok", store := (finalise c (some r)).store } := by
  have hid := step_idem (ne_of_confOk hc) hi (buildDesired_finalise c r [])
  rw [buildDesired_finalise, Out.ok.injEq] at hid
  rw [finalise_store, finalise_some, hid]
  simp


/-- **C03 (Gateway provider)** `EnsureRoutes` reports *verified* for a weight step only when the
    stored HTTPRoute already carries exactly that step's split: in every rule that targets the stable
    Service the stable ref has weight `100 - w` and the canary ref weight `w`.  Every route, every
    weight. -/
theorem verified_means_share_exact (c : Conf) (hc : confOk c = true) (rules : List Rule) (s : Step)
    (w : Int) (hw : s.weight = some w) (hms : s.ms = []) (hw1 : w ≠ -1)
    (h : (ensureRoutes c (some rules) s).ret = true) :
    (ensureRoutes c (some rules) s).store = some rules ∧ shareExact c w rules = true := by
  have hb : buildDesired c rules s.weight s.ms = .ok (rules.map (weightRule c w)) := by
    rw [hw, hms]; exact buildDesired_weight c rules hw1
  rw [ensureRoutes_ok hb] at h ⊢
  by_cases he : (rules == rules.map (weightRule c w)) = true
  · rw [if_pos he]
    -- verified: the route is a fixed point of the weight step
    have hfix : ∀ r ∈ rules, weightRule c w r = r :=
      List.map_inj_left.1 (by rw [List.map_id']; exact (beq_iff_eq.1 he).symm)
    refine ⟨rfl, List.all_eq_true.2 fun r hr => ?_⟩
    cases hs : hasSvc r.refs c.stable with
    | false => rfl
    | true =>
      obtain ⟨h1, h2⟩ := weightRule_share (ne_of_confOk hc) w r hs
      rw [hfix r hr] at h1 h2
      simp [h1, h2]
  · rw [if_neg he] at h; cases h

/-- the oracle evaluated by the driver holds of the model's own `EnsureRoutes` -/
theorem model_verifiedMeansExact (c : Conf) (hc : confOk c = true) (rules : List Rule) (s : Step) :
    verifiedMeansExact c s.weight s.ms (ensureRoutes c (some rules) s).ret (ensureRoutes c (some rules) s).err
      (((ensureRoutes c (some rules) s).store).getD []) = true := by
  unfold verifiedMeansExact
  cases hw : s.weight with
  | none => rfl
  | some w =>
    simp only
    cases hr : (ensureRoutes c (some rules) s).ret with
    | false => simp
    | true =>
      by_cases hms : s.ms = []
      · by_cases hw1 : w = -1
        · simp [hw1]
        · obtain ⟨hst, hex⟩ := verified_means_share_exact c hc rules s w hw hms hw1 hr
          simp [hst, hex]
      · have : s.ms.isEmpty = false := by
          cases hm : s.ms with
          | nil => exact absurd hm hms
          | cons _ _ => rfl
        simp [this]

/-- the builder panics only for a step that has neither a weight nor matches
    (`*weight` on a nil pointer) -/
theorem build_no_panic (c : Conf) (rules : List Rule) (w : Option Int) (ms : List UMatch)
    (h : w ≠ none ∨ ms ≠ []) : buildDesired c rules w ms ≠ .panic := by
  rcases step_cases w ms with rfl | ⟨hw, hms⟩ | ⟨rfl, rfl⟩ | ⟨v, rfl, hv, rfl⟩
  · rw [buildDesired_finalise]; nofun
  · rw [buildDesired_match c rules hw hms]; nofun
  · rcases h with h | h <;> exact absurd rfl h
  · rw [buildDesired_weight c rules hv]; nofun

/-! ## non-vacuity and tests (concrete inputs; `decide` here is a *test*, not the ∀ claim) -/

section examples

def c0 : Conf := { stable := "web", canary := "web-canary" }

def svc (n : String) (w : Option Int := none) : Ref :=
  { kind := some "Service", name := n, weight := w, rest := "{\"port\":8080}" }

def pm (p : String) (hs : List Atom := []) : Match :=
  { path := some ⟨some "PathPrefix", some p⟩, headers := hs, queryParams := [], method := none }

def hdr (n v : String) : Atom := { ty := none, name := n, value := v }

/-- a user route: a redirect rule without backends, a rule to a foreign Service, two rules
    to the stable Service (one with a foreign second backend, one without matches) -/
def o0 : List Rule :=
  [ { mts := [pm "/old"], filters := "redirect", refs := [] },
    { mts := [pm "/api"], filters := "", refs := [svc "api" (some 3)] },
    { mts := [pm "/web" [hdr "x-env" "prod"], pm "/v2"], filters := "f",
      refs := [svc "web" (some 7), { svc "mirror" with kind := some "ServiceImport" }] },
    { mts := [], filters := "", refs := [svc "web"] } ]

def ms0 : List UMatch :=
  [ { path := some ⟨none, some "/beta"⟩, headers := [], queryParams := [] },
    { path := none, headers := [hdr "user" "tester"], queryParams := [hdr "v" "2"] } ]

/-- the hypotheses of the theorems are satisfiable by a non-trivial route -/
example : confOk c0 = true ∧ canaryFree c0 o0 = true ∧ inv c0 o0 = true := by decide +kernel

/-- test of (i): the split on `o0`; the foreign backend and the other rules untouched -/
example : buildDesired c0 o0 (some 30) [] = .ok
  [ { mts := [pm "/old"], filters := "redirect", refs := [] },
    { mts := [pm "/api"], filters := "", refs := [svc "api" (some 3)] },
    { mts := [pm "/web" [hdr "x-env" "prod"], pm "/v2"], filters := "f",
      refs := [svc "web" (some 70), { svc "mirror" with kind := some "ServiceImport" },
               svc "web-canary" (some 30)] },
    { mts := [], filters := "", refs := [svc "web" (some 70), svc "web-canary" (some 30)] } ] := by
  decide +kernel

/-- test of (ii) with mixed path / non-path matches (the input of finding F-C13-6e62f8e) and a match-less stable
    rule (F-C13-8714a33, `corpus/gateway/finding-16.jsonl`): originals kept, two generated rules with narrow matches -/
example : buildDesired c0 o0 none ms0 = .ok (o0 ++
  [ { mts := [ { path := some ⟨none, some "/beta"⟩, headers := [], queryParams := [], method := none },
               { (pm "/web" [hdr "x-env" "prod", hdr "user" "tester"]) with queryParams := [hdr "v" "2"] },
               { (pm "/v2" [hdr "user" "tester"]) with queryParams := [hdr "v" "2"] } ],
      filters := "f", refs := [svc "web-canary" (some 7)] },
    { mts := [ { path := none, headers := [hdr "user" "tester"], queryParams := [hdr "v" "2"],
                 method := none } ],
      filters := "", refs := [svc "web-canary"] } ]) := by
  decide +kernel

/-- test of (iv)/(iii) on the inputs of findings F-C13-cc2e3e0 (a rule without backends) and F-C13-03a5563 (a match
    step after a weight step): weight step, then match step, then weight step, then Finalise — the redirect rule and
    both stable rules are back -/
example :
    (finalise c0 (runSteps c0 (some o0)
      [ { traffic := some (.pct 20), ms := [] }, { traffic := none, ms := ms0 },
        { traffic := some (.pct 60), ms := [] } ])).store
      = some (o0.map (normaliseRule c0)) := by
  decide +kernel

/-- test of the oracle of `verified_means_share_exact`: 80 / 20 is the exact split for 20 % -/
example : shareExact ⟨"web", "web-canary"⟩ 20
    [{ mts := [], filters := "", refs := [⟨some "Service", "web", some 80, ""⟩, ⟨some "Service", "web-canary", some 20, ""⟩] }] = true := by decide +kernel

/-- the intermediate state after weight → match is not the original (the steps do something) -/
example : runSteps c0 (some o0) [ { traffic := some (.pct 20), ms := [] }, { traffic := none, ms := ms0 } ]
    ≠ some o0 := by decide +kernel

/-- exact-match semantics on a toy request type (path, headers, query parameters) -/
def exactSem : Sem (String × List (String × String) × List (String × String)) :=
  { path := fun p q => p.value == some q.1,
    header := fun a q => q.2.1.contains (a.name, a.value),
    query := fun a q => q.2.2.contains (a.name, a.value),
    method := fun _ _ => true }

/-- `generated_rule_narrow` is not vacuous: a rule with the third match of the first generated rule above is a
    lawful canary rule; under `exactSem` it accepts a request and rejects one without the header -/
example :
    let k : Rule := { mts := [ { (pm "/v2" [hdr "user" "tester"]) with queryParams := [hdr "v" "2"] } ],
                      filters := "f", refs := [svc "web-canary" (some 7)] }
    canaryRuleOk c0 ms0 o0 k = true ∧
    exactSem.acceptsRule k ("/v2", [("user", "tester")], [("v", "2")]) = true ∧
    exactSem.acceptsRule k ("/v2", [], [("v", "2")]) = false := by decide +kernel

end examples

end RV.Props.C13
