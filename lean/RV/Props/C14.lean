import RV.Lemmas.Ingress
/-!
# C14 — the canary Ingress reflects the stable Ingress and the current step only

Model: `RV/Model/Ingress.lean` (`buildCanaryIngress`, the four annotation scripts,
`EnsureRoutes`, `Finalise`), oracles: `RV/Oracle/C14.lean`.  The model follows the code after rollouts commits
8a61ec4 (mse.lua clears every key it sets) and ef9607f (nil checks in `buildCanaryIngress`); witnesses for the tree
before them: `corpus/ingress/finding-7.jsonl` / `finding-8.jsonl`.

Annotation maps are association lists read through `lookup`; `Eqv a b` (all lookups agree)
is equality of the Go maps they denote, `eqvB` its decidable form.
-/
namespace RV.Props.C14
open RV.Ingress RV.Oracle.C14

/-! ## concrete inputs used by the non-vacuity examples (tests, not the ∀ claims) -/

def demoCfg : Cfg :=
  { cls := .mse, name := "echoserver", stableSvc := "echoserver", canarySvc := "echoserver-canary" }

def svcPath (path svc : String) : Path :=
  { path := path, pathType := some "Prefix",
    backend := { service := some { name := svc, portName := "", portNumber := 80 }, resource := none } }

/-- a stable Ingress with a path to the stable Service, a resource backend, a path to another
    Service, a host-only rule and a rule that contributes nothing -/
def demoStable : Ingress :=
  { ann := [("kubernetes.io/ingress.class", "mse"), ("mse.ingress.kubernetes.io/service-subset", "")],
    labels := [("app", "echoserver")], className := none, tls := [], defaultBackend := true,
    rules := [
      { host := "a.example.com",
        http := some [svcPath "/" "echoserver",
                      { path := "/static", pathType := none,
                        backend := { service := none, resource := some "StorageBucket/static" } },
                      svcPath "/other" "other"] },
      { host := "redirect.example.com", http := none },
      { host := "b.example.com", http := some [svcPath "/" "other"] }] }

/-- an A/B step: query-parameter match plus a header modifier -/
def demoQuery : Strategy :=
  { traffic := none,
    mts := some [{ headers := [], queryParams := [{ name := "user", value := "bob", kind := none }] }],
    rhm := some [{ name := "gray", value := "blue" }] }

/-- a weight step -/
def demoWeight : Strategy := { traffic := some "20%", mts := none, rhm := none }

/-- **C14.i** `buildCanaryIngress` returns (never panics — also on rules without an `http`
    section and on resource backends), its rules are exactly `expectedRules`, and metadata /
    class / TLS are copied from the stable Ingress. -/
theorem build_paths (cfg : Cfg) (st : Ingress) :
    ∃ c, buildCanaryIngress cfg st = .ok c ∧ pathsOk cfg st.rules c.rules = true ∧
      c.ann = st.ann ∧ c.labels = st.labels ∧ c.className = st.className ∧ c.tls = st.tls := by
  refine ⟨_, build_spec cfg st, ?_, rfl, rfl, rfl, rfl⟩
  simp [pathsOk]

/-- test (non-vacuity): host-only rule and resource backend are skipped, the other Service is
    left out, the one stable path is kept and re-targeted -/
example : buildCanaryIngress demoCfg demoStable =
    .ok { ann := demoStable.ann, labels := demoStable.labels, className := none, tls := [],
          defaultBackend := false,
          rules := [{ host := "a.example.com", http := some [svcPath "/" "echoserver-canary"] }] } :=
  rfl

/-- what `expectedRules` says, rule by rule: a canary rule is a stable rule with an `http`
    section and at least one path to the stable Service, keeping the host and exactly those
    paths, each re-targeted. -/
theorem canary_rule_iff (cfg : Cfg) (rules : List Rule) (r' : Rule) :
    r' ∈ expectedRules cfg rules ↔
      ∃ r ∈ rules, ∃ ps, r.http = some ps ∧ ps.filter (pointsAtStable cfg) ≠ [] ∧
        r' = { host := r.host, http := some ((ps.filter (pointsAtStable cfg)).map (retargetPath cfg)) } := by
  simp only [expectedRules, List.mem_filterMap]
  constructor
  · rintro ⟨r, hr, h⟩
    cases hh : r.http with
    | none => simp [hh] at h
    | some ps =>
      simp only [hh] at h
      split at h
      · cases h
      · rename_i hne
        refine ⟨r, hr, ps, hh, ?_, ?_⟩
        · intro he; simp [he] at hne
        · exact (Option.some.inj h).symm
  · rintro ⟨r, hr, ps, hh, hne, rfl⟩
    refine ⟨r, hr, ?_⟩
    simp only [hh]
    have : ((ps.filter (pointsAtStable cfg)).map (retargetPath cfg)).isEmpty = false := by
      cases hf : ps.filter (pointsAtStable cfg) with
      | nil => exact absurd hf hne
      | cons => rfl
    simp [this]

/-- a re-targeted path differs from the stable path in the Service name only -/
theorem retargetPath_spec (cfg : Cfg) (p : Path) (svc : SvcBackend) (h : p.backend.service = some svc) :
    (retargetPath cfg p).path = p.path ∧ (retargetPath cfg p).pathType = p.pathType ∧
    (retargetPath cfg p).backend.resource = p.backend.resource ∧
    (retargetPath cfg p).backend.service =
      some { name := cfg.canarySvc, portName := svc.portName, portNumber := svc.portNumber } := by
  simp [retargetPath, h]

/-- which steps a class's script accepts: `supported` (alb / higress: every match has a header;
    mse: a header modifier has `set` entries) and, for mse, an Ingress that has annotations. -/
theorem script_accepts_iff (cls : Class) (a : AnnMap) (s : LuaStep) :
    (script cls a s).isSome = (supported cls s && annOk cls a) := by
  rw [(specOf cls).run_eq]
  cases supported cls s && annOk cls a <;> rfl

/-- **C14.ii (one earlier step)** for every class, every annotation map and every two steps the
    script accepts one after the other: the second step alone is accepted too and yields the
    same map — on *all* keys, not only the class's own. -/
theorem script_history_independent (cls : Class) (a b c : AnnMap) (s₁ s₂ : LuaStep)
    (h₁ : script cls a s₁ = some b) (h₂ : script cls b s₂ = some c) :
    ∃ d, script cls a s₂ = some d ∧ Eqv c d :=
  (specOf cls).hist h₁ h₂

/-- test (non-vacuity): mse, a query + header-modifier step and then a weight step are both
    accepted; the first leaves query / header-control annotations which the second removes -/
example : ∃ b c, script .mse demoStable.ann (luaStepOf demoQuery) = some b ∧
    script .mse b (luaStepOf demoWeight) = some c ∧
    lookup b "nginx.ingress.kubernetes.io/canary-by-query" = some "user" ∧
    lookup b "mse.ingress.kubernetes.io/request-header-control-update" = some "gray blue" ∧
    lookup c "nginx.ingress.kubernetes.io/canary-by-query" = none ∧
    lookup c "mse.ingress.kubernetes.io/request-header-control-update" = none ∧
    lookup c "nginx.ingress.kubernetes.io/canary-weight" = some "20" :=
  ⟨_, _, rfl, rfl, by decide +kernel⟩

/-- test: the four classes on a header step followed by a weight step -/
example : ∀ cls ∈ [Class.nginx, .alb, .higress, .mse],
    ∃ b c, script cls demoStable.ann
        { weight := "-1", mts := some [{ headers := [{ name := "user", value := "bob", kind := none }],
                                          queryParams := [] }], rhm := none } = some b ∧
      script cls b { weight := "20", mts := none, rhm := none } = some c := by
  intro cls h
  simp only [List.mem_cons, List.not_mem_nil, or_false] at h
  rcases h with rfl | rfl | rfl | rfl <;> exact ⟨_, _, rfl, rfl⟩

/-- mse.lua without `fixes/C14-7.patch`: it sets `nginx…/canary-by-query*` but clears
    `mse…/canary-by-query*`, and never clears `…/request-header-control-update`. -/
def mseLuaShipped (a : AnnMap) (s : LuaStep) : Option AnnMap :=
  if a.isEmpty then none else
  let a := aset "nginx.ingress.kubernetes.io/canary" "true" a
  let a := adel "nginx.ingress.kubernetes.io/canary-by-cookie" a
  let a := adel "nginx.ingress.kubernetes.io/canary-by-header" a
  let a := adel "nginx.ingress.kubernetes.io/canary-by-header-pattern" a
  let a := adel "nginx.ingress.kubernetes.io/canary-by-header-value" a
  let a := adel "mse.ingress.kubernetes.io/canary-by-query" a
  let a := adel "mse.ingress.kubernetes.io/canary-by-query-pattern" a
  let a := adel "mse.ingress.kubernetes.io/canary-by-query-value" a
  let a := adel "nginx.ingress.kubernetes.io/canary-weight" a
  let a := if s.weight != "-1" then aset "nginx.ingress.kubernetes.io/canary-weight" s.weight a else a
  let a := if (lookup a "mse.ingress.kubernetes.io/service-subset").isSome
           then aset "mse.ingress.kubernetes.io/service-subset" "gray" a else a
  let a? : Option AnnMap :=
    match s.rhm with
    | none => some a
    | some [] => none
    | some (h :: hs) =>
      some (aset "mse.ingress.kubernetes.io/request-header-control-update" (mseHeaderControl (h :: hs)) a)
  match a? with
  | none => none
  | some a =>
    match s.mts with
    | none => some a
    | some ms => some (ms.foldl mseMatch a)

/-- the script without the patch is history dependent (finding F-C14-8a61ec4): after the A/B step the weight step
    keeps the query and header-control annotations that the weight step alone never sets.
    The same inputs are replayed against the real script in `corpus/ingress/finding-7.jsonl`. -/
theorem mse_shipped_history_dependent :
    ∃ b c d, mseLuaShipped demoStable.ann (luaStepOf demoQuery) = some b ∧
      mseLuaShipped b (luaStepOf demoWeight) = some c ∧
      mseLuaShipped demoStable.ann (luaStepOf demoWeight) = some d ∧ ¬ Eqv c d := by
  refine ⟨_, _, _, rfl, rfl, rfl, fun h => ?_⟩
  exact absurd (h "nginx.ingress.kubernetes.io/canary-by-query") (by decide +kernel)

/-- **C14.ii (any number of earlier steps)**: what a script leaves after any sequence of steps is what it leaves
    when the last step is entered first -/
theorem script_sequence_history_independent (cls : Class) (a c : AnnMap)
    (earlier : List LuaStep) (s : LuaStep)
    (h : runSteps cls a (earlier ++ [s]) = some c) :
    ∃ d, script cls a s = some d ∧ Eqv c d := by
  rw [runSteps_snoc] at h
  obtain ⟨b, h1, h2⟩ := Option.bind_eq_some_iff.mp h
  exact runSteps_hist h1 h2

/-- scripts respect equality of maps (so the statements above do not depend on the list
    representation) -/
theorem script_congr (cls : Class) (a a' b : AnnMap) (s : LuaStep)
    (he : Eqv a a') (h : script cls a s = some b) :
    ∃ b', script cls a' s = some b' ∧ Eqv b b' :=
  (specOf cls).congr he h

/-- **C14.ii (the controller)** start from a store with the stable Ingress `st` and no canary
    Ingress; run *any* sequence of `EnsureRoutes` (any strategies) / `Finalise` / finalizer
    calls.  If a canary Ingress exists then, whenever a further `EnsureRoutes(s)` succeeds, the
    canary annotations are those of entering `s` first (`annAsFresh`: creation from the stable
    annotations, then `s`) — they depend on the stable Ingress and `s` alone. -/
theorem ensure_history_independent (cfg : Cfg) (st : Ingress) (calls : List Call) (s : Strategy)
    (w w' : World) (done : Bool) (ws : List Write)
    (hrun : runCalls cfg { stable := some st, canary := none } calls = some w)
    (hex : w.canary.isSome = true)
    (hens : ensureRoutes cfg w s = .ret w' done .ok ws) :
    ∃ c, w'.canary = some c ∧ annAsFresh cfg.cls st.ann (luaStepOf s) c.ing.ann = true := by
  have hi : Inv cfg st w := inv_run (inv_init cfg st) hrun
  have H := ensure_cases cfg w s
  rw [hens] at H
  cases H with
  | same hc hn hv => exact ⟨_, hc, hi.fresh hc hn hv⟩
  | patched hc hn => exact ⟨_, rfl, hi.fresh hc hn (applyPatch_mergePatch _ _)⟩
  -- the other successful branches have no canary Ingress to start from
  | zero hn | created hn => simp [hn] at hex

/-- test (non-vacuity of the hypotheses): the A/B step entered (three `EnsureRoutes` calls:
    create, patch, done), then the weight step: a canary Ingress exists, carries the query
    annotation, and `EnsureRoutes` of the weight step succeeds with a patch -/
example : ∃ w w' ws c,
    runCalls demoCfg { stable := some demoStable, canary := none }
      [.ensure demoQuery, .ensure demoQuery, .ensure demoQuery] = some w ∧
    w.canary = some c ∧
    lookup c.ing.ann "nginx.ingress.kubernetes.io/canary-by-query" = some "user" ∧
    ensureRoutes demoCfg w demoWeight = .ret w' false .ok ws ∧ ws = [.patch "echoserver-canary"] :=
  -- the canary Ingress with the annotations that the A/B step, and then the weight step, leave on it
  let canary (ann : AnnMap) : CanaryObj :=
    { ing := { demoStable with
        ann := ann, defaultBackend := false,
        rules := [{ host := "a.example.com", http := some [svcPath "/" "echoserver-canary"] }] },
      deleting := false, fin := false }
  let c := canary [("mse.ingress.kubernetes.io/request-header-control-update", "gray blue"),
    ("nginx.ingress.kubernetes.io/canary-by-query", "user"),
    ("nginx.ingress.kubernetes.io/canary-by-query-value", "bob"),
    ("mse.ingress.kubernetes.io/service-subset", "gray"), ("nginx.ingress.kubernetes.io/canary", "true"),
    ("kubernetes.io/ingress.class", "mse")]
  let c' := canary [("nginx.ingress.kubernetes.io/canary-weight", "20"),
    ("mse.ingress.kubernetes.io/service-subset", "gray"), ("nginx.ingress.kubernetes.io/canary", "true"),
    ("kubernetes.io/ingress.class", "mse")]
  ⟨⟨some demoStable, some c⟩, ⟨some demoStable, some c'⟩, [.patch "echoserver-canary"], c, by decide +kernel⟩

/-- **C14.iii / C14.iv** every call returns (no panic), leaves the stable Ingress as it is and
    writes nothing but the canary Ingress. -/
theorem writes_only_canary (cfg : Cfg) (w : World) (call : Call) :
    ∃ w' done e ws, stepCall cfg w call = .ret w' done e ws ∧ w'.stable = w.stable ∧
      writesOk cfg ws = true :=
  stepCall_frame cfg w call

/-- **C14.iii / C14.iv** every sequence of calls runs to the end and the stable Ingress is the
    one it started with. -/
theorem stable_never_modified (cfg : Cfg) (w : World) (calls : List Call) :
    ∃ w', runCalls cfg w calls = some w' ∧ w'.stable = w.stable :=
  runCalls_total cfg w calls

/-- **C14.i along runs** whatever was called before, an existing canary Ingress has exactly the
    expected rules. -/
theorem canary_rules_invariant (cfg : Cfg) (st : Ingress) (calls : List Call) (w : World) (c : CanaryObj)
    (hrun : runCalls cfg { stable := some st, canary := none } calls = some w)
    (hc : w.canary = some c) :
    pathsOk cfg st.rules c.ing.rules = true := by
  have hi : Inv cfg st w := inv_run (inv_init cfg st) hrun
  simp [pathsOk, hi.rules c hc]

/-- **C14.iii (finalise)** after any run, `Finalise` succeeds and leaves no canary Ingress — or,
    if somebody put a finalizer on it, one that is marked for deletion. -/
theorem finalise_removes (cfg : Cfg) (st : Ingress) (calls : List Call) (w : World)
    (hrun : runCalls cfg { stable := some st, canary := none } calls = some w) :
    ∃ w' done ws, finalise cfg w = .ret w' done .ok ws ∧ finalisedOk w'.canary = true ∧
      ((∀ c, w.canary = some c → c.fin = false) → w'.canary = none) :=
  finalise_post (inv_run (inv_init cfg st) hrun)

/-- test (non-vacuity): after a run that created the canary Ingress, `Finalise` deletes it -/
example : runCalls demoCfg { stable := some demoStable, canary := none }
    [.ensure demoWeight, .ensure demoWeight, .finalise] = some { stable := some demoStable, canary := none } := by
  decide +kernel

/-- with a finalizer on it, it is marked for deletion and a second `Finalise` changes nothing -/
example : ∃ w c, runCalls demoCfg { stable := some demoStable, canary := none }
    [.ensure demoWeight, .addFinalizer, .finalise, .finalise] = some w ∧ w.canary = some c ∧
    c.deleting = true ∧ c.fin = true ∧ w.stable = some demoStable :=
  ⟨_, _, rfl, rfl, rfl, rfl, rfl⟩

/-- **C14.iv**: `buildCanaryIngress` dereferences no nil, whatever the stable Ingress (rules without an `http`
    section, paths without a Service backend) -/
theorem build_never_panics (cfg : Cfg) (st : Ingress) : buildCanaryIngress cfg st ≠ .panic := by
  rw [build_spec]; intro h; cases h

/-- **C14.iv**: nor does any provider call, from any store -/
theorem calls_never_panic (cfg : Cfg) (w : World) (call : Call) : stepCall cfg w call ≠ .panic := by
  obtain ⟨_, _, _, _, h, _⟩ := stepCall_frame cfg w call
  rw [h]; intro h'; cases h'

end RV.Props.C14
