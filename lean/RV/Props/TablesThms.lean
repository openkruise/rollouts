import RV.Gen.TaskTables
import RV.Model.RolloutSM
/-!
# Finalising task tables (used by C04, C05, C10)

`RV/Gen/TaskTables.lean` is regenerated on every run by evaluating the real `nextCanaryTask` /
`nextBlueGreenTask` over their whole finite domain.  `model_matches_table` ties the hand-written
model (`taskList`, `nextTask`) to it; the order theorems are then statements about the model lists.
-/
namespace RV.Props.Tables
open RV.RolloutSM RV.Gen.TaskTables

def finOfStr : String → FinStep
  | "" => .empty | "ResumeWorkload" => .resumeWorkload | "ReleaseWorkloadControl" => .releaseWorkloadControl
  | "FinalisingStepRouteTrafficToStable" => .routeTrafficToStable | "RestoreStableService" => .restoreStableService
  | "RemoveCanaryService" => .removeCanaryService | "FinalisingStepRouteTrafficToNew" => .routeTrafficToNew
  | "END" => .end_ | _ => .other

def finToStr : FinStep → String
  | .empty => "" | .resumeWorkload => "ResumeWorkload" | .releaseWorkloadControl => "ReleaseWorkloadControl"
  | .routeTrafficToStable => "FinalisingStepRouteTrafficToStable" | .restoreStableService => "RestoreStableService"
  | .removeCanaryService => "RemoveCanaryService" | .routeTrafficToNew => "FinalisingStepRouteTrafficToNew"
  | .end_ => "END" | .other => "?other"

def reasonOfStr : String → Reason
  | "Success" => .success | "Rollback" => .rollback | _ => .other

def styleOfBool (bg : Bool) : Style := if bg then .blueGreen else .canary

def rowOk (row : Bool × String × String × String) : Bool :=
  finToStr (nextTask (taskList (styleOfBool row.1) (reasonOfStr row.2.1)) (finOfStr row.2.2.1)) == row.2.2.2

/-- **Tie to the code**: on the whole tabulated domain (both managers × every declared reason +
    an unknown one × every declared step constant + an unknown one) the model computes the task
    the real functions return. -/
theorem model_matches_table : table.all rowOk = true := by decide +kernel

def pos (l : List FinStep) (a : FinStep) : Nat := l.findIdx (· == a)

def precedes (l : List FinStep) (a b : FinStep) : Bool := pos l a < pos l b && pos l b < l.length

/-- **C10** — for both styles the rollback sequence starts with routing all traffic to the stable
    version, before the workload is resumed and before it is released from control. -/
theorem rollback_routes_first (style : Style) :
    (taskList style .rollback).head? = some .routeTrafficToStable ∧
    precedes (taskList style .rollback) .routeTrafficToStable .resumeWorkload = true ∧
    precedes (taskList style .rollback) .routeTrafficToStable .releaseWorkloadControl = true := by
  cases style <;> decide

/-- **C04** — in every sequence the route to the canary Service is withdrawn before the canary
    Service is removed. -/
theorem route_withdrawn_before_service_removed (style : Style) (r : Reason) :
    precedes (taskList style r) .routeTrafficToStable .removeCanaryService = true := by
  cases style <;> cases r <;> decide

/-- **C04** — outside rollback the stable Service is un-pinned before the workload is resumed
    (before the last stable pod can be replaced). -/
theorem stable_unpinned_before_resume (style : Style) (r : Reason) (h : r ≠ .rollback) :
    precedes (taskList style r) .restoreStableService .resumeWorkload = true := by
  cases style <;> cases r <;> first | decide | exact absurd rfl h

/-- **C05** — every sequence contains every clean-up task (nothing is skipped on any exit path). -/
theorem every_task_present (style : Style) (r : Reason) :
    ([FinStep.restoreStableService, .routeTrafficToStable, .removeCanaryService, .resumeWorkload, .releaseWorkloadControl].all
      fun t => (taskList style r).contains t) = true := by
  cases style <;> cases r <;> decide

/-- the successor function walks the list in order and ends with `end_` -/
theorem nextTask_walks (style : Style) (r : Reason) :
    let l := taskList style r
    nextTask l .empty = l.headD .end_ ∧
    (List.range (l.length - 1)).all (fun i => nextTask l (l.getD i .end_) == l.getD (i + 1) .end_) = true ∧
    nextTask l (l.getD (l.length - 1) .end_) = .end_ := by
  cases style <;> cases r <;> decide

end RV.Props.Tables
