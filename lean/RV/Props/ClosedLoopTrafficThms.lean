/-
  # Traffic clauses of C03 / C04 / C05 / C10 / C07 over EVERY history of the closed loop

  `RV.ClosedLoop.step` (RV/Model/ClosedLoop.lean) runs the Rollout reconciler — and with it the traffic Manager model
  (`RV/Model/Traffic.lean`) — the BatchRelease executor, the simulated CloneSet controller, the user and crashes on ONE joint
  state; suite `closedloop` compares it with the real controllers on every transition of every walk.  The theorems below
  quantify over every plan (steps with a weight, steps without, 100 %-replica steps anywhere, any replicas entries the
  validating webhook admits), `disableGenerateCanaryService` both ways, `hasTraffic` both ways, every workload size ≥ 1,
  every grace period, every content of the grace memory, and every history (`List Label`) — by induction over the label list.

  **Label set (`legal`, as in `RV.Props.ClosedLoop`)**: `ro`, `br`, `env`, `approve`, `tick`, `crash` at any time, in any order,
  any number of times; `release rev` whenever the rollout is idle — histories contain any number of successive rollouts.
  Not covered (hence `_partial`): a release / rollback *during* a rollout, deletion, disabling, pausing, step jumps, plan
  edits, scaling, API faults inside a reconcile.  Those histories are compared step by step on the walks and judged by the
  same oracles on the implementation (`C04.loop_no_void`, `C05.loop_terminal_clean`, `C03.loop_first_step_pins`,
  `C03.loop_route_after_ready`, `C10.loop_rollback_routes_first`); for supersession see `loop_rollback_routes_first_partial`.
-/
import RV.Lemmas.ClosedLoopTrafficExact
import RV.Lemmas.ClosedLoopTrafficLive
import RV.Lemmas.ClosedLoopTrafficReset
import RV.Lemmas.ClosedLoopTrafficRoute
import RV.Model.ClosedLoopRb
namespace RV.Props.ClosedLoopTraffic
open RV.Arith RV.Traffic RV.RolloutSM RV.ClosedLoop RV.Oracle.ClosedLoop RV.Oracle.ClosedLoopTraffic RV.Lemmas.ClosedLoop
  RV.Lemmas.ClosedLoopTraffic RV.Props.ClosedLoop

/-- the initial states: `RV.Props.ClosedLoop.Init` (a Healthy, live canary rollout in partition style, its CloneSet running one
    revision, no BatchRelease), and the cluster as the user configured it: no canary Ingress / canary Service, the stable Service
    not pinned, the CloneSet (at least one replica) without partition, pause or control annotation -/
def InitT (s : CS) : Prop :=
  Init s ∧ netClean s.net = true ∧ ∃ w, s.wl = some w ∧ 0 < w.replicas ∧ released w = true

theorem initT_inv (s : CS) (h : InitT s) : trInv s = true := by
  obtain ⟨hi, hn, w, hw, hR, hrel⟩ := h
  have hf := init_inv s hi
  obtain ⟨_, hph, _, w', hw', _, _, ha⟩ := hi
  rw [hw] at hw'; cases hw'
  refine (trInv_iff s).2 ⟨hf, (trRest_some s w hw).2 ⟨hR, ?_⟩⟩
  rw [trPhase_healthy s w hph, hn, ha]
  simpa using hrel

theorem tr_step (s : CS) (l : Label) (h : trInv s = true) (hl : legal s l = true) :
    ∃ s', step s l = some s' ∧ trInv s' = true := by
  obtain ⟨hf, _⟩ := (trInv_iff s).1 h
  obtain ⟨s', hs, hf'⟩ := fwd_step s l hf hl
  refine ⟨s', hs, (trInv_iff s').2 ⟨hf', ?_⟩⟩
  cases l with
  | ro => obtain ⟨w, T⟩ := tr_at s h; exact (tr_ro T hs).1
  | br => exact stepBr_tr s s' h hs
  | env => cases hs; exact env_tr s h
  | release rev => cases hs; exact release_tr s rev h hl
  | approve => cases hs; exact approve_tr s h
  | tick => cases hs; exact tick_tr s h
  | crash => cases hs; exact crash_tr s h
  | delete => cases hl

/-- **every reachable state satisfies the traffic invariant** -/
theorem loop_tr_inv_partial (s0 s : CS) (ls : List Label) (h0 : InitT s0) (hr : Reach s0 ls s) : trInv s = true := by
  have h := initT_inv s0 h0
  clear h0
  induction hr with
  | nil => exact h
  | cons s s' s'' l ls hl hs _ ih =>
    obtain ⟨t, ht, hinv⟩ := tr_step s l h hl
    rw [hs] at ht; cases ht
    exact ih hinv

theorem noVoid_of_tr (s : CS) (h : trInv s = true) : noVoidOK s = true := by
  obtain ⟨w, T⟩ := tr_at s h
  have hgone := T.fwd.gone
  have hw := T.fwd.wl
  have hshape : netClean s.net = true ∨
      ∃ sub rolling, s.ro.sub = some sub ∧ sub.canaryRev = w.updateRevision ∧ netCore s sub w rolling = true := by
    cases T.case with
    | healthy _ _ _ hnet => exact Or.inl hnet
    | init _ _ _ _ hnet => exact Or.inl hnet
    | rolling sub _ _ hsub hsg _ _ hP => exact Or.inr ⟨sub, true, hsub, hsg.rev, hP.netClauses true⟩
    | fin sub _ _ hsub _ _ hnc _ hrev => exact Or.inr ⟨sub, false, hsub, hrev, hnc⟩
    | completed _ _ _ _ hnet => exact Or.inl hnet
  -- a route with weight goes to a canary Service on the revision being released; a pinned revision is not that one, and
  -- not every pod has left it
  have key : (∀ wt, s.net.canaryIng = some wt → s.ro.disableGen = false →
        ∃ sub, s.ro.sub = some sub ∧ s.net.canarySvc = some sub.canaryRev) ∧
      (∀ r, s.net.stableSel = some r → r ≠ w.updateRevision ∧ w.updated < w.replicas) := by
    rcases hshape with hc | ⟨sub, rolling, hsub, hrev, hnc⟩
    · obtain ⟨c1, _, c3⟩ := (netClean_iff s.net).1 hc
      rw [c1, c3]
      exact ⟨fun _ => nofun, fun _ => nofun⟩
    · obtain ⟨halive, hpin, hsvc, hing, _, _⟩ := (netCore_iff s sub w rolling).1 hnc
      refine ⟨fun wt hi hdg => ⟨sub, hsub, ?_⟩, fun r hr => ?_⟩
      · rcases ((ingOK_iff s).1 hing wt hi).2 with hh | hh
        · rw [hdg] at hh; cases hh
        · obtain ⟨r, hr⟩ := Option.isSome_iff_exists.1 hh
          rw [hr, ((svcOK_iff s w).1 hsvc r hr).1, hrev]
      · obtain ⟨p1, _, p3, _⟩ := (pinOK_iff s sub w).1 hpin r hr
        have ha : stableAlive sub w = true := by
          rcases halive with hh | hh
          · cases rolling
            · rw [hr] at hh; cases hh
            · rw [p3] at hh; cases hh
          · exact hh
        obtain ⟨_, a2, a3, a4⟩ := (stableAlive_iff sub w).1 ha
        exact ⟨by rw [p1, ← a3]; exact a4, a2⟩
  unfold noVoidOK
  rw [hgone, hw]
  unfold RV.Oracle.Cluster.noVoid
  have hnet : (roWorld s).net = s.net := rfl
  have hro : (roWorld s).ro = s.ro := rfl
  rw [hnet, hro, world_wl s w hw, Bool.false_or, Bool.and_eq_true]
  constructor
  · cases hci : s.net.canaryIng with
    | none => rfl
    | some wt =>
      dsimp only
      split
      · rename_i hc
        obtain ⟨sub, e1, e2⟩ := key.1 wt hci (by simpa using hc.2)
        rw [e1, e2]
        simp
      · rfl
  · cases hss : s.net.stableSel with
    | none => rfl
    | some r =>
      obtain ⟨b1, b2⟩ := key.2 r hss
      dsimp only
      rw [if_neg (show ¬ r = (roWl w).canaryRev from b1)]
      exact decide_eq_true b2

/-- **C04 (closed loop, every history)** — `RV.Oracle.Cluster.noVoid` holds in every reachable state, crash points included
    (`crash` is a label): a canary route that carries weight implies the canary Service exists and selects the revision being
    released (unless the Services are not generated); a pinned stable Service names a revision — the workload's current, not its
    update revision — of which pods exist and cannot all be replaced under the partition in force (`stableAlive`).  The environment
    fact "old pods disappear only as far as the partition allows" is the model's `envWl`; it is used through `env_tr`.
    (partial: label set, see the header) -/
theorem loop_no_void_partial (s0 s : CS) (ls : List Label) (h0 : InitT s0) (hr : Reach s0 ls s) : noVoidOK s = true :=
  noVoid_of_tr s (loop_tr_inv_partial s0 s ls h0 hr)

theorem healthy_clean (s : CS) (h : trInv s = true) (w : CWl) (hw : s.wl = some w) (hph : s.ro.phase = .healthy)
    (ha : w.inProgressAnno = false) :
    s.br = none ∧ s.net.canaryIng = none ∧ s.net.canarySvc = none ∧ s.net.stableSel = none ∧
    w.partition = none ∧ w.paused = false ∧ w.owner = .none := by
  obtain ⟨w', T⟩ := tr_at s h
  cases hw.symm.trans T.fwd.wl
  cases T.case with
  | healthy _ hbr _ hnet hwl =>
    rw [ha] at hwl
    obtain ⟨h1, h2, h3⟩ := (netClean_iff s.net).1 hnet
    obtain ⟨r1, r2, r3⟩ := (released_iff w).1 hwl
    exact ⟨hbr, h1, h2, h3, r1, r2, r3⟩
  | init hph' => rw [hph] at hph'; cases hph'
  | rolling _ hph' => rw [hph] at hph'; cases hph'
  | fin _ hph' => rw [hph] at hph'; cases hph'
  | completed hph' => rw [hph] at hph'; cases hph'

theorem terminalClean_of_tr (s : CS) (h : trInv s = true) : terminalCleanOK s = true := by
  obtain ⟨w, T⟩ := tr_at s h
  have hgone := T.fwd.gone
  have hw := T.fwd.wl
  unfold terminalCleanOK
  rw [hgone, hw]
  simp only [Bool.false_eq_true, if_false, Bool.not_false, Option.map_some]
  unfold RV.Oracle.Cluster.terminalClean
  have hnet : (roWorld s).net = s.net := rfl
  have hro : (roWorld s).ro = s.ro := rfl
  have hbrw : (roWorld s).br = s.br.map roBr := rfl
  rw [hnet, hro, world_wl s w hw, hbrw]
  dsimp only
  split
  · rename_i hterm
    simp only [Bool.not_true, Bool.false_or, Bool.and_eq_true, Bool.or_eq_true, decide_eq_true_eq, Bool.not_eq_true'] at hterm
    obtain ⟨hph, hanno⟩ := hterm
    rcases hph with hph | hph
    · obtain ⟨hbn, h1, h2, h3, r1, r2, r3⟩ := healthy_clean s h w hw hph hanno
      simp [hbn, h1, h2, h3, wlx, r1, r2, r3]
    · rcases T.case.phase with e | e <;> rw [hph] at e <;> cases e
  · rfl

/-- **C05 (closed loop, every history)** — every reachable terminal state — the rollout Healthy with nothing in progress, in
    particular the state in which a release ends (Progressing/Completed → Healthy, `succeeded = some true`) — satisfies
    `RV.Oracle.Cluster.terminalClean`: no BatchRelease, no canary Service, no canary Ingress, the stable Service not pinned, the
    CloneSet without partition, pause and control annotation.  The whole closed loop — both reconcilers, the workload controller,
    crashes at any point — returns network and workload to the user's configuration, not only the clean-up cursor.
    (partial: label set — no release / rollback / deletion during a rollout: those regions contain the open findings
    `releaseWhileFinalising`, `exitBeforeBatchRelease`, `noRevKey` and `abandonedCleanup`, see
    `loop_terminal_clean_full_FALSE`) -/
theorem loop_terminal_clean_partial (s0 s : CS) (ls : List Label) (h0 : InitT s0) (hr : Reach s0 ls s) :
    terminalCleanOK s = true :=
  terminalClean_of_tr s (loop_tr_inv_partial s0 s ls h0 hr)

/-- the same, spelled out: Healthy with nothing in progress means clean -/
theorem loop_healthy_means_clean_partial (s0 s : CS) (ls : List Label) (h0 : InitT s0) (hr : Reach s0 ls s) (w : CWl)
    (hw : s.wl = some w) (hph : s.ro.phase = .healthy) (ha : w.inProgressAnno = false) :
    s.br = none ∧ s.net.canaryIng = none ∧ s.net.canarySvc = none ∧ s.net.stableSel = none ∧
    w.partition = none ∧ w.paused = false ∧ w.owner = .none :=
  healthy_clean s (loop_tr_inv_partial s0 s ls h0 hr) w hw hph ha

/-- **C03 (last sentence; closed loop, every history)** — when the first step configures traffic (a weight on step 1, traffic
    routing configured, canary Service generated, the step does not replace every pod), then in every reachable state in which the
    rollout is on step 1 and a BatchRelease exists (the only states from which a BatchRelease reconcile can expose new pods) or
    step 1 has left its first sub-state, the stable Service is pinned to the stable revision; in particular no `br` step that raises the CloneSet's exposure starts
    from a state with an un-pinned stable Service.  (partial: label set) -/
theorem loop_first_step_pins_partial (s0 s : CS) (ls : List Label) (h0 : InitT s0) (hr : Reach s0 ls s) (w : CWl) (sub : Sub)
    (hw : s.wl = some w) (hph : s.ro.phase = .progressing) (hre : s.ro.reason = .inRolling) (hsub : s.ro.sub = some sub)
    (hfirst : firstStepPins s.ro w.replicas = true) (h1 : sub.curIdx = 1) (hrev : sub.stableRev ≠ "") :
    ((s.br.isSome = true ∨ sub.state ≠ .init) → s.net.stableSel = some sub.stableRev) ∧
    (∀ s', step s .br = some s' → expoOf s < expoOf s' → s.net.stableSel = some sub.stableRev) := by
  obtain ⟨w', T⟩ := tr_at s (loop_tr_inv_partial s0 s ls h0 hr)
  cases hw.symm.trans T.fwd.wl
  have hP := T.rollAt hph hre hsub
  have key : (s.br.isSome = true ∨ sub.state ≠ .init) → s.net.stableSel = some sub.stableRev := by
    intro hc
    have hpin := hP.firstPin hfirst h1 (by rw [Option.isSome_map]; exact hc.symm)
    cases hss : s.net.stableSel with
    | none => rw [hss] at hpin; exact absurd hpin.symm hrev
    | some r => rw [hss] at hpin; exact congrArg some hpin
  refine ⟨key, fun s' hs hlt => ?_⟩
  cases hb : s.br with
  | none =>
    rw [show step s .br = some s from stepBr_none s hb] at hs
    cases hs
    exact absurd hlt (Int.lt_irrefl _)
  | some b => exact key (Or.inl (by rw [hb]; rfl))

/-! ### `loop_route_after_ready` (C03): the weight on the gateway follows the pods

The ghost `TGhost` = the gate ghost of `RV.Props.ClosedLoop.loop_gate_partial` (`upgraded`: a Rollout reconcile in `BeforeStepUpgrade` /
`StepUpgrade` of the step the rollout is on found the BatchRelease reporting that step's pods ready) plus `seen`, the step indices
of the current release for which that observation was made.  `tstep` updates it from what a transition *read*; no transition
reads the ghost. -/

/-- histories with the traffic ghost carried along (the history grows at its end) -/
inductive TReach (s0 : CS) : List Label → TGhost → CS → Prop
  | nil : TReach s0 [] TGhost.fresh s0
  | snoc (ls : List Label) (t : TGhost) (s s' : CS) (l : Label) :
      TReach s0 ls t s → legal s l = true → step s l = some s' → TReach s0 (ls ++ [l]) (tstep t s l s') s'

theorem TReach.run {s0 s : CS} {ls : List Label} {t : TGhost} (h : TReach s0 ls t s) : run s0 ls = some s := by
  induction h with
  | nil => rfl
  | snoc ls t s s' l _ _ hs ih => rw [run_append, ih]; simp only [Option.bind_some, ClosedLoop.run, hs]

theorem TReach.reach {s0 s : CS} {ls : List Label} {t : TGhost} (h : TReach s0 ls t s) : Reach s0 ls s := by
  induction h with
  | nil => exact Reach.nil s0
  | snoc ls t s s' l _ hl hs ih => exact Reach.snoc s0 s s' ls l ih hl hs

theorem loop_route_inv_partial (s0 s : CS) (ls : List Label) (t : TGhost) (h0 : InitT s0) (hr : TReach s0 ls t s) :
    trInv s = true ∧ routeInv t s = true := by
  refine ⟨loop_tr_inv_partial s0 s ls h0 hr.reach, ?_⟩
  induction hr with
  | nil =>
    obtain ⟨⟨_, hph, _⟩, hn, _⟩ := h0
    have hrs : rollingSub s0 = none := by
      unfold rollingSub; simp [hph]
    obtain ⟨h1, _, _⟩ := (netClean_iff s0.net).1 hn
    unfold routeInv gateInv seenOK routeOK
    rw [hrs, h1]
    simp
  | snoc ls t s s' l hprev hl hs ih => exact route_step t s s' l (loop_tr_inv_partial s0 s ls h0 hprev.reach) ih hl hs

/-- step `j` of the current release was *observed* ready along the history: some Rollout reconcile of the history started
    from a state in which the rollout was on step `j`, in `BeforeStepUpgrade` / `StepUpgrade`, and the BatchRelease reported
    that step's pods ready (`doCanaryUpgrade` on the world that reconcile read returns done) -/
def ObservedReady (s0 : CS) (ls : List Label) (j : Int) : Prop :=
  ∃ pre post si sub, ls = pre ++ Label.ro :: post ∧ run s0 pre = some si ∧ rollingSub si = some sub ∧ sub.curIdx = j ∧
    preUpgrade sub.state = true ∧ obsUpgraded si sub = true

theorem ObservedReady.snoc {s0 : CS} {ls : List Label} {j : Int} (h : ObservedReady s0 ls j) (l : Label) :
    ObservedReady s0 (ls ++ [l]) j := by
  obtain ⟨pre, post, si, sub, e, h1, h2, h3, h4, h5⟩ := h
  exact ⟨pre, post ++ [l], si, sub, by rw [e]; simp, h1, h2, h3, h4, h5⟩

theorem seen_observed_partial (s0 s : CS) (ls : List Label) (t : TGhost) (h0 : InitT s0) (hr : TReach s0 ls t s) (j : Int)
    (hj : j ∈ t.seen) : ObservedReady s0 ls j := by
  induction hr generalizing j with
  | nil => cases hj
  | snoc ls t s s' l hprev hl hs ih =>
    by_cases hold : j ∈ t.seen
    · exact (ih j hold).snoc l
    · obtain ⟨_, hroute⟩ := loop_route_inv_partial s0 s ls t h0 hprev
      obtain ⟨hg, hseen, _⟩ := (routeInv_iff t s).1 hroute
      obtain ⟨rfl, sub, hrs, hc, hp, ho⟩ := route_seen_new t s s' l hg hseen j hj hold
      exact ⟨ls, [], s, sub, rfl, hprev.run, hrs, hc, hp, ho⟩

/-- **C03 (closed loop, every history)** — in every reachable state: a canary route that carries weight `wt > 0` carries the
    weight of a step `j` of the current release — at most the step the rollout is on — whose pods had been reported ready by the
    BatchRelease at an earlier point of the history (`ObservedReady`: a Rollout reconcile in `BeforeStepUpgrade` / `StepUpgrade` of
    step `j` read a BatchRelease with the current plan, observed generation, batch state Ready and `currentBatch + 1 ≥ j`).
    The weight of step `k` is never on the gateway before step `k`'s pods were reported ready.  (partial: label set) -/
theorem loop_route_after_ready_partial (s0 s : CS) (ls : List Label) (t : TGhost) (h0 : InitT s0) (hr : TReach s0 ls t s)
    (wt : Nat) (hing : s.net.canaryIng = some wt) (hpos : 0 < wt) :
    ∃ j, weightOf s.ro j = some wt ∧ ObservedReady s0 ls j ∧
      (∀ sub, rollingSub s = some sub → 1 ≤ j ∧ j ≤ sub.curIdx) := by
  obtain ⟨hinv, hroute⟩ := loop_route_inv_partial s0 s ls t h0 hr
  obtain ⟨_, T⟩ := tr_at s hinv
  have hgone := T.fwd.gone
  obtain ⟨_, hseen, hrok⟩ := (routeInv_iff t s).1 hroute
  rcases routeOK_weight t s hgone hrok wt hing with h0' | ⟨j, hj, hw⟩
  · omega
  · exact ⟨j, hw, seen_observed_partial s0 s ls t h0 hr j hj, fun sub hsub => ((route_seenOK_some t s sub hsub).1 hseen).rng j hj⟩

/-- **C03 (second sentence; closed loop, every history)** — whenever a Rollout reconcile reports a step that configures a
    weight as routed (`StepTrafficRouting` → a later sub-state of the same step), the canary Ingress carries exactly that
    step's weight (no Ingress at all only for weight 0 when there was none), the canary Service selects the released pod-template
    hash and the stable Service is pinned to the stable revision (`routedExact`; `RV.Props.Traffic.done_means_routed` lifted to the
    histories of the closed loop).  (partial: label set) -/
theorem loop_routed_exact_partial (s0 s s' : CS) (ls : List Label) (h0 : InitT s0) (hr : Reach s0 ls s)
    (hs : step s .ro = some s') : routedExact s s' = true :=
  routed_exact_step s s' (loop_tr_inv_partial s0 s ls h0 hr) hs

/-! ### `loop_rollback_routes_first` (C10): supersession and rollback put traffic back on stable first

**Supersession** is proved over histories: any forward history, then a superseding release (`supersedeOK`: the regions of the
open findings `supersedeBeforeInit` and `releaseWhileFinalising` excluded), then any interleaving of `ro / br / env / approve /
tick / crash` while the Rollout controller resets the superseded release (`resetInv`).  **Rollback** is proved for the reconcile
that notices it, from EVERY joint state (`loop_rollback_noticed_frame`); the order of the cancellation clean-up is the cursor
theorem `RV.Props.Cluster.reach_inv_partial` (reason rollback) and the regenerated task table (`RV.Props.Tables.rollback_routes_first`);
the closed-loop composition for rollback is judged by the oracle `C10.loop_rollback_routes_first` on the walks (user event `rollback`
of the extended loop `RV.ClosedLoop.stepX`). -/

/-- histories of the reset region: a forward history, one superseding release, then reconciles / workload progress / approvals /
    clock / crashes while the reset is running -/
inductive ReachR (s0 : CS) : List Label → CS → Prop
  | start (ls : List Label) (rev : String) (s1 : CS) : Reach s0 ls s1 → supersedeOK s1 rev = true →
      ReachR s0 (ls ++ [.release rev]) { s1 with wl := s1.wl.map (releaseWl rev) }
  | step (ls : List Label) (s s' : CS) (l : Label) : ReachR s0 ls s → resetInv s = true → resetLabel l = true →
      step s l = some s' → ReachR s0 (ls ++ [l]) s'

/-- `fwdInv` and `resetInv` exclude each other (through the sub-status: the recorded revision is, resp. is not, the
    workload's update revision) -/
theorem fwd_not_reset (s : CS) (hf : fwdInv s = true) : ¬ resetInv s = true := by
  intro hreset
  obtain ⟨w, F⟩ := fwd_at s hf
  obtain ⟨_, w', hw', _, _, _, hph, hre, ⟨sub, hsub, _, hne⟩, _⟩ := (resetInv_iff s).1 hreset
  cases F.wl.symm.trans hw'
  obtain ⟨sub0, hs0, hsg, _⟩ := (phaseInv_rolling_iff s w hph hre).1 F.pi
  cases hsub.symm.trans hs0
  exact hne hsg.rev

/-- every state of the reset region satisfies the reset invariants with the network part `resetNet` — or the reset has finished
    and the forward invariant holds again -/
theorem loop_reset_inv_partial (s0 s : CS) (ls : List Label) (h0 : InitT s0) (hr : ReachR s0 ls s) :
    fwdInv s = true ∨ (resetInv s = true ∧ resetCursor s = true ∧ resetNet s = true) := by
  induction hr with
  | start ls rev s1 hreach hsup =>
    exact Or.inr (rst_start s1 rev (loop_tr_inv_partial s0 s1 ls h0 hreach) hsup)
  | step ls s s' l _ hreset hl hs ih =>
    rcases ih with hf | hi
    · exact absurd hreset (fwd_not_reset s hf)
    · exact (rst_step s s' l hi hl hs).2

/-- **C10 (supersession; closed loop, every history of the reset region)** — while the Rollout controller resets a superseded
    release: (i) a BatchRelease that is being deleted, and a reset cursor past the gateway stage, imply that the canary route is gone
    — traffic is back on the stable Service before the BatchRelease (and with it the new-revision pods' claim) is removed;
    (ii) no transition hands the workload back — deletes or resumes the BatchRelease, lowers the partition — while the canary route
    carries weight, unless that very reconcile has withdrawn the route (`rollbackRoutesFirst`); (iii) the workload stays held at
    partition 100 % with no pod on the superseding revision (`resetInv` of `RV.Oracle.ClosedLoop`; its invariance is
    `RV.Props.ClosedLoop.loop_sup_inv_partial`).
    (partial: one superseding release per history, legal in the sense of `supersedeOK`; rollback and deletion are not labels here) -/
theorem loop_rollback_routes_first_partial (s0 s : CS) (ls : List Label) (h0 : InitT s0) (hr : ReachR s0 ls s)
    (hreset : resetInv s = true) :
    (∀ b, s.br = some b → b.deleting = true → s.net.canaryIng = none) ∧
    (∀ sub, s.ro.sub = some sub → (sub.finStep = .releaseWorkloadControl ∨ sub.finStep = .removeCanaryService) → s.net.canaryIng = none) ∧
    (∀ l s', resetLabel l = true → step s l = some s' → rollbackRoutesFirst s s' = true) ∧
    (∃ w, s.wl = some w ∧ w.updated = 0 ∧ w.partition = some (.pct 100)) := by
  have hinv := loop_reset_inv_partial s0 s ls h0 hr
  have hrn : resetCursor s = true ∧ resetNet s = true := by
    rcases hinv with hf | ⟨_, hc, hn⟩
    · exact absurd hreset (fwd_not_reset s hf)
    · exact ⟨hc, hn⟩
  obtain ⟨r1, r2⟩ := resetNet_route s hrn.2
  obtain ⟨_, w, hw, _, _, _, _, _, _, _, _, hupd, hheld, _⟩ := (resetInv_iff s).1 hreset
  exact ⟨r1, r2, fun l s' hl hs => (rst_step s s' l ⟨hreset, hrn⟩ hl hs).1, w, hw, hupd, (held_iff w).1 hheld⟩

/-- **C10 (rollback is dispatched first; joint state, EVERY state)** — the Rollout reconcile that notices a rollback of the
    workload (status readable, `IsInRollback`, another revision than the one being released, not the rollback-in-batches policy)
    writes nothing but its own status — reason Cancelling: the BatchRelease, the network and the workload's partition are exactly
    as before, whatever sub-state, plan change, pause or jump request is pending (`RV.Props.Reconcile.rollback_first` on the joint state) -/
theorem loop_rollback_noticed_frame (s s' : CS) (w : CWl) (sub : Sub) (hgone : s.gone = false) (hw : s.wl = some w)
    (hsub : s.ro.sub = some sub) (hroll : RV.Oracle.RolloutSM.inRollingNow s.ro = true) (hc : (roWl w).consistent = true)
    (hrb : (roWl w).inRollback = true) (hrev : w.updateRevision ≠ sub.canaryRev)
    (hnb : ¬ (s.ro.hasTraffic = false ∧ s.ro.realPartition = true ∧ s.ro.rollbackInBatch = true)) (hs : step s .ro = some s') :
    s'.ro.reason = .cancelling ∧ s'.br = s.br ∧ s'.net = s.net ∧
    s'.wl.map (fun w => (w.partition, w.replicas)) = s.wl.map (fun w => (w.partition, w.replicas)) := by
  have hpart := stepRo_partition s s' hs
  rcases stepRo_cases (show stepRo s = some s' from hs) with ⟨hg, _⟩ | ⟨_, r, hr, hs⟩
  · rw [hgone] at hg; cases hg
  · have hrf := RV.Props.Reconcile.rollback_first (roWorld s) r hr
    unfold RV.Oracle.RolloutSM.rollbackFirst at hrf
    have hro : (roWorld s).ro = s.ro := rfl
    rw [hro, hsub, world_wl s w hw] at hrf
    dsimp only at hrf
    have hcr : (roWl w).canaryRev = w.updateRevision := rfl
    rw [if_pos ⟨hroll, hc, hrb, by rw [hcr]; exact hrev, by
      intro hh
      apply hnb
      simp only [Bool.not_eq_true] at hh
      exact hh⟩] at hrf
    simp only [Bool.and_eq_true, beq_iff_eq, decide_eq_true_eq] at hrf
    obtain ⟨⟨hreason, hbr⟩, hnet⟩ := hrf
    subst hs
    refine ⟨hreason, ?_, hnet, hpart⟩
    show (landBR s.br r.w.br (annoLand s.wl r.w.wl)).1 = s.br
    have hbr' : r.w.br = s.br.map roBr := hbr
    rw [hbr', landBR_id]

/-- 10 replicas, plan 20 % (traffic 20 %, manual pause) / 50 % (traffic 50 %) -/
def exT0 : CS := { exS0 with ro := { exRo with steps := [⟨.pct 20, some 20, .manual⟩, ⟨.pct 50, some 50, .short⟩] } }

/-- `exT0` after the release of `v2` and 14 fair rounds: step 1 is routed (20 % on the canary Ingress, canary Service on `v2`, stable
    Service pinned to `v1`), 2 of 10 pods run `v2`, the rollout waits in `StepMetricsAnalysis`. The concrete histories below
    pass through this state. -/
def exT14 : CS :=
  { gone := false,
    ro := { exT0.ro with
      phase := .progressing, reason := .inRolling, condAge := .elapsed,
      sub := some { curIdx := 1, nextIdx := 2, state := .metricsAnalysis, finStep := .empty, canaryRev := "v2", stableRev := "v1",
                    podHash := "v2", hash := .same, observedRolloutID := "v2", observedGen := 3, lastUpdate := .elapsed } },
    wl := some { (exWl : CWl) with
      generation := 3, observedGeneration := 3, updated := 2, updatedReady := 2, updateRevision := "v2",
      partition := some (.pct 80), owner := .this, inProgressAnno := true },
    br := some {
      batches := [.pct 20, .pct 50], partition := some 0, rolloutID := "v2", policy := "", rollbackAnno := false,
      specOther := true, failureThreshold := none, deleting := false, hasFinalizer := true, generation := 1,
      observedGeneration := 1, observedRolloutID := "v2",
      st := { phase := .progressing, currentBatch := 0, batchState := .ready, hasReadyTime := true, hash := .same,
              rolloutIDSame := true, observedReplicas := 10, updateRevision := "wl-v2", stableRevision := "wl-v1",
              noNeedUpdate := none, updated := 2, updatedReady := 2 } },
    net := { exT0.net with stableSel := some "v1", canarySvc := some "v2", canaryIng := some 20 },
    mem := Mem.empty }

theorem exT14_legalRun : legalRun exT0 (.release "v2" :: (List.replicate 14 exRound).flatten) = some exT14 := by decide +kernel

theorem exT14_run : run exT0 (.release "v2" :: (List.replicate 14 exRound).flatten) = some exT14 :=
  run_of_legalRun _ _ _ exT14_legalRun

/-! ### progress with traffic routing (C07)

That the fair schedule `[ro, br, env, approve, tick]` takes a settled idle state and one release to the clean terminal state
(`RV.Oracle.ClosedLoop.terminalOK`) and stays there is proved by `RV.Props.ClosedLoop.loop_terminates_partial` for
`hasTraffic = false`, with the measure `mu` over 26 round-boundary classes; for `hasTraffic = true` it is NOT proved.  What is
proved here is the step that traffic routing adds, from EVERY state of the invariant (not only round boundaries, any grace
memory, any interleaving before): `StepTrafficRouting` — rank 8 of `mu`, above `StepMetricsAnalysis` — is left within 7 fair
rounds (`routing_converges` gives 6), for weighted steps (`doTrafficRouting`: Services, Ingress at 0, weight, verification) and un-weighted ones
(`finalisingTrafficRouting`: un-pin, withdraw, remove) alike.  Not covered with traffic routing: the round-boundary classes of
`BeforeStepUpgrade` with its Manager calls (`restoreStableService` / `patchStableService` under a grace period: up to 2 extra
rounds), the pre-step clean-up of un-weighted steps in the other sub-states, and the three network tasks of the final clean-up
under a grace period (`finalising_converges`); on the real controllers these are judged by the oracles `C07.loop_terminates`
(≤ 20·(#steps + 4) rounds) and `C07.loop_measure_decreases` (K = 5) on every fair healthy walk, traffic scenarios included. -/

/-- **C07 (closed loop, every history, then the fair schedule)** — from every reachable state in which the rollout is in
    `StepTrafficRouting` of step `k` (stable revision and update revision known), at most 7 fair rounds
    `[ro, br, env, approve, tick]` later — every round is defined: no reconciler panics — the rollout is still on step `k`, past
    `StepTrafficRouting`, and the traffic invariant holds: traffic routing never stalls and never oscillates inside the loop.
    The bound stated is 7; the lemma behind it, `routing_converges`, gives 6 (one round to become `LiveReady`, then at most 5).
    (partial: this is one of the progress classes; the section header says what is not covered with traffic routing) -/
theorem loop_routing_converges_partial (s0 s : CS) (ls : List Label) (h0 : InitT s0) (hr : Reach s0 ls s) (w : CWl) (sub : Sub)
    (hw : s.wl = some w) (hph : s.ro.phase = .progressing) (hre : s.ro.reason = .inRolling) (hsub : s.ro.sub = some sub)
    (hst : sub.state = .trafficRouting) (hsr : sub.stableRev ≠ "") (hur : w.updateRevision ≠ "") :
    ∃ k s', k ≤ 7 ∧ rounds k s = some s' ∧ trInv s' = true ∧ s'.ro.phase = .progressing ∧ s'.ro.reason = .inRolling ∧
      ∃ sub', s'.ro.sub = some sub' ∧ sub'.curIdx = sub.curIdx ∧ routedState sub'.state = true := by
  obtain ⟨k, s', hk, rest⟩ := routing_converges s w sub (loop_tr_inv_partial s0 s ls h0 hr) hw hph hre hsub hst hsr hur
  exact ⟨k, s', Nat.le_succ_of_le hk, rest⟩

/-- test: `exT0`, 10 rounds after the release the rollout is in `StepTrafficRouting` of step 1 with no route written yet; 4 fair rounds
    later the step is routed -/
example : (legalRun exT0 (.release "v2" :: (List.replicate 10 exRound).flatten)).map (fun s =>
      (s.ro.sub.map (·.state), s.net.canaryIng, (rounds 4 s).map (fun t => (t.ro.sub.map (·.state), t.net.canaryIng)))) =
    some (some .trafficRouting, none, some (some .metricsAnalysis, some 20)) := by decide +kernel

/-! ### known finding `abandonedCleanup` (C05 / C04 / C10) — why `loop_terminal_clean` is `_partial`

The clean-up cursor `status.canaryStatus.finalisingStep` is shared by four task lists: the reset of a superseded release
(`doProgressingReset`: gateway → BatchRelease → canary Service) and the clean-ups for success / rollback / the other exit reasons
(`doCanaryFinalising`).  When one of these activities is abandoned or overtaken before it finished — the user pushes `v3` during
the release of `v2` and then returns to `v2`, or rolls back — the next activity resumes from the cursor
the previous one left and skips every task before it.  Of the deletion / disabling variants (the reconcile that notices a deletion still
runs the `Progressing` branch once more; the exit clean-up then resumed from the cursor that branch left) the cursor-carrying half is
REPAIRED by the cursor reset in `Reconcile` (fix "cursor reset", `RV.RolloutSM.resetOnExit`; regression example
`loop_overtaken_cleanup_cursor_reset`); that the Progressing branch still runs in that reconcile — a reset may delete the BatchRelease
the exit clean-up would have resumed — is not.
What also stays open is the variant in which the rollout never leaves Progressing (`abandonedHist`); both histories are replayed on the
real controllers on every run (corpus `closedloop/finding-abandonedCleanup.jsonl`, `closedloop/fixed-abandonedCleanup-delete.jsonl`);
candidate repair of the remainder: `fixes/cltraffic-stale-cursor.patch`. -/

/-- `v2` is released up to step 1 (20 % routed); the user pushes `v3`, the Rollout controller starts the reset (route withdrawn,
    BatchRelease deleted, cursor `ReleaseWorkloadControl`); the user returns to `v2`; fair rounds to the end -/
def abandonedHist : List Label :=
  .release "v2" :: (List.replicate 14 exRound).flatten ++ [.release "v3", .env, .ro, .tick, .ro, .release "v2", .env] ++
    (List.replicate 40 exRound).flatten

/-- `v2` is released up to step 1; the user pushes `v3` and deletes the Rollout before the Rollout controller reconciles -/
def overtakenHist : List Label :=
  .release "v2" :: (List.replicate 14 exRound).flatten ++ [.release "v3", .env, .delete] ++ (List.replicate 20 exRound).flatten

/-- **known finding `abandonedCleanup` — witness** (the full-strength statement "every terminal state of every history — a
    release, rollback or deletion at any time — satisfies `terminalClean`" is FALSE):
    after `abandonedHist` the rollout reports Healthy / Completed while the clean-up ran only `ReleaseWorkloadControl`: the
    canary Ingress still routes 50 %, the canary Service exists, the stable Service is pinned to `v1`, and the CloneSet is left at
    partition 50 % with 5 of 10 pods updated.  (This variant — a reset abandoned by going back to the revision being released,
    the rollout never leaves Progressing — is NOT repaired by the cursor reset in `Reconcile`; it stays open.) -/
theorem loop_terminal_clean_full_FALSE :
    (run exT0 abandonedHist).map (fun s =>
        s.ro.phase == .healthy && s.ro.reason == .completed && !terminalCleanOK s &&
        s.net.canaryIng == some 50 && s.net.canarySvc == some "v2" && s.net.stableSel == some "v1" &&
        (match s.wl with | some w => w.partition == some (.pct 50) && w.updated == 5 && !w.inProgressAnno | none => false)) = some true := by
  unfold abandonedHist
  rw [List.append_assoc, run_append, exT14_run]
  decide +kernel

/-- **fixed variant of `abandonedCleanup` (deletion / disabling) — regression example**: before the cursor reset in `Reconcile`
    (`RV.RolloutSM.resetOnExit`), after `overtakenHist` — `v3` pushed during the release of `v2`, the Rollout deleted before the
    Rollout controller reconciles — the Rollout was gone with the stable Service still pinned to `v1`: the reconcile that notices the
    deletion still runs the reset of the Progressing branch, and the deletion sequence resumed from the cursor the reset left.  Now
    that reconcile clears the cursor, the deletion sequence runs from its first task, and the Rollout is gone with a clean terminal
    state: nothing pinned, no canary Service / Ingress, no BatchRelease, the CloneSet released. -/
theorem loop_overtaken_cleanup_cursor_reset :
    (run exT0 overtakenHist).map (fun s =>
      s.gone && terminalCleanOK s && s.net.stableSel.isNone && s.net.canaryIng.isNone && s.net.canarySvc.isNone && s.br.isNone &&
      (match s.wl with | some w => w.partition.isNone && !w.paused && !w.inProgressAnno | none => false)) = some true := by
  unfold overtakenHist
  rw [List.append_assoc, run_append, exT14_run]
  decide +kernel

/-! ### non-vacuity: concrete initial states and histories (kernel evaluation of the model — tests, not the ∀ claims) -/

/-- the hypotheses are satisfiable: `exS0` (plan 20 % with traffic 20 % / 100 % without weight) and `exT0` (two weighted steps) -/
example : InitT exS0 :=
  ⟨⟨by decide, rfl, rfl, exWl, rfl, by decide, by decide, rfl⟩, by decide, exWl, rfl, by decide, by decide⟩
example : InitT exT0 :=
  ⟨⟨by decide, rfl, rfl, exWl, rfl, by decide, by decide, rfl⟩, by decide, exWl, rfl, by decide, by decide⟩

/-- `disableGenerateCanaryService` -/
def exD0 : CS := { exS0 with ro := { exRo with disableGen := true, steps := [⟨.pct 30, some 30, .short⟩, ⟨.pct 100, some 100, .short⟩] } }
/-- a first step that replaces every pod -/
def exF0 : CS := { exS0 with ro := { exRo with steps := [⟨.pct 100, some 10, .manual⟩] } }
example : InitT exD0 :=
  ⟨⟨by decide, rfl, rfl, exWl, rfl, by decide, by decide, rfl⟩, by decide, exWl, rfl, by decide, by decide⟩
example : InitT exF0 :=
  ⟨⟨by decide, rfl, rfl, exWl, rfl, by decide, by decide, rfl⟩, by decide, exWl, rfl, by decide, by decide⟩

/-- test: after the release of `v2` and 14 fair rounds step 1 is routed: 20 % on the canary Ingress, canary Service on `v2`, stable
    Service pinned to `v1`, and the invariant, `noVoid` and the first-step clause hold -/
example : (legalRun exT0 (.release "v2" :: (List.replicate 14 exRound).flatten)).map (fun s =>
      trInv s && noVoidOK s && firstPinOK s && s.net.canaryIng == some 20 && s.net.canarySvc == some "v2" &&
      s.net.stableSel == some "v1") = some true := by rw [exT14_legalRun]; decide +kernel

/-- test: the invariant holds after every number of fair rounds of complete releases (with and without canary Service, with a
    full first step, with an un-weighted last step), and each ends clean -/
example : (List.range 40).all (fun k => ((legalRun exT0 (.release "v2" :: (List.replicate k exRound).flatten)).map trInv).getD false) = true := by
  decide +kernel
example : (List.range 40).all (fun k => ((legalRun exS0 (.release "v2" :: (List.replicate k exRound).flatten)).map trInv).getD false) = true := by
  decide +kernel
example : (List.range 40).all (fun k => ((legalRun exD0 (.release "v2" :: (List.replicate k exRound).flatten)).map trInv).getD false) = true := by
  decide +kernel
example : (List.range 30).all (fun k => ((legalRun exF0 (.release "v2" :: (List.replicate k exRound).flatten)).map trInv).getD false) = true := by
  decide +kernel
example : (legalRun exT0 (.release "v2" :: (List.replicate 40 exRound).flatten)).map (fun s => isTerminal s && terminalCleanOK s &&
      s.ro.succeeded == some true) = some true := by decide +kernel

/-- test (C10, supersession): with 20 % routed on step 1 a superseding `v3` is legal (`supersedeOK`); after the workload controller
    and one Rollout reconcile the reset invariants hold, the route is withdrawn and only then is the BatchRelease being deleted -/
example : (legalRun exT0 (.release "v2" :: (List.replicate 14 exRound).flatten)).map (fun s => supersedeOK s "v3" && routeLive s.net) =
    some true := by rw [exT14_legalRun]; decide +kernel
example : (run exT0 (.release "v2" :: (List.replicate 14 exRound).flatten ++ [.release "v3", .env, .ro])).map (fun s =>
      resetInv s && resetCursor s && resetNet s && s.net.canaryIng == none &&
      (match s.br with | some b => !b.deleting | none => false)) = some true := by rw [run_append, exT14_run]; decide +kernel
example : (run exT0 (.release "v2" :: (List.replicate 14 exRound).flatten ++ [.release "v3", .env, .ro, .tick, .ro])).map (fun s =>
      resetInv s && resetCursor s && resetNet s && s.net.canaryIng == none &&
      (match s.br with | some b => b.deleting | none => false)) = some true := by rw [run_append, exT14_run]; decide +kernel

/-- test (C10, rollback): the user event `rollback` of the extended loop (`RV.ClosedLoop.stepX`) with 20 % routed: the next Rollout
    reconcile sees `IsInRollback` and only sets reason Cancelling (hypotheses of `loop_rollback_noticed_frame`); the following
    reconciles withdraw the route before the BatchRelease is resumed -/
example : ((run exT0 (.release "v2" :: (List.replicate 14 exRound).flatten)).bind (fun s => stepX s .rollback)).map (fun s =>
      (match s.wl with | some w => (roWl w).inRollback && (roWl w).consistent | none => false) && routeLive s.net &&
      ((step s .ro).map (fun t => t.ro.reason == .cancelling && t.net == s.net && t.br == s.br)).getD false) = some true := by
  rw [exT14_run]; decide +kernel
def rbState : Option CS := (run exT0 (.release "v2" :: (List.replicate 14 exRound).flatten)).bind (fun s => stepX s .rollback)
example : (rbState.bind (fun s => run s [.ro, .ro, .br, .tick, .ro])).map
      (fun t => (t.ro.reason, t.net.canaryIng, t.br.map (fun b => b.partition.isSome))) =
    some (.cancelling, none, some true) := by unfold rbState; rw [exT14_run]; decide +kernel

/-- `TReach` as a function: the run with the ghost carried along -/
def ghostRun (s0 : CS) (ls : List Label) : Option (TGhost × CS) :=
  ls.foldl (fun acc l => match acc with
    | some (t, s) => (match step s l with | some s' => some (tstep t s l s', s') | none => none)
    | none => none) (some (TGhost.fresh, s0))
/-- test: the ghost along the release of `exT0`: when 50 % is on the gateway, steps 1 and 2 have been recorded as observed ready -/
example : (ghostRun exT0 (.release "v2" :: (List.replicate 26 exRound).flatten)).map (fun (t, s) =>
      (s.net.canaryIng, t.seen, routeInv t s)) = some (some 50, [2, 1], true) := by decide +kernel

end RV.Props.ClosedLoopTraffic
