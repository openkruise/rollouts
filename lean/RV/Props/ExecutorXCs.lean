import RV.Oracle.ExecutorXPlanes
import RV.Props.ExecutorXThms
/-!
# The CloneSet partition plane is a lawful plane

`csPlane` is the plane of `RV.Executor` (so every theorem of `RV.Props.ExecutorX` specialises to the CloneSet executor, which is
`RV.Executor.reconcile` by `executor_is_instance`; `RV.Props.ExecutorThms` reads them there).  At the end, the regression for a
ReplicaSet reference, which no plane serves.
-/
namespace RV.Props.ExecutorX
open RV.Arith RV.BatchCtx RV.Executor RV.ExecutorX RV.Oracle.ExecutorX

/-- **the CloneSet plane is lawful**: readiness = the verdict of `RV.Oracle.Executor.batchReadyNow`, released = the control
    annotation does not name this BatchRelease (or the CloneSet is gone), claimed = it does. -/
theorem csLaws : Laws csPlane csPreds where
  ensure_ok_iff := fun br ns wl _ => ensureReady_iff br ns wl
  fin_ok_released := by
    intro br wl wl' _ h
    simp only [csPreds]
    simp only [csPlane, Out.val.injEq] at h
    unfold RV.Executor.finalize at h
    cases wl with
    | none => simp only [Prod.mk.injEq] at h; obtain ⟨h1, _⟩ := h; subst h1; rfl
    | some w =>
      simp only [Prod.mk.injEq] at h
      obtain ⟨h1, _⟩ := h; subst h1
      dsimp only; split <;> simp
  init_frame := .of_records fun br ns wl _ ns' _ h =>
    (congrArg (·.2.1) (Out.val.inj h) : _ = ns') ▸ initializeWl_records br ns wl
  init_ok_claimed := by
    intro br ns wl wl' ns' _ h
    simp only [csPlane, Out.val.injEq] at h
    unfold initializeWl at h
    cases wl with
    | none => simp only [Prod.mk.injEq] at h; exact absurd h.2.2 (by decide)
    | some w =>
      simp only [Prod.mk.injEq] at h
      obtain ⟨h1, _⟩ := h; subst h1
      dsimp only [csPreds]
      split <;> simp_all

/-- **exposure laws of the CloneSet plane** (exposure = pods the partition lets move, `RV.Arith.exposure`; allowed = what the
    desired partition of the current batch lets move) -/
theorem csExposure : ExposureLaws csPlane csPreds where
  init_exposes_nothing := by
    intro br ns wl wl' ns' r _ _ h
    simp only [csPreds]
    simp only [csPlane, Out.val.injEq] at h
    unfold initializeWl at h
    cases wl with
    | none => simp only [Prod.mk.injEq] at h; obtain ⟨h1, _⟩ := h; subst h1; exact Int.le_refl _
    | some w =>
      simp only [Prod.mk.injEq] at h
      obtain ⟨h1, _⟩ := h; subst h1
      dsimp only
      split
      · exact Int.le_refl _
      · simp only [Option.getD_some]
        unfold exposure
        rw [keptStable_pct100]
        unfold keptStable
        omega
  upgrade_monotone := by
    intro br ns wl wl' r _ _ h
    rcases upgradeBatch_cases br ns wl wl' r h with ⟨hw, _⟩ | ⟨w, c, hwl, _, hcur, hrep, hgt, hw, _⟩
    · rw [hw]; exact Int.le_refl _
    · -- the partition is written only when the desired one keeps fewer pods than the current one
      rw [hw, hwl]
      simp only [csPreds, Option.getD_some]
      rw [hcur, hrep] at hgt
      exact Int.sub_le_sub_left (keptStable_mono (Int.le_of_lt hgt)) _
  upgrade_within := by
    intro br ns wl wl' r _ _ h
    rcases upgradeBatch_cases br ns wl wl' r h with ⟨hw, _⟩ | ⟨w, c, hwl, hc, _, _, _, hw, _⟩
    · rw [hw]; exact Int.le_max_left _ _
    · rw [hw, hwl]
      simp only [csPreds, hc, Option.getD_some]
      exact Int.le_max_right _ _
  upgrade_err_same := by
    intro br ns wl wl' h
    rcases upgradeBatch_cases br ns wl wl' .err h with ⟨hw, _⟩ | ⟨_, _, _, _, _, _, _, _, hr⟩
    · exact hw
    · cases hr


/-- readiness of the CloneSet plane is, by definition, the oracle's verdict (what that verdict means: `RV.Props.C11.ready_sound`) -/
theorem cs_ready_is_batchReady (br : BR) (wl : Option Workload) :
    csPreds.ready br wl = RV.Oracle.Executor.batchReadyNow br wl := rfl

/-- **C09 (finding `stsPlaneForeignKind`, repaired) — regression** — a BatchRelease whose workloadRef names an apps/v1 ReplicaSet gets
    no control plane under any rolling style: `getReleaseController` refuses it like an unsupported workload, and the reconcile
    persists the initialised status and returns without reading the ReplicaSet (a StatefulSet-like control built for it would crash
    the manager in `util.ParseWorkload`). -/
theorem rs_reference_refused (s : Style) (e : Bool) (br : BR) (w : Bool) :
    dispatch .replicaSet s e = none ∧ reconcileNoPlane br w ≠ .panic :=
  ⟨(x_dispatch_refused .replicaSet s e).mpr (.inr (.inl rfl)), x_no_panic_without_plane br w⟩

end RV.Props.ExecutorX
