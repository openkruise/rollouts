import RV.Props.ExecutorXThms
import RV.Lemmas.ExecutorXPlanes
import RV.Props.CtlStsThms
/-!
# The StatefulSet-like / Advanced-DaemonSet plane is a lawful plane of the executor

`RV.ExecutorX.stsPlane` is a thin adapter over the plane model `RV.CtlSts` (fault `.none`); `RV.Oracle.ExecutorX.stsPreds`
are its own predicates.  The laws the plane-parametric executor theorems (`RV.Props.ExecutorX`) rely on are obtained here
from what the lemmas of that model say a call does (`CtlSts.step_ran`: a one-write call, and what each of the three calls
writes — the lemmas the theorems of `RV.Props.CtlSts` are proved from) and from `RV.Props.CtlSts.verdict_ready_means_pods`.
-/
namespace RV.Props.ExecutorX
open RV.Arith RV.BatchCtx RV.Executor RV.ExecutorX RV.Oracle.ExecutorX

/-- the world is read by `submit` only: any value does -/
def stsCfg (rel : CtlSts.Rel) : CtlSts.Cfg := { rel := rel, world := { matched := false } }

def stsStep (call : CtlSts.Call) (batch : Int := 0) (bpNil : Bool := false) : CtlSts.Step :=
  { call := call, fault := .none, batch := batch, bpNil := bpNil, edit := CtlSts.Edit.none }

theorem sts_init_is_step (rel : CtlSts.Rel) (d : Option CtlSts.Wl) :
    CtlSts.planeInitialize rel d .none = CtlSts.step (stsCfg rel) d (stsStep .initialize) := rfl

theorem sts_upgrade_is_step (rel : CtlSts.Rel) (batch : Int) (d : Option CtlSts.Wl) :
    CtlSts.planeUpgradeBatch rel batch d .none = CtlSts.step (stsCfg rel) d (stsStep .upgradeBatch batch) := rfl

theorem sts_fin_is_step (rel : CtlSts.Rel) (bpNil : Bool) (d : Option CtlSts.Wl) :
    CtlSts.planeFinalize bpNil d .none = CtlSts.step (stsCfg rel) d (stsStep .finalize 0 bpNil) := rfl

/-- the plan entry the plane model works on is the executor's `Batches[CurrentBatch]` -/
theorem sts_entryOf (br : BR) (upd : Int) (nn : Option Int) :
    RV.Oracle.CtlSts.entryOf (stsRel br upd nn) br.status.currentBatch = entryOf br := rfl

/-- one direction only: the adapter's `init` also answers err when the step is ok but returned no observation, or there is no
    workload information -/
theorem sts_init_inv {br : BR} {ns ns' : Status} {w w' : StsW} {r : CallResult}
    (h : stsPlane.init br ns w = .val (w', ns', r)) :
    ∃ o, CtlSts.step (stsCfg (stsRel br ns.updated ns.noNeedUpdate)) w.wl (stsStep .initialize) = .val o ∧
      w' = { w with wl := o.wl } ∧ (r = .ok → o.res = .ok) ∧ Records ns ns' := by
  simp only [stsPlane, sts_init_is_step] at h
  split at h
  · cases h
  · cases h
  · rename_i o i ho _
    refine ⟨o, ho, ?_⟩
    split at h
    · rename_i hres _ _
      cases h
      exact ⟨rfl, fun _ => hres, .mk _ _ _ _⟩
    · cases h
      exact ⟨rfl, nofun, .mk _ _ _ _⟩

theorem sts_upgrade_inv {br : BR} {ns : Status} {w w' : StsW} {r : CallResult}
    (h : stsPlane.upgrade br ns w = .val (w', r)) :
    ∃ o, CtlSts.step (stsCfg (stsRel br br.status.updated br.status.noNeedUpdate)) w.wl
        (stsStep .upgradeBatch br.status.currentBatch) = .val o ∧
      w' = { w with wl := o.wl } ∧ (r = .ok ↔ o.res = .ok) := by
  simp only [stsPlane, sts_upgrade_is_step] at h
  split at h
  · cases h
  · rename_i o ho
    cases h
    exact ⟨o, ho, rfl, resOfBool_decide _⟩

/-- `Finalize` does not read the plan: `stsRel br 0 none` is an arbitrary instance -/
theorem sts_fin_inv {br : BR} {w w' : StsW} {r : CallResult} (h : stsPlane.fin br w = .val (w', r)) :
    ∃ o, CtlSts.step (stsCfg (stsRel br 0 none)) w.wl (stsStep .finalize 0 br.partition.isNone) = .val o ∧
      w' = { w with wl := o.wl } ∧ (r = .ok ↔ o.res = .ok) := by
  simp only [stsPlane, sts_fin_is_step (stsRel br 0 none)] at h
  split at h
  · cases h
  · rename_i o ho
    cases h
    exact ⟨o, ho, rfl, resOfBool_decide _⟩

theorem sts_exposure_nonneg (wl : CtlSts.Wl) (r : Int) (hr : CtlSts.replicasOf wl = some r) (h0 : 0 ≤ r) :
    0 ≤ RV.Oracle.CtlSts.exposureW wl := by
  simp only [RV.Oracle.CtlSts.exposureW, hr]
  exact exposure_nonneg _ r h0

/-- **the StatefulSet-like / DaemonSet plane is lawful**: `EnsureBatchPodsReadyAndLabeled` returns nil exactly when the
    plane's readiness verdict is `Ready`; a `Finalize` that returns nil leaves no control-info (or no workload);
    `Initialize` records revisions / replicas / no-need-update only, and when it returns nil the workload carries this
    BatchRelease's control-info. -/
theorem stsLaws : Laws stsPlane stsPreds where
  ensure_ok_iff := by
    intro br ns w _
    simp only [stsPlane, stsPreds]
    cases CtlSts.planeVerdict (stsRel br br.status.updated br.status.noNeedUpdate) br.status.currentBatch w.wl w.cl .none with
    | panic => simp
    | val v => rw [Out.val.injEq]; exact resOfBool_ok _
  fin_ok_released := by
    intro br w w' _ h
    obtain ⟨o, ho, rfl, hr⟩ := sts_fin_inv h
    simp only [stsPreds]
    rcases CtlSts.finalize_ok rfl ho (hr.mp rfl) with
      ⟨_, hwl⟩ | ⟨wl, _, hwl⟩ <;> rw [hwl]
    exact decide_eq_true (CtlSts.finalize_control wl _)
  init_frame := .of_records fun _ _ _ _ _ _ h => let ⟨_, _, _, _, hrec⟩ := sts_init_inv h; hrec
  init_ok_claimed := by
    intro br ns w w' ns' _ h
    obtain ⟨o, ho, rfl, hr, _⟩ := sts_init_inv h
    simp only [stsPreds]
    obtain ⟨wl, r, _, _, ⟨hn, hwl⟩ | ⟨_, hwl⟩⟩ := CtlSts.initialize_ok rfl ho (hr rfl) <;>
      rw [hwl]
    · exact decide_eq_true hn
    · rfl

theorem sts_expoOK {br : BR} {w : StsW} {wl : CtlSts.Wl} {r : Int} (h : stsPreds.expoOK br w = true) (hd : w.wl = some wl)
    (hr : CtlSts.replicasOf wl = some r) :
    RV.Oracle.CtlSts.sizeOK r = true ∧ RV.Oracle.CtlSts.nnOK r br.status.noNeedUpdate = true := by
  simpa only [stsPreds, hd, hr, Bool.and_eq_true] using h

/-- **exposure laws of the StatefulSet-like / DaemonSet plane** (inside `expoOK`: size between 0 and `MaxInt16`, the
    recorded no-need-update count between 0 and the size): `Initialize` — whether it fails, finds the workload claimed or
    claims it with the hold partition — never raises the number of pods that may move; `UpgradeBatch` never lowers it and
    raises it at most to what the current batch allows (`RV.Oracle.Batch.allowed`); a failed `UpgradeBatch` wrote nothing. -/
theorem stsExposure : ExposureLaws stsPlane stsPreds where
  init_exposes_nothing := by
    intro br ns w w' ns' r _ hexp h
    obtain ⟨o, ho, rfl, _⟩ := sts_init_inv h
    refine (CtlSts.step_ran CtlSts.Call.noConfusion ho).rel
      (fun d' => stsPreds.exposure { w with wl := d' } ≤ stsPreds.exposure w) (Int.le_refl _) ?_
    intro wl r wl' hd hrep hs
    obtain ⟨_, rfl⟩ := CtlSts.ctrlInitialize_some hs
    obtain ⟨hsz, _⟩ := sts_expoOK hexp hd hrep
    simp only [stsPreds, hd, CtlSts.exposure_claimed wl r hrep hsz]
    exact sts_exposure_nonneg wl r hrep ((CtlSts.sizeOK_iff r).mp hsz).1
  upgrade_monotone := by
    intro br ns w w' r _ _ h
    obtain ⟨o, ho, rfl, _⟩ := sts_upgrade_inv h
    refine (CtlSts.step_ran CtlSts.Call.noConfusion ho).rel
      (fun d' => stsPreds.exposure w ≤ stsPreds.exposure { w with wl := d' }) (Int.le_refl _) ?_
    intro wl r wl' hd hrep hs
    obtain ⟨_, e, _, hlt, rfl⟩ := CtlSts.upgrade_write rfl hs
    simp only [stsPreds, hd]
    rw [CtlSts.exposureW_upgraded _ _ hrep, RV.Oracle.CtlSts.exposureW, hrep]
    exact exposure_anti r (Int.le_of_lt hlt)
  upgrade_within := by
    intro br ns w w' r _ hexp h
    obtain ⟨o, ho, rfl, _⟩ := sts_upgrade_inv h
    refine (CtlSts.step_ran CtlSts.Call.noConfusion ho).rel
      (fun d' => stsPreds.exposure { w with wl := d' } ≤ max (stsPreds.exposure w) (stsPreds.allowed br w)) (Int.le_max_left _ _) ?_
    intro wl r wl' hd hrep hs
    obtain ⟨_, e, he, _, rfl⟩ := CtlSts.upgrade_write rfl hs
    obtain ⟨hsz, hnn⟩ := sts_expoOK hexp hd hrep
    have hb := CtlSts.desired_exposure_bound wl r e br.status.noNeedUpdate ((CtlSts.sizeOK_iff r).mp hsz).1 hnn
    simp only [stsPreds, hd, hrep, (sts_entryOf br _ _).symm.trans he, CtlSts.exposureW_upgraded _ _ hrep]
    exact Int.le_trans hb (Int.le_max_right _ _)
  upgrade_err_same := by
    intro br ns w w' h
    obtain ⟨o, ho, rfl, hr⟩ := sts_upgrade_inv h
    rw [(CtlSts.step_ran CtlSts.Call.noConfusion ho).failed_same CtlSts.res_ne fun hok => nomatch hr.mpr hok]

/-- **what `stsPreds.ready` means, on the pods** (from `RV.Props.CtlSts.verdict_ready_means_pods`): when the plane reports
    the batch the persisted status points at **Ready**, the workload exists and either is empty (size 0: the batch calls
    for nothing) or, for the plan entry `e = Batches[CurrentBatch]` and `desired := DesiredUpdatedReplicas` of that entry
    (with the no-need-update count of the persisted status),
    * the workload's own controller reports at least `desired` updated pods,
    * the **live ready pods of the update revision** (`readyPods`: counted on the pods of the cluster wherever the code lists
      them, `sts_readyPods_typed`) plus the failure threshold reach `desired`, and
    * at least one such pod exists when any is called for. -/
theorem sts_ready_means (br : BR) (w : StsW) (h : stsPreds.ready br w = true) :
    ∃ wl r, w.wl = some wl ∧ CtlSts.replicasOf wl = some r ∧
      (r = 0 ∨ ∃ e, entryOf br = some e ∧
        w.cl.status.updated ≥ desiredOf (CtlSts.bkind wl) r e br.status.noNeedUpdate ∧
        allowedUnavailable br.failureThreshold w.cl.status.updated + RV.Oracle.CtlSts.readyPods wl w.cl
          ≥ desiredOf (CtlSts.bkind wl) r e br.status.noNeedUpdate ∧
        (desiredOf (CtlSts.bkind wl) r e br.status.noNeedUpdate > 0 → RV.Oracle.CtlSts.readyPods wl w.cl ≥ 1)) := by
  simp only [stsPreds] at h
  split at h
  · rename_i v hv
    exact RV.Props.CtlSts.verdict_ready_means_pods _ _ _ _ _ v hv (of_decide_eq_true h)
  · cases h

/-- for every typed kind (native / Advanced StatefulSet, Advanced DaemonSet) the number `sts_ready_means` speaks of is the
    number of pods of the cluster that are the workload's own, not on their way out, of the update revision and `Ready` -/
theorem sts_readyPods_typed (wl : CtlSts.Wl) (cl : CtlSts.Cluster) (h : wl.kind ≠ .unstructured) :
    RV.Oracle.CtlSts.readyPods wl cl =
      ((cl.pods.filter (RV.Oracle.CtlSts.liveReadyUpdated cl.status.updateRevision)).length : Nat) :=
  RV.Props.CtlSts.readyPods_listed wl cl (CtlSts.needsList_typed wl h)

/-- `EnsureBatchPodsReadyAndLabeled` returning nil puts the world under `sts_ready_means` (one direction of
    `stsLaws.ensure_ok_iff`) -/
theorem sts_ensure_ok_means (br : BR) (ns : Status) (w : StsW) (h : stsPlane.ensure br ns w = .val .ok) :
    stsPreds.ready br w = true := (stsLaws.ensure_ok_iff br ns w rfl).mp h

/-- a ready pod of the update revision `web-7c9d5`, owned by the workload -/
def exStsPod : CtlSts.Pod :=
  { inNamespace := true, selMatch := true, phase := "Running", owner := .this, terminating := false,
    hashLabel := "", revLabel := "web-7c9d5", conds := [("PodScheduled", "True"), ("Ready", "True")] }

/-- a native StatefulSet of 4 replicas, claimed by this BatchRelease, partition 2, with two ready pods of the update
    revision and one of the old revision -/
def exStsW : StsW :=
  { wl := some { kind := .native, replicas := some 4, us := .present "RollingUpdate" (.present (.int 2) none false),
                 control := .this, inProgress := true, tmpl := 2, tmplPresent := true, updatedReady := 0, rest := 0 },
    cl := { status := { updateRevision := "web-7c9d5", updated := 2, ready := 4 },
            pods := [exStsPod, { exStsPod with revLabel := "web-5b8f6" }, exStsPod] },
    obs := { generation := 3, observedGeneration := 3, statusReplicas := 4, updated := 2, updatedReady := 2,
             updateRevision := "web-7c9d5", stableRevision := "web-5b8f6" } }

/-- a BatchRelease verifying batch 0 (50 % of 4 = 2 pods) of a two-batch plan -/
def exStsBR : BR :=
  { batches := [.pct 50, .pct 100], partition := some 0, failureThreshold := none, deleting := false, hasFinalizer := true,
    rollbackAnno := false,
    status := { phase := .progressing, currentBatch := 0, batchState := .verifying, hasReadyTime := false, hash := .same,
                rolloutIDSame := true, observedReplicas := 4, updateRevision := "web-7c9d5", stableRevision := "web-5b8f6",
                noNeedUpdate := none, updated := 2, updatedReady := 2 } }

/-- `stsPreds.ready` is true of a concrete world (two live ready pods of the update revision for a batch of two) and false
    once one of them is gone; inside `expoOK`, with exposure 2 = what batch 0 allows -/
example :
    stsPreds.ready exStsBR exStsW = true ∧
    stsPreds.ready exStsBR { exStsW with cl := { exStsW.cl with pods := [exStsPod] } } = false ∧
    stsPreds.expoOK exStsBR exStsW = true ∧ stsPreds.exposure exStsW = 2 ∧ stsPreds.allowed exStsBR exStsW = 2 := by
  decide

/-- a concrete successful `stsPlane.fin` (the plan is complete: `batchPartition = nil`): the workload was claimed before
    (`released` false) and is released afterwards, with every pod free to move -/
example :
    stsPreds.released { exStsBR with partition := none } exStsW = false ∧
    (match stsPlane.fin { exStsBR with partition := none } exStsW with
     | .val (w', .ok) => stsPreds.released { exStsBR with partition := none } w' && decide (stsPreds.exposure w' = 4)
     | _ => false) = true := by
  decide

end RV.Props.ExecutorX
