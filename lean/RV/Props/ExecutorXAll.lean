import RV.Props.ExecutorXCs
import RV.Props.ExecutorXPDep
import RV.Props.ExecutorXSts
import RV.Props.ExecutorXBG
import RV.Props.ExecutorXCanary
/-!
# Every control plane `getReleaseController` can hand out is lawful

So every theorem of `RV.Props.ExecutorX` (`x_…`, proved once for every lawful plane) holds for the BatchRelease executor over the
partition-style CloneSet / Deployment / StatefulSet-like / DaemonSet planes, the blue-green Deployment / CloneSet planes and the
canary-style Deployment plane — each with that plane's **own** readiness / released / claimed / exposure predicates.
A few instances are spelled out for the planes that have their own event detection and multi-object worlds.
-/
namespace RV.Props.ExecutorX
open RV.Arith RV.BatchCtx RV.Executor RV.ExecutorX RV.Oracle.ExecutorX

/-- the five plane models behind the seven `PlaneId`s of `dispatch` (`dsPartition` and `stsLike` are both served by `stsPlane`, the two
    blue-green ids by `bgPlane k`), each with its own predicates -/
theorem every_plane_lawful :
    Laws csPlane csPreds ∧ Laws pdepPlane pdepPreds ∧ Laws stsPlane stsPreds ∧
    (∀ k, Laws (bgPlane k) (bgPreds k)) ∧ Laws canaryPlane canaryPreds :=
  ⟨csLaws, pdepLaws, stsLaws, bgLaws, canaryLaws⟩

/-- `UpgradeBatch` is monotone and within the batch for every plane (in the region `expoOK` of the plane's own exposure theorems) -/
theorem every_plane_upgrade_lawful :
    UpgradeLaws csPlane csPreds ∧ UpgradeLaws pdepPlane pdepPreds ∧ UpgradeLaws stsPlane stsPreds ∧
    (∀ k, UpgradeLaws (bgPlane k) (bgPreds k)) ∧ UpgradeLaws canaryPlane canaryPreds :=
  ⟨csExposure.upgradeLaws, pdepExposure.upgradeLaws, stsExposure.upgradeLaws, bgUpgradeLaws, canaryExposure.upgradeLaws⟩

/-- **C11.iii / C18, canary-style plane, every attempt** — whatever world an earlier (failed, partial) `Finalize` left: when a reconcile
    of the canary-style executor enters `Completed`, the stable Deployment carries no control-info (or is gone) and **no** Deployment
    owned by this BatchRelease still carries the batch-release finalizer. -/
theorem canary_completed_means_released (br : BR) (w : CanaryW) (o : StepOutX CanaryW) (b : BR)
    (h : reconcileX canaryPlane br w = .val o) (hb : o.br = some b) (hne : br.status.phase ≠ .empty)
    (hwf : RV.Oracle.CtlCanary.namesNodup w.w = true) :
    completedMeansReleased (canaryPreds.released (withFinalizer br) o.wl) br b = true :=
  x_completed_means_released canaryPlane canaryPreds canaryLaws br w o b h hb hwf hne

/-- **C11.iii / C18, blue-green planes (partial)** — outside the two findings (`batchPartition` still set; control-info without
    saved settings) a reconcile that enters `Completed` leaves the workload without this BatchRelease's control-info. -/
theorem bg_completed_means_released_partial (kind : CtlBlueGreen.Kind) (br : BR) (w : BGW) (o : StepOutX BGW) (b : BR)
    (h : reconcileX (bgPlane kind) br w = .val o) (hb : o.br = some b) (hne : br.status.phase ≠ .empty)
    (hc : b.status.phase = .completed) (hnc : br.status.phase ≠ .completed)
    (hp : gBgPartitioned br = false) (hr : gBgRestoredControlled o.wl = false) :
    bgReleasedFull o.wl = true := by
  obtain ⟨_, hfin⟩ := x_completed_only_after_finalize (bgPlane kind) (bgLaws kind).init_frame br w o b h hb hne hc hnc
  exact bg_fin_ok_released_partial kind (withFinalizer br) w o.wl hfin hp hr

/-- **C11.i, canary-style plane** — `Ready` is reported only when `EnsureBatchPodsReadyAndLabeled` of the canary-style plane passes on
    the Deployments as observed in this reconcile. -/
theorem canary_ready_only_if_ready (br : BR) (w : CanaryW) (o : StepOutX CanaryW) (b : BR)
    (h : reconcileX canaryPlane br w = .val o) (hb : o.br = some b) (hwf : RV.Oracle.CtlCanary.namesNodup w.w = true) :
    readyOnlyIfReady (stoppedX canaryPlane br w) (readyNow canaryPreds br w) br b = true :=
  x_ready_only_if_ready canaryPlane canaryPreds canaryLaws br w o b h hb hwf

/-- **C01, partition-style Deployment plane** — the exposure of the new revision moves only upwards and only up to what the current batch allows while a
    release is and stays `Progressing` (`x_write_within_batch` at this plane; the other planes alike, with their `UpgradeLaws`). -/
theorem pdep_write_within_batch (br : BR) (w : PDepW) (o : StepOutX PDepW) (b : BR)
    (h : reconcileX pdepPlane br w = .val o) (hb : o.br = some b) :
    writeWithinBatch (pdepPreds.exposure w) (pdepPreds.exposure o.wl) (pdepPreds.allowed (withFinalizer br) w) br b = true :=
  x_write_within_batch pdepPlane pdepPreds pdepLaws pdepExposure.upgradeLaws br w o b h hb rfl rfl

end RV.Props.ExecutorX
