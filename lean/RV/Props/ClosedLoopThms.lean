/-
  # The closed loop as one transition system — theorems over EVERY history

  `RV.ClosedLoop.step` composes the one-step models of the two reconcilers
  (`RV.RolloutSM.reconcile`, `RV.Executor.reconcile`) with the simulated CloneSet controller, the API
  server's generation bookkeeping, the user (release / approve) and crashes.  Suite `closedloop` compares
  `step` with the real reconcilers on every transition of every closed-loop walk.

  All theorems below quantify over every plan (any non-empty `List Step` whose entries are non-decreasing
  in the pods they ask for, which is what the validating webhook guarantees), every workload size, every
  content of the grace memory, and every history (`List Label`) — by induction over the label list.

  **Label set (`legal`)**: `ro`, `br`, `env`, `approve`, `tick`, `crash` at any time, in any order, any number of
  times; `release rev` whenever the rollout is idle (Healthy, no release in progress) — so histories contain
  any number of successive rollouts.  For "no reconciler panics" (`loop_total_delete_partial`) the label set is
  widened by `delete` at any point (`legalD`).  A new release *while* a rollout is in progress (continuous release) is covered
  only by the section on supervision (`legalS`, `supInv`: `loop_total_supersede_partial`, `loop_supervised_partial`; outside it
  `loop_supervised_full_FALSE` is the witness of the open finding `supersedeBeforeInit`).  Not covered (hence `_partial`):
  rollback, disabling / pausing of the Rollout, step jumps, plan edits, scaling, API faults inside a reconcile.  The walks of suite `closedloop` exercise release / rollback /
  delete / faults too and compare them with the model step by step; only the invariants are not proved for them.

  Progress of the composed system (C07: for rollouts without traffic routing, one fair round `[ro, br, env, approve, tick]`
  from a round-boundary state strictly decreases an explicit measure) is the subject of `RV.Props.ClosedLoopLiveThms`
  (`loop_progress_partial`, `loop_terminates_partial`).  Concrete model histories run to Healthy by kernel evaluation in the
  tests at the end of this file.
-/
import RV.Lemmas.ClosedLoopDelRest
import RV.Lemmas.ClosedLoopDelRo
import RV.Lemmas.ClosedLoopGate
import RV.Lemmas.ClosedLoopMono
import RV.Lemmas.ClosedLoopResetBr
import RV.Lemmas.ClosedLoopResetLabels
import RV.Lemmas.ClosedLoopResetRo
import RV.Lemmas.ClosedLoopStepRo
import RV.Props.ReconcileThms
namespace RV.Props.ClosedLoop
open RV.Arith RV.Traffic RV.RolloutSM RV.ClosedLoop RV.Oracle.ClosedLoop RV.Oracle.Batch RV.Lemmas.ClosedLoop

/-- `Reach s ls s'`: the history `ls` leads from `s` to `s'`; every label is legal where it is taken and no
    reconciler panics on the way.  `GReach`, `ReachS`, `ReachD` below are the same relation with the ghost of the step gates
    carried along (`gstep`), resp. over the wider label sets `legalS` (a superseding release) and `legalD` (`delete`) -/
inductive Reach : CS → List Label → CS → Prop
  | nil (s : CS) : Reach s [] s
  | cons (s s' s'' : CS) (l : Label) (ls : List Label) :
      legal s l = true → step s l = some s' → Reach s' ls s'' → Reach s (l :: ls) s''

/-- the initial states: a Healthy, live, un-paused canary rollout in partition style with the controller's finalizer
    and a non-empty monotone plan; its CloneSet runs one revision with nothing in progress; no BatchRelease -/
def Init (s : CS) : Prop :=
  roOK s = true ∧ s.ro.phase = .healthy ∧ s.br = none ∧
  ∃ w, s.wl = some w ∧ wlOK w = true ∧ planMono w.replicas (planOf s.ro) = true ∧ w.inProgressAnno = false

theorem init_inv (s : CS) (h : Init s) : fwdInv s = true := by
  obtain ⟨hro, hph, hbr, w, hw, hwok, hm, ha⟩ := h
  obtain ⟨hgone, hg⟩ := (roOK_iff s).1 hro
  refine fwdInv_mk s w hgone hg hw hwok hm (by rw [hbr]; rfl) ?_
  rw [phaseInv_healthy s w hph, hbr, ha]; rfl

theorem fwd_step (s : CS) (l : Label) (h : fwdInv s = true) (hl : legal s l = true) :
    ∃ s', step s l = some s' ∧ fwdInv s' = true := by
  cases l with
  | ro => exact stepRo_fwd s h
  | br => exact stepBr_fwd s h
  | env => exact ⟨_, rfl, env_fwd s h⟩
  | release rev => exact ⟨_, rfl, release_fwd s rev h hl⟩
  | approve => exact ⟨_, rfl, approve_fwd s h⟩
  | tick => exact ⟨_, rfl, tick_fwd s h⟩
  | crash => exact ⟨_, rfl, crash_fwd s h⟩
  | delete => cases hl

/-- every reachable state satisfies `fwdInv`; the theorems below are readings of it -/
theorem loop_inv_partial (s0 s : CS) (ls : List Label) (h0 : Init s0) (hr : Reach s0 ls s) : fwdInv s = true := by
  have h := init_inv s0 h0
  clear h0
  induction hr with
  | nil => exact h
  | cons s s' s'' l ls hl hs _ ih =>
    obtain ⟨t, ht, hinv⟩ := fwd_step s l h hl
    rw [hs] at ht; cases ht
    exact ih hinv

/-- **C09 (closed loop)** — from `Init`, no history reaches a state in which a reconciler panics: both reconciles
    (indeed every legal label) can be taken from every reachable state; the executor never indexes outside the plan.
    (partial: label set, see the header) -/
theorem loop_total_partial (s0 s : CS) (ls : List Label) (h0 : Init s0) (hr : Reach s0 ls s) :
    step s .ro ≠ none ∧ step s .br ≠ none ∧ ∀ l, legal s l = true → ∃ s', step s l = some s' := by
  have h := loop_inv_partial s0 s ls h0 hr
  refine ⟨?_, ?_, fun l hl => ?_⟩
  · obtain ⟨t, ht, _⟩ := fwd_step s .ro h rfl; rw [ht]; simp
  · obtain ⟨t, ht, _⟩ := fwd_step s .br h rfl; rw [ht]; simp
  · obtain ⟨t, ht, _⟩ := fwd_step s l h hl; exact ⟨t, ht⟩

/-- the same for `run` from any state of the invariant: a label list of which every label is legal where it is taken (over all
    splits `pre ++ l :: post`) runs without a panic and ends in the invariant -/
theorem run_total_partial (s0 : CS) (h0 : fwdInv s0 = true) (ls : List Label)
    (hl : ∀ (pre : List Label) (l : Label) (post : List Label) (s : CS), ls = pre ++ l :: post → run s0 pre = some s → legal s l = true) :
    ∃ s, run s0 ls = some s ∧ fwdInv s = true := by
  induction ls generalizing s0 with
  | nil => exact ⟨s0, rfl, h0⟩
  | cons l ls ih =>
    have hl0 : legal s0 l = true := hl [] l ls s0 rfl rfl
    obtain ⟨s1, hs1, hinv1⟩ := fwd_step s0 l h0 hl0
    have := ih s1 hinv1 (fun pre l' post s hsplit hrun => hl (l :: pre) l' post s (by rw [hsplit]; rfl) (by simp only [run, hs1]; exact hrun))
    obtain ⟨s2, hs2, hinv2⟩ := this
    exact ⟨s2, by simp only [run, hs1]; exact hs2, hinv2⟩

/-- **C09** — the worlds the Rollout reconciler sees along every history are never `corrupted` in the sense of
    `RV.Props.Reconcile.reconcile_total` -/
theorem loop_not_corrupted_partial (s0 s : CS) (ls : List Label) (h0 : Init s0) (hr : Reach s0 ls s) :
    RV.Oracle.RolloutSM.corrupted (roWorld s) = false := by
  have h := loop_inv_partial s0 s ls h0 hr
  obtain ⟨w, hgone, hg, hw, hwok, hm, hbrok, hpi⟩ := fwd_at s h
  have hne : s.ro.steps.isEmpty = false := by simpa using hg.steps
  unfold RV.Oracle.RolloutSM.corrupted
  have hro : (roWorld s).ro = s.ro := rfl
  have hbr : (roWorld s).br = s.br.map roBr := rfl
  simp only [hro, hbr, hne, Bool.false_or]
  cases hph : s.ro.phase <;> simp only [hph, reduceCtorEq, decide_false, decide_true, Bool.false_and, Bool.true_and, Bool.or_false, Bool.false_or]
  case progressing =>
    cases hr' : s.ro.reason <;> simp only [hr', reduceCtorEq, decide_false, decide_true, Bool.false_and, Bool.true_and, Bool.or_false, Bool.false_or]
    case none => rw [phaseInv, hph, hr'] at hpi; cases hpi
    case inRolling =>
      obtain ⟨sub, hsub, sg, hlink, _⟩ := (phaseInv_rolling_iff s w hph hr').1 hpi
      have h1 : decide (sub.curIdx < 1 ∨ sub.curIdx > (s.ro.steps.length : Int)) = false := by
        have := sg.lo; have := sg.hi; simp only [decide_eq_false_iff_not]; omega
      have h2 : (decide (sub.lastUpdate = Age.none)) = false := by simpa using sg.lu
      simp only [hsub, Option.isNone_some, h1, h2, Bool.or_false, Bool.false_or]
      cases hb : s.br with
      | none => rfl
      | some b =>
        rw [hb] at hlink
        obtain ⟨hbat, ⟨p, hp, hp0, hple, _⟩, _, _⟩ := (linkOK_iff s.ro sub b).1 hlink
        have hlen : b.batches.length = s.ro.steps.length := by rw [hbat]; exact planOf_length s.ro
        simp only [Option.map_some, roBr, hp]
        have := sg.hi
        simp only [decide_eq_false_iff_not]
        omega
  case terminating => rw [phaseInv, hph] at hpi; cases hpi

/-- **C01.3–4 / C11 (closed loop)** — in every reachable state in which the rollout is rolling: the step index is
    inside the plan, and a BatchRelease, if there is one, carries the rollout's plan, a batch partition between 0 and
    the rollout's step (`curIdx − 1`), and an executor batch index between 0 and that partition; it is neither
    deleted nor being finalised.  (partial: label set) -/
theorem loop_link_partial (s0 s : CS) (ls : List Label) (h0 : Init s0) (hr : Reach s0 ls s)
    (hph : s.ro.phase = .progressing) (hre : s.ro.reason = .inRolling) :
    ∃ sub, s.ro.sub = some sub ∧ 1 ≤ sub.curIdx ∧ sub.curIdx ≤ s.ro.steps.length ∧
      ∀ b, s.br = some b →
        b.batches = s.ro.steps.map (·.replicas) ∧
        (∃ p, b.partition = some p ∧ 0 ≤ b.st.currentBatch ∧ b.st.currentBatch ≤ p ∧ p ≤ sub.curIdx - 1) ∧
        b.deleting = false := by
  have h := loop_inv_partial s0 s ls h0 hr
  obtain ⟨w, F⟩ := fwd_at s h
  obtain ⟨sub, hsub, sg, hlink, _⟩ := F.rolling hph hre
  have hbrok := F.brok
  refine ⟨sub, hsub, sg.lo, sg.hi, fun b hb => ?_⟩
  rw [hb] at hlink hbrok
  obtain ⟨hbat, ⟨p, hp, _, hple, hcb⟩, hdel, _⟩ := (linkOK_iff s.ro sub b).1 hlink
  obtain ⟨_, hcb0, _, _, _⟩ := (brOK_iff b).1 hbrok
  exact ⟨hbat, ⟨p, hp, hcb0, hcb, hple⟩, hdel⟩

/-- **C01.4** — a BatchRelease whose spec is current for the rollout (`runBatchRelease` reports done) asks for exactly
    the batch of the current step -/
theorem spec_current_means (ro : Rollout) (br : Option BR) (id : String) (cur : Int) (rb : Bool) (b : BR)
    (hdone : (runBatchRelease ro br id cur rb).1 = true) (hb : (runBatchRelease ro br id cur rb).2.1 = some b) :
    b.batches = ro.steps.map (·.replicas) ∧ b.partition = some (cur - 1) := by
  cases br with
  | none => cases hdone
  | some b0 =>
    cases h : brSpecEq b0 (desiredBR ro id (cur - 1) rb)
    · rw [runBatchRelease_update h] at hdone
      cases hdone
    · rw [runBatchRelease_current h] at hb
      cases hb
      exact brSpecEq_plan h

/-- **C01.3 / C11.ii (closed loop)** — from every joint state, reachable or not, a BatchRelease reconcile raises the
    executor's batch index only by one, only from batch state Ready with the readiness check passing on the workload it
    reads, and only below the batch partition (the one-step theorem `batch_advance_guarded` read on the joint state) -/
theorem loop_batch_rises_only_from_ready (s s' : CS) (b b' : CBr) (hb : s.br = some b) (hs : step s .br = some s')
    (hb' : s'.br = some b') :
    RV.Oracle.Executor.batchAdvanceGuarded (exBr b) (s.wl.map exWl) (exBr b') = true := by
  rcases stepBr_cases (show stepBr s = some s' from hs) with ⟨hn, _⟩ | ⟨b0, o, hb0, ho, rfl⟩
  · rw [hb] at hn; cases hn
  · cases hb.symm.trans hb0
    simp only [landBr] at hb'
    cases hob : o.br with
    | none => rw [hob] at hb'; cases hb'
    | some eb =>
      rw [hob] at hb'
      simp only [Option.map_some, Option.some.injEq] at hb'
      have hg := RV.Props.Executor.batch_advance_guarded (exBr b) (s.wl.map exWl) o eb ho hob
      subst hb'
      unfold RV.Oracle.Executor.batchAdvanceGuarded at hg ⊢
      exact hg

/-- **C01.5 (closed loop, every history)** — in every reachable state in which the rollout is rolling, the CloneSet
    carries a partition and the partition exposes at most what the step the rollout is on allows
    (`within`: exactly, or — when the plan has percent entries — with the documented slack of < 1 % of the size).
    (partial: label set) -/
theorem loop_exposure_partial (s0 s : CS) (ls : List Label) (h0 : Init s0) (hr : Reach s0 ls s)
    (hph : s.ro.phase = .progressing) (hre : s.ro.reason = .inRolling) :
    ∃ w sub k e, s.wl = some w ∧ s.ro.sub = some sub ∧ w.partition = some k ∧
      (s.ro.steps.map (·.replicas))[(sub.curIdx - 1).toNat]? = some e ∧
      (exposure k w.replicas ≤ calcBatchReplicas w.replicas e ∨
       ((s.ro.steps.map (·.replicas)).any isStr = true ∧
         100 * (exposure k w.replicas - calcBatchReplicas w.replicas e) < max w.replicas 1)) := by
  have h := loop_inv_partial s0 s ls h0 hr
  obtain ⟨w, F⟩ := fwd_at s h
  obtain ⟨sub, hsub, _, _, hwc⟩ := F.rolling hph hre
  obtain ⟨k, e, hk, he, hwc⟩ := (withinCur_iff s.ro sub w).1 hwc
  refine ⟨w, sub, k, e, F.wl, hsub, hk, he, ?_⟩
  unfold within at hwc
  simpa only [Bool.or_eq_true, Bool.and_eq_true, decide_eq_true_eq, planOf] using hwc

/-- **C01.5, second half (`loop_monotone`)** — along every history, while the rollout is rolling: a Rollout reconcile never
    writes the partition, and a BatchRelease reconcile over a CloneSet that carries the BatchRelease's control annotation
    never lowers the exposure (`expo`: new-revision pods the partition in force allows).  (partial: label set; and a
    BatchRelease reconcile over a CloneSet that does *not* carry the annotation re-claims it at partition 100 % — that
    this is not a decrease, because such a CloneSet is still held at 100 %, is observed on the walks but not proved.) -/
theorem loop_monotone_partial (s0 s s' : CS) (ls : List Label) (w : CWl) (h0 : Init s0) (hr : Reach s0 ls s)
    (hph : s.ro.phase = .progressing) (hre : s.ro.reason = .inRolling) (hw : s.wl = some w) :
    (step s .ro = some s' →
       s'.wl.map (fun w => (w.partition, w.replicas)) = s.wl.map (fun w => (w.partition, w.replicas))) ∧
    (w.owner = .this → step s .br = some s' → ∃ w', s'.wl = some w' ∧ w'.replicas = w.replicas ∧ expo w ≤ expo w') :=
  ⟨fun h => stepRo_partition s s' h,
   fun hown h => stepBr_monotone s s' w (loop_inv_partial s0 s ls h0 hr) hph hre hw hown h⟩

def homogeneous (plan : List IntOrPct) : Bool := plan.all isStr || plan.all (fun e => !isStr e)

/-- **C01.5 as judged on the walks** — for plans that do not mix integer and percent entries, every reachable state
    satisfies the snapshot oracle `RV.Oracle.Cluster.exposureWithinStep` of suite `cluster` -/
theorem loop_exposure_oracle_partial (s0 s : CS) (ls : List Label) (h0 : Init s0) (hr : Reach s0 ls s)
    (hh : homogeneous (planOf s.ro) = true) (w : CWl) (hw : s.wl = some w) :
    RV.Oracle.Cluster.exposureWithinStep (roWorld s) (wlx w) = true := by
  have h := loop_inv_partial s0 s ls h0 hr
  obtain ⟨w', F⟩ := fwd_at s h
  cases hw.symm.trans F.wl
  unfold RV.Oracle.Cluster.exposureWithinStep
  have hwl : (roWorld s).wl = some (roWl w) := by simp only [roWorld, hw, Option.map_some]
  have hro : (roWorld s).ro = s.ro := rfl
  rw [hwl, hro]
  cases hsub : s.ro.sub with
  | none => rfl
  | some sub =>
    dsimp only
    split
    · rename_i hc
      obtain ⟨hph, hre, _, _, _⟩ := hc
      obtain ⟨sub0, hsub0, sg, _, hwc⟩ := F.rolling hph hre
      rw [hsub] at hsub0; cases hsub0
      obtain ⟨k, e, hk, he, hwc⟩ := (withinCur_iff s.ro sub w).1 hwc
      have hce : RV.Oracle.Cluster.currentEntry s.ro = some e := by
        unfold RV.Oracle.Cluster.currentEntry
        rw [hsub]
        dsimp only
        rw [if_neg (by have := sg.lo; omega)]
        simpa only [planOf, List.getElem?_map] using he
      simp only [hce, wlx, hk]
      unfold within at hwc
      simp only [Bool.or_eq_true, Bool.and_eq_true, decide_eq_true_eq] at hwc
      have hmem : e ∈ planOf s.ro := List.mem_of_getElem? he
      unfold homogeneous at hh
      simp only [Bool.or_eq_true, List.all_eq_true] at hh
      rw [exposureBound_cloneSet]
      have hrep : (roWl w).replicas = w.replicas := rfl
      rw [hrep]
      by_cases hs : isStr e = true
      · rw [if_pos hs]
        apply decide_eq_true
        rcases hwc with hwc | ⟨_, hwc⟩
        · omega
        · exact hwc
      · rw [if_neg hs]
        apply decide_eq_true
        rcases hwc with hwc | ⟨hany, _⟩
        · exact hwc
        · exfalso
          rw [List.any_eq_true] at hany
          obtain ⟨x, hx, hxs⟩ := hany
          rcases hh with hall | hall
          · exact hs (hall e hmem)
          · have := hall x hx; simp [hxs] at this
    · rfl

/-! ### `loop_gate` (C02.ii): the trace theorem

The ghost `Ghost` (per step index: *upgraded* = a Rollout reconcile in `BeforeStepUpgrade`/`StepUpgrade` found the
BatchRelease reporting the step's pods ready; *routed* = a reconcile in `StepTrafficRouting` found the traffic
routing done, or the step took the documented full-replica bypass; *pauseOK* = in `StepPaused` the pause was found
satisfied or the user approved) is updated by `gstep` from what the transition *read* — observations of the
pre-state, conditioned on the pre sub-state — never from the sub-state it writes.  No transition reads the ghost. -/

/-- `Reach` with the ghost carried along: every transition updates it by `gstep` -/
inductive GReach : Ghost → CS → List Label → Ghost → CS → Prop
  | nil (g : Ghost) (s : CS) : GReach g s [] g s
  | cons (g g'' : Ghost) (s s' s'' : CS) (l : Label) (ls : List Label) :
      legal s l = true → step s l = some s' → GReach (gstep g s l s') s' ls g'' s'' → GReach g s (l :: ls) g'' s''

theorem GReach.reach {g g' : Ghost} {s s' : CS} {ls : List Label} (h : GReach g s ls g' s') : Reach s ls s' := by
  induction h with
  | nil g s => exact Reach.nil s
  | cons g g'' s s' s'' l ls hl hs _ ih => exact Reach.cons s s' s'' l ls hl hs ih

/-- **C02.ii (trace theorem, every history)** — in every reachable state in which the rollout is rolling on step `k`
    (`gateInv`): the ghost speaks about step `k`; a sub-state past `StepUpgrade` implies *upgraded*; a sub-state past
    `StepTrafficRouting` implies *routed*; `StepReady`/`Completed` implies *pauseOK*; and the observations were made in
    that order (*routed* ⇒ *upgraded*, *pauseOK* ⇒ *routed*).  (partial: label set) -/
theorem loop_gate_partial (g0 g : Ghost) (s0 s : CS) (ls : List Label) (h0 : Init s0) (hr : GReach g0 s0 ls g s) :
    gateInv g s = true := by
  have hinv := init_inv s0 h0
  have hg0 : gateInv g0 s0 = true := by
    unfold gateInv rollingSub
    obtain ⟨_, hph, _⟩ := h0
    simp [hph]
  clear h0
  induction hr with
  | nil => exact hg0
  | cons g g'' s s' s'' l ls hl hs _ ih =>
    obtain ⟨t, ht, hinv'⟩ := fwd_step s l hinv hl
    rw [hs] at ht; cases ht
    exact ih hinv' (gate_step g s s' l hinv hg0 hl hs).1

/-- **C02.ii (the index moves only through the gates)** — along every history, a reconcile moves the rollout from step
    `k` to another step only to `k + 1` and only when all three observations of step `k` had been made (in the order
    above); no other legal label moves the index of a rolling rollout.  (partial: label set) -/
theorem loop_advance_gated_partial (g0 g : Ghost) (s0 s s' : CS) (ls : List Label) (l : Label) (h0 : Init s0)
    (hr : GReach g0 s0 ls g s) (hl : legal s l = true) (hs : step s l = some s') : advanceOK g s l s' = true := by
  have hinv := loop_inv_partial s0 s ls h0 hr.reach
  exact (gate_step g s s' l hinv (loop_gate_partial g0 g s0 s ls h0 hr) hl hs).2

/-- **C02.iii (closed loop)** — while `spec.strategy.paused` is set, a Rollout reconcile of a rolling rollout (no rollback
    pending) changes nothing in the joint state but the Rollout's own status, and there neither the step index nor the
    sub-state: no BatchRelease, workload or network write.  Holds from EVERY joint state (no reachability needed). -/
theorem loop_paused_frame (s s' : CS) (w : CWl) (hgone : s.gone = false) (hfin : s.ro.hasFinalizer = true) (hw : s.wl = some w)
    (hroll : RV.Oracle.RolloutSM.inRollingNow s.ro = true) (hp : s.ro.paused = true) (hc : (roWl w).consistent = true)
    (hnr : (roWl w).inRollback = false) (hen : s.ro.disabled = false) (hs : step s .ro = some s') :
    s'.wl = s.wl ∧ s'.br = s.br ∧ s'.net = s.net ∧
    (s'.ro.sub.map fun x => (x.curIdx, x.state)) = (s.ro.sub.map fun x => (x.curIdx, x.state)) := by
  rcases stepRo_cases (show stepRo s = some s' from hs) with ⟨hg1, _⟩ | ⟨_, r, hr, hs⟩
  · rw [hgone] at hg1; cases hg1
  · have hpn := RV.Props.Reconcile.paused_no_progress (roWorld s) r hr hfin
    unfold RV.Oracle.RolloutSM.pausedNoProgress at hpn
    have hwl : (roWorld s).wl = some (roWl w) := by simp only [roWorld, hw, Option.map_some]
    rw [hwl] at hpn
    dsimp only at hpn
    have hro : (roWorld s).ro = s.ro := rfl
    rw [hro, if_pos ⟨hroll, hp, hc, by simp [hnr], by simp [hen]⟩] at hpn
    simp only [Bool.and_eq_true, beq_iff_eq] at hpn
    obtain ⟨⟨⟨⟨⟨hbr, hnet⟩, hwl'⟩, _⟩, _⟩, hsub⟩ := hpn
    subst hs
    have hbr' : r.w.br = (roWorld s).br := hbr
    have hwl'' : r.w.wl = (roWorld s).wl := by rw [hwl']; exact hwl.symm ▸ rfl
    unfold landRo
    rw [hbr', hwl'']
    simp only [roWorld, annoLand_id, landBR_id]
    refine ⟨trivial, trivial, hnet, ?_⟩
    cases h1 : s.ro.sub <;> cases h2 : r.w.ro.sub <;> simp only [hro, h1, h2] at hsub <;> simp_all

/-! ### supervision (C01 / C08 / C10): no pod runs a revision the rollout has not taken up

The label set is widened (`legalS`) by a **superseding release**: a new revision pushed while the rollout is rolling
(`supersedeOK`: at least one replica, a new revision, and the BatchRelease — if one exists — Progressing with the rolled
revision and the workload's size recorded).  The invariant is `supInv = fwdInv ∨ (resetInv ∧ resetCursor)`: while the
Rollout controller resets the superseded release, the workload stays exactly as the admission webhook left it (partition
100 %, no pod on the new revision) and the BatchRelease cannot lower the partition (`brHolds`).

This is the region of the repaired defect `supersedeRace` (the executor used to record the new revision and carry on with
the old plan).  Two regions stay outside (open known findings): a release pushed while the BatchRelease has been created but
not yet initialised (`supersedeBeforeInit`, witness `loop_supervised_full_FALSE` below: `Initialize` adopts whatever revision
the workload has by then), and a release pushed during the clean-up (`releaseWhileFinalising`). -/

/-- `Reach` over the label set `legalS` -/
inductive ReachS : CS → List Label → CS → Prop
  | nil (s : CS) : ReachS s [] s
  | cons (s s' s'' : CS) (l : Label) (ls : List Label) :
      legalS s l = true → step s l = some s' → ReachS s' ls s'' → ReachS s (l :: ls) s''

theorem sup_step (s : CS) (l : Label) (h : supInv s = true) (hl : legalS s l = true) :
    ∃ s', step s l = some s' ∧ supInv s' = true := by
  have mk : ∀ t, resetInv t = true → resetCursor t = true → supInv t = true := fun t a b => (supInv_iff t).2 (Or.inr ⟨a, b⟩)
  by_cases hf : fwdInv s = true
  · have fwd : ∀ l, legal s l = true → ∃ s', step s l = some s' ∧ supInv s' = true := fun l hl' =>
      have ⟨t, ht, hi⟩ := fwd_step s l hf hl'
      ⟨t, ht, (supInv_iff t).2 (Or.inl hi)⟩
    cases l with
    | release rev =>
      simp only [legalS, Bool.and_eq_true, Bool.or_eq_true] at hl
      rcases hl.2 with hi | hsup
      · exact fwd _ hi
      · refine ⟨_, rfl, mk _ (supersede_release s rev hf hsup) ?_⟩
        -- the clean-up cursor of a rolling rollout is unset
        obtain ⟨w, F⟩ := fwd_at s hf
        obtain ⟨hph, hre⟩ := supersedeOK_rolling hsup
        obtain ⟨sub, hsub, sg, _⟩ := F.rolling hph hre
        refine (resetCursor_iff _).2 (fun sub' hs' _ hf => ?_)
        cases hsub.symm.trans hs'
        rw [sg.fin] at hf
        cases hf
    | delete => cases hl
    | _ => exact fwd _ rfl
  · have hff : fwdInv s = false := by simpa using hf
    obtain ⟨hr, hc⟩ := ((supInv_iff s).1 h).resolve_left hf
    cases l with
    | release rev => simp only [legalS, hff, Bool.false_and] at hl; cases hl
    | delete => cases hl
    | ro =>
      obtain ⟨t, ht, hi⟩ := stepRo_reset s hr hc
      refine ⟨t, ht, ?_⟩
      rcases hi with hi | ⟨a, b⟩
      · exact (supInv_iff t).2 (Or.inl hi)
      · exact mk t a b
    | br =>
      obtain ⟨t, ht, hi⟩ := stepBr_reset s hr
      exact ⟨t, ht, mk t hi (stepBr_cursor s t hc ht)⟩
    | env => exact ⟨_, rfl, mk _ (env_reset s hr) hc⟩
    | approve => exact ⟨_, rfl, mk _ (approve_reset s hr) ((approve_idle s).cursor.trans hc)⟩
    | tick => exact ⟨_, rfl, mk _ (tick_reset s hr) ((tick_idle s).cursor.trans hc)⟩
    | crash => exact ⟨_, rfl, mk _ (crash_reset s hr) hc⟩

/-- `supInv = fwdInv ∨ (resetInv ∧ resetCursor)` along `ReachS` -/
theorem loop_sup_inv_partial (s0 s : CS) (ls : List Label) (h0 : Init s0) (hr : ReachS s0 ls s) : supInv s = true := by
  have h : supInv s0 = true := (supInv_iff s0).2 (Or.inl (init_inv s0 h0))
  clear h0
  induction hr with
  | nil => exact h
  | cons s s' s'' l ls hl hs _ ih =>
    obtain ⟨t, ht, hinv⟩ := sup_step s l h hl
    rw [hs] at ht; cases ht
    exact ih hinv

/-- **C09 (closed loop, with supersession)** — no reconciler panics along histories with superseding releases -/
theorem loop_total_supersede_partial (s0 s : CS) (ls : List Label) (h0 : Init s0) (hr : ReachS s0 ls s) :
    step s .ro ≠ none ∧ step s .br ≠ none ∧ ∀ l, legalS s l = true → ∃ s', step s l = some s' := by
  have h := loop_sup_inv_partial s0 s ls h0 hr
  refine ⟨?_, ?_, fun l hl => ?_⟩
  · obtain ⟨t, ht, _⟩ := sup_step s .ro h rfl; rw [ht]; simp
  · obtain ⟨t, ht, _⟩ := sup_step s .br h rfl; rw [ht]; simp
  · obtain ⟨t, ht, _⟩ := sup_step s l h hl; exact ⟨t, ht⟩

/-- **C01 / C08 / C10 (closed loop, every history with superseding releases)** — while the rollout says InRolling, no pod
    runs a revision the rollout has not taken up (`RV.Oracle.Cluster.supervised`): either the workload's update revision is the
    one being released, or — a newer revision has been pushed and the Rollout controller has not reset the release yet — no
    pod has been updated to it, the partition is still the 100 % of the admission webhook and the BatchRelease cannot lower it.
    (partial: label set — `supersedeOK` excludes the two open findings named above; rolling states only) -/
theorem loop_supervised_partial (s0 s : CS) (ls : List Label) (h0 : Init s0) (hr : ReachS s0 ls s)
    (hph : s.ro.phase = .progressing) (hre : s.ro.reason = .inRolling) :
    supervisedOK s = true ∧
    (superseding s = true → ∃ w, s.wl = some w ∧ w.updated = 0 ∧ w.partition = some (.pct 100) ∧ brHoldsO s.br w = true) := by
  have h := loop_sup_inv_partial s0 s ls h0 hr
  by_cases hf : fwdInv s = true
  · obtain ⟨w, F⟩ := fwd_at s hf
    have hw := F.wl
    obtain ⟨sub, hsub, sg, _⟩ := F.rolling hph hre
    constructor
    · unfold supervisedOK
      rw [F.gone, hw]
      simp only [Bool.false_or]
      unfold RV.Oracle.Cluster.supervised
      have hwl : (roWorld s).wl = some (roWl w) := world_wl s w hw
      have hro : (roWorld s).ro = s.ro := rfl
      rw [hwl, hro, hsub]
      dsimp only
      rw [if_neg]
      intro hc
      exact hc.1 (by simp only [roWl]; exact sg.rev.symm)
    · intro hs
      exfalso
      unfold superseding at hs
      rw [hsub, hw] at hs
      simp [sg.rev] at hs
  · obtain ⟨hri, _⟩ := ((supInv_iff s).1 h).resolve_left hf
    obtain ⟨hro, w, hw, _, _, _, _, _, _, _, _, hupd, hheld, hholds⟩ := (resetInv_iff s).1 hri
    obtain ⟨hgone, _⟩ := (roOK_iff s).1 hro
    constructor
    · unfold supervisedOK
      rw [hgone, hw]
      simp only [Bool.false_or]
      unfold RV.Oracle.Cluster.supervised
      rw [world_wl s w hw]
      cases (roWorld s).ro.sub with
      | none => rfl
      | some sub =>
        dsimp only
        split
        · simp only [wlx]; exact decide_eq_true hupd
        · rfl
    · intro _
      exact ⟨w, hw, hupd, (held_iff w).1 hheld, hholds⟩

/-- **C08 / C10 (executor, every state)** — the repaired behaviour as a one-step theorem over ALL states: a Progressing
    BatchRelease that is not being finalised and sees a pod template other than the revision it recorded never writes the
    workload and keeps the recorded revision (or, for a plan index outside the plan, falls back to Preparing). -/
theorem superseded_never_writes (br : Executor.BR) (wl : Option Executor.Workload) (o : Executor.StepOut)
    (h : Executor.reconcile br wl = .val o)
    (hph : br.status.phase = .progressing) (hnf : Executor.isPlanFinalizing br = false)
    (hev : (Executor.syncInfo (Executor.withFinalizer br) (Executor.initializedStatus br.status) wl).1 = .podTemplateChanged) :
    o.wl = wl ∧ ∀ b', o.br = some b' → (b'.status.updateRevision = br.status.updateRevision ∨ b'.status.phase = .preparing) := by
  have hne : br.status.phase ≠ .empty := by rw [hph]; decide
  rw [Executor.initialized_id _ hne] at hev
  have hsync := Executor.syncStatus_event_stop (Executor.withFinalizer br) wl hph hnf (Or.inl hev)
  rw [wf_status] at hsync
  obtain ⟨hstop, hshape⟩ := hsync
  rcases rec_cases br wl o h with ⟨_, hp, _, _⟩ | ⟨_, hb, hw⟩ | ⟨hs, _⟩
  · rw [hph] at hp; cases hp
  · rw [Executor.initialized_id _ hne] at hb
    refine ⟨hw, ?_⟩
    intro b' hb'
    rw [hb] at hb'
    simp only [Option.some.injEq] at hb'
    subst hb'
    dsimp only
    rcases hshape with ⟨_, hur, _⟩ | ⟨_, hp⟩
    · exact Or.inl hur
    · exact Or.inr hp
  · rw [Executor.initialized_id _ hne, hstop] at hs; cases hs

/-- **C06** — `crash` (the controller restarts: the in-memory grace expectations are lost) is a label of every history
    above, legal in every state; stated on its own: a crash at any point preserves the invariant, so all of the
    theorems of this file hold at every crash point and after any number of crashes -/
theorem loop_crash_partial (s0 s : CS) (ls : List Label) (h0 : Init s0) (hr : Reach s0 ls s) :
    legal s .crash = true ∧ step s .crash = some (crash s) ∧ fwdInv (crash s) = true :=
  ⟨rfl, rfl, crash_fwd s (loop_inv_partial s0 s ls h0 hr)⟩

theorem Reach.snoc (s0 s s' : CS) (ls : List Label) (l : Label) (hr : Reach s0 ls s) (hl : legal s l = true)
    (hs : step s l = some s') : Reach s0 (ls ++ [l]) s' := by
  induction hr with
  | nil s => exact Reach.cons s s' s' l [] hl hs (Reach.nil s')
  | cons a b c l' ls' hl' hs' _ ih => exact Reach.cons a b s' l' _ hl' hs' (ih hl hs)

/-! ### `loop_total` with deletion of the Rollout (C09)

The label set is widened by `delete` (the user deletes the Rollout) at any point of a forward history; afterwards every
label but a new release is legal again (`legalD`).  The invariant is `fwdInv ∨ delInv`. -/

/-- `Reach` over the label set `legalD` -/
inductive ReachD : CS → List Label → CS → Prop
  | nil (s : CS) : ReachD s [] s
  | cons (s s' s'' : CS) (l : Label) (ls : List Label) :
      legalD s l = true → step s l = some s' → ReachD s' ls s'' → ReachD s (l :: ls) s''

theorem safe_step (s : CS) (l : Label) (h : fwdInv s = true ∨ delInv s = true) (hl : legalD s l = true) :
    ∃ s', step s l = some s' ∧ (fwdInv s' = true ∨ delInv s' = true) := by
  rcases h with h | h
  · have fwd : ∀ l, legal s l = true → ∃ s', step s l = some s' ∧ (fwdInv s' = true ∨ delInv s' = true) := fun l hl' =>
      have ⟨t, ht, hi⟩ := fwd_step s l h hl'
      ⟨t, ht, Or.inl hi⟩
    cases l with
    | delete => exact ⟨_, rfl, Or.inr (delete_del s (Or.inl h))⟩
    | release rev =>
      simp only [legalD, Bool.and_eq_true] at hl
      exact fwd _ hl.2
    | _ => exact fwd _ rfl
  · cases l with
    | ro => obtain ⟨t, ht, hi⟩ := stepRo_del s h; exact ⟨t, ht, Or.inr hi⟩
    | br => obtain ⟨t, ht, hi⟩ := stepBr_del s h; exact ⟨t, ht, Or.inr hi⟩
    | env => exact ⟨_, rfl, Or.inr (env_del s h)⟩
    | approve => exact ⟨_, rfl, Or.inr (approve_del s h)⟩
    | tick => exact ⟨_, rfl, Or.inr (tick_del s h)⟩
    | crash => exact ⟨_, rfl, Or.inr (crash_del s h)⟩
    | delete => exact ⟨_, rfl, Or.inr (delete_del s (Or.inr h))⟩
    | release rev =>
      -- once the Rollout is being deleted (or gone) a release is not legal
      exfalso
      simp only [legalD, Bool.and_eq_true, Bool.not_eq_true'] at hl
      obtain ⟨⟨hg, hd⟩, _⟩ := hl
      obtain ⟨_, _, _, _, _, hgone | ⟨hdel, _⟩⟩ := (delInv_iff s).1 h
      · rw [hg] at hgone; cases hgone
      · rw [hdel.deleting] at hd; cases hd

/-- **C09 (closed loop, with deletion)** — from `Init`, along every history that may also delete the Rollout at any point
    (and then goes on with reconciles, workload progress, approvals, clock, crashes, further deletes): no reconciler
    panics, every legal label can be taken, and the state satisfies the forward invariant or the deletion invariant —
    in particular the BatchRelease executor's batch index stays inside the plan while the Rollout is torn down and after
    it is gone.  (partial: no release / rollback during a rollout, no disabling, no API faults inside a reconcile) -/
theorem loop_total_delete_partial (s0 s : CS) (ls : List Label) (h0 : Init s0) (hr : ReachD s0 ls s) :
    (fwdInv s = true ∨ delInv s = true) ∧ step s .ro ≠ none ∧ step s .br ≠ none ∧
    ∀ l, legalD s l = true → ∃ s', step s l = some s' := by
  have h : fwdInv s0 = true ∨ delInv s0 = true := Or.inl (init_inv s0 h0)
  clear h0
  induction hr with
  | nil s =>
    refine ⟨h, ?_, ?_, fun l hl => ?_⟩
    · obtain ⟨t, ht, _⟩ := safe_step s .ro h rfl; rw [ht]; simp
    · obtain ⟨t, ht, _⟩ := safe_step s .br h rfl; rw [ht]; simp
    · obtain ⟨t, ht, _⟩ := safe_step s l h hl; exact ⟨t, ht⟩
  | cons s s' s'' l ls hl hs _ ih =>
    obtain ⟨t, ht, hinv⟩ := safe_step s l h hl
    rw [hs] at ht; cases ht
    exact ih hinv

/-! ### non-vacuity: concrete initial state, concrete histories (kernel evaluation of the model — tests, not the ∀ claims) -/

def legalRun (s : CS) : List Label → Option CS
  | [] => some s
  | l :: ls => if legal s l then (match step s l with | some s' => legalRun s' ls | none => none) else none

/-- the runs of the tests below are `Reach` histories -/
theorem reach_of_legalRun (s s' : CS) (ls : List Label) (h : legalRun s ls = some s') : Reach s ls s' := by
  induction ls generalizing s with
  | nil => simp only [legalRun, Option.some.injEq] at h; subst h; exact Reach.nil s
  | cons l ls ih =>
    unfold legalRun at h
    split at h
    · rename_i hl
      split at h
      · rename_i t ht; exact Reach.cons s t s' l ls hl ht (ih t h)
      · cases h
    · cases h

theorem run_of_legalRun (s s' : CS) (ls : List Label) (h : legalRun s ls = some s') : run s ls = some s' := by
  induction ls generalizing s with
  | nil => exact h
  | cons l ls ih =>
    unfold legalRun at h
    split at h
    · split at h
      · rename_i t ht
        simp only [run, ht]
        exact ih t h
      · cases h
    · cases h

def exRo : Rollout :=
  { style := .canary, steps := [⟨.pct 20, some 20, .manual⟩, ⟨.pct 100, none, .short⟩], paused := false, disabled := false,
    deleting := false, hasFinalizer := true, hasTraffic := true, disableGen := false, rollbackInBatch := false, grace := 3,
    phase := .healthy, reason := .none, condAge := .none, succeeded := none, term := .none, sub := none, realPartition := true }
def exWl : CWl :=
  { replicas := 10, generation := 1, observedGeneration := 1, statusReplicas := 10, updated := 10, updatedReady := 10,
    updateRevision := "v1", currentRevision := "v1", partition := none, paused := false, owner := .none, inProgressAnno := false }
def exS0 : CS :=
  { gone := false, ro := exRo, wl := some exWl, br := none,
    net := { stableExists := true, stableSel := none, canarySvc := none, stableIngress := true, canaryIng := none }, mem := Mem.empty }
def exRound : List Label := [.ro, .br, .env, .approve, .tick]

/-- the hypotheses of every theorem above are satisfiable: 10 replicas, plan 20 % (traffic 20 %, manual pause) / 100 % -/
example : Init exS0 := ⟨by decide, rfl, rfl, exWl, rfl, by decide, by decide, rfl⟩

/-- test: after the release of `v2` and 7 fair rounds the rollout is rolling on step 1, the BatchRelease asks for batch 0
    and the CloneSet partition is 80 % (2 of 10 pods) -/
example : (legalRun exS0 (.release "v2" :: (List.replicate 7 exRound).flatten)).map
      (fun s => (s.ro.reason, s.ro.sub.map (·.curIdx), s.wl.bind (·.partition), s.br.map (·.partition))) =
    some (.inRolling, some 1, some (.pct 80), some (some 0)) := by decide +kernel

/-- test: after 22 rounds (with a crash in the middle) the rollout is on step 2 and the partition is 0 % -/
example : (legalRun exS0 (.release "v2" :: (List.replicate 12 exRound).flatten ++ [.crash] ++ (List.replicate 10 exRound).flatten)).map
      (fun s => (s.ro.reason, s.ro.sub.map (·.curIdx), s.wl.bind (·.partition))) =
    some (.inRolling, some 2, some (.pct 0)) := by decide +kernel

/-- test: the whole rollout finishes (Healthy, BatchRelease gone, partition released, all pods updated) within 40 fair rounds,
    and a second release (`v3`) is then legal and is taken up -/
example : (legalRun exS0 (.release "v2" :: (List.replicate 40 exRound).flatten ++ [.release "v3", .env, .ro])).map
      (fun s => (s.ro.phase, s.ro.reason, s.br.isNone, s.wl.map (fun w => (w.updated, w.inProgressAnno)))) =
    some (.progressing, .initializing, true, some (0, true)) := by decide +kernel

def legalRunD (s : CS) : List Label → Option CS
  | [] => some s
  | l :: ls => if legalD s l then (match step s l with | some s' => legalRunD s' ls | none => none) else none

/-- likewise for the deletion test: its run is a `ReachD` history -/
theorem reachD_of_legalRunD (s s' : CS) (ls : List Label) (h : legalRunD s ls = some s') : ReachD s ls s' := by
  induction ls generalizing s with
  | nil => simp only [legalRunD, Option.some.injEq] at h; subst h; exact ReachD.nil s
  | cons l ls ih =>
    unfold legalRunD at h
    split at h
    · rename_i hl
      split at h
      · rename_i t ht; exact ReachD.cons s t s' l ls hl ht (ih t h)
      · cases h
    · cases h

/-- test: the Rollout deleted in the middle of step 1 (BatchRelease progressing, 2 of 10 pods updated): 16 rounds later the
    clean-up has run, the Rollout object is gone and no BatchRelease is left -/
example : (legalRunD exS0 (.release "v2" :: (List.replicate 9 exRound).flatten ++ [.delete] ++ (List.replicate 16 exRound).flatten)).map
      (fun s => (s.gone, s.br.isNone, s.wl.map (fun w => (w.partition, w.owner)))) =
    some (true, true, some (none, .none)) := by decide +kernel

/-- the history of the `supersedeRace` witness -/
def supersedeHist : List Label :=
  .release "v2" :: (List.replicate 12 exRound).flatten ++ [.release "v3", .br, .env, .br, .env, .br, .env, .br, .env]

/-- regression test of the repaired defect `supersedeRace` (fix: the executor no longer records a superseding revision and
    keeps stopping): rollout of `v2` on step 1, the user pushes `v3`, the BatchRelease controller reconciles four times and
    the CloneSet controller reacts before the Rollout controller reconciles once — the workload stays held at partition
    100 %, no pod runs `v3`.  (Before the fix: partition 80 %, 2 pods on `v3`.) -/
example :
    (run exS0 supersedeHist).map (fun s =>
        supervisedOK s &&
        (match s.wl with | some w => w.updateRevision == "v3" && w.updated == 0 && w.partition == some (.pct 100) | none => false) &&
        (match s.ro.sub with | some sub => sub.canaryRev == "v2" && sub.curIdx == 1 | none => false)) = some true := by
  decide +kernel

/-- the history of the `supersedeBeforeInit` witness: `v3` is pushed when the BatchRelease for `v2` has just been created -/
def beforeInitHist : List Label :=
  .release "v2" :: (List.replicate 5 exRound).flatten ++ [.release "v3", .br, .env, .br, .env, .br, .env, .br, .env]

/-- **known finding `supersedeBeforeInit` — witness** (the full-strength statement "every state of every history, a release at
    any time, satisfies `supervisedOK`" is still FALSE after the repair of `supersedeRace`): the BatchRelease for `v2` exists but
    has not been initialised (no revision recorded); the user pushes `v3`; `Initialize` records `v3` as the release's update
    revision and the executor rolls batch 0 of `v3` — 2 of 10 pods — while the Rollout still says `v2`, step 1, StepUpgrade.
    Replayed on the real controllers on every run (corpus `closedloop/finding-supersedeBeforeInit`). -/
theorem loop_supervised_full_FALSE :
    (run exS0 beforeInitHist).map (fun s =>
        superseding s && !supervisedOK s &&
        (match s.wl with | some w => w.updateRevision == "v3" && w.updated == 2 && w.partition == some (.pct 80) | none => false) &&
        (match s.ro.sub with | some sub => sub.canaryRev == "v2" && sub.curIdx == 1 | none => false) &&
        (match s.br with | some b => b.st.updateRevision == "wl-v3" | none => false)) = some true := by
  decide +kernel

/-- test: `traceOK` evaluates on three fair rounds from `exS0` (no release: the rollout stays Healthy and the ghost fresh) -/
example : RV.Oracle.ClosedLoop.traceOK (Ghost.fresh 0) exS0
    ((List.replicate 3 exRound).flatten.foldl (fun (acc : CS × List (Label × CS × Bool)) l =>
        match step acc.1 l with | some s' => (s', acc.2 ++ [(l, s', true)]) | none => acc) (exS0, [])).2 = true := by decide +kernel

end RV.Props.ClosedLoop
