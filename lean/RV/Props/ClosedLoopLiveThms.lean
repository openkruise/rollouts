/-
  C07 — progress of the closed loop as theorems (slice closedloop3).

  `round` is one fair round of the closed loop: Rollout reconcile, BatchRelease reconcile, CloneSet controller, the user's approval,
  the clock (`[ro, br, env, approve, tick]`).  `mu : CS → Nat` is the explicit measure (RV/Oracle/ClosedLoopLive.lean: lexicographic
  in (steps left, sub-state of the step, executor's state inside the sub-state | clean-up cursor, BatchRelease's state), encoded
  with weight `stepW = 64` per step).  The same `mu` is an oracle on the fair walks of the real controllers
  (`C07.loop_measure_decreases`).

  What is carried along the rounds: `liveInv` (the forward invariant `fwdInv`, the configuration `liveCfg`, one of 26 round-boundary
  classes `cls`, and the boundary facts), `doneInv` (what the clean-up has achieved) and `polInv` (the BatchRelease's release policy
  while rolling).  The classes are visited in a fixed order and `mu` is a function of the class (`clsMu`, `mu_of_spec` in
  RV/Lemmas/ClosedLoopLiveClasses).  For each class the lemma files RV/Lemmas/ClosedLoopLiveStatus, …StepStart, …Upgrade, …StepEnd,
  …Cleanup prove, by case analysis of the reconcile models, that the round is defined, re-establishes the three invariants and
  ends in the next class (`step_cls_n : Inv s w n → LandsIn s n'`; class 40: changes nothing).

  Limits (hence `_partial`): no traffic routing / step weights; no `long` pause; outside the region of open finding `pctFallback`;
  fair rounds only (no crash, no arbitrary interleaving); and `approve` in the round confirms every pause, so the pause timer is
  not exercised — those are judged by the oracles `C07.loop_terminates` / `C07.loop_measure_decreases` on the real controllers.
-/
import RV.Lemmas.ClosedLoopLiveCleanup
import RV.Lemmas.ClosedLoopLiveStatus
import RV.Lemmas.ClosedLoopLiveStepEnd
import RV.Lemmas.ClosedLoopLiveStepStart
import RV.Lemmas.ClosedLoopLiveUpgrade
import RV.Props.ClosedLoopThms
namespace RV.Props.ClosedLoop
open RV.Arith RV.Traffic RV.RolloutSM RV.ClosedLoop RV.Oracle.ClosedLoop RV.Lemmas.ClosedLoop

theorem cls_range (s : CS) :
    cls s ∈ [0, 1, 2, 4, 5, 6, 7, 8, 9, 10, 11, 12, 13, 14, 16, 17, 20, 21, 22, 23, 24, 25, 26, 27, 29, 30, 40] := by
  by_cases h0 : cls s = 0
  · rw [h0]; decide
  · obtain ⟨w, _, h⟩ := cls_spec_of_ne s h0
    generalize cls s = n at h ⊢
    unfold ClsSpec at h
    split at h <;> first | exact h.elim | decide

/-- **one fair round (K = 1)** — from every state of the round-boundary invariant of a run without traffic routing (`liveInv`, with
    `doneInv`, what the clean-up has achieved, and `polInv`, the BatchRelease's policy while rolling) the round is defined (no reconciler panics), leads to a state of the invariant, and
    strictly decreases the measure — unless the state is the terminal class 40, which the round leaves unchanged.
    `_partial`: the hypothesis `liveInv` contains `liveCfg` (no traffic routing: `hasTraffic = false` and no step weight; no pause of
    the `long` kind, which no fair round ends; `0 < replicas`; `stepReady` for every step, which excludes the region of the open
    finding `pctFallback`, where the real loop does oscillate; workload not paused). -/
theorem round_decreases_partial (s : CS) (h : liveInv s = true) (hd : doneInv s = true) (hp : polInv s = true) :
    ∃ s', round s = some s' ∧ liveInv s' = true ∧ doneInv s' = true ∧ polInv s' = true ∧
      (mu s' < mu s ∨ (cls s = 40 ∧ s' = s)) := by
  obtain ⟨w, hw, hs⟩ := cls_spec_of_ne s ((liveInv_iff s).1 h).2.2.1
  have land : ∀ {k'}, LandsIn s k' → ∃ s', round s = some s' ∧ liveInv s' = true ∧ doneInv s' = true ∧ polInv s' = true ∧
      (mu s' < mu s ∨ (cls s = 40 ∧ s' = s)) :=
    fun ⟨s', h1, h2, h3, h4, h5, _⟩ => ⟨s', h1, h2, h3, h4, Or.inl h5⟩
  have I : Inv s w (cls s) := ⟨h, hd, hp, hw, hs⟩
  have hr := cls_range s
  simp only [List.mem_cons, List.not_mem_nil, or_false] at hr
  rcases hr with hc | hc | hc | hc | hc | hc | hc | hc | hc | hc | hc | hc | hc | hc | hc | hc | hc | hc | hc | hc | hc | hc | hc | hc | hc | hc | hc <;>
    rw [hc] at I
  · exact I.spec.elim
  · exact land (step_cls_1 s w I)
  · exact land (step_cls_2 s w I)
  · exact land (step_cls_4 s w I)
  · exact (step_cls_5 s w I).elim land land
  · exact land (step_cls_6 s w I)
  · exact land (step_cls_7 s w I)
  · exact land (step_cls_8 s w I)
  · exact (step_cls_9 s w I).elim land land
  · exact land (step_cls_10 s w I)
  · exact land (step_cls_11 s w I)
  · exact (step_cls_12 s w I).elim land land
  · exact land (step_cls_13 s w I)
  · exact land (step_cls_14 s w I)
  · exact (step_cls_16 s w I).elim land land
  · exact land (step_cls_17 s w I)
  · exact land (step_cls_20 s w I)
  · exact land (step_cls_21 s w I)
  · exact land (step_cls_22 s w I)
  · exact land (step_cls_23 s w I)
  · exact land (step_cls_24 s w I)
  · exact land (step_cls_25 s w I)
  · exact land (step_cls_26 s w I)
  · exact land (step_cls_27 s w I)
  · exact land (step_cls_29 s w I)
  · exact land (step_cls_30 s w I)
  · exact ⟨s, (round_cls_40 s h hc).1, h, hd, hp, Or.inr ⟨hc, rfl⟩⟩

/-- **the terminal state is clean** — a state of the invariant in class 40 is `terminalOK`: the rollout is Healthy with
    `succeeded = some true`, no BatchRelease, nothing in progress, the CloneSet has no partition, no owner, is not paused, all
    replicas are updated and observed, the update revision is the current one -/
theorem terminal_of_cls_40 (s : CS) (h : liveInv s = true) (hd : doneInv s = true) (hc : cls s = 40) : terminalOK s = true := by
  obtain ⟨w, hw, hph, ha, hbr, _⟩ := cls_spec s 40 hc (by decide)
  have F := live_facts s w h hw (by rw [hc]; decide)
  have hmu := (round_cls_40 s h hc).2
  obtain ⟨hrel, hsucc⟩ := (doneInv_iff s w hw).1 hd
  obtain ⟨hp, hpa, ho⟩ := hrel (by omega)
  obtain ⟨h1, h2, h3⟩ := envWl_fixed_released w F.wok F.env hp hpa
  simp [terminalOK, idleDone, hw, F.gone, hph, hbr, ha, hsucc (by omega), hp, hpa, ho, h1, h2, h3]

theorem rounds_progress_partial (k : Nat) (s : CS) (h : liveInv s = true) (hd : doneInv s = true) (hp : polInv s = true) :
    ∃ s', rounds k s = some s' ∧ liveInv s' = true ∧ doneInv s' = true ∧ polInv s' = true ∧
      (mu s' + k ≤ mu s ∨ cls s' = 40) := by
  induction k generalizing s with
  | zero => exact ⟨s, rfl, h, hd, hp, Or.inl (Nat.le_refl _)⟩
  | succ k ih =>
    obtain ⟨t, ht, hl, hdn, hpl, hcase⟩ := round_decreases_partial s h hd hp
    rcases hcase with hlt | ⟨hc, heq⟩
    · obtain ⟨s', h1, h2, h3, h3', h4⟩ := ih t hl hdn hpl
      refine ⟨s', by rw [rounds_succ k s t ht]; exact h1, h2, h3, h3', ?_⟩
      rcases h4 with h4 | h4
      · exact Or.inl (by omega)
      · exact Or.inr h4
    · subst heq
      exact ⟨t, rounds_fix (k + 1) t ht, h, hd, hp, Or.inr hc⟩

/-- **C07 `loop_progress`, K = 1** — along the fair schedule from any state of the round-boundary invariant: the state after `j`
    rounds either is terminal — clean (`terminalOK`) and left unchanged by a further round — or one more round strictly decreases
    the measure.  So the loop neither stalls nor oscillates before the end.
    `_partial`: (a) hypothesis `liveInv` (see `round_decreases_partial`: no traffic routing, no `long` pause, outside the region of
    `pctFallback`); (b) the states are those at the boundaries of fair rounds, not every state reachable by an arbitrary legal
    interleaving (that an arbitrary reachable forward state is brought back to the round-boundary facts `brSync` / `atBoundary`
    by a bounded number of rounds is not proved); with traffic routing the model needs up to 3 rounds per decrease and is judged by
    the oracle `C07.loop_measure_decreases` (K = 5) only. -/
theorem loop_progress_partial (s : CS) (j : Nat) (h : liveInv s = true) (hd : doneInv s = true) (hp : polInv s = true) :
    ∃ t, rounds j s = some t ∧
      ((terminalOK t = true ∧ round t = some t) ∨ (∃ t', round t = some t' ∧ mu t' < mu t)) := by
  obtain ⟨t, ht, hl, hdn, hpl, _⟩ := rounds_progress_partial j s h hd hp
  refine ⟨t, ht, ?_⟩
  obtain ⟨t', h1, _, _, _, h4⟩ := round_decreases_partial t hl hdn hpl
  rcases h4 with h4 | ⟨hc, heq⟩
  · exact Or.inr ⟨t', h1, h4⟩
  · subst heq
    exact Or.inl ⟨terminal_of_cls_40 t' hl hdn hc, h1⟩

theorem rounds_terminate_partial (s : CS) (h : liveInv s = true) (hd : doneInv s = true) (hp : polInv s = true) :
    ∃ t, terminalOK t = true ∧ round t = some t ∧ ∀ k, mu s + 1 ≤ k → rounds k s = some t := by
  obtain ⟨t, ht, hl, hdn, _, hcase⟩ := rounds_progress_partial (mu s + 1) s h hd hp
  have hc : cls t = 40 := by
    rcases hcase with hcase | hcase
    · omega
    · exact hcase
  have hfix := (round_cls_40 t hl hc).1
  refine ⟨t, terminal_of_cls_40 t hl hdn hc, hfix, ?_⟩
  intro k hk
  obtain ⟨d, rfl⟩ : ∃ d, k = (mu s + 1) + d := ⟨k - (mu s + 1), by omega⟩
  rw [rounds_add (mu s + 1) d s t ht]
  exact rounds_fix d t hfix

/-- the settled idle states the termination theorem starts from: `Init` (Healthy, live, un-paused canary rollout in partition
    style with a non-empty monotone plan, one revision running, no BatchRelease), the configuration `liveCfg` (no traffic routing,
    no `long` pause, at least one replica, every step's partition reaches what the readiness check demands), and the CloneSet
    controller has observed the latest generation -/
def Settled (s : CS) : Prop :=
  Init s ∧ liveCfg s = true ∧ ∃ w, s.wl = some w ∧ w.observedGeneration = w.generation

theorem release_live (s0 s1 : CS) (rev : String) (h0 : Settled s0) (hidle : idle s0 rev = true) (hrev : rev ≠ "")
    (hs : step s0 (.release rev) = some s1) :
    liveInv s1 = true ∧ doneInv s1 = true ∧ polInv s1 = true ∧ mu s1 + 1 = muBound s0.ro.steps.length := by
  obtain ⟨hinit, hcfg, w, hw, hobs⟩ := h0
  obtain ⟨t, ht, hf1⟩ := fwd_step s0 (.release rev) (init_inv s0 hinit) hidle
  cases hs.symm.trans ht
  obtain ⟨_, hph, hbr, _⟩ := hinit
  obtain ⟨_, w', hw', _, hnc⟩ := (idle_iff s0 rev).1 hidle
  cases hw.symm.trans hw'
  obtain ⟨c1, c2, c3, c4, _, _⟩ := (liveCfg_iff s0 w hw).1 hcfg
  cases ht
  have hw1 : ({ s0 with wl := s0.wl.map (releaseWl rev) } : CS).wl = some (releaseWl rev w) := by
    show s0.wl.map (releaseWl rev) = _
    rw [hw]
    rfl
  -- right after the release: class 1, the top of the measure
  have hspec : ClsSpec { s0 with wl := s0.wl.map (releaseWl rev) } (releaseWl rev w) 1 := by
    rw [releaseWl_new rev w hnc]
    exact ⟨hph, rfl, hnc, by show w.generation + 1 ≠ w.observedGeneration; omega, c3⟩
  have hcls := cls_of_spec _ _ 1 hw1 hspec
  have hlive : liveInv { s0 with wl := s0.wl.map (releaseWl rev) } = true := by
    refine (liveInv_iff _).2 ⟨hf1, (liveCfg_iff _ _ hw1).2 ?_, by rw [hcls]; decide, Or.inl hcls⟩
    rw [releaseWl_new rev w hnc]
    exact ⟨c1, c2, c3, c4, rfl, hrev⟩
  have hpol : polInv { s0 with wl := s0.wl.map (releaseWl rev) } = true :=
    (polInv_iff _).2 (fun b hb => by rw [show _ = none from hbr] at hb; cases hb)
  refine ⟨hlive, (Inv.of_step hlive hpol hw1 hspec (by decide)).done, hpol, ?_⟩
  rw [mu_of_spec _ _ 1 hw1 hspec]
  rfl

/-- **C07 `loop_terminates`** — from a settled idle state and one release of a new revision, the fair schedule terminates: there
    is a state `t` — the rollout `Healthy` with `succeeded = some true`, the BatchRelease gone, nothing in progress, the CloneSet
    partition released, no owner, all replicas updated and observed (`terminalOK`) — such that after every number of rounds
    `k ≥ 64·(#steps + 1)` the loop is in `t`; no reconciler panics on the way (64 = `stepW`; after the release
    `mu s1 + 1 = muBound n = 32 + 64·n + 4 ≤ 64·(n + 1)`, `release_live`, and every round lowers `mu`).
    `_partial`: for the configurations `liveCfg` (no traffic routing, no `long` pause, outside `pctFallback`), see
    `round_decreases_partial`. -/
theorem loop_terminates_partial (s0 s1 : CS) (rev : String) (h0 : Settled s0) (hidle : idle s0 rev = true) (hrev : rev ≠ "")
    (hs : step s0 (.release rev) = some s1) :
    ∃ t, terminalOK t = true ∧ round t = some t ∧ ∀ k, 64 * (s0.ro.steps.length + 1) ≤ k → rounds k s1 = some t := by
  obtain ⟨hl, hd, hp, hmu⟩ := release_live s0 s1 rev h0 hidle hrev hs
  obtain ⟨t, h1, h2, h3⟩ := rounds_terminate_partial s1 hl hd hp
  refine ⟨t, h1, h2, fun k hk => h3 k ?_⟩
  have : muBound s0.ro.steps.length = 32 + s0.ro.steps.length * 64 + 4 := rfl
  omega

/-- **C07 `loop_quiescent` (no oscillation)** — in a terminal state of the invariant further rounds change nothing -/
theorem loop_quiescent (s : CS) (k : Nat) (h : liveInv s = true) (hc : cls s = 40) : rounds k s = some s :=
  rounds_fix k s (round_cls_40 s h hc).1

/-! ### the hypotheses are satisfiable (kernel evaluation on a concrete plan) -/

/-- 10 replicas, plan 20 % (manual pause) / 50 % / 100 %, no traffic routing -/
def exL0 : CS :=
  { exS0 with ro := { exRo with hasTraffic := false,
                                steps := [⟨.pct 20, none, .manual⟩, ⟨.pct 50, none, .short⟩, ⟨.pct 100, none, .short⟩] } }
def exL1 : CS := { exL0 with wl := exL0.wl.map (releaseWl "v2") }

example : Settled exL0 := ⟨⟨by decide, rfl, rfl, exWl, rfl, by decide, by decide, rfl⟩, by decide +kernel, exWl, rfl, rfl⟩
example : idle exL0 "v2" = true := by decide +kernel
example : step exL0 (.release "v2") = some exL1 := rfl

/-- the fair schedule from the release visits every one of the 26 classes (so every `step_cls_X` speaks about a
    reachable state), all in `liveInv` and `doneInv` … -/
example : (List.range 43).map (fun k => ((rounds k exL1).map cls).getD 99) =
    [1, 2, 4, 5, 6, 8, 9, 10, 11, 12, 13, 14, 16, 5, 7, 9, 10, 11, 12, 13, 14, 16, 5, 7, 9, 10, 11, 12, 14, 16, 17, 20, 21, 22,
     23, 24, 25, 26, 27, 29, 30, 40, 40] := by decide +kernel
example : (List.range 43).all (fun k => ((rounds k exL1).map (fun s => liveInv s && doneInv s)).getD false) = true := by
  decide +kernel
/-- … with the measure strictly decreasing from `muBound 3 − 1 = 227` to 0 … -/
example : (List.range 43).map (fun k => ((rounds k exL1).map mu).getD 9999) =
    [227, 226, 224, 200, 190, 186, 182, 180, 178, 176, 168, 166, 162, 136, 124, 118, 116, 114, 112, 104, 102, 98, 72, 60, 54, 52,
     50, 48, 38, 34, 33, 22, 20, 18, 16, 14, 13, 12, 10, 8, 1, 0, 0] := by decide +kernel
/-- … and it ends, after 41 rounds (≤ 64·(3 + 1)), in a clean terminal state that a further round leaves unchanged -/
example : (rounds 41 exL1).map (fun t => (terminalOK t, round t == some t)) = some (true, true) := by decide +kernel
example : (rounds 40 exL1).map terminalOK = some false := by decide +kernel

end RV.Props.ClosedLoop
