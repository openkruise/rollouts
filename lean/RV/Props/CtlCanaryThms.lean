import RV.Lemmas.Arith
import RV.Lemmas.CtlCanary
/-!
# Theorems about the canary-style Deployment control plane (attached to C06, C01, C05, C11, C18)

`call br op c w exp` is one call of the real plane (`Initialize` / `UpgradeBatch` /
`EnsureBatchPodsReadyAndLabeled` / `Finalize`, a fresh plane object per call) from the world `w`
(any list of Deployments: the stable one, any number of canary candidates, foreign ones) with the
in-memory creation expectation `exp`, under the fault configuration `c` (the `k`-th counted API call
and every later one fail, for **every** `k`; reads counted or not).  `run` chains calls, with an
environment event before each.  All statements quantify over every world, BatchRelease, fault
configuration and run; the only hypothesis on worlds is the API-server fact that object names are
unique (`namesNodup`), and only where a statement needs it.
-/
namespace RV.Props.CtlCanary
open RV.Arith RV.CtlCanary RV.Oracle.CtlCanary

/-- **C06 errors are never swallowed** — if any API call made by a call of the plane failed (the fault
    index was reached), the call returns an error. -/
theorem fault_reported (br : BR) (op : Op) (c : Cfg) (w : World) (exp : Exp) :
    faultReported c (call br op c w exp) = true := by
  unfold faultReported
  cases hk : c.failAt with
  | none => rfl
  | some k =>
    simp only
    split
    · rename_i hlt
      have h0 : ¬ faulted c (S0 w exp).n := by rintro ⟨k', _, h⟩; simp [S0] at h
      cases op
      · obtain ⟨-, -, -, hrep, -⟩ := planeInitialize_created (rfl : planeInitialize c br (S0 w exp) = (_, _))
        exact decide_eq_true (hrep h0 ⟨k, hk, hlt⟩)
      · obtain ⟨-, hrep, -⟩ := planeUpgradeBatch_spec (Prod.eta (planeUpgradeBatch c br (S0 w exp))).symm
        exact decide_eq_true (hrep h0 ⟨k, hk, hlt⟩)
      · exact decide_eq_true ((planeEnsureReady_spec c br w exp).2 h0 ⟨k, hk, hlt⟩)
      · obtain ⟨-, -, -, hrep⟩ := planeFinalize_spec (rfl : planeFinalize c br (S0 w exp) = (_, _))
        exact decide_eq_true (hrep h0 ⟨k, hk, hlt⟩)
    · rfl

/-- **C06 `finalize_ok_means_gone`** — whenever `Finalize` returns no error, no Deployment owned by this
    BatchRelease still carries the batch-release finalizer: every failed finalizer removal is reported. -/
theorem finalize_ok_means_gone (br : BR) (op : Op) (c : Cfg) (w : World) (exp : Exp)
    (hnd : namesNodup w = true) :
    finalizeOkMeansGone op (call br op c w exp) = true := by
  unfold finalizeOkMeansGone
  split
  · rename_i h
    obtain ⟨rfl, hres⟩ := h
    obtain ⟨w1, hrel, ⟨ids, -, -, hgone⟩, -⟩ := planeFinalize_spec (rfl : planeFinalize c br (S0 w exp) = (_, _))
    apply List.all_eq_true.mpr
    intro x hx
    cases ho : owned x
    · rfl
    · simp [hgone hres (hrel.nodup ((namesNodup_iff w).mp hnd)) x hx (by simpa [owned] using ho)]
  · rfl

/-- **C06, one call** (over runs: `initialize_single_canary`) — a Deployment appears only in `Initialize`, at most one per
    call, only when no active Deployment owned by this BatchRelease has the stable Deployment's current pod
    template (re-discovery by owner + template, not by a remembered name), and what is created is a
    well-formed canary: owned, finalizer set, 0 replicas, un-paused, and itself matching the template — so
    the next `Initialize` finds it. -/
theorem create_guarded (br : BR) (op : Op) (c : Cfg) (w : World) (exp : Exp)
    (hnd : namesNodup w = true) :
    createGuarded br op w (call br op c w exp) = true := by
  unfold createGuarded
  have hndw := (namesNodup_iff w).mp hnd
  obtain ⟨id, f, ids, hp, -, -, hafter⟩ := call_shape br op c w exp
  have hf := hp.name
  rcases hafter with h | ⟨-, cd, ⟨hop, st, hst, hnew, hnone⟩, hcdname, h⟩
  · have hnil : newDeps w (call br op c w exp).w = [] := by
      unfold newDeps
      rw [List.filter_eq_nil_iff]
      intro d' hd'
      rcases mem_after (P := fun _ => False) hf hndw (Or.inl h) hd' with ⟨d, _, _, hfind⟩ | ⟨_, hF, _⟩
      · simp [hfind]
      · exact hF.elim
    rw [hnil]
  · subst hop
    obtain ⟨tp, htp, hcd⟩ := newCanary_some hnew
    have hone : newDeps w (call br .init c w exp).w = [cd] := by
      unfold newDeps
      rw [h]
      unfold World.add
      rw [List.filter_append]
      have h1 : List.filter (fun d => (w.find d.name).isNone) (w.modify id f).deps = [] := by
        rw [List.filter_eq_nil_iff]
        intro x hx
        unfold World.modify at hx
        obtain ⟨d, hd, rfl⟩ := List.mem_map.mp hx
        have : (if d.name = id then f d else d).name = d.name := by split <;> simp [hf]
        rw [this, find_of_mem hndw hd]; simp
      have h2 : List.filter (fun d => (w.find d.name).isNone) [cd] = [cd] := by
        simp [hcdname, find_fresh w]
      rw [h1, h2]; rfl
    rw [hone]
    dsimp only
    have hmc := matchCount_zero_of_none hp hst hnone
    have hkey : st.name = br.key := (find_some hst).2
    have hfindkey : (call br .init c w exp).w.find br.key = some st := by
      rw [h, find_add, hst]
    have hmatch : matching br (call br .init c w exp).w cd = true := by
      unfold matching
      rw [hfindkey, hcd]
      simp [owned, eqIgnore_patched htp]
    have hwf : wellFormedCanary br (call br .init c w exp).w cd = true := by
      unfold wellFormedCanary
      rw [hmatch, hcd]
      simp [hkey]
    simp [hmc, hwf]

/-- **C06**, one call — the number of active canary Deployments for the current template never grows beyond
    one (if there were several to begin with, it does not grow at all). -/
theorem single_canary (br : BR) (op : Op) (c : Cfg) (w : World) (exp : Exp)
    (hnd : namesNodup w = true) :
    singleCanary br w (call br op c w exp) = true := by
  unfold singleCanary
  apply decide_eq_true
  have hndw := (namesNodup_iff w).mp hnd
  obtain ⟨id, f, ids, hp, -, -, hafter⟩ := call_shape br op c w exp
  have hf := hp.name
  have hold : ((w.deps.filterMap (eff id f ids)).filter (matching br (call br op c w exp).w)).length ≤ matchCount br w := by
    unfold matchCount
    apply filter_filterMap_length_le
    intro d _ d' he hm
    refine matching_after hp hndw hafter ?_ he hm
    rintro cd ⟨-, st, hst, -⟩
    rw [find_modify _ _ _ _ hf] at hst
    cases hw : w.find br.key with
    | none => rw [hw] at hst; cases hst
    | some _ => rfl
  rcases hafter with h | ⟨rfl, cd, ⟨-, st, hst, -, hnone⟩, -, h⟩
  · have hd : (call br op c w exp).w.deps = w.deps.filterMap (eff id f ids) := by rw [h, effW_deps]
    unfold matchCount at hold ⊢
    rw [hd]
    omega
  · -- creation: `matchCount br w = 0`, so the old ones count 0 and the new one at most 1
    have hmc := matchCount_zero_of_none hp hst hnone
    have hd : (call br op c w exp).w.deps = w.deps.filterMap (eff id f []) ++ [cd] := by
      rw [h]; unfold World.add; rw [modify_deps_eff]
    have hle : (List.filter (matching br (call br op c w exp).w) [cd]).length ≤ 1 := by
      simp only [List.filter_cons]; split <;> simp
    unfold matchCount at hold hmc ⊢
    rw [hd, List.filter_append, List.length_append]
    omega

/-- **C06** — the creation expectation guards `create`: while an expectation is pending and has not timed
    out, no call creates anything; and whenever a call creates a Deployment the expectation is pending
    afterwards (so the next reconcile waits for the informer instead of creating a second canary). -/
theorem expectation_guards_create (br : BR) (op : Op) (c : Cfg) (w : World) (exp : Exp) :
    expectationGuardsCreate c w exp (call br op c w exp) = true := by
  have hlen : ((call br op c w exp).w.deps.length ≤ w.deps.length) ∨
      (¬ (exp = .pending ∧ c.timedOut = false) ∧ (call br op c w exp).exp = .pending) := by
    cases op
    case init =>
      obtain ⟨w1, hw1, hres, -⟩ := planeInitialize_created (rfl : planeInitialize c br (S0 w exp) = (_, _))
      rcases hres with h | ⟨_, _, -, p⟩
      · left
        have h' : (call br .init c w exp).w = w1 := h
        rw [h']
        rcases hw1 with rfl | ⟨-, rfl⟩
        · exact Nat.le_refl _
        · exact Nat.le_of_eq (modify_length _ _ _)
      · exact .inr ⟨p.expired, p.pending⟩
    all_goals
      left
      obtain ⟨id, f, ids, -, -, -, hafter⟩ := call_shape br _ c w exp
      rcases hafter with h | ⟨-, -, ⟨hop, -⟩, -⟩
      · rw [h, effW_deps]
        exact List.length_filterMap_le _ _
      · cases hop
  unfold expectationGuardsCreate
  rcases hlen with h | ⟨h1, h2⟩
  · have h' : ¬ (call br op c w exp).w.deps.length > w.deps.length := by omega
    simp [h, h']
  · simp only [h1, if_false, h2, Bool.true_and]
    split <;> simp

/-- the stable Deployment stored after a nil `Finalize` is the released one, at most without the finalizer (`dropFn`); under
    WaitResume the released one passed the wait -/
theorem finalize_stable_after {c : Cfg} {br : BR} {w : World} {exp : Exp} {s' : S} {st' : Dep}
    (hnd : namesNodup w = true) (h : planeFinalize c br (S0 w exp) = (s', .ok)) (hst' : s'.w.find br.key = some st') :
    ∃ st ids, dropFn ids (releaseStable br.partition.isSome st) = some st' ∧
      (br.waitResume = true → waitAllUpdatedAndReady (releaseStable br.partition.isSome st) = .ok) := by
  obtain ⟨w1, hrel, ⟨ids, hw', -, -⟩, -⟩ := planeFinalize_spec h
  rw [hw', find_dropAll ids br.key (hrel.nodup ((namesNodup_iff w).mp hnd))] at hst'
  rcases hrel with ⟨rfl, hnone⟩ | ⟨rfl, hwait⟩
  · rw [hnone rfl] at hst'; cases hst'
  · replace hwait := hwait rfl
    rw [find_modify _ _ _ _ (by intro d; rfl)] at hst' hwait
    cases hf : w.find br.key with
    | none => rw [hf] at hst'; cases hst'
    | some st =>
      simp only [hf, Option.map_some, (find_some hf).2, if_true, Option.bind_some, Option.some.injEq, exists_eq_left'] at hst' hwait
      exact ⟨st, ids, hst', hwait⟩

/-- **C05 `finalize_releases_stable`** — after a successful `Finalize` the stable Deployment, if it
    exists, carries no control-info and `paused = (batchPartition ≠ nil)`: un-paused when the release
    is promoted (`batchPartition = nil`), kept paused otherwise. -/
theorem finalize_releases_stable (br : BR) (op : Op) (c : Cfg) (w : World) (exp : Exp)
    (hnd : namesNodup w = true) :
    finalizeReleasesStable br op (call br op c w exp) = true := by
  unfold finalizeReleasesStable
  split
  · rename_i h
    obtain ⟨rfl, hres⟩ := h
    cases hst' : (call br .fin c w exp).w.find br.key with
    | none => rfl
    | some st' =>
      have hcall : planeFinalize c br (S0 w exp) = ((planeFinalize c br (S0 w exp)).1, .ok) := Prod.ext rfl hres
      obtain ⟨st, ids, hdf, -⟩ := finalize_stable_after hnd hcall hst'
      rcases dropFn_some hdf with ⟨-, rfl⟩ | ⟨-, rfl⟩ <;> simp [releaseStable]
  · rfl

/-- **C11 / C05 `finalize_done_means_resumed`** — whenever `Finalize` under finalizing policy WaitResume
    returns no error — the only way the BatchRelease reaches `Completed` — the stable Deployment *as stored
    after the call* is really promoted: not paused, `status.replicas = status.updatedReplicas`, availability
    within maxUnavailable (or the Deployment does not exist).  For every world — in particular the world a
    failed earlier attempt left behind: already released, already resumed, pods not yet updated — and every
    fault index. -/
theorem finalize_done_means_resumed (br : BR) (op : Op) (c : Cfg) (w : World) (exp : Exp)
    (hnd : namesNodup w = true) :
    finalizeDoneMeansResumed br op (call br op c w exp) = true := by
  unfold finalizeDoneMeansResumed
  split
  · rename_i h
    obtain ⟨rfl, hres, hwr⟩ := h
    cases hst' : (call br .fin c w exp).w.find br.key with
    | none => rfl
    | some st' =>
      have hcall : planeFinalize c br (S0 w exp) = ((planeFinalize c br (S0 w exp)).1, .ok) := Prod.ext rfl hres
      obtain ⟨st, ids, hdf, hwait⟩ := finalize_stable_after hnd hcall hst'
      simp [wait_dropFn hdf, hwait hwr]
  · rfl

/-- an un-owned stable Deployment is not among the finalizer removals, nor the selected canary -/
theorem stable_after {br : BR} {op : Op} {c : Cfg} {w : World} {exp : Exp} {st : Dep}
    (hnd : namesNodup w = true) (hst : w.find br.key = some st) (hown : st.owner ≠ .this) :
    (call br op c w exp).w.find br.key = some st ∨
    (op = .init ∧ (call br op c w exp).w.find br.key = some (setCtrl st)) ∨
    (op = .fin ∧ (call br op c w exp).w.find br.key = some (releaseStable br.partition.isSome st)) := by
  obtain ⟨hmem, hname⟩ := find_some hst
  obtain ⟨d1, hw, h⟩ := object_after br op c w exp ((namesNodup_iff w).mp hnd) hmem
  rw [hname] at h
  have h1 : (call br op c w exp).w.find br.key = some d1 :=
    h.resolve_right fun ⟨_, ho, _⟩ => hown (by cases hw <;> exact ho)
  cases hw with
  | same => exact .inl h1
  | claim hop => exact .inr (.inl ⟨hop, h1⟩)
  | release hop => exact .inr (.inr ⟨hop, h1⟩)
  | scale _ hsel => exact absurd (selectCanary_mem hsel).2.1 hown

/-- **C05** — no call changes anything of the stable Deployment except its control-info annotation and
    `spec.paused` (and the generation the API server bumps with it): template, replicas, strategy, owner,
    finalizers stay as the user configured them; `paused` changes only in `Finalize`, control-info only in
    `Initialize` / `Finalize`.  (A stable Deployment that is itself owned by the BatchRelease is outside.) -/
theorem stable_frame (br : BR) (op : Op) (c : Cfg) (w : World) (exp : Exp)
    (hnd : namesNodup w = true) :
    stableFrame br op w (call br op c w exp) = true := by
  unfold stableFrame
  cases hst : w.find br.key with
  | none => rfl
  | some st =>
    dsimp only
    by_cases hown : st.owner = .this
    · cases (call br op c w exp).w.find br.key <;> simp [hown]
    · rcases stable_after (op := op) (c := c) (exp := exp) hnd hst hown with h | ⟨hop, h⟩ | ⟨hop, h⟩ <;> rw [h]
      · simp
      · simp [setCtrl, hop]
      · simp [releaseStable, hop]

/-- **C18** — outside `Finalize` no Deployment loses the batch-release finalizer (or any finalizer), none
    is put into deletion and none disappears: `Initialize`, `UpgradeBatch` and
    `EnsureBatchPodsReadyAndLabeled` never tear anything down. -/
theorem finalizer_only_by_finalize (br : BR) (op : Op) (c : Cfg) (w : World) (exp : Exp)
    (hnd : namesNodup w = true) :
    finalizerOnlyByFinalize op w (call br op c w exp) = true := by
  unfold finalizerOnlyByFinalize
  split
  · rfl
  · rename_i hop
    refine List.all_eq_true.mpr fun d hd => ?_
    obtain ⟨d1, hw, h | ⟨h, -⟩⟩ := object_after br op c w exp ((namesNodup_iff w).mp hnd) hd
    · rw [h]
      cases hw <;> simp [setCtrl, releaseStable, setReplicas]
    · exact absurd h hop

/-- **C18 / isolation** — a Deployment that is neither owned by this BatchRelease nor its workload is never
    touched by any call. -/
theorem foreign_untouched (br : BR) (op : Op) (c : Cfg) (w : World) (exp : Exp)
    (hnd : namesNodup w = true) :
    foreignUntouched br w (call br op c w exp) = true := by
  unfold foreignUntouched
  refine List.all_eq_true.mpr fun d hd => ?_
  obtain ⟨d1, hw, h⟩ := object_after br op c w exp ((namesNodup_iff w).mp hnd) hd
  cases hw with
  | same =>
    rcases h with h | ⟨-, ho, -⟩
    · simp [h]
    · simp [owned, ho]
  | claim _ hk | release _ hk => simp [hk]
  | scale _ hsel => simp [owned, (selectCanary_mem hsel).2.1]

/-- **C18** — `Finalize` takes nothing from the Deployments but the batch-release finalizer, and only from
    Deployments this BatchRelease owns; an owned Deployment disappears only if it was already in deletion
    and that finalizer was its last one. -/
theorem finalize_only_drops_finalizer (br : BR) (op : Op) (c : Cfg) (w : World) (exp : Exp)
    (hnd : namesNodup w = true) :
    finalizeOnlyDropsFinalizer br op w (call br op c w exp) = true := by
  unfold finalizeOnlyDropsFinalizer
  split
  · rename_i hfin
    subst hfin
    refine List.all_eq_true.mpr fun d hd => ?_
    obtain ⟨d1, hw, h⟩ := object_after br .fin c w exp ((namesNodup_iff w).mp hnd) hd
    cases hw with
    | same =>
      rcases h with h | ⟨-, ho, hf, h⟩ <;> rw [h]
      · simp
      · by_cases hc : d.deleting = true ∧ ¬ d.otherFinalizer = true
        · rw [if_pos hc]; simp [owned, ho, hf, hc.1, hc.2]
        · rw [if_neg hc]; simp [owned, ho, hf]
    | claim _ hk | release _ hk => simp [hk]
    | scale hop => cases hop
  · rfl

/-- the clause of `replicasWithinStep` for a Deployment `d` whose replicas end as `r'`: as they were, or raised by
    `UpgradeBatch` on an owned Deployment to the step's target -/
theorem withinStep_of {br : BR} {op : Op} {w : World} {d : Dep} {r' : Option Int}
    (h : r' = d.replicas ∨ (op = .upgrade ∧ d.owner = .this ∧
      ∃ t cur, target br w = some t ∧ d.replicas = some cur ∧ cur < t ∧ r' = some t)) :
    (r' = d.replicas ||
      (op = .upgrade && owned d &&
        (match target br w, d.replicas with
         | some t, some r => r' = some t && decide (r < t)
         | _, _ => false))) = true := by
  rcases h with h | ⟨hop, ho, t, cur, htgt, hcur, hlt, h⟩
  · simp [h]
  · rw [htgt, hcur]
    simp [hop, owned, ho, h, hlt]

/-- **C01 `canary_replicas_within_step`** — on every path of every call (any fault index)
    `spec.replicas` of every Deployment is left as it was, except that `UpgradeBatch` may raise
    the replicas of a Deployment owned by this BatchRelease to **exactly**
    `CalculateBatchReplicas(stable replicas, batches[currentBatch])`, and only from a smaller value;
    a Deployment the plane creates starts with 0 replicas. -/
theorem canary_replicas_within_step (br : BR) (op : Op) (c : Cfg) (w : World) (exp : Exp)
    (hnd : namesNodup w = true) :
    replicasWithinStep br op w (call br op c w exp) = true := by
  unfold replicasWithinStep
  have hndw := (namesNodup_iff w).mp hnd
  refine List.all_eq_true.mpr fun d' hd' => ?_
  rcases origin_after br op c w exp hndw hd' with ⟨d, hd, hfind, h'⟩ | ⟨hnone, h0⟩
  · rw [hfind]
    dsimp only
    obtain ⟨d1, hw, hd1⟩ := object_found br op c w exp hndw hd h'
    have hd1 : d'.replicas = d1.replicas := by rcases hd1 with rfl | rfl <;> rfl
    rw [hd1]
    cases hw with
    | same | claim | release => exact withinStep_of (.inl rfl)
    | scale hop hsel htgt hcur hlt =>
      exact withinStep_of (.inr ⟨hop, (selectCanary_mem hsel).2.1, _, _, htgt, hcur, hlt, rfl⟩)
  · rw [hnone, h0]
    rfl

/-- **C01** — a successful `UpgradeBatch` leaves the selected canary Deployment at
    `max(current, CalculateBatchReplicas(stable replicas, batches[currentBatch]))`: exactly the step's
    target unless the canary was already larger (the plane never scales a canary down). -/
theorem upgrade_reaches_target (br : BR) (op : Op) (c : Cfg) (w : World) (exp : Exp)
    (hnd : namesNodup w = true) :
    upgradeReachesTarget br op w (call br op c w exp) = true := by
  unfold upgradeReachesTarget
  split
  · rename_i h
    obtain ⟨hop, hres⟩ := h
    subst hop
    have hndw := (namesNodup_iff w).mp hnd
    have hres' : (planeUpgradeBatch c br (S0 w exp)).2 = .ok := hres
    obtain ⟨-, -, hspec⟩ := planeUpgradeBatch_spec (Prod.eta (planeUpgradeBatch c br (S0 w exp))).symm
    rcases hspec with ⟨hw, hok⟩ | ⟨cd, t, cur, st, hst, hne, hsel, htgt, hcur, hlt, _, hw⟩
    · obtain ⟨st, hst, hcase⟩ := hok hres'
      rw [hst]
      dsimp only
      rcases hcase with h0 | ⟨cd, t, cur, hsel, htgt, hcur, hle⟩
      · simp [h0]
      · split
        · rfl
        · rw [hsel, htgt]
          dsimp only
          have hwc : (call br .upgrade c w exp).w = w := hw
          rw [hwc, hcur, find_of_mem hndw (selectCanary_mem hsel).1]
          simp [hcur, Int.max_eq_left hle]
    · rw [hst]
      dsimp only
      rw [if_neg (by simpa using hne), hsel, htgt]
      dsimp only
      have hwc : (call br .upgrade c w exp).w = w.modify cd.name (setReplicas t) := hw
      rw [hwc, hcur, find_modify _ _ _ _ (by intro d; rfl), find_of_mem hndw (selectCanary_mem hsel).1]
      simp [setReplicas, Int.max_eq_right (Int.le_of_lt hlt)]
  · rfl

/-- **C06 `initialize_single_canary`** — in every run (any sequence of `Initialize` / `UpgradeBatch` /
    `EnsureBatchPodsReadyAndLabeled` / `Finalize` calls, each with its own fault index, any number of
    retries, the creation expectation lost / timed out / observed at any point, the Deployment controller
    catching up in between), as long as the user does not change the stable pod template, at no point
    are there more active canary Deployments for the current template than one — or than there were at
    the start.  With `create_guarded`: the plane creates at most one, and only when there is none. -/
theorem initialize_single_canary (br : BR) (steps : List Step) (w : World) (exp : Exp)
    (hnd : namesNodup w = true) (hev : ∀ st ∈ steps, st.ev ≠ .newTemplate) :
    ∀ o ∈ run br w exp steps, matchCount br o.w ≤ max 1 (matchCount br w) := by
  induction steps generalizing w exp with
  | nil => intro o ho; cases ho
  | cons st rest ih =>
    intro o ho
    have hmce := applyEvent_matchCount br st.ev w exp (hev st List.mem_cons_self)
    have hhead := single_canary { br with currentBatch := st.currentBatch } st.op st.cfg
      (applyEvent br st.ev w exp).1 (applyEvent br st.ev w exp).2 (applyEvent_namesNodup br st.ev w exp hnd)
    unfold singleCanary at hhead
    have hhead' : matchCount br (step br w exp st).w ≤ max 1 (matchCount br w) := by
      have := of_decide_eq_true hhead
      simp only [matchCount_batch] at this
      rw [hmce] at this
      exact this
    simp only [run, List.mem_cons] at ho
    rcases ho with rfl | ho
    · exact hhead'
    · have := ih (step br w exp st).w (step br w exp st).exp (step_namesNodup br w exp st hnd)
        (fun s hs => hev s (List.mem_cons_of_mem _ hs)) o ho
      omega

/-- **C11 `finalize_done_means_resumed`, over runs** — along every run (any retry history: earlier `Finalize`
    attempts that failed in the wait or at any fault index, events in between), every `Finalize` call that
    returns no error under WaitResume leaves the stored stable Deployment resumed and fully updated. -/
theorem finalize_done_means_resumed_run (br : BR) (steps : List Step) (w : World) (exp : Exp)
    (hnd : namesNodup w = true) :
    ∀ p ∈ List.zip steps (run br w exp steps),
      finalizeDoneMeansResumed { br with currentBatch := p.1.currentBatch } p.1.op p.2 = true := by
  induction steps generalizing w exp with
  | nil => intro p hp; cases hp
  | cons st rest ih =>
    intro p hp
    simp only [run, List.zip_cons_cons, List.mem_cons] at hp
    rcases hp with rfl | hp
    · exact finalize_done_means_resumed { br with currentBatch := st.currentBatch } st.op st.cfg
        (applyEvent br st.ev w exp).1 (applyEvent br st.ev w exp).2 (applyEvent_namesNodup br st.ev w exp hnd)
    · exact ih (step br w exp st).w (step br w exp st).exp (step_namesNodup br w exp st hnd) p hp

/-- **C01 `canary_replicas_within_step`, over runs** — let `R` be the replicas of the (un-owned) stable
    Deployment and `B ≥ 0` a bound on `CalculateBatchReplicas(R, batches[i])` for every batch index `i` the
    run upgrades.  If no Deployment owned by the BatchRelease starts above `B`, none is ever above `B`, at
    any point of any run.  (The plane writes nothing but the
    step's target into `spec.replicas`, see `canary_replicas_within_step`.) -/
theorem canary_replicas_bounded_upgrades (br : BR) (steps : List Step) (w : World) (exp : Exp) (R B : Int)
    (hnd : namesNodup w = true) (hB0 : 0 ≤ B)
    (hst : ∃ st, w.find br.key = some st ∧ st.owner ≠ .this ∧ st.replicas = some R)
    (hB : ∀ st ∈ steps, st.op = .upgrade → ∀ e, batchEntry { br with currentBatch := st.currentBatch } = some e →
        calcBatchReplicas R e ≤ B)
    (h0 : ∀ d ∈ w.deps, d.owner = .this → ∀ r, d.replicas = some r → r ≤ B) :
    ∀ o ∈ run br w exp steps, ∀ d ∈ o.w.deps, d.owner = .this → ∀ r, d.replicas = some r → r ≤ B := by
  induction steps generalizing w exp with
  | nil => intro o ho; cases ho
  | cons s rest ih =>
    intro o ho
    obtain ⟨st, hfind, hsto, hstr⟩ := hst
    -- the world after the event: names, owners and replicas are those of `w`
    have hnde := applyEvent_namesNodup br s.ev w exp hnd
    obtain ⟨g, hg, hwe⟩ := applyEvent_map br s.ev w exp
    have hfind' : (applyEvent br s.ev w exp).1.find br.key = some (g st) := by
      rw [hwe]
      exact (find_map_aux w.deps g br.key fun d => (hg d).1).trans (congrArg _ hfind)
    have hsto' : (g st).owner ≠ .this := (hg st).2.1 ▸ hsto
    have hstr' : (g st).replicas = some R := (hg st).2.2.trans hstr
    have h0e : ∀ d ∈ (applyEvent br s.ev w exp).1.deps, d.owner = .this → ∀ r, d.replicas = some r → r ≤ B := by
      rw [hwe]
      intro d hd ho r hr
      obtain ⟨d0, hd0, rfl⟩ := List.mem_map.mp hd
      exact h0 d0 hd0 ((hg d0).2.1 ▸ ho) r ((hg d0).2.2 ▸ hr)
    have htgt : s.op = .upgrade →
        ∀ t, target { br with currentBatch := s.currentBatch } (applyEvent br s.ev w exp).1 = some t → t ≤ B := by
      intro hop t ht
      unfold target at ht
      simp only [hfind', hstr'] at ht
      cases he : batchEntry { br with currentBatch := s.currentBatch } with
      | none => rw [he] at ht; cases ht
      | some e =>
        rw [he] at ht
        cases ht
        exact hB s List.mem_cons_self hop e he
    have hhead := call_replicas_bound { br with currentBatch := s.currentBatch } s.op s.cfg
      (applyEvent br s.ev w exp).1 (applyEvent br s.ev w exp).2 B hnde hB0 htgt h0e
    simp only [run, List.mem_cons] at ho
    rcases ho with rfl | ho
    · exact hhead
    · -- the stable Deployment is still there, un-owned, with the same replicas
      have hsto2 : ∃ st2, (step br w exp s).w.find br.key = some st2 ∧ st2.owner ≠ .this ∧ st2.replicas = some R := by
        rcases stable_after (br := { br with currentBatch := s.currentBatch }) (op := s.op) (c := s.cfg)
          (exp := (applyEvent br s.ev w exp).2) hnde hfind' hsto' with h | ⟨-, h⟩ | ⟨-, h⟩ <;>
          exact ⟨_, h, hsto', hstr'⟩
      exact ih (step br w exp s).w (step br w exp s).exp (step_namesNodup br w exp s hnd) hsto2
        (fun x hx => hB x (List.mem_cons_of_mem _ hx)) hhead o ho

theorem canary_replicas_bounded (br : BR) (steps : List Step) (w : World) (exp : Exp) (R B : Int)
    (hnd : namesNodup w = true) (hB0 : 0 ≤ B)
    (hst : ∃ st, w.find br.key = some st ∧ st.owner ≠ .this ∧ st.replicas = some R)
    (hB : ∀ st ∈ steps, ∀ e, batchEntry { br with currentBatch := st.currentBatch } = some e →
        calcBatchReplicas R e ≤ B)
    (h0 : ∀ d ∈ w.deps, d.owner = .this → ∀ r, d.replicas = some r → r ≤ B) :
    ∀ o ∈ run br w exp steps, ∀ d ∈ o.w.deps, d.owner = .this → ∀ r, d.replicas = some r → r ≤ B :=
  canary_replicas_bounded_upgrades br steps w exp R B hnd hB0 hst (fun st h _ => hB st h) h0

/-- **C01** corollary — canary Deployments never have more replicas than the stable Deployment. -/
theorem canary_never_above_stable (br : BR) (steps : List Step) (w : World) (exp : Exp) (R : Int)
    (hnd : namesNodup w = true) (hR : 0 ≤ R)
    (hst : ∃ st, w.find br.key = some st ∧ st.owner ≠ .this ∧ st.replicas = some R)
    (h0 : ∀ d ∈ w.deps, d.owner = .this → ∀ r, d.replicas = some r → r ≤ R) :
    ∀ o ∈ run br w exp steps, ∀ d ∈ o.w.deps, d.owner = .this → ∀ r, d.replicas = some r → r ≤ R :=
  canary_replicas_bounded br steps w exp R R hnd hR hst (fun _ _ e _ => calcBatch_le R e hR) h0

/-- **C06 — stale canaries are not reused**: the canary Deployment the plane works on (scales, reports in
    the status) is owned by this BatchRelease, active, and — when the stable Deployment exists — has the
    stable Deployment's *current* pod template; a canary of an older template is never picked up again
    (it is released with the others in `Finalize` and collected with the BatchRelease). -/
theorem selected_canary_is_current (br : BR) (w : World) (cd st : Dep)
    (hst : w.find br.key = some st) (hsel : selectCanary br w = some cd) :
    cd ∈ w.deps ∧ cd.owner = .this ∧ cd.deleting = false ∧ eqIgnore br st.template cd.template = true := by
  obtain ⟨h1, h2, h3⟩ := selectCanary_mem hsel
  refine ⟨h1, h2, h3, ?_⟩
  rw [selectCanary_eq, hst] at hsel
  simp only [Option.map_some] at hsel
  unfold filterCanary at hsel
  split at hsel
  · cases hsel
  · dsimp only at hsel
    have := List.find?_some hsel
    simpa using this

/-! ## non-vacuity: concrete worlds on which the hypotheses hold and the calls do something
    (these are *tests* by kernel evaluation, not the ∀ claims) -/

namespace Demo

def tpl (rev : Nat) : Template := { rev := rev, labels := [("app", "demo")], annos := [] }
def strat : Strategy := { type := .rolling, rolling := some (some (.pct 25), some (.pct 25)) }

def stable : Dep :=
  { name := 0, owner := .none, ctrl := .this, canaryOf := none, template := tpl 2, replicas := some 10, paused := true,
    finalizer := false, otherFinalizer := false, deleting := false, created := 1, generation := 3, observedGeneration := 3,
    statusReplicas := 10, updatedReplicas := 10, availableReplicas := 10, strategy := strat }

/-- a canary as the plane creates it (template patched with the label `canary=yes`), scaled to 2 -/
def canary : Dep :=
  { name := 1, owner := .this, ctrl := .this, canaryOf := some 0,
    template := { rev := 2, labels := [("app", "demo"), ("canary", "yes")], annos := [] }, replicas := some 2,
    paused := false, finalizer := true, otherFinalizer := false, deleting := false, created := 5, generation := 2,
    observedGeneration := 2, statusReplicas := 2, updatedReplicas := 2, availableReplicas := 2, strategy := strat }

/-- a canary of the previous template, newer by creation time, in deletion -/
def stale : Dep := { canary with name := 2, template := tpl 1, created := 7, replicas := some 4, deleting := true }

/-- somebody else's Deployment -/
def foreign : Dep := { canary with name := 3, owner := .other, ctrl := .other, created := 3 }

def w : World := { deps := [canary, stale, foreign, stable] }
def wNoCanary : World := { deps := [foreign, stable] }

def br : BR :=
  { key := 0, batches := [.pct 20, .pct 50, .pct 100], currentBatch := 1, partition := none, rolloutID := false,
    failureThreshold := none, waitResume := false, patch := some ([("canary", "yes")], []) }

def noFault : Cfg := { failAt := none, reads := false, timedOut := false }
def failAt (k : Nat) (reads : Bool) : Cfg := { failAt := some k, reads := reads, timedOut := false }

example : namesNodup w = true ∧ namesNodup wNoCanary = true := by decide
example : matchCount br w = 1 ∧ matchCount br wNoCanary = 0 := by decide
example : selectCanary br w = some canary := by decide

/-- `Finalize` without faults: ok, stable released and un-paused, both owned Deployments lose the finalizer
    (the one in deletion disappears), the foreign one keeps it -/
example : (call br .fin noFault w .none).res = .ok ∧
    (call br .fin noFault w .none).w.deps =
      [{ canary with finalizer := false }, foreign, { stable with ctrl := .none, paused := false, generation := 4 }] := by
  decide

/-- the second finalizer removal fails (write 2 = third write): an error is reported, and it has to be —
    `stale` still carries the finalizer -/
example : (call br .fin (failAt 2 false) w .none).res = .err ∧
    (call br .fin (failAt 2 false) w .none).w.find 2 = some stale ∧
    (call br .fin (failAt 2 false) w .none).w.find 1 = some { canary with finalizer := false } := by
  decide

/-- `UpgradeBatch` for batch 1 (50 % of 10): the selected canary goes from 2 to exactly 5; batch 0 (20 %) leaves it -/
example : (call br .upgrade noFault w .none).res = .ok ∧
    ((call br .upgrade noFault w .none).w.find 1).map (·.replicas) = some (some 5) ∧
    (call { br with currentBatch := 0 } .upgrade noFault w .none).w = w := by
  decide

/-- four `Initialize` calls: the first fails at its first write (the create: `stable` already carries the control-info);
    the second creates the canary and returns the error a create always returns (wait for the informer); the third
    (expectation cleared) and the fourth find it: exactly one canary appears -/
example :
    ((run br wNoCanary .none
        [{ ev := .none, op := .init, cfg := failAt 0 false, currentBatch := 0 },
         { ev := .none, op := .init, cfg := noFault, currentBatch := 0 },
         { ev := .clearExp, op := .init, cfg := noFault, currentBatch := 0 },
         { ev := .none, op := .init, cfg := noFault, currentBatch := 0 }]).map
      (fun o => (o.res, o.w.deps.length, matchCount br o.w))) =
    [(.err, 2, 0), (.err, 3, 1), (.ok, 3, 1), (.ok, 3, 1)] := by
  decide

/-- the hypotheses of `canary_never_above_stable` / `canary_replicas_bounded` on this world (R = B = 10) -/
example : (∃ st, w.find br.key = some st ∧ st.owner ≠ .this ∧ st.replicas = some 10) ∧
    (∀ d ∈ w.deps, d.owner = .this → ∀ r, d.replicas = some r → r ≤ 10) := by
  refine ⟨⟨stable, by decide, by decide, rfl⟩, ?_⟩
  intro d hd ho r hr
  simp only [w, List.mem_cons, List.mem_nil_iff, or_false] at hd
  rcases hd with rfl | rfl | rfl | rfl <;> simp [canary, stale, foreign, stable] at hr ho <;> omega

end Demo

end RV.Props.CtlCanary
