/-
  Deletion of the Rollout, the other labels: `delete` itself leads from the forward invariant (or the deletion
  invariant) into the deletion invariant; a BatchRelease reconcile, workload progress, approval, clock and crash preserve it.
-/
import RV.Lemmas.ClosedLoopStepBr
import RV.Lemmas.ClosedLoopLabels
namespace RV.Lemmas.ClosedLoop
open RV.Arith RV.Traffic RV.RolloutSM RV.ClosedLoop RV.Oracle.ClosedLoop RV.Oracle.Batch

/-- `delInv` moves from `s` to `s'` when gone / `delOK` / phase / Terminating reason agree and the Progressing clauses move -/
theorem delInv_transfer (s s' : CS) (w w' : CWl) (hw' : s'.wl = some w') (hwok : wlOK w' = true)
    (hmono : planMono w'.replicas (planOf s'.ro) = true) (hbr : brOKo s'.br = true)
    (hgone : s'.gone = s.gone) (hdel : delOK s'.ro = delOK s.ro)
    (hph : s'.ro.phase = s.ro.phase) (hterm : s'.ro.term = s.ro.term)
    (hpi : s.ro.phase = .progressing → phaseInv s w = true → phaseInv s' w' = true)
    (h : s.gone = true ∨ (DelroGood s.ro ∧ delro_ph s w = true)) : delInv s' = true := by
  refine (delInv_iff s').2 ⟨w', hw', hwok, hmono, hbr, ?_⟩
  rcases h with h | ⟨h1, h2⟩
  · exact Or.inl (hgone.trans h)
  · refine Or.inr ⟨(delOK_iff _).1 (hdel.trans ((delOK_iff _).2 h1)), (delro_ph_iff s' w').2 ?_⟩
    rcases (delro_ph_iff s w).1 h2 with k | ⟨k1, k2⟩ | ⟨k1, k2⟩
    · exact Or.inl (hph.trans k)
    · exact Or.inr (Or.inl ⟨hph.trans k1, hpi k1 k2⟩)
    · exact Or.inr (Or.inr ⟨hph.trans k1, by rw [hterm]; exact k2⟩)

theorem delete_del (s : CS) (h : fwdInv s = true ∨ delInv s = true) : delInv (delete s) = true := by
  rcases h with h | h
  · obtain ⟨w, hgone, hg, hw, hwok, hmono, hbr, hpi⟩ := fwd_at s h
    have hd : delete s = { s with ro := { s.ro with deleting := true } } := by
      unfold delete
      rw [if_neg (by simp [hgone]), if_pos hg.fin]
    rw [hd]
    refine (delInv_iff _).2 ⟨w, hw, hwok, hmono, hbr, Or.inr
      ⟨⟨rfl, hg.fin, hg.enabled, hg.unpaused, hg.canary, hg.partitionStyle, hg.steps⟩, (delro_ph_iff _ w).2 ?_⟩⟩
    rcases phaseInv_cases s w hpi with hp | ⟨hp, _⟩
    · exact Or.inl hp
    · exact Or.inr (Or.inl ⟨hp, phaseInv_congr s _ w rfl rfl rfl rfl rfl rfl rfl rfl
        (fun sub hs => ⟨sub, hs, SubSame.refl sub⟩) hpi⟩)
  · obtain ⟨w, hw, hwok, hmono, hbr, hrest⟩ := (delInv_iff s).1 h
    have hd : delete s = s := by
      unfold delete
      rcases hrest with hg | ⟨hdel, _⟩
      · rw [if_pos hg]
      · split
        · rfl
        · rw [if_pos hdel.fin]
          have := hdel.deleting
          cases s with | mk gone ro wl br net mem =>
          cases ro
          dsimp only at this
          subst this
          rfl
    rw [hd]; exact h

theorem stepBr_del (s : CS) (h : delInv s = true) : ∃ s', stepBr s = some s' ∧ delInv s' = true := by
  obtain ⟨w, hw, hwok, hmono, hbrok, hrest⟩ := (delInv_iff s).1 h
  cases hb : s.br with
  | none => exact ⟨s, stepBr_none s hb, h⟩
  | some b =>
    rw [hb] at hbrok
    obtain ⟨o, ew, hrec, _, heff, hstep, hwl', hwok', hbrok'⟩ := stepBr_land s w b hw hb hbrok hwok
    exact ⟨_, hstep, delInv_transfer s (landBr s b o) w (landW w ew) hwl' hwok' hmono hbrok' rfl rfl rfl rfl
      (fun _ hpi => phaseInv_landBr s w b o ew hb hrec heff hwok hmono hbrok hpi) hrest⟩

theorem env_del (s : CS) (h : delInv s = true) : delInv { s with wl := s.wl.map envWl } = true := by
  obtain ⟨w, hw, hwok, hmono, hbr, hrest⟩ := (delInv_iff s).1 h
  obtain ⟨e1, e2, e3⟩ := envWl_keeps w hwok
  exact delInv_transfer s _ w (envWl w) (by show s.wl.map envWl = _; rw [hw]; rfl) e1 (by rw [e2]; exact hmono) hbr
    rfl rfl rfl rfl (fun _ hpi => (e3 _).trans hpi) hrest

theorem Idle.del {s s' : CS} (k : Idle s s') (h : delInv s = true) : delInv s' = true := by
  obtain ⟨w, hw, hwok, hmono, hbr, hrest⟩ := (delInv_iff s).1 h
  have hpi := k.phaseInv w
  obtain ⟨⟨sub', age, mem', rfl⟩, _⟩ := k
  exact delInv_transfer s _ w w hw hwok hmono hbr rfl rfl rfl rfl (fun _ => hpi) hrest

theorem approve_del (s : CS) (h : delInv s = true) : delInv (approve s) = true := (approve_idle s).del h

theorem tick_del (s : CS) (h : delInv s = true) : delInv (tick s) = true := (tick_idle s).del h

theorem crash_del (s : CS) (h : delInv s = true) : delInv (crash s) = true := (crash_idle s).del h

end RV.Lemmas.ClosedLoop
