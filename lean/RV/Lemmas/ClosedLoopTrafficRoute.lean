/-
  Label `ro` from a state of the traffic invariant, read once (`tr_ro`: `trRest`, the plan kept, `RouteMove`), and the ghost of
  C03 (`TGhost`: the gate ghost plus the steps whose pods were observed reported ready) over one transition (`route_step`):
  `TGhost.seen` gains a step exactly when the gate ghost's `upgraded` flag is raised for it (`route_seen_new`), never loses one
  while rolling lasts, and a weight is written only in `StepTrafficRouting`, which `gateInv` allows only with the flag raised — so
  `RouteMove` gives `routeOK` (`route_ok_step`).
-/
import RV.Lemmas.ClosedLoopTrafficFin
import RV.Lemmas.ClosedLoopTrafficLabels
import RV.Lemmas.ClosedLoopTrafficRollRoute
import RV.Props.ClosedLoopThms
namespace RV.Lemmas.ClosedLoopTraffic
open RV.Arith RV.Traffic RV.RolloutSM RV.ClosedLoop RV.Oracle.ClosedLoop RV.Oracle.ClosedLoopTraffic RV.Lemmas.ClosedLoop

/-- `seenOK` on a rolling state: the record stays within `1 … cur`, and names `cur` exactly when the flag is set -/
structure SeenOK (seen : List Int) (up : Bool) (cur : Int) : Prop where
  rng : ∀ j ∈ seen, 1 ≤ j ∧ j ≤ cur
  has : up = true → cur ∈ seen
  only : cur ∈ seen → up = true

theorem route_seenOK_some (t : TGhost) (s : CS) (sub : Sub) (h : rollingSub s = some sub) :
    seenOK t s = true ↔ SeenOK t.seen t.g.upgraded sub.curIdx := by
  unfold seenOK
  rw [h]
  dsimp only
  constructor
  · intro k
    simp only [Bool.and_eq_true, List.all_eq_true, decide_eq_true_eq] at k
    obtain ⟨⟨k1, k2⟩, k3⟩ := k
    refine ⟨k1, fun hu => ?_, fun hm => ?_⟩
    · rw [hu] at k2
      exact List.contains_iff_mem.1 (by simpa using k2)
    · have hc : t.seen.contains sub.curIdx = true := List.contains_iff_mem.2 hm
      rw [hc] at k3
      simpa using k3
  · intro k
    simp only [Bool.and_eq_true, List.all_eq_true, decide_eq_true_eq]
    refine ⟨⟨k.rng, ?_⟩, ?_⟩
    · cases hu : t.g.upgraded with
      | false => rfl
      | true =>
        have hc : t.seen.contains sub.curIdx = true := List.contains_iff_mem.2 (k.has hu)
        rw [hc]; rfl
    · cases hc : t.seen.contains sub.curIdx with
      | false => simp
      | true => rw [k.only (List.contains_iff_mem.1 hc)]; rfl

theorem route_seenOK_none (t : TGhost) (s : CS) (h : rollingSub s = none) : seenOK t s = true := by
  unfold seenOK; rw [h]

/-- what `tstep` records on a rolling post-state -/
def routeRec (g' : Ghost) (base : List Int) : List Int :=
  if g'.upgraded && !base.contains g'.idx then g'.idx :: base else base

theorem route_tstep_g (t : TGhost) (s s' : CS) (l : Label) : (tstep t s l s').g = gstep t.g s l s' := by
  unfold tstep
  dsimp only
  split <;> rfl

theorem route_tstep_seen_none (t : TGhost) (s s' : CS) (l : Label) (h : rollingSub s' = none) :
    (tstep t s l s').seen = t.seen := by
  unfold tstep
  dsimp only
  rw [h]

theorem route_tstep_seen_some (t : TGhost) (s s' : CS) (l : Label) (sub' : Sub) (h : rollingSub s' = some sub') :
    (tstep t s l s').seen = routeRec (gstep t.g s l s') (if (rollingSub s).isNone then [] else t.seen) := by
  unfold tstep routeRec
  dsimp only
  rw [h]

theorem routeRec_sup (g' : Ghost) (base : List Int) (j : Int) (h : j ∈ base) : j ∈ routeRec g' base := by
  unfold routeRec
  split
  · exact List.mem_cons_of_mem _ h
  · exact h

theorem routeRec_ok (g' : Ghost) (base : List Int) (cur : Int) (hidx : g'.idx = cur) (h1 : 1 ≤ cur)
    (hr : ∀ j ∈ base, 1 ≤ j ∧ j ≤ cur) (ho : cur ∈ base → g'.upgraded = true) :
    SeenOK (routeRec g' base) g'.upgraded cur := by
  unfold routeRec
  rw [hidx]
  cases hu : g'.upgraded with
  | false =>
    rw [if_neg (by simp)]
    refine ⟨hr, fun k => (by cases k), fun k => ?_⟩
    rw [← hu]; exact ho k
  | true =>
    cases hc : base.contains cur with
    | false =>
      rw [if_pos (by simp)]
      refine ⟨fun j hj => ?_, fun _ => List.mem_cons_self, fun _ => rfl⟩
      rcases List.mem_cons.1 hj with e | e
      · subst e; exact ⟨h1, Int.le_refl _⟩
      · exact hr j e
    | true =>
      rw [if_neg (by simp)]
      exact ⟨hr, fun _ => List.contains_iff_mem.1 hc, fun _ => rfl⟩

theorem route_seen_sup (t : TGhost) (s s' : CS) (l : Label) (hn : rollingSub s = none → rollingSub s' = none)
    (j : Int) (hj : j ∈ t.seen) : j ∈ (tstep t s l s').seen := by
  cases h' : rollingSub s' with
  | none => rw [route_tstep_seen_none t s s' l h']; exact hj
  | some sub' =>
    rw [route_tstep_seen_some t s s' l sub' h']
    apply routeRec_sup
    cases h : rollingSub s with
    | none => rw [hn h] at h'; cases h'
    | some sub => exact hj

theorem route_up_mono (g : Ghost) (s s' : CS) (l : Label) (sub sub' : Sub) (h : rollingSub s = some sub)
    (h' : rollingSub s' = some sub') (he : sub'.curIdx = sub.curIdx) (hu : g.upgraded = true) :
    (gstep g s l s').upgraded = true := by
  by_cases h1 : l = .ro
  · subst h1
    rw [gstep_ro g s s' sub sub' h' h he]
    dsimp only
    rw [hu]; rfl
  · by_cases h2 : l = .approve
    · subst h2
      rw [gstep_approve g s s' sub sub' h' h he]
      exact hu
    · rw [gstep_other g s s' l sub sub' h' h he h1 h2]
      exact hu

/-- a step index enters the record only through a Rollout reconcile that observed that step's pods ready -/
theorem route_seen_new (t : TGhost) (s s' : CS) (l : Label) (hg : gateInv t.g s = true) (hseen : seenOK t s = true)
    (j : Int) (hj : j ∈ (tstep t s l s').seen) (hold : j ∉ t.seen) :
    l = .ro ∧ ∃ sub, rollingSub s = some sub ∧ sub.curIdx = j ∧ preUpgrade sub.state = true ∧ obsUpgraded s sub = true := by
  cases h' : rollingSub s' with
  | none => rw [route_tstep_seen_none t s s' l h'] at hj; exact absurd hj hold
  | some sub' =>
    rw [route_tstep_seen_some t s s' l sub' h'] at hj
    unfold routeRec at hj
    -- a fresh ghost records nothing
    have fresh : gstep t.g s l s' = Ghost.fresh sub'.curIdx → j ∈ (if (rollingSub s).isNone then [] else t.seen) := by
      intro hf
      rw [hf] at hj
      exact hj
    cases hrs : rollingSub s with
    | none =>
      have := fresh (by unfold gstep; rw [h', hrs])
      rw [hrs] at this
      cases this
    | some sub =>
      rw [hrs] at hj fresh
      simp only [Option.isNone_some, Bool.false_eq_true, if_false] at hj fresh
      by_cases he : sub'.curIdx = sub.curIdx
      · have ok := (gateInv_some t.g s sub hrs).1 hg
        have sk := (route_seenOK_some t s sub hrs).1 hseen
        -- the flag was not set before: the index would have been recorded
        have hnu : t.g.idx = j → t.g.upgraded = false := by
          intro hi
          cases hu : t.g.upgraded with
          | false => rfl
          | true => exact absurd (sk.has hu) (by rw [← ok.idx, hi]; exact hold)
        by_cases h1 : l = .ro
        · subst h1
          rw [gstep_ro t.g s s' sub sub' h' hrs he] at hj
          dsimp only at hj
          split at hj
          · rename_i hnew
            rcases List.mem_cons.1 hj with hi | hi
            · rw [hnu hi.symm] at hnew
              simp only [Bool.false_or, Bool.and_eq_true] at hnew
              exact ⟨rfl, sub, rfl, by rw [hi]; exact ok.idx.symm, hnew.1.1, hnew.1.2⟩
            · exact absurd hi hold
          · exact absurd hj hold
        · have hk : (gstep t.g s l s').upgraded = t.g.upgraded ∧ (gstep t.g s l s').idx = t.g.idx := by
            by_cases h2 : l = .approve
            · subst h2
              rw [gstep_approve t.g s s' sub sub' h' hrs he]
              exact ⟨rfl, rfl⟩
            · rw [gstep_other t.g s s' l sub sub' h' hrs he h1 h2]
              exact ⟨rfl, rfl⟩
          rw [hk.1, hk.2] at hj
          split at hj
          · rename_i hnew
            rcases List.mem_cons.1 hj with hi | hi
            · rw [hnu hi.symm] at hnew
              cases hnew
            · exact absurd hi hold
          · exact absurd hj hold
      · exact absurd (fresh (by unfold gstep; rw [h', hrs]; dsimp only; rw [if_pos he])) hold

theorem route_cur_pos (s : CS) (sub : Sub) (h : fwdInv s = true) (hrs : rollingSub s = some sub) : 1 ≤ sub.curIdx := by
  obtain ⟨w, F⟩ := fwd_at s h
  obtain ⟨_, hph, hr, hsub⟩ := (rollingSub_some_iff s sub).1 hrs
  obtain ⟨sub0, hs0, hsg, _⟩ := (phaseInv_rolling_iff s w hph hr).1 F.pi
  cases hsub.symm.trans hs0
  exact hsg.lo

theorem route_other (s s' : CS) (l : Label) (hl : legal s l = true) (hne : l ≠ .ro)
    (hs : step s l = some s') :
    s'.net = s.net ∧ s'.ro.steps = s.ro.steps ∧
    ((rollingSub s = none ∧ rollingSub s' = none) ∨
      ∃ sub sub', rollingSub s = some sub ∧ rollingSub s' = some sub' ∧ sub'.curIdx = sub.curIdx) := by
  have hsame : ∀ x : CS, x.gone = s.gone → x.ro = s.ro →
      ((rollingSub s = none ∧ rollingSub x = none) ∨
        ∃ sub sub', rollingSub s = some sub ∧ rollingSub x = some sub' ∧ sub'.curIdx = sub.curIdx) := by
    intro x h1 h2
    have e := rollingSub_congr s x h1 h2
    cases hrs : rollingSub s with
    | none => exact Or.inl ⟨rfl, by rw [e, hrs]⟩
    | some sub => exact Or.inr ⟨sub, sub, rfl, by rw [e, hrs], rfl⟩
  cases l with
  | ro => exact absurd rfl hne
  | br =>
    obtain ⟨e1, e2, e3, _⟩ := stepBr_frame (show stepBr s = some s' from hs)
    exact ⟨e3, by rw [e2], hsame s' e1 e2⟩
  | env =>
    have hs0 : some { s with wl := s.wl.map envWl } = some s' := hs
    cases hs0
    exact ⟨rfl, rfl, hsame _ rfl rfl⟩
  | release rev =>
    have hs0 : some { s with wl := s.wl.map (releaseWl rev) } = some s' := hs
    cases hs0
    exact ⟨rfl, rfl, hsame _ rfl rfl⟩
  | approve =>
    have hs0 : some (approve s) = some s' := hs
    cases hs0
    obtain ⟨⟨_, _, _, e⟩, _⟩ := approve_idle s
    exact ⟨by rw [e], by rw [e], (approve_idle s).rolling.imp id fun ⟨a, b, k1, k2, k⟩ => ⟨a, b, k1, k2, k.same.curIdx⟩⟩
  | tick =>
    have hs0 : some (tick s) = some s' := hs
    cases hs0
    obtain ⟨⟨_, _, _, e⟩, _⟩ := tick_idle s
    exact ⟨by rw [e], by rw [e], (tick_idle s).rolling.imp id fun ⟨a, b, k1, k2, k⟩ => ⟨a, b, k1, k2, k.same.curIdx⟩⟩
  | crash =>
    have hs0 : some (crash s) = some s' := hs
    cases hs0
    exact ⟨rfl, rfl, hsame _ rfl rfl⟩
  | delete => cases hl

/-- how a transition may move the canary route: withdrawn; left as it is (and rolling does not begin); or written in
    `StepTrafficRouting`, with the weight of the step the rollout is on or created at weight 0 -/
def RouteMove (s s' : CS) : Prop :=
  s'.net.canaryIng = none ∨
  (s'.net.canaryIng = s.net.canaryIng ∧ (rollingSub s = none → rollingSub s' = none)) ∨
  (∃ sub, rollingSub s = some sub ∧ sub.state = .trafficRouting ∧ ∃ wt, weightOf s.ro sub.curIdx = some wt ∧
    (s'.net.canaryIng = some wt ∨ s'.net.canaryIng = some 0))

/-- **label `ro` from a state of the traffic invariant** (`stepRo_open`): the traffic part of the invariant holds again, the plan
    is kept, and the canary route moves by `RouteMove` -/
theorem tr_ro {s s' : CS} {w : CWl} (T : TrAt s w) (hs : stepRo s = some s') :
    trRest s' = true ∧ s'.ro.steps = s.ro.steps ∧ RouteMove s s' := by
  obtain ⟨s0, hstep, R⟩ := stepRo_open T.fwd
  cases Option.some.inj (hstep.symm.trans hs)
  cases R with
  | quiet ro' _ e hk hro =>
    subst e
    refine ⟨quiet_tr T hk hro, hk.1.steps, ?_⟩
    -- the network is not written; where rolling begins it is as the user configured it
    have stay : ro'.phase ≠ .progressing ∨ ro'.reason ≠ .inRolling → RouteMove s { s with gone := false, ro := ro' } :=
      fun h => .inr (.inl ⟨rfl, fun _ => rollingSub_none _ (.inr h)⟩)
    cases hro with
    | same e => exact .inr (.inl ⟨rfl, fun hn => (rollingSub_congr s _ T.fwd.gone.symm e).trans hn⟩)
    | noticed _ _ _ q | waiting _ _ _ q => exact stay (.inr (by rw [q]; decide))
    | idle _ _ p | done _ _ p => exact stay (.inl (by rw [p]; decide))
    | started hph hr =>
      have htp := T.tp
      rw [trPhase_init s w hph hr, Bool.and_eq_true] at htp
      exact .inl ((netClean_iff s.net).1 htp.1).1
  | roll sub _ hph hr hsub hsg hlink _ _ hk hrph hout =>
    have X := tr_round T hph hr hsub hsg hlink hout
    have hrs : rollingSub s = some sub := (rollingSub_some_iff s sub).2 ⟨T.fwd.gone, hph, hr, hsub⟩
    refine ⟨ro_rolling_tr T hph hr hsub hsg hlink hrph X, hk.1.steps, ?_⟩
    rcases ro_rolling_route hsg X with k | k | ⟨k1, wt, k2, k3⟩
    · exact .inr (.inl ⟨k, fun hn => by rw [hrs] at hn; cases hn⟩)
    · exact .inl k
    · exact .inr (.inr ⟨sub, hrs, k1, wt, k2, k3⟩)
  | clean sub _ hph hr hsub hcur hinv c' d hk hrph hout =>
    have P := fin_post T.fwd.good hr hcur hk hrph hout
    refine ⟨ro_finalising_tr T hph hr hsub hinv P, hk.1.steps, ?_⟩
    have hnone : rollingSub s' = none := rollingSub_none _ (.inr (.inr (by rw [P.reason]; cases d <;> decide)))
    rcases ro_finalising_route P with k | k
    · exact .inr (.inl ⟨k, fun _ => hnone⟩)
    · exact .inl k

/-- the record stays sound because the step index does not go back while rolling lasts (`hidx`, from `advanceOK` for `ro`, from
    `route_other` otherwise) -/
theorem route_seen_step (t : TGhost) (s s' : CS) (l : Label) (hf' : fwdInv s' = true)
    (hg' : gateInv (gstep t.g s l s') s' = true) (hseen : seenOK t s = true)
    (hidx : ∀ sub sub', rollingSub s = some sub → rollingSub s' = some sub' → sub.curIdx ≤ sub'.curIdx) :
    seenOK (tstep t s l s') s' = true := by
  cases h' : rollingSub s' with
  | none => exact route_seenOK_none _ _ h'
  | some sub' =>
    rw [route_seenOK_some _ s' sub' h', route_tstep_g, route_tstep_seen_some t s s' l sub' h']
    have ok' := (gateInv_some _ s' sub' h').1 hg'
    have h1 := route_cur_pos s' sub' hf' h'
    cases hrs : rollingSub s with
    | none =>
      exact routeRec_ok _ _ _ ok'.idx h1 (fun j hj => by cases hj) (fun hj => by cases hj)
    | some sub =>
      have ok := (route_seenOK_some t s sub hrs).1 hseen
      have hle := hidx sub sub' hrs h'
      refine routeRec_ok _ _ _ ok'.idx h1 (fun j hj => ?_) (fun hj => ?_)
      · have hj' : j ∈ t.seen := hj
        obtain ⟨a, b⟩ := ok.rng j hj'
        exact ⟨a, by omega⟩
      · have hj' : sub'.curIdx ∈ t.seen := hj
        have he : sub'.curIdx = sub.curIdx := by
          obtain ⟨_, b⟩ := ok.rng _ hj'
          omega
        rw [he] at hj'
        exact route_up_mono t.g s s' l sub sub' hrs h' he (ok.only hj')

theorem routeInv_iff (t : TGhost) (s : CS) :
    routeInv t s = true ↔ gateInv t.g s = true ∧ seenOK t s = true ∧ routeOK t s = true := by
  unfold routeInv
  rw [Bool.and_eq_true, Bool.and_eq_true, and_assoc]

theorem routeOK_of (t : TGhost) (s : CS)
    (h : ∀ wt, s.net.canaryIng = some wt → wt = 0 ∨ ∃ j ∈ t.seen, weightOf s.ro j = some wt) : routeOK t s = true := by
  unfold routeOK
  cases hi : s.net.canaryIng with
  | none => simp
  | some wt =>
    rcases h wt hi with h0 | ⟨j, hj, hw⟩
    · simp [h0]
    · have : t.seen.any (fun j => weightOf s.ro j == some wt) = true :=
        List.any_eq_true.2 ⟨j, hj, by rw [hw]; exact beq_self_eq_true _⟩
      simp [this]

theorem routeOK_weight (t : TGhost) (s : CS) (hgone : s.gone = false) (h : routeOK t s = true) (wt : Nat)
    (hi : s.net.canaryIng = some wt) : wt = 0 ∨ ∃ j ∈ t.seen, weightOf s.ro j = some wt := by
  unfold routeOK at h
  rw [hgone, hi] at h
  simpa only [Bool.false_or, Bool.or_eq_true, beq_iff_eq, List.any_eq_true] using h

theorem route_ok_step (t : TGhost) (s s' : CS) (l : Label) (hgone : s.gone = false) (hroute : routeOK t s = true)
    (hg : gateInv t.g s = true) (hseen : seenOK t s = true) (hsteps : s'.ro.steps = s.ro.steps)
    (hcase : RouteMove s s') :
    routeOK (tstep t s l s') s' = true := by
  refine routeOK_of _ _ fun wt hw => ?_
  rcases hcase with k | ⟨k, hn⟩ | ⟨sub, hrs, hst, wt', hwt, k | k⟩
  · rw [k] at hw; cases hw
  · -- the route is as it was: its weight was recorded, and the record only grows
    obtain h0 | ⟨j, hj, hjw⟩ := routeOK_weight t s hgone hroute wt (k ▸ hw)
    · exact .inl h0
    · exact .inr ⟨j, route_seen_sup t s s' l hn j hj, by rw [weightOf_steps s.ro s'.ro j hsteps]; exact hjw⟩
  · -- written in `StepTrafficRouting`: the step's pods were observed ready, so the step is recorded
    cases k.symm.trans hw
    have ok := (gateInv_some t.g s sub hrs).1 hg
    have sk := (route_seenOK_some t s sub hrs).1 hseen
    exact .inr ⟨sub.curIdx, route_seen_sup t s s' l (fun hn => by rw [hrs] at hn; cases hn) _ (sk.has (ok.up (by rw [hst]; decide))),
      by rw [weightOf_steps s.ro s'.ro _ hsteps]; exact hwt⟩
  · cases k.symm.trans hw
    exact .inl rfl

theorem route_step (t : TGhost) (s s' : CS) (l : Label) (hinv : trInv s = true) (hr : routeInv t s = true)
    (hl : legal s l = true) (hs : step s l = some s') : routeInv (tstep t s l s') s' = true := by
  obtain ⟨w, T⟩ := tr_at s hinv
  have hf := ((trInv_iff s).1 hinv).1
  have hgone := T.fwd.gone
  obtain ⟨_, hs'', hf'⟩ := RV.Props.ClosedLoop.fwd_step s l hf hl
  cases hs.symm.trans hs''
  obtain ⟨hg, hseen, hroute⟩ := (routeInv_iff t s).1 hr
  rw [routeInv_iff]
  obtain ⟨hg', hadv⟩ := gate_step t.g s s' l hf hg hl hs
  by_cases hro : l = .ro
  · subst hro
    obtain ⟨_, hsteps, hcase⟩ := tr_ro T hs
    refine ⟨by rw [route_tstep_g]; exact hg', ?_, route_ok_step t s s' .ro hgone hroute hg hseen hsteps hcase⟩
    refine route_seen_step t s s' .ro hf' hg' hseen (fun sub sub' h h' => ?_)
    unfold advanceOK at hadv
    rw [h, h'] at hadv
    dsimp only at hadv
    by_cases he : sub'.curIdx = sub.curIdx
    · omega
    · rw [if_pos ⟨he, rfl⟩] at hadv
      simp only [Bool.and_eq_true, decide_eq_true_eq] at hadv
      omega
  · obtain ⟨hnet, hsteps, hrel⟩ := route_other s s' l hl hro hs
    refine ⟨by rw [route_tstep_g]; exact hg', ?_, ?_⟩
    · refine route_seen_step t s s' l hf' hg' hseen (fun sub sub' h h' => ?_)
      rcases hrel with ⟨k, _⟩ | ⟨a, b, k1, k2, k3⟩
      · rw [h] at k; cases k
      · rw [h] at k1; rw [h'] at k2
        cases k1; cases k2
        omega
    · refine route_ok_step t s s' l hgone hroute hg hseen hsteps (Or.inr (Or.inl ⟨by rw [hnet], fun hn => ?_⟩))
      rcases hrel with ⟨_, k⟩ | ⟨a, _, k1, _, _⟩
      · exact k
      · rw [hn] at k1; cases k1

end RV.Lemmas.ClosedLoopTraffic
