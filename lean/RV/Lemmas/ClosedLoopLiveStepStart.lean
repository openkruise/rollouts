/-
  Progress of the closed loop, round-boundary classes 5, 6, 7 (the start of a step: `BeforeStepUpgrade` moves on to
  `StepUpgrade`, which creates the BatchRelease or rewrites its plan for the next batch): one fair round from a state of the
  class ends in the next class.
-/
import RV.Lemmas.ClosedLoopLiveRoRolling
import RV.Lemmas.ClosedLoopLiveExec
namespace RV.Lemmas.ClosedLoop
open RV.Arith RV.Traffic RV.RolloutSM RV.ClosedLoop RV.Oracle.ClosedLoop

/-- the sub-status `BeforeStepUpgrade` leaves on a step without traffic routing -/
def initDoneSub (sub : Sub) (w : CWl) : Sub :=
  { fillSub (obsSub sub (roWl w)) (roWl w).podTemplateHash with state := .upgrade }

theorem stepRo_init (s : CS) (w : CWl) (sub : Sub) (F : LiveFacts s w) (hroll : Rolling s sub) (hst : sub.state = .init)
    (hsync : ∀ b, s.br = some b → b.rolloutID = w.updateRevision) :
    stepRo s = some (mid s { s.ro with sub := some (initDoneSub sub w) } w s.br) := by
  obtain ⟨step, hstep, hwt⟩ := F.step_exists (F.roll hroll).1
  exact stepRo_rolling_status s w sub step F hroll (by rw [hst]; decide) hstep hwt hsync _
    (finish_init _ step _ hst F.good.canary hwt) rfl rfl rfl rfl

/-- class 5 (`BeforeStepUpgrade` of a step without traffic routing): the rollout enters `StepUpgrade`; successor class 6 on the
    first step (no BatchRelease yet), class 7 on a later one (the BatchRelease still carries the previous step) -/
theorem step_cls_5 (s : CS) (w : CWl) (I : Inv s w 5) : LandsIn s 6 ∨ LandsIn s 7 := by
  have F := I.facts (by decide)
  rcases I.spec with ⟨sub, hroll, hst, hnone, hk1, hk2⟩ | ⟨sub, b, hroll, hst, hb, R⟩
  · have hro := stepRo_init s w sub F hroll hst (by intro b hb; rw [hnone] at hb; cases hb)
    rw [hnone] at hro
    exact Or.inl (round_lands_step 6 I F hro (stepBr_none _ rfl) ⟨rfl, rfl, rfl, rfl, rfl⟩
      F.env ⟨_, ⟨hroll.ph, hroll.re, rfl⟩, rfl, rfl, hk1, hk2⟩ hroll.sub ⟨_, rfl, rfl⟩ (by decide) (fun _ hb => by cases hb))
  · have hro := stepRo_init s w sub F hroll hst
      (by intro b' hb'; rw [hb] at hb'; cases hb'; exact ((brSync_iff b w).1 R.sync).2.rid)
    rw [hb] at hro
    exact Or.inr (round_lands_step 7 I F hro (stepBr_ready w w b rfl R.finReady (F.brOK hb) F.rpos F.cons)
      ⟨rfl, rfl, rfl, rfl, rfl⟩ F.env ⟨_, _, ⟨hroll.ph, hroll.re, rfl⟩, rfl, rfl, R.stOf⟩ hroll.sub ⟨_, rfl, rfl⟩ (by decide)
      (fun b' hb' => by cases hb'; exact (I.policy hb (by decide) (by decide) : b.policy = "")))

/-- the BatchRelease `createBatchRelease` leaves for step `p + 1`: `createdBr (desiredBR ro id p false)` with `plan` the plan of `ro` -/
def createdCb (plan : List IntOrPct) (p : Int) (id : String) : CBr :=
  { batches := plan, partition := some p, rolloutID := id, policy := "", rollbackAnno := false, specOther := true,
    failureThreshold := none, deleting := false, hasFinalizer := false, generation := 1, observedGeneration := 0,
    observedRolloutID := "", st := emptyStatus }

/-- the status the executor's first reconcile persists -/
def preparingSt (u ur : Int) : Executor.Status :=
  { phase := .preparing, currentBatch := 0, batchState := .empty, hasReadyTime := false, hash := .same, rolloutIDSame := true,
    observedReplicas := -1, updateRevision := "", stableRevision := "", noNeedUpdate := none, updated := u, updatedReady := ur }

/-- the created BatchRelease after the executor's first reconcile -/
def preparingBr (plan : List IntOrPct) (p : Int) (id : String) (u ur : Int) : CBr :=
  landSt (createdCb plan p id) (preparingSt u ur)

/-- the workload after a BatchRelease was created: a control annotation left by an earlier one is foreign -/
def disownedWl (w : CWl) : CWl := { w with owner := if w.owner = .this then .other else w.owner }

theorem disownedWl_eq (w : CWl) : (if w.owner = .this then { w with owner := .other } else w) = disownedWl w := by
  unfold disownedWl
  split
  · rfl
  · cases w; rfl

/-- the executor's first reconcile of a created BatchRelease stops after the sync step: the empty status is initialised
    (`Preparing`, batch 0, nothing observed) and refreshed with the workload's counters, which differs from the persisted one -/
theorem exec_created (plan : List IntOrPct) (p : Int) (id : String) (ew : Executor.Workload) (hid : id ≠ "")
    (hgen : ew.observedGeneration = ew.generation) :
    Executor.reconcile (exBr (createdCb plan p id)) (some ew) =
      .val { br := some { Executor.withFinalizer (exBr (createdCb plan p id)) with status := preparingSt ew.updated ew.updatedReady },
             wl := some ew, requeue := true, err := false } := by
  apply exec_stopped_of_ne _ _ _ rfl
  · have hinfo : Executor.syncInfo (Executor.withFinalizer (exBr (createdCb plan p id)))
        (Executor.initializedStatus (exBr (createdCb plan p id)).status) (some ew) = (.normal, some ew) :=
      RV.Executor.syncInfo_normal _ _ _ rfl (Int.le_of_eq hgen.symm) (Or.inr ⟨Or.inl rfl, Or.inl rfl⟩)
    have hdec : Executor.syncDecide (Executor.withFinalizer (exBr (createdCb plan p id)))
        (Executor.initializedStatus (exBr (createdCb plan p id)).status) .normal (some ew) =
        (Executor.initializedStatus (exBr (createdCb plan p id)).status, false) := by
      apply RV.Executor.syncDecide_normal
      · show Executor.Phase.empty ≠ .completed
        decide
      · rfl
      · simp [Executor.isPlanChanged, Executor.withFinalizer, exBr, stOf, createdCb, emptyStatus]
      · simp [Executor.isPlanUnhealthy, Executor.withFinalizer, exBr, stOf, createdCb, emptyStatus]
      · rfl
    rw [Executor.syncStatus_eq (Executor.withFinalizer (exBr (createdCb plan p id)))
      (Executor.initializedStatus (exBr (createdCb plan p id)).status) (some ew)
      (Executor.initializedStatus (exBr (createdCb plan p id)).status, false) (by rw [hinfo]; exact hdec), hinfo]
    -- `preparingSt` is the reset status with the counters of the workload
    simp [Executor.refreshStatus, Executor.initializedStatus, Executor.resetStatus, exBr, stOf, createdCb, emptyStatus, preparingSt, hid]
  · intro hx
    have := congrArg Executor.Status.phase hx
    simp [preparingSt, createdCb, exBr, stOf, emptyStatus] at this

theorem stepRo_create (s : CS) (w : CWl) (sub : Sub) (F : LiveFacts s w)
    (hroll : Rolling s sub) (hst : sub.state = .upgrade)
    (hnone : s.br = none) :
    stepRo s = some (mid s { s.ro with sub := some (fillSub (obsSub sub (roWl w)) (roWl w).podTemplateHash) } (disownedWl w)
      (some (createdCb (planOf s.ro) (sub.curIdx - 1) w.updateRevision))) := by
  obtain ⟨step, hstep, hwt⟩ := F.step_exists (F.roll hroll).1
  have hnr := noRollback w F.wok
  have hid : getRolloutID (roWl w) = w.updateRevision := by unfold getRolloutID; rw [hnr]; rfl
  rw [stepRo_rolling s w sub step F hroll (by rw [hst]; decide) hstep hwt (by intro b hb; rw [hnone] at hb; cases hb) _
    (finish_create _ step _ hst (by show s.br.map roBr = none; rw [hnone]; rfl))]
  unfold landRo
  dsimp only [ofCtx, ctxOf, fillCtx, toCtx]
  rw [hnone, F.wl, hid, hnr]
  have han : annoLand (some w) (some (roWl w)) = some w := annoLand_id (some w)
  rw [han]
  simp only [landBR, Option.map_some]
  rw [disownedWl_eq]
  rfl

theorem stepBr_created (s : CS) (ro : Rollout) (w' : CWl) (plan : List IntOrPct) (p : Int) (id : String) (hid : id ≠ "")
    (hgen : w'.observedGeneration = w'.generation) :
    stepBr (mid s ro w' (some (createdCb plan p id))) =
      some (mid s ro w' (some (preparingBr plan p id w'.updated w'.updatedReady))) := by
  exact stepBr_status _ _ w' _ _ _ rfl rfl (exec_created plan p id (exWl w') hid hgen)

/-- class 6 (`StepUpgrade` of the first step, no BatchRelease): the Rollout controller creates it, the executor's first
    reconcile starts `Preparing`; successor class 8 -/
theorem step_cls_6 (s : CS) (w : CWl) (I : Inv s w 6) : LandsIn s 8 := by
  obtain ⟨sub, hroll, hst, hnone, hk, hx⟩ := I.spec
  have F := I.facts (by decide)
  have hro := stepRo_create s w sub F hroll hst hnone
  have hbr := stepBr_created s { s.ro with sub := some (fillSub (obsSub sub (roWl w)) (roWl w).podTemplateHash) } (disownedWl w)
    (planOf s.ro) (sub.curIdx - 1) w.updateRevision F.rev (F.cons).symm
  have he : envWl (disownedWl w) = disownedWl w := by rw [disownedWl, envWl_owner, F.env]
  refine round_lands_step 8 I F hro hbr ⟨rfl, rfl, rfl, rfl, rfl⟩ he ?_ hroll.sub ⟨_, rfl, rfl⟩ (by decide)
    (fun b' hb' => by cases hb'; rfl)
  -- the executor stopped and persisted: its counters are the workload's, generation and rollout-id are observed
  exact ⟨_, _, ⟨⟨hroll.ph, hroll.re, rfl⟩, tailSub_state hst (by decide), rfl, rfl⟩, by simp [brSync, preparingBr, landSt, createdCb, preparingSt, disownedWl], rfl, rfl, rfl, rfl, rfl, hk, hx⟩

/-- the status `signalRecalculate` leaves, refreshed with the workload's counters: on batch `p`, `Upgrading`, the plan hash
    observed again -/
def recalcSt (st : Executor.Status) (p u ur : Int) : Executor.Status :=
  { st with hasReadyTime := false, currentBatch := p, batchState := .upgrading, hash := .same, rolloutIDSame := true,
            updated := u, updatedReady := ur }

theorem exec_replanned (b' : CBr) (ew : Executor.Workload) (p : Int)
    (hd : b'.deleting = false) (hph : b'.st.phase = .progressing) (hpart : b'.partition = some p) (hh : b'.st.hash = .differs)
    (hid : b'.observedRolloutID = b'.rolloutID) (hp : p < b'.batches.length)
    (hgen : ew.observedGeneration = ew.generation) (hrep : b'.st.observedReplicas = ew.replicas)
    (hrev : b'.st.updateRevision = ew.updateRevision) :
    Executor.reconcile (exBr b') (some ew) =
      .val { br := some { Executor.withFinalizer (exBr b') with status := recalcSt b'.st p ew.updated ew.updatedReady },
             wl := some ew, requeue := true, err := false } := by
  have hphase : (exBr b').status.phase = .progressing := hph
  apply exec_stopped_of_ne _ _ _ hd
  · rw [RV.Executor.initialized_id _ (by rw [hphase]; decide)]
    have hinfo : Executor.syncInfo (Executor.withFinalizer (exBr b')) (exBr b').status (some ew) = (.normal, some ew) :=
      RV.Executor.syncInfo_normal _ _ _ hd (Int.le_of_eq hgen.symm) (Or.inr ⟨Or.inr hrep.symm, Or.inr hrev.symm⟩)
    have hdec : Executor.syncDecide (Executor.withFinalizer (exBr b')) (exBr b').status .normal (some ew) =
        (Executor.signalRecalculate (Executor.withFinalizer (exBr b')) (exBr b').status, false) := by
      apply Executor.syncDecide_changed
      · show (exBr b').status.phase ≠ .completed
        rw [hphase]; decide
      · simp [Executor.isPlanFinalizing, Executor.withFinalizer, exBr, stOf, hd, hph, hpart]
      · simp [Executor.isPlanChanged, Executor.withFinalizer, exBr, stOf, hh, hph]
    rw [Executor.syncStatus_eq (Executor.withFinalizer (exBr b')) (exBr b').status (some ew)
      (Executor.signalRecalculate (Executor.withFinalizer (exBr b')) (exBr b').status, false) (by rw [hinfo]; exact hdec), hinfo]
    -- `signalRecalculate` moves to the batch of the partition (inside the plan), back to `Upgrading`, the plan hash observed again
    have hmin : min p ((b'.batches.length : Int) - 1) = p := by omega
    simp [Executor.refreshStatus, Executor.signalRecalculate, Executor.withFinalizer, exBr, stOf, recalcSt, hpart, hid, hmin]
  · intro hx
    have := congrArg Executor.Status.hash hx
    simp [recalcSt, exBr, stOf, hh] at this

/-- the BatchRelease after the Rollout controller rewrote its plan for the next step -/
def replannedBr (b : CBr) (plan : List IntOrPct) (p : Int) (id : String) : CBr :=
  { b with batches := plan, partition := some p, rolloutID := id, policy := "", specOther := true, failureThreshold := none,
           generation := b.generation + 1, st := { b.st with hash := .differs }, rollbackAnno := false }

theorem updatedBr_replan (b : CBr) (nb : BR) (plan : List IntOrPct) (p : Int) (id : String) (h1 : nb.batches = plan)
    (h2 : nb.partition = some p) (h3 : nb.rolloutID = id) (h4 : nb.policy = "") (h5 : nb.rollbackAnno = false)
    (h6 : nb.specOther = true) (h7 : nb.deleting = b.deleting) (hpne : b.partition ≠ some p) (hhash : b.st.hash = .same) :
    updatedBr b nb = some (replannedBr b plan p id) := by
  have hch : specChanged b nb = true := by
    unfold specChanged
    simp [h2, hpne]
  rw [updatedBr_eq, if_neg (by rw [h7]; simp)]
  unfold upd2
  rw [if_pos hch]
  simp [replannedBr, h1, h2, h3, h4, h5, h6, hhash]

theorem stepRo_replan (s : CS) (w : CWl) (sub : Sub) (b : CBr) (F : LiveFacts s w)
    (hroll : Rolling s sub) (hst : sub.state = .upgrade)
    (hb : s.br = some b) (hpart : b.partition = some (sub.curIdx - 2)) (hid : b.rolloutID = w.updateRevision)
    (hhash : b.st.hash = .same) :
    stepRo s = some (mid s { s.ro with sub := some (fillSub (obsSub sub (roWl w)) (roWl w).podTemplateHash) } w
      (some (replannedBr b (planOf s.ro) (sub.curIdx - 1) w.updateRevision))) := by
  obtain ⟨step, hstep, hwt⟩ := F.step_exists (F.roll hroll).1
  have hnr := noRollback w F.wok
  have hgid : getRolloutID (roWl w) = w.updateRevision := by unfold getRolloutID; rw [hnr]; rfl
  have hne : brSpecEq (roBr b) (desiredBR { s.ro with sub := some (obsSub sub (roWl w)) } (getRolloutID (roWl w))
      (sub.curIdx - 1) (roWl w).inRollback) = false := by
    have : ¬ (sub.curIdx - 2 = sub.curIdx - 1) := by omega
    simp [brSpecEq, desiredBR, roBr, hpart, this]
  rw [stepRo_rolling s w sub step F hroll (by rw [hst]; decide) hstep hwt
    (by intro b' hb'; rw [hb] at hb'; cases hb'; exact hid) _
    (finish_update _ step _ (roBr b) hst (by show s.br.map roBr = some (roBr b); rw [hb]; rfl) hne)]
  unfold landRo
  dsimp only [ofCtx, ctxOf, fillCtx, toCtx]
  rw [hb, F.wl, hgid, hnr]
  have han : annoLand (some w) (some (roWl w)) = some w := annoLand_id (some w)
  rw [han]
  simp only [landBR]
  rw [updatedBr_replan b _ (planOf s.ro) (sub.curIdx - 1) w.updateRevision rfl rfl rfl rfl rfl rfl rfl
    (by rw [hpart]; intro hx; have := Option.some.inj hx; omega) hhash]
  rfl

/-- the BatchRelease after the executor acknowledged the new plan -/
def recalcBr (b : CBr) (plan : List IntOrPct) (p : Int) (id : String) (u ur : Int) : CBr :=
  landSt (replannedBr b plan p id) (recalcSt (replannedBr b plan p id).st p u ur)

theorem stepBr_replanned (s : CS) (ro : Rollout) (w : CWl) (b : CBr) (plan : List IntOrPct) (p : Int) (id : String)
    (hd : b.deleting = false) (hph : b.st.phase = .progressing) (hoid : b.observedRolloutID = id) (hp : p < plan.length)
    (hgen : w.observedGeneration = w.generation) (hrep : b.st.observedReplicas = w.replicas)
    (hrev : b.st.updateRevision = "wl-" ++ w.updateRevision) :
    stepBr (mid s ro w (some (replannedBr b plan p id))) =
      some (mid s ro w (some (recalcBr b plan p id w.updated w.updatedReady))) := by
  exact stepBr_status _ _ w _ _ _ rfl rfl (exec_replanned (replannedBr b plan p id) (exWl w) p hd hph rfl rfl hoid hp hgen hrep hrev)

/-- class 7 (`StepUpgrade` of a later step, the BatchRelease still on the previous one): the Rollout controller rewrites its
    plan, the executor recalculates; successor class 9 -/
theorem step_cls_7 (s : CS) (w : CWl) (I : Inv s w 7) : LandsIn s 9 := by
  obtain ⟨sub, b, hroll, hst, hb, ⟨c1, c2, c3, c4, hpart', c6, c7⟩⟩ := I.spec
  have F := I.facts (by decide)
  obtain ⟨⟨s1, s2⟩, ⟨s3, s4, s5, s6, s7, s8, s9, s10⟩⟩ := (brSync_iff b w).1 c1
  obtain ⟨i1, i2, i3, i4⟩ := (brInit_iff b w).1 c2
  have hhi := (F.roll hroll).1.hi
  have hlo := (F.roll hroll).1.lo
  have hro := stepRo_replan s w sub b F hroll hst hb hpart' s7 s10
  have hbr := stepBr_replanned s { s.ro with sub := some (fillSub (obsSub sub (roWl w)) (roWl w).podTemplateHash) } w b (planOf s.ro)
    (sub.curIdx - 1) w.updateRevision s5 i4 (s6.trans s7) (by rw [planOf_length]; omega) (F.cons).symm i2 i1
  refine round_lands_step 9 I F hro hbr ⟨rfl, rfl, rfl, rfl, rfl⟩ F.env ?_ hroll.sub ⟨_, rfl, rfl⟩ (by decide)
    (fun b' hb' => by cases hb'; rfl)
  -- as in class 6; what `brInit` reads (recorded revision and size, phase) the recalculation leaves alone
  exact ⟨_, _, ⟨⟨hroll.ph, hroll.re, rfl⟩, tailSub_state hst (by decide), rfl, rfl⟩, by simp [brSync, recalcBr, landSt, replannedBr, recalcSt, s5],
    by simp [brInit, recalcBr, landSt, replannedBr, recalcSt, i1, i2, i3, i4], rfl, Or.inr rfl⟩

end RV.Lemmas.ClosedLoop
