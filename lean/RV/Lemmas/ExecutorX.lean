import RV.Oracle.ExecutorX
import RV.Lemmas.Executor
/-! The plane-parametric executor (`RV.ExecutorX`): what one reconcile over a plane does, as three relations whose constructors are
    the leaves of the reconciler's decision tree — `ProgX` (`progressBatches`), `ExecX` (`executeBatchReleasePlan`), `RecX`
    (`Reconcile`) — each leaf with its guard, the plane call it made and everything it returns.  The relations hold of the model's
    result (`progX_spec`, `executeX_spec`, `reconcileX_spec`), so a hypothesis `reconcileX P br w = r` is taken apart by
    `cases reconcileX_rec h`.  The leaves are exclusive (`ProgX.eq`, `ExecX.eq`: a leaf that applies is the function's result).
    What the proofs read off the relations most often is stated once (`ExecX.prog`, `ProgX.frame`, `ExecX.cursor`,
    `reconcileX_world`).  A plane shows `InitFrame` by showing which fields its `Initialize` records (`Records`,
    `InitFrame.of_records`).  At the end, `execute` and `execProgressing` of `RV.Executor` as the instances for `csPlane`. -/
namespace RV.ExecutorX
open RV.Arith RV.BatchCtx RV.Executor RV.Oracle.ExecutorX

variable {W : Type}

/-- `Initialize` leaves the executor's own status fields alone: it records revisions, replicas and the no-need-update
    count only (what every plane's `Initialize` writes into `newStatus`) -/
def InitFrame (P : Plane W) : Prop :=
  ∀ br ns w w' ns' r, P.init br ns w = .val (w', ns', r) →
    ns'.phase = ns.phase ∧ ns'.currentBatch = ns.currentBatch ∧ ns'.batchState = ns.batchState ∧
    ns'.hasReadyTime = ns.hasReadyTime ∧ ns'.hash = ns.hash

/-- what a plane's `Initialize` writes into the new status, if anything: the two revisions, the observed replicas and the
    no-need-update count (`newStatus.StableRevision`, `.UpdateRevision`, `.ObservedWorkloadReplicas`, `.CanaryStatus.NoNeedUpdateReplicas`) -/
inductive Records (ns : Status) : Status → Prop
  | mk (sr ur : String) (orp : Int) (nn : Option Int) :
      Records ns { ns with stableRevision := sr, updateRevision := ur, observedReplicas := orp, noNeedUpdate := nn }

theorem InitFrame.of_records {P : Plane W}
    (h : ∀ br ns w w' ns' r, P.init br ns w = .val (w', ns', r) → Records ns ns') : InitFrame P := by
  intro br ns w w' ns' r hi
  cases h br ns w w' ns' r hi
  exact ⟨rfl, rfl, rfl, rfl, rfl⟩

/-- The leaves of `progressBatches` on a status `m` whose batch state is normalised (`m = normState ns`): in `Upgrading` the
    call of `UpgradeBatch` (crash / nil / error), in `Verifying` and `Ready` the call of `EnsureBatchPodsReadyAndLabeled`; a `Ready`
    batch whose pods are there moves on (`moveToNextBatch`) unless the batch partition holds it (`isPartitioned`). -/
inductive ProgX (P : Plane W) (br : BR) (m : Status) (w : W) : ExecOutX W → Prop
  | upgradePanic : m.batchState = .upgrading → P.upgrade br m w = .panic → ProgX P br m w .panic
  | upgraded {w'} : m.batchState = .upgrading → P.upgrade br m w = .val (w', .ok) →
      ProgX P br m w (.val ({ m with batchState := .verifying }, w', true, false))
  | upgradeErr {w'} : m.batchState = .upgrading → P.upgrade br m w = .val (w', .err) → ProgX P br m w (.val (m, w', false, true))
  | ensurePanic : m.batchState = .verifying ∨ m.batchState = .ready → P.ensure br m w = .panic → ProgX P br m w .panic
  | verified : m.batchState = .verifying → P.ensure br m w = .val .ok →
      ProgX P br m w (.val ({ m with batchState := .ready, hasReadyTime := true }, w, true, false))
  | unverified : m.batchState = .verifying → P.ensure br m w = .val .err →
      ProgX P br m w (.val ({ m with batchState := .upgrading }, w, false, true))
  | unready : m.batchState = .ready → P.ensure br m w = .val .err →
      ProgX P br m w (.val ({ m with batchState := .upgrading, hasReadyTime := false }, w, false, true))
  | advance : m.batchState = .ready → P.ensure br m w = .val .ok → isPartitioned br = false →
      ProgX P br m w (.val (moveToNextBatch br m, w, true, false))
  | wait : m.batchState = .ready → P.ensure br m w = .val .ok → isPartitioned br = true → ProgX P br m w (.val (m, w, false, false))

/-- The leaves of `executeBatchReleasePlan`: `Preparing` (also an unknown phase: `normPhase`) calls `Initialize`, `Progressing` is
    `progressBatches`, `Finalizing` calls `Finalize`, `Completed` does nothing. -/
inductive ExecX (P : Plane W) (br : BR) (ns : Status) (w : W) : ExecOutX W → Prop
  | initPanic : (normPhase ns).phase = .preparing → P.init br (normPhase ns) w = .panic → ExecX P br ns w .panic
  | initialized {w' ns1} : (normPhase ns).phase = .preparing → P.init br (normPhase ns) w = .val (w', ns1, .ok) →
      ExecX P br ns w (.val ({ ns1 with phase := .progressing }, w', true, false))
  | initErr {w' ns1} : (normPhase ns).phase = .preparing → P.init br (normPhase ns) w = .val (w', ns1, .err) →
      ExecX P br ns w (.val (ns1, w', false, true))
  | progressing {r} : ns.phase = .progressing → ProgX P br (normState ns) w r → ExecX P br ns w r
  | finPanic : ns.phase = .finalizing → P.fin br w = .panic → ExecX P br ns w .panic
  | finalized {w'} : ns.phase = .finalizing → P.fin br w = .val (w', .ok) →
      ExecX P br ns w (.val ({ ns with phase := .completed }, w', false, false))
  | finErr {w'} : ns.phase = .finalizing → P.fin br w = .val (w', .err) → ExecX P br ns w (.val (ns, w', false, true))
  | idle : ns.phase = .completed → ExecX P br ns w (.val (ns, w, false, false))

/-- `handleFinalizer` lets the object go: it is being deleted, `Completed`, and still carries the finalizer -/
abbrev Goes (br : BR) : Prop := br.deleting = true ∧ br.status.phase = .completed ∧ br.hasFinalizer = true

/-- The leaves of `Reconcile`: `handleFinalizer` lets the object go (in every other leaf its guard fails);
    `syncStatusBeforeExecuting` crashes in `SyncWorkloadInformation`, or stops the round (its decision says so, or the status it
    computed differs from the persisted one: that status is persisted and nothing is executed), or lets
    `executeBatchReleasePlan` run on the persisted status. -/
inductive RecX (P : Plane W) (br : BR) (w : W) : Out (StepOutX W) → Prop
  | gone : br.deleting = true → br.status.phase = .completed → br.hasFinalizer = true →
      RecX P br w (.val { br := none, wl := w, requeue := false, err := false })
  | syncPanic : P.syncInfo (withFinalizer br) (initializedStatus br.status) w = .panic →
      ¬ Goes br → RecX P br w .panic
  | stopped {ev info} (st : Status) : stoppedX P br w = true →
      P.syncInfo (withFinalizer br) (initializedStatus br.status) w = .val (ev, info) →
      st = refreshStatus (syncDecide (withFinalizer br) (initializedStatus br.status) ev info).1 info →
      (syncDecide (withFinalizer br) (initializedStatus br.status) ev info).2 = true ∨ st ≠ br.status →
      ¬ Goes br →
      RecX P br w (.val { br := some { withFinalizer br with status := st }, wl := w, requeue := decide (st ≠ br.status), err := false })
  | execPanic {ev info} : stoppedX P br w = false →
      P.syncInfo (withFinalizer br) (initializedStatus br.status) w = .val (ev, info) →
      (syncDecide (withFinalizer br) (initializedStatus br.status) ev info).2 = false →
      refreshStatus (syncDecide (withFinalizer br) (initializedStatus br.status) ev info).1 info = br.status →
      ExecX P (withFinalizer br) br.status w .panic →
      ¬ Goes br → RecX P br w .panic
  | executed {ev info ns' w' rq er} : stoppedX P br w = false →
      P.syncInfo (withFinalizer br) (initializedStatus br.status) w = .val (ev, info) →
      (syncDecide (withFinalizer br) (initializedStatus br.status) ev info).2 = false →
      refreshStatus (syncDecide (withFinalizer br) (initializedStatus br.status) ev info).1 info = br.status →
      ExecX P (withFinalizer br) br.status w (.val (ns', w', rq, er)) →
      ¬ Goes br →
      RecX P br w (.val { br := some { withFinalizer br with status := ns' }, wl := w', requeue := rq, err := er })

theorem progX_spec (P : Plane W) (br : BR) (ns : Status) (w : W) : ProgX P br (normState ns) w (execProgressingX P br ns w) := by
  unfold execProgressingX
  dsimp only
  have hm := normState_batchState ns
  generalize normState ns = m at hm ⊢
  rcases hm with hm | hm | hm <;> rw [hm] <;> dsimp only
  · cases hu : P.upgrade br m w with
    | panic => exact .upgradePanic hm hu
    | val r =>
      obtain ⟨w', _ | _⟩ := r
      · exact .upgraded hm hu
      · exact .upgradeErr hm hu
  · cases he : P.ensure br m w with
    | panic => exact .ensurePanic (.inl hm) he
    | val r =>
      cases r
      · exact .verified hm he
      · exact .unverified hm he
  · cases he : P.ensure br m w with
    | panic => exact .ensurePanic (.inr hm) he
    | val r =>
      cases r
      · dsimp only
        cases hp : isPartitioned br
        · exact .advance hm he hp
        · exact .wait hm he hp
      · exact .unready hm he

theorem executeX_spec (P : Plane W) (br : BR) (ns : Status) (w : W) : ExecX P br ns w (executeX P br ns w) := by
  have prep : (normPhase ns).phase = .preparing → ExecX P br ns w (execPreparingX P br (normPhase ns) w) := fun hq => by
    unfold execPreparingX
    cases hi : P.init br (normPhase ns) w with
    | panic => exact .initPanic hq hi
    | val r =>
      obtain ⟨w', ns1, _ | _⟩ := r
      · exact .initialized hq hi
      · exact .initErr hq hi
  unfold executeX
  dsimp only
  rcases normPhase_cases ns with ⟨hn, he, ho⟩ | ⟨_, hn⟩
  · cases hq : ns.phase
    case empty => exact absurd hq he
    case other => exact absurd hq ho
    case preparing =>
      have hq' : (normPhase ns).phase = .preparing := by rw [hn]; exact hq
      rw [hq']; exact prep hq'
    case progressing => rw [hn, hq]; exact .progressing hq (progX_spec P br ns w)
    case finalizing =>
      rw [hn, hq]; dsimp only; unfold execFinalizingX
      cases hf : P.fin br w with
      | panic => exact .finPanic hq hf
      | val r =>
        obtain ⟨w', _ | _⟩ := r
        · exact .finalized hq hf
        · exact .finErr hq hf
    case completed => rw [hn, hq]; exact .idle hq
  · have hq : (normPhase ns).phase = .preparing := by rw [hn]
    rw [hq]; exact prep hq

/-- the leaves are exclusive: a leaf that applies is the function's result -/
theorem ProgX.eq {P : Plane W} {br : BR} {ns : Status} {w : W} {r : ExecOutX W} (h : ProgX P br (normState ns) w r) :
    execProgressingX P br ns w = r := by
  unfold execProgressingX
  cases h with
  | upgradePanic hm hc | upgraded hm hc | upgradeErr hm hc | verified hm hc | unverified hm hc | unready hm hc =>
    simp only [hm, hc]
  | ensurePanic hm hc => rcases hm with hm | hm <;> simp only [hm, hc]
  | advance hm hc hp => simp only [hm, hc, hp, Bool.false_eq_true, not_false_eq_true, if_true]
  | wait hm hc hp => simp only [hm, hc, hp, not_true_eq_false, if_false]

theorem ExecX.eq {P : Plane W} {br : BR} {ns : Status} {w : W} {r : ExecOutX W} (h : ExecX P br ns w r) :
    executeX P br ns w = r := by
  unfold executeX
  cases h with
  | progressing hp hpr => rw [normPhase_of_progressing ns hp]; simp only [hp]; exact hpr.eq
  | initPanic hq hc | initialized hq hc | initErr hq hc => simp only [hq, execPreparingX, hc, reduceCtorEq, ↓reduceIte]
  | finPanic hq hc | finalized hq hc | finErr hq hc =>
    rw [normPhase_of_known ns (by rw [hq]; exact Phase.noConfusion) (by rw [hq]; exact Phase.noConfusion)]
    simp only [hq, execFinalizingX, hc, reduceCtorEq, ↓reduceIte]
  | idle hq =>
    rw [normPhase_of_known ns (by rw [hq]; exact Phase.noConfusion) (by rw [hq]; exact Phase.noConfusion)]
    simp only [hq]

theorem stoppedX_eq {P : Plane W} {br : BR} {w : W} {ev : Event} {info : Option Info}
    (h : P.syncInfo (withFinalizer br) (initializedStatus br.status) w = .val (ev, info)) :
    stoppedX P br w = ((syncDecide (withFinalizer br) (initializedStatus br.status) ev info).2 ||
      decide (refreshStatus (syncDecide (withFinalizer br) (initializedStatus br.status) ev info).1 info ≠ br.status)) := by
  unfold stoppedX syncStatusX
  rw [h]
  rfl

theorem reconcileX_spec (P : Plane W) (br : BR) (w : W) : RecX P br w (reconcileX P br w) := by
  unfold reconcileX
  split
  · rename_i hc; exact .gone hc.1 hc.2.1 hc.2.2
  · rename_i hfin
    unfold reconcileBodyX syncStatusX
    rw [show (withFinalizer br).status = br.status from rfl]
    cases hsi : P.syncInfo (withFinalizer br) (initializedStatus br.status) w with
    | panic => exact .syncPanic hsi hfin
    | val ei =>
      obtain ⟨ev, info⟩ := ei
      dsimp only
      have hsx := stoppedX_eq hsi
      generalize hst : refreshStatus (syncDecide (withFinalizer br) (initializedStatus br.status) ev info).1 info = st at hsx ⊢
      by_cases hstop : (syncDecide (withFinalizer br) (initializedStatus br.status) ev info).2 = true ∨ st ≠ br.status
      · have hb : ((syncDecide (withFinalizer br) (initializedStatus br.status) ev info).2 || decide (st ≠ br.status)) = true := by
          rw [Bool.or_eq_true, decide_eq_true_eq]; exact hstop
        rw [if_pos hb]
        exact .stopped st (hsx.trans hb) hsi hst.symm hstop hfin
      · rw [not_or, Decidable.not_not, Bool.not_eq_true] at hstop
        obtain ⟨hd, rfl⟩ := hstop
        have hb : ((syncDecide (withFinalizer br) (initializedStatus br.status) ev info).2 || decide (br.status ≠ br.status)) = false := by
          rw [hd, decide_eq_false (fun hn => hn rfl)]; rfl
        rw [hb, if_neg Bool.false_ne_true]
        have hx := executeX_spec P (withFinalizer br) br.status w
        generalize executeX P (withFinalizer br) br.status w = x at hx ⊢
        rcases x with ⟨ns', w', rq, er⟩ | _
        · exact .executed (hsx.trans hb) hsi hd hst hx hfin
        · exact .execPanic (hsx.trans hb) hsi hd hst hx hfin

theorem reconcileX_rec {P : Plane W} {br : BR} {w : W} {r : Out (StepOutX W)} (h : reconcileX P br w = r) : RecX P br w r :=
  h ▸ reconcileX_spec P br w

theorem executeX_exec {P : Plane W} {br : BR} {ns : Status} {w : W} {r : ExecOutX W} (h : executeX P br ns w = r) :
    ExecX P br ns w r :=
  h ▸ executeX_spec P br ns w

theorem nostopX (P : Plane W) (br : BR) (w : W) (h : stoppedX P br w = false) :
    ∃ ev info, P.syncInfo (withFinalizer br) (initializedStatus br.status) w = .val (ev, info) ∧
      (syncDecide (withFinalizer br) (initializedStatus br.status) ev info).2 = false ∧
      refreshStatus (syncDecide (withFinalizer br) (initializedStatus br.status) ev info).1 info = br.status := by
  cases hsi : P.syncInfo (withFinalizer br) (initializedStatus br.status) w with
  | panic => unfold stoppedX syncStatusX at h; rw [hsi] at h; cases h
  | val ei =>
    rw [stoppedX_eq hsi, Bool.or_eq_false_iff, decide_eq_false_iff_not, Decidable.not_not] at h
    exact ⟨ei.1, ei.2, rfl, h.1, h.2⟩

theorem nostopX_progressing_not_finalizing (P : Plane W) (br : BR) (w : W) (hns : stoppedX P br w = false)
    (hp : br.status.phase = .progressing) : isPlanFinalizing br = false := by
  obtain ⟨ev, info, _, _, hst⟩ := nostopX P br w hns
  cases hf : isPlanFinalizing br
  · rfl
  · have hc : br.status.phase ≠ .completed := by rw [hp]; exact Phase.noConfusion
    have := congrArg Status.phase hst
    rw [refresh_phase, syncDecide_finalizing (withFinalizer br) _ _ _ hc hf, hp] at this
    cases this

/-- a changed plan would have been acknowledged, an unhealthy one restarted -/
theorem nostopX_progressing_healthy (P : Plane W) (br : BR) (w : W) (hns : stoppedX P br w = false)
    (hp : br.status.phase = .progressing) : br.status.currentBatch < br.batches.length := by
  have hf := nostopX_progressing_not_finalizing P br w hns hp
  obtain ⟨ev, info, _, _, hst⟩ := nostopX P br w hns
  have hc : br.status.phase ≠ .completed := by rw [hp]; exact Phase.noConfusion
  cases hch : isPlanChanged br
  · cases hu : isPlanUnhealthy br
    · simp only [isPlanUnhealthy, hp, decide_true, Bool.and_true, decide_eq_false_iff_not] at hu
      omega
    · have := congrArg Status.phase hst
      rw [refresh_phase, syncDecide_unhealthy (withFinalizer br) _ _ _ hc hf hch hu, hp] at this
      cases this
  · have := congrArg Status.hash hst
    rw [syncDecide_changed (withFinalizer br) _ _ _ hc hf hch, refresh_hash_same _ _ rfl] at this
    rw [isPlanChanged_false br this.symm] at hch
    cases hch

/-- from a `Progressing` status the plan execution is `progressBatches` -/
theorem ExecX.prog {P : Plane W} {br : BR} {ns : Status} {w : W} {r : ExecOutX W} (hx : ExecX P br ns w r)
    (hp : ns.phase = .progressing) : ProgX P br (normState ns) w r := by
  cases hx with
  | progressing _ hpr => exact hpr
  | initPanic hq | initialized hq | initErr hq => rw [normPhase_of_progressing _ hp, hp] at hq; cases hq
  | finPanic hq | finalized hq | finErr hq | idle hq => rw [hp] at hq; cases hq

theorem ProgX.frame {P : Plane W} {br : BR} {m ns' : Status} {w w' : W} {rq er : Bool}
    (h : ProgX P br m w (.val (ns', w', rq, er))) :
    ns'.phase = m.phase ∧ ns'.noNeedUpdate = m.noNeedUpdate ∧
    (ns'.currentBatch = m.currentBatch ∨
      (ns'.currentBatch = m.currentBatch + 1 ∧ ∀ p, br.partition = some p → m.currentBatch < p)) := by
  cases h with
  | advance =>
    refine ⟨rfl, rfl, ?_⟩
    rcases moveToNextBatch_currentBatch br m with hm | hm
    · exact .inr hm
    · exact .inl hm
  | _ => exact ⟨rfl, rfl, .inl rfl⟩

/-- the cursor under one plan execution: only `progressBatches` moves it (`Initialize` does not write it: `InitFrame`) -/
theorem ExecX.cursor {P : Plane W} (hI : InitFrame P) {br : BR} {ns ns' : Status} {w w' : W} {rq er : Bool}
    (h : ExecX P br ns w (.val (ns', w', rq, er))) :
    ns'.currentBatch = ns.currentBatch ∨
      (ns'.currentBatch = ns.currentBatch + 1 ∧ ∀ p, br.partition = some p → ns.currentBatch < p) := by
  cases h with
  | progressing _ hpr => exact normState_currentBatch ns ▸ hpr.frame.2.2
  | initialized _ hi | initErr _ hi => exact .inl ((hI _ _ _ _ _ _ hi).2.1.trans (normPhase_currentBatch ns))
  | finalized | finErr | idle => exact .inl rfl

theorem reconcileX_world (P : Plane W) (br : BR) (w : W) (o : StepOutX W) (h : reconcileX P br w = .val o) :
    o.wl = w ∨ (∃ m ms r, P.init (withFinalizer br) m w = .val (o.wl, ms, r)) ∨
    (∃ m r, P.upgrade (withFinalizer br) m w = .val (o.wl, r)) ∨
    (∃ r, P.fin (withFinalizer br) w = .val (o.wl, r)) := by
  cases reconcileX_rec h with
  | gone | stopped => exact .inl rfl
  | executed _ _ _ _ hx =>
    cases hx with
    | initialized _ hi | initErr _ hi => exact .inr (.inl ⟨_, _, _, hi⟩)
    | finalized _ hf | finErr _ hf => exact .inr (.inr (.inr ⟨_, hf⟩))
    | idle => exact .inl rfl
    | progressing _ hpr =>
      cases hpr with
      | upgraded _ hu | upgradeErr _ hu => exact .inr (.inr (.inl ⟨_, _, hu⟩))
      | verified | unverified | unready | advance | wait => exact .inl rfl

theorem initializeWl_records (br : BR) (ns : Status) (wl : Option Workload) : Records ns (initializeWl br ns wl).2.1 := by
  unfold initializeWl
  cases wl with
  | none => exact .mk _ _ _ _
  | some w => dsimp only; split <;> exact .mk _ _ _ _

theorem execProgressing_eq (br : BR) (ns : Status) (wl : Option Workload) :
    execProgressing br ns wl = execProgressingX csPlane br ns wl := by
  unfold execProgressing execProgressingX
  dsimp only
  cases (normState ns).batchState <;> dsimp only [csPlane]
  · generalize upgradeBatch br (normState ns) wl = r; rcases r with ⟨w', _ | _⟩ | _ <;> rfl
  · generalize ensureReady br (normState ns) wl = r; rcases r with (_ | _) | _ <;> rfl
  · generalize ensureReady br (normState ns) wl = r; rcases r with (_ | _) | _ <;> rfl

theorem execute_eq (br : BR) (ns : Status) (wl : Option Workload) : execute br ns wl = executeX csPlane br ns wl := by
  unfold execute executeX
  dsimp only
  cases (normPhase ns).phase <;> dsimp only
  · rfl
  · exact execProgressing_eq br _ wl
  · rfl

end RV.ExecutorX
