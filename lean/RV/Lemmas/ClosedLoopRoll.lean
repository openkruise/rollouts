/-
  One Rollout reconcile of a *rolling* rollout (Progressing / InRolling, readable workload, no rollback, no new
  revision, no plan change, no jump request): the whole `RV.RolloutSM.reconcile` reduces to one round of the release
  manager. The round is read off its normal form (`RV.RolloutSM.runCanary_cases`: at most one Manager call, then the move
  `Finish` of the sub-state, `finish_inv`) for what it may do to the sub-status (`Stp`) and the BatchRelease (`BrRoll` of
  `Lemmas/ClosedLoopDefs`); the step gates it passes are the moves `RV.Props.Rollout.RunMove` of the round (`runCanary_move`),
  carried to the world the reconcile read (`GateObs`, `gateObs_of_move`). The body of the reconcile phase by phase is in `RV.Lemmas.RolloutCore`.
-/
import RV.Lemmas.ClosedLoopDefs
import RV.Lemmas.RolloutCore
import RV.Oracle.ClosedLoop
import RV.Props.RolloutThms
namespace RV.Lemmas.ClosedLoop
open RV.Arith RV.Traffic RV.RolloutSM RV.Props.Reconcile RV.Props.Rollout RV.Oracle.ClosedLoop RV.Oracle.RolloutSM

/-- the part of the sub-status that no action of one release-manager round changes (the last-update time may only be
    refreshed), together with the step cursor -/
structure SubKeep (s s' : Sub) : Prop where
  hash : s'.hash = s.hash
  rev : s'.canaryRev = s.canaryRev
  fin : s'.finStep = s.finStep
  lu : s.lastUpdate ≠ .none → s'.lastUpdate ≠ .none
  cur : s'.curIdx = s.curIdx
  next : s'.nextIdx = s.nextIdx

theorem SubKeep.refl (s : Sub) : SubKeep s s := ⟨rfl, rfl, rfl, fun h => h, rfl, rfl⟩

/-- an action that leaves rollout, workload, BatchRelease, cursor and the kept part of the sub-status alone -/
structure Keep (c c' : Ctx) : Prop where
  ro : c'.ro = c.ro
  wl : c'.wl = c.wl
  br : c'.br = c.br
  sub : SubKeep c.sub c'.sub

theorem Keep.refl (c : Ctx) : Keep c c := ⟨rfl, rfl, rfl, SubKeep.refl _⟩

theorem Keep.requeue {a b : Ctx} (h : Keep a b) (q : Bool) : Keep a { b with requeue := q } :=
  ⟨h.ro, h.wl, h.br, h.sub⟩

/-- the BatchRelease `runBatchRelease` leaves for the context's step -/
def rbr (ro : Rollout) (c : Ctx) : Option BR :=
  (runBatchRelease ro c.br (getRolloutID c.wl) c.sub.curIdx c.wl.inRollback).2.1

theorem rbr_congr (ro : Rollout) {c c' : Ctx} (h : Keep c c') : rbr ro c' = rbr ro c := by
  unfold rbr; rw [h.br, h.wl, h.sub.cur]

/-- what one sub-state action may do: the frame, the cursor stays or advances to the natural successor, the
    BatchRelease stays or is what `runBatchRelease` leaves -/
structure Stp (ro : Rollout) (c c' : Ctx) : Prop where
  roEq : c'.ro = c.ro
  wlEq : c'.wl = c.wl
  hash : c'.sub.hash = c.sub.hash
  rev : c'.sub.canaryRev = c.sub.canaryRev
  fin : c'.sub.finStep = c.sub.finStep
  lu : c.sub.lastUpdate ≠ .none → c'.sub.lastUpdate ≠ .none
  cursor : (c'.sub.curIdx = c.sub.curIdx ∧ c'.sub.nextIdx = c.sub.nextIdx) ∨
    (c.sub.curIdx < ro.steps.length ∧ c'.sub.curIdx = c.sub.curIdx + 1 ∧
      c'.sub.nextIdx = nextBatchIndex ro.steps.length (c.sub.curIdx + 1))
  br : c'.br = c.br ∨ c'.br = rbr ro c

theorem Keep.toStp {c c' : Ctx} (ro : Rollout) (h : Keep c c') : Stp ro c c' :=
  ⟨h.ro, h.wl, h.sub.hash, h.sub.rev, h.sub.fin, h.sub.lu, Or.inl ⟨h.sub.cur, h.sub.next⟩, Or.inl h.br⟩

theorem Keep.stp {a b c : Ctx} {ro : Rollout} (h1 : Keep a b) (h2 : Stp ro b c) : Stp ro a c := by
  refine ⟨h2.roEq.trans h1.ro, h2.wlEq.trans h1.wl, h2.hash.trans h1.sub.hash, h2.rev.trans h1.sub.rev,
    h2.fin.trans h1.sub.fin, fun h => h2.lu (h1.sub.lu h), ?_, ?_⟩
  · rcases h2.cursor with ⟨a1, a2⟩ | ⟨a1, a2, a3⟩
    · exact Or.inl ⟨a1.trans h1.sub.cur, a2.trans h1.sub.next⟩
    · rw [h1.sub.cur] at a1 a2 a3; exact Or.inr ⟨a1, a2, a3⟩
  · rcases h2.br with hb | hb
    · exact Or.inl (hb.trans h1.br)
    · exact Or.inr (by rw [hb, rbr_congr ro h1])

theorem Keep.setState (c : Ctx) (st : StepState) : Keep c { c with sub := { c.sub with state := st } } :=
  ⟨rfl, rfl, rfl, ⟨rfl, rfl, rfl, fun h => h, rfl, rfl⟩⟩

theorem Keep.setStateFresh (c : Ctx) (st : StepState) :
    Keep c { c with sub := { c.sub with state := st, lastUpdate := .fresh } } :=
  ⟨rfl, rfl, rfl, ⟨rfl, rfl, rfl, fun _ => fresh_ne, rfl, rfl⟩⟩

/-- the sub-status is unchanged, or only its last-update time was refreshed -/
def SubLU (a b : Sub) : Prop := b = a ∨ b = { a with lastUpdate := .fresh }

theorem SubLU.trans {a b c : Sub} (h1 : SubLU a b) (h2 : SubLU b c) : SubLU a c := by
  rcases h1 with h1 | h1 <;> rcases h2 with h2 | h2 <;> subst h1 <;> subst h2
  · exact Or.inl rfl
  · exact Or.inr rfl
  · exact Or.inr rfl
  · exact Or.inr rfl

theorem SubLU.keep {a b : Sub} (h : SubLU a b) : SubKeep a b := by
  rcases h with h | h <;> subst h
  · exact SubKeep.refl _
  · exact ⟨rfl, rfl, rfl, fun _ => fresh_ne, rfl, rfl⟩

theorem tm_keep {c c1 : Ctx} (h : TM c c1) : Keep c c1 :=
  ⟨by rw [h.eq], by rw [h.eq], by rw [h.eq], SubLU.keep h.sub⟩

/-- the three gates across one sub-state action, with what was observed on the context the action ran on -/
structure Gate (ro : Rollout) (step : Step) (c c' : Ctx) : Prop where
  pods : podsReady c'.sub.state = true → podsReady c.sub.state = true ∨ (preUpgrade c.sub.state = true ∧ UpgradeDone ro c)
  routed : postRouting c'.sub.state = true → postRouting c.sub.state = true ∨
    (c.sub.state = .trafficRouting ∧ ∃ t, trCtx c.ro c.sub = some t ∧
      (doTrafficRouting { t with hasRevKey := c.wlSeen } c.net c.mem).done = true ∧
      (doTrafficRouting { t with hasRevKey := c.wlSeen } c.net c.mem).err = false) ∨
    (preUpgrade c.sub.state = true ∧ UpgradeDone ro c ∧ scaledV step.replicas c.wl.replicas true ≥ c.wl.replicas)
  pause : postPause c'.sub.state = true → postPause c.sub.state = true ∨
    (c.sub.state = .paused ∧ ∃ rq, doCanaryPaused ro c.sub step = some (true, rq))

theorem BrSync.roll {ro : Rollout} {cur : Int} {id : String} {a b : Option BR} (h : BrSync a b) : BrRoll ro cur id a b := by
  cases h with
  | same => exact BrRoll.same _
  | patched b i => exact BrRoll.kept _ _ rfl rfl rfl rfl

theorem syncStep_keep (c : Ctx) :
    (syncStep c).ro = c.ro ∧ (syncStep c).wl = c.wl ∧ SubKeep c.sub (syncStep c).sub ∧ BrSync c.br (syncStep c).br := by
  refine ⟨by rw [syncStep_frame], by rw [syncStep_frame], ?_, syncStep_br c⟩
  rw [syncStep_sub_eq]
  exact ⟨rfl, rfl, rfl, fun h => h, rfl, rfl⟩

theorem rbr_roll (ro : Rollout) (b0 br1 : Option BR) (id : String) (cur : Int) (hs : BrSync b0 br1) :
    BrRoll ro cur id b0 (runBatchRelease ro br1 id cur false).2.1 := by
  cases br1 with
  | none =>
    cases hs
    exact .created
  | some b =>
    cases h : brSpecEq b (desiredBR ro id (cur - 1) false)
    · rw [runBatchRelease_update h]
      cases hs with
      | same => exact .updated _ _ rfl rfl rfl rfl
      | patched b i => exact .updated _ _ rfl rfl rfl rfl
    · rw [runBatchRelease_current h]
      cases hs with
      | same => exact .same _
      | patched b i => exact .kept _ _ rfl rfl rfl rfl

theorem BrRoll.congr {ro ro' : Rollout} {cur : Int} {id : String} {a b : Option BR} (h : BrRoll ro cur id a b)
    (hs : ro'.steps = ro.steps) : BrRoll ro' cur id a b := by
  cases h with
  | same => exact BrRoll.same _
  | created =>
    have e : desiredBR ro id (cur - 1) false = desiredBR ro' id (cur - 1) false := by
      unfold desiredBR; rw [hs]; rfl
    rw [e]; exact BrRoll.created
  | kept b b' h1 h2 h3 h4 => exact BrRoll.kept _ _ h1 h2 h3 h4
  | updated b b' h1 h2 h3 h4 => exact BrRoll.updated _ _ h1 (by rw [hs]; exact h2) h3 h4

theorem roll_of_stp (c0 c1 c' : Ctx) (rev : String) (h2 : c1.wl = c0.wl) (h3 : SubKeep c0.sub c1.sub)
    (h4 : BrSync c0.br c1.br) (st : Stp c0.ro c1 c') (hnr : c0.wl.inRollback = false) (hg : SubGood c0.ro c0.sub rev) :
    c'.wl = c0.wl ∧ SubGood c0.ro c'.sub rev ∧ c0.sub.curIdx ≤ c'.sub.curIdx ∧
    c'.sub.curIdx ≤ c0.sub.curIdx + 1 ∧ BrRoll c0.ro c0.sub.curIdx (getRolloutID c0.wl) c0.br c'.br := by
  have hlo := hg.lo
  have hhi := hg.hi
  have hcur : (c'.sub.curIdx = c0.sub.curIdx ∧ c'.sub.nextIdx = c0.sub.nextIdx) ∨
      (c0.sub.curIdx < c0.ro.steps.length ∧ c'.sub.curIdx = c0.sub.curIdx + 1 ∧
        c'.sub.nextIdx = nextBatchIndex c0.ro.steps.length (c0.sub.curIdx + 1)) := by
    rcases st.cursor with ⟨a1, a2⟩ | ⟨a1, a2, a3⟩
    · exact Or.inl ⟨a1.trans h3.cur, a2.trans h3.next⟩
    · rw [h3.cur] at a1 a2 a3; exact Or.inr ⟨a1, a2, a3⟩
  refine ⟨st.wlEq.trans h2, ?_, ?_, ?_, ?_⟩
  · refine ⟨?_, ?_, ?_, st.lu (h3.lu hg.lu), (st.hash.trans h3.hash).trans hg.hash, (st.rev.trans h3.rev).trans hg.rev,
      (st.fin.trans h3.fin).trans hg.fin⟩
    · rcases hcur with ⟨a1, _⟩ | ⟨_, a2, _⟩ <;> omega
    · rcases hcur with ⟨a1, _⟩ | ⟨_, a2, _⟩ <;> omega
    · rcases hcur with ⟨a1, a2⟩ | ⟨_, a2, a3⟩
      · rw [a1, a2]; exact hg.next
      · rw [a2, a3]
  · rcases hcur with ⟨a1, _⟩ | ⟨_, a2, _⟩ <;> omega
  · rcases hcur with ⟨a1, _⟩ | ⟨_, a2, _⟩ <;> omega
  · rcases st.br with hb | hb
    · rw [hb]; exact BrSync.roll h4
    · rw [hb]; unfold rbr; rw [h2, hnr, h3.cur]; exact rbr_roll _ _ _ _ _ h4

/-- `DoTrafficRouting` reports done on the context as the round starts (after the pod-template hash is filled) -/
def ObsRt (c : Ctx) : Prop :=
  ∃ t, trCtx c.ro (if c.sub.podHash = "" then { c.sub with podHash := c.wl.podTemplateHash } else c.sub) = some t ∧
    (doTrafficRouting { t with hasRevKey := c.wlSeen } c.net c.mem).done = true ∧
    (doTrafficRouting { t with hasRevKey := c.wlSeen } c.net c.mem).err = false

/-- the three gates across one round of the release manager, with the observations on the context the round started from -/
structure RunGate (c0 c' : Ctx) (step : Step) : Prop where
  pods : podsReady c'.sub.state = true → podsReady c0.sub.state = true ∨
    (preUpgrade c0.sub.state = true ∧ (doCanaryUpgrade c0.ro c0.sub c0.wl c0.br).1 = true)
  routed : postRouting c'.sub.state = true → postRouting c0.sub.state = true ∨
    (c0.sub.state = .trafficRouting ∧ ObsRt c0) ∨
    (preUpgrade c0.sub.state = true ∧ (doCanaryUpgrade c0.ro c0.sub c0.wl c0.br).1 = true ∧
      scaledV step.replicas c0.wl.replicas true ≥ c0.wl.replicas)
  pause : postPause c'.sub.state = true → postPause c0.sub.state = true ∨
    (c0.sub.state = .paused ∧ ∃ rq, doCanaryPaused c0.ro c0.sub step = some (true, rq))

theorem upgradeOut_stp (ro : Rollout) (step : Step) (c : Ctx) : Stp ro c (upgradeOut ro step c) := by
  have hro : (upgradeOut ro step c).ro = c.ro := by rw [upgradeOut_eq]
  have hwl : (upgradeOut ro step c).wl = c.wl := by rw [upgradeOut_eq]
  have hbr : (upgradeOut ro step c).br = rbr ro c := by rw [upgradeOut_eq]; exact doCanaryUpgrade_br ro c.sub c.wl c.br
  rcases upgradeOut_sub ro step c with ⟨_, hs⟩ | ⟨_, hs⟩
  · exact ⟨hro, hwl, by rw [hs], by rw [hs], by rw [hs], fun hh => by rw [hs]; exact hh, Or.inl ⟨by rw [hs], by rw [hs]⟩,
      Or.inr hbr⟩
  · exact ⟨hro, hwl, by rw [hs], by rw [hs], by rw [hs], fun _ => by rw [hs]; exact fresh_ne, Or.inl ⟨by rw [hs], by rw [hs]⟩,
      Or.inr hbr⟩

/-- frame and cursor across the move of the sub-state -/
theorem finish_stp {ro : Rollout} {step : Step} {c c' : Ctx} (h : Finish ro step c c') : Stp ro c c' := by
  cases h with
  | toUpgrade => exact (Keep.setState c .upgrade).toStp ro
  | enterUpgrade => exact (Keep.setStateFresh c .upgrade).stp (upgradeOut_stp ro step _)
  | upgrade => exact upgradeOut_stp ro step c
  | routed => exact ((Keep.setStateFresh c .metricsAnalysis).requeue true).toStp ro
  | analysed => exact (Keep.setState c .paused).toStp ro
  | pauseDone => exact (Keep.setStateFresh c .ready).toStp ro
  | pauseWait => exact ((Keep.refl c).requeue _).toStp ro
  | advance hst hlt => exact ⟨rfl, rfl, rfl, rfl, rfl, fun _ => fresh_ne, Or.inr ⟨hlt, rfl, rfl⟩, Or.inl rfl⟩
  | complete => exact (Keep.setStateFresh c .completed).toStp ro
  | noop => exact (Keep.refl c).toStp ro

/-- `DoTrafficRouting` done on the Manager context of the round is the observation `ObsRt` -/
theorem obsRt_round (c0 : Ctx) (step : Step) (hstep : c0.ro.steps[(c0.sub.curIdx - 1).toNat]? = some step)
    (hd : (doTrafficRouting (roundCtx c0 step) c0.net c0.mem).done = true)
    (he : (doTrafficRouting (roundCtx c0 step) c0.net c0.mem).err = false) : ObsRt c0 := by
  have e : (syncStep c0).sub = if c0.sub.podHash = "" then { c0.sub with podHash := c0.wl.podTemplateHash } else c0.sub := by
    rw [syncStep_frame]
  have ys := syncStep_sub_eq c0
  unfold ObsRt
  rw [← e]
  refine ⟨_, trCtx_step (step := step) (by rw [ys]; exact hstep), ?_⟩
  have hsr : (syncStep c0).sub.stableRev = c0.sub.stableRev := by rw [ys]
  have hlu : (syncStep c0).sub.lastUpdate = c0.sub.lastUpdate := by rw [ys]
  rw [hsr, hlu]
  exact ⟨hd, he⟩

/-- the frame of one round on a good sub-status: the workload is kept, the sub-status stays good and moves on by at most one
    step, the BatchRelease is written for the step only -/
theorem runCanary_roll (c0 c' : Ctx) (err : Bool) (rev : String) (h : runCanary c0 = .ok c' err)
    (hnr : c0.wl.inRollback = false) (hg : SubGood c0.ro c0.sub rev) :
    c'.wl = c0.wl ∧ SubGood c0.ro c'.sub rev ∧ c0.sub.curIdx ≤ c'.sub.curIdx ∧
      c'.sub.curIdx ≤ c0.sub.curIdx + 1 ∧ BrRoll c0.ro c0.sub.curIdx (getRolloutID c0.wl) c0.br c'.br := by
  obtain ⟨_, x2, x3, x4⟩ := syncStep_keep c0
  refine roll_of_stp c0 (syncStep c0) c' rev x2 x3 x4 ?_ hnr hg
  rcases runCanary_cases h with ⟨s2, hj, _, _⟩ | ⟨step, c1, _, _, t, hexit⟩
  · -- no step jump is requested
    have hreq := (doCanaryJump_true hj).1.1
    rw [syncStep_sub_eq c0] at hreq
    exact absurd hg.next hreq
  · have k := tm_keep t
    rcases hexit with ⟨rfl, _⟩ | ⟨rfl, _⟩ | hf
    · exact k.toStp _
    · exact (k.requeue true).toStp _
    · exact k.stp (finish_stp (finish_inv hf).1)

theorem runCanary_roll_total (c0 : Ctx) (rev : String) (hg : SubGood c0.ro c0.sub rev) : runCanary c0 ≠ .panic :=
  runCanary_total c0 ⟨hg.lo, hg.hi, by rw [hg.next]; exact nextBatchIndex_le _ _ hg.lo hg.hi, hg.lu⟩

theorem hf_good (ro : Rollout) (hg : RoGood ro) : handleFinalizer ro = (ro, false, []) := by
  unfold handleFinalizer
  rw [if_neg (by simp [hg.notDeleting]), if_neg (by simp [hg.fin])]

theorem cs_good_phase (ro : Rollout) (wl : WL) (hg : RoGood ro) (hc : wl.consistent = true) (hne : ro.phase ≠ .empty) :
    calculateStatus ro (some wl) = some (csPhase ro (csObserve ro wl) wl) := by
  unfold calculateStatus
  have h1 : csDisable ro = ro := by unfold csDisable; simp [hg.enabled]
  have h2 : csInitial ro = ro := by unfold csInitial; simp [hne]
  simp [hg.notDeleting, hc, h1, h2]

theorem cs_good (ro : Rollout) (wl : WL) (hg : RoGood ro) (hph : ro.phase = .progressing) (hc : wl.consistent = true) :
    calculateStatus ro (some wl) = some (csObserve ro wl) := by
  rw [cs_good_phase ro wl hg hc (by rw [hph]; decide)]
  unfold csPhase
  rw [(csObserve_same ro wl).2.2, hph]

theorem reconcile_roll (w : World) (wl : WL) (s1 : Sub) (hg : RoGood w.ro) (hph : w.ro.phase = .progressing)
    (hr : w.ro.reason = .inRolling) (hwl : w.wl = some wl) (hc : wl.consistent = true)
    (hs1 : (csObserve w.ro wl).sub = some s1) :
    reconcile w =
      (match inRolling w w.ro (csObserve w.ro wl) s1 wl with
       | .panic => .panic
       | .val r =>
         if r.err then .val { w := { r.w with ro := w.ro }, roGone := false, requeue := false, err := true, writes := r.writes }
         else .val { w := r.w, roGone := false, requeue := r.requeue, err := false, writes := r.writes }) := by
  rw [reconcile_eq_core w hg.notDeleting hg.enabled,
    core_rolling w wl _ _ _ _ s1 (hf_good w.ro hg) hwl (cs_good w.ro wl hg hph hc) hph hc hr hs1]
  rfl

theorem SubGood.observed {ro : Rollout} {s : Sub} {rev : String} (h : SubGood ro s rev) (wl : WL) :
    SubGood (csObserve ro wl) (csSub s wl) rev := by
  have o1 : (csObserve ro wl).steps = ro.steps := (csObserve_same ro wl).1.steps
  exact ⟨h.lo, by rw [o1]; exact h.hi, by rw [o1]; exact h.next, h.lu, h.hash, h.rev, h.fin⟩

/-- **the body of a reconcile of a rolling rollout** (readable workload, no rollback, the workload's revision): in sub-state
    `completed` the hand-over to the clean-up, else one round of the release manager on the observed status -/
theorem reconcile_rolling_eq (w : World) (wl : WL) (s : Sub)
    (hg : RoGood w.ro) (hph : w.ro.phase = .progressing) (hr : w.ro.reason = .inRolling)
    (hwl : w.wl = some wl) (hc : wl.consistent = true) (hnr : wl.inRollback = false)
    (hs : w.ro.sub = some s) (hsub : SubGood w.ro s wl.canaryRev) :
    reconcile w =
      if s.state = .completed then
        .val { w := { w with ro := { csObserve w.ro wl with reason := .finalising } }, roGone := false, requeue := false,
               err := false, writes := [] }
      else
        match runCanary (toCtx { w with ro := csObserve w.ro wl } (csSub s wl) wl) with
        | .panic => .panic
        | .ok c err =>
          if err then .val { w := { ofCtx w c (csObserve w.ro wl) with ro := w.ro }, roGone := false, requeue := false,
                             err := true, writes := c.writes }
          else .val { w := ofCtx w c (csObserve w.ro wl), roGone := false, requeue := c.requeue, err := false,
                      writes := c.writes } := by
  rw [reconcile_eq_core w hg.notDeleting hg.enabled,
    core_rolling_eq w wl _ _ _ _ _ s (hf_good w.ro hg) hwl (cs_good w.ro wl hg hph hc) hph hc hr (csObserve_sub_eq w.ro wl s hs) hs hnr
      ((csObserve_same w.ro wl).1.paused.trans hg.unpaused) hsub.rev.symm hsub.hash (hsub.observed wl).next]
  rfl

/-- the step gates across one reconcile that keeps the rollout rolling, sub-status before (`s`) and after (`s'`): the index moved
    (only from `StepReady`, by one, into `BeforeStepUpgrade`), or it stayed and every gate that is passed was observed open on the
    world `w` the reconcile read -/
def GateObs (w : World) (s s' : Sub) : Prop :=
  (s'.curIdx ≠ s.curIdx ∧ s.state = .ready ∧ s'.curIdx = s.curIdx + 1 ∧ s'.state = .init) ∨
  (s'.curIdx = s.curIdx ∧
   (podsReady s'.state = true → podsReady s.state = true ∨ (preUpgrade s.state = true ∧ upgradeDoneObs w s = true)) ∧
   (postRouting s'.state = true → postRouting s.state = true ∨ (s.state = .trafficRouting ∧ obsRoutedW w s = true) ∨
      (preUpgrade s.state = true ∧ upgradeDoneObs w s = true ∧ bypassW w s = true)) ∧
   (postPause s'.state = true → postPause s.state = true ∨ (s.state = .paused ∧ obsPauseW w s = true)))

theorem GateObs.noPass {w : World} {s s' : Sub} (hcur : s'.curIdx = s.curIdx)
    (h1 : podsReady s'.state = true → podsReady s.state = true) (h2 : postRouting s'.state = true → postRouting s.state = true)
    (h3 : postPause s'.state = true → postPause s.state = true) : GateObs w s s' :=
  Or.inr ⟨hcur, fun h => Or.inl (h1 h), fun h => Or.inl (h2 h), fun h => Or.inl (h3 h)⟩

/-- **the gates of one round, read on the world the reconcile read**: each move `RunMove` of the sub-status carries the
    observation that allowed it on the context the round started from (the observed status `ns`, the sub-status with the
    observed rollout-id and generation); here it is carried to the stored rollout and sub-status -/
theorem gateObs_of_move (w : World) (wl : WL) (ns : Rollout) (s : Sub) (id : String) (gen : Int) (c : Ctx)
    (hwl : w.wl = some wl) (o1 : Same w.ro ns) (hnext : s.nextIdx = nextBatchIndex w.ro.steps.length s.curIdx)
    (hm : RunMove (toCtx { w with ro := ns } { s with observedRolloutID := id, observedGen := gen } wl) c) :
    GateObs w s c.sub := by
  have hsteps : ns.steps = w.ro.steps := o1.steps
  cases hm with
  | jump hreq =>
    have hn : s.nextIdx = nextBatchIndex ns.steps.length s.curIdx := by rw [hsteps]; exact hnext
    exact absurd hn hreq.1
  | advance _ h0 _ hcur _ h1 =>
    have hcur' : c.sub.curIdx = s.curIdx + 1 := hcur
    exact Or.inl ⟨by omega, h0, hcur', h1⟩
  | inStep _ hcur _ hm =>
    cases hm with
    | stay hst =>
      have hst' : c.sub.state = s.state := hst
      exact .noPass hcur (fun h => hst' ▸ h) (fun h => hst' ▸ h) (fun h => hst' ▸ h)
    | toUpgrade h0 h1 =>
      have h0' : s.state = .init := h0
      exact .noPass hcur (by rw [h1, h0']; decide) (by rw [h1, h0']; decide) (by rw [h1, h0']; decide)
    | upgraded h0 step hstep hd _ h1 =>
      have hpre : preUpgrade s.state = true := by
        rcases h0 with e | e
        · have e' : s.state = .init := e
          rw [e']; decide
        · have e' : s.state = .upgrade := e
          rw [e']; decide
      have hup : upgradeDoneObs w s = true := by
        have hd' : (doCanaryUpgrade ns { s with observedRolloutID := id, observedGen := gen } wl w.br).1 = true := hd
        rw [doCanaryUpgrade_ro w.ro ns _ wl w.br o1.steps o1.rollbackInBatch,
          doCanaryUpgrade_congr w.ro s { s with observedRolloutID := id, observedGen := gen } wl w.br rfl] at hd'
        unfold upgradeDoneObs
        rw [hwl]
        exact hd'
      have h1' : c.sub.state = if ns.style = .canary ∧ scaledV step.replicas wl.replicas true ≥ wl.replicas ∧ ns.realPartition = true
          then .metricsAnalysis else .trafficRouting := h1
      refine Or.inr ⟨hcur, fun _ => Or.inr ⟨hpre, hup⟩, fun hp => ?_, fun hp => ?_⟩
      · by_cases hfull : ns.style = .canary ∧ scaledV step.replicas wl.replicas true ≥ wl.replicas ∧ ns.realPartition = true
        · refine Or.inr (Or.inr ⟨hpre, hup, ?_⟩)
          have hstepW : w.ro.steps[(s.curIdx - 1).toNat]? = some step := by rw [← hsteps]; exact hstep
          unfold bypassW
          rw [hstepW, hwl]
          exact decide_eq_true hfull.2.1
        · rw [h1', if_neg hfull] at hp
          exact absurd hp (by decide)
      · rw [h1'] at hp
        split at hp <;> exact absurd hp (by decide)
    | routed h0 h1 step hstep hd he =>
      have h0' : s.state = .trafficRouting := h0
      -- `DoTrafficRouting` on the round's Manager context answered "done"
      have hobs : ObsRt (toCtx { w with ro := ns } { s with observedRolloutID := id, observedGen := gen } wl) :=
        obsRt_round _ step hstep hd he
      obtain ⟨t, ht, hd', he'⟩ := hobs
      have htr : trCtx w.ro (if s.podHash = "" then { s with podHash := wl.podTemplateHash } else s) = some t := by
        have ht' : trCtx ns (if s.podHash = "" then
              ({ s with observedRolloutID := id, observedGen := gen, podHash := wl.podTemplateHash } : Sub)
            else { s with observedRolloutID := id, observedGen := gen }) = some t := ht
        rw [← ht']
        symm
        by_cases hp0 : s.podHash = ""
        · rw [if_pos hp0, if_pos hp0]
          exact trCtx_congr w.ro ns _ _ o1.steps o1.hasTraffic o1.grace o1.disableGen rfl rfl rfl rfl
        · rw [if_neg hp0, if_neg hp0]
          exact trCtx_congr w.ro ns _ _ o1.steps o1.hasTraffic o1.grace o1.disableGen rfl rfl rfl rfl
      have hd'' : (doTrafficRouting { t with hasRevKey := true } w.net w.mem).done = true := hd'
      have he'' : (doTrafficRouting { t with hasRevKey := true } w.net w.mem).err = false := he'
      have hrt : obsRoutedW w s = true := by
        unfold obsRoutedW
        rw [hwl]
        dsimp only
        rw [htr]
        dsimp only
        rw [hd'', he'']
        rfl
      exact Or.inr ⟨hcur, fun _ => Or.inl (by rw [h0']; decide), fun _ => Or.inr (Or.inl ⟨h0', hrt⟩),
        fun hp => by rw [h1] at hp; exact absurd hp (by decide)⟩
    | analysed h0 h1 =>
      have h0' : s.state = .metricsAnalysis := h0
      exact .noPass hcur (by rw [h1, h0']; decide) (by rw [h1, h0']; decide) (by rw [h1, h0']; decide)
    | pauseDone h0 h1 step hstep rq hp =>
      have h0' : s.state = .paused := h0
      have hstepW : w.ro.steps[(s.curIdx - 1).toNat]? = some step := by rw [← hsteps]; exact hstep
      obtain ⟨rq', hq⟩ := doCanaryPaused_true ns w.ro s _ step rq hp o1.style.symm hsteps.symm rfl (Or.inl rfl)
      have hpz : obsPauseW w s = true := by
        unfold obsPauseW
        rw [hstepW]
        dsimp only
        rw [hq]
      exact Or.inr ⟨hcur, fun _ => Or.inl (by rw [h0']; decide), fun _ => Or.inl (by rw [h0']; decide), fun _ => Or.inr ⟨h0', hpz⟩⟩
    | complete h0 h1 =>
      have h0' : s.state = .ready := h0
      exact .noPass hcur (by rw [h1, h0']; decide) (by rw [h1, h0']; decide) (by rw [h1, h0']; decide)

/-- **C02.i over one whole reconcile of a rolling rollout** — with the hypotheses of `reconcile_rolling_eq`: if the rollout is
    still rolling afterwards then either the step index moved (only from `StepReady`, by one, into `BeforeStepUpgrade`),
    or it stayed and every gate that is passed was observed open on the world this reconcile read:
    pods ready ⇐ the BatchRelease reported the step ready; past routing ⇐ `DoTrafficRouting` reported done, or the
    full-replica bypass together with the BatchRelease report; past the pause ⇐ the pause was satisfied.
    This is the statement the oracle `RV.Oracle.ClosedLoop.stepGate` judges on the walks; the history theorems read
    `gateObs_of_move` directly. -/
theorem rolling_gate (w : World) (wl : WL) (s : Sub)
    (hg : RoGood w.ro) (hph : w.ro.phase = .progressing) (hr : w.ro.reason = .inRolling)
    (hwl : w.wl = some wl) (hc : wl.consistent = true) (hnr : wl.inRollback = false)
    (hs : w.ro.sub = some s) (hsub : SubGood w.ro s wl.canaryRev)
    (r : StepResult) (hrec : reconcile w = .val r) (hin : r.w.ro.reason = .inRolling) (s' : Sub) (hs' : r.w.ro.sub = some s') :
    GateObs w s s' := by
  rw [reconcile_rolling_eq w wl s hg hph hr hwl hc hnr hs hsub] at hrec
  by_cases hst : s.state = .completed
  · rw [if_pos hst] at hrec
    cases hrec
    cases hin
  · rw [if_neg hst] at hrec
    cases hrc : runCanary (toCtx { w with ro := csObserve w.ro wl } (csSub s wl) wl) with
    | panic => rw [hrc] at hrec; cases hrec
    | ok c err =>
      rw [hrc] at hrec
      cases err with
      | true =>
        -- the status is not written
        cases hrec
        cases hs.symm.trans hs'
        exact .noPass rfl (fun h => h) (fun h => h) (fun h => h)
      | false =>
        cases hrec
        cases hs'
        exact gateObs_of_move w wl _ s _ _ c hwl (csObserve_same w.ro wl).1 hsub.next (runCanary_move hrc)

end RV.Lemmas.ClosedLoop
