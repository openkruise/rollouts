/-
  The labels of the environment and the user: workload controller progress, approval, clock, crash, and a new
  release accepted while the rollout is idle, all preserve the forward invariant `fwdInv`.  The simulated CloneSet controller
  `envWl` is described here once: its two cases as equations (`envWl_ne`, `envWl_eq`), what it keeps (`EnvKept`), and the
  partitions under which it moves no pod (`envWl_lt`, `envUpd_held`).
-/
import RV.Lemmas.Arith
import RV.Lemmas.ClosedLoop
import RV.Lemmas.ClosedLoopFin
namespace RV.Lemmas.ClosedLoop
open RV.Arith RV.Traffic RV.RolloutSM RV.ClosedLoop RV.Oracle.ClosedLoop RV.Oracle.Batch

/-- of the sub-status the invariant reads the two indices, whether a time stamp is there, the plan hash, the
    canary revision and the clean-up cursor -/
structure SubSame (a b : Sub) : Prop where
  curIdx : b.curIdx = a.curIdx
  nextIdx : b.nextIdx = a.nextIdx
  lastUpdate : (b.lastUpdate != Age.none) = (a.lastUpdate != Age.none)
  hash : b.hash = a.hash
  canaryRev : b.canaryRev = a.canaryRev
  finStep : b.finStep = a.finStep

theorem subOK_congr (ro ro' : Rollout) (a b : Sub) (w : CWl) (hst : ro'.steps = ro.steps) (hs : SubSame a b) :
    subOK ro' b w = subOK ro a w := by
  obtain ⟨h1, h2, h3, h4, h5, h6⟩ := hs
  unfold subOK
  rw [hst, h1, h2, h3, h4, h5, h6]

theorem linkOKo_congr (ro ro' : Rollout) (a b : Sub) (br : Option CBr) (hst : ro'.steps = ro.steps) (hs : SubSame a b) :
    linkOKo ro' b br = linkOKo ro a br := by
  unfold linkOKo linkOK planOf
  rw [hst, hs.curIdx]

theorem withinCur_congr (ro ro' : Rollout) (a b : Sub) (w : CWl) (hst : ro'.steps = ro.steps) (hs : SubSame a b) :
    withinCur ro' b w = withinCur ro a w := by
  unfold withinCur planOf
  rw [hst, hs.curIdx]

theorem phaseInv_congr (s s' : CS) (w : CWl)
    (hph : s'.ro.phase = s.ro.phase) (hr : s'.ro.reason = s.ro.reason) (hbr : s'.br = s.br) (hnet : s'.net = s.net)
    (hst : s'.ro.steps = s.ro.steps) (hsty : s'.ro.style = s.ro.style) (htr : s'.ro.hasTraffic = s.ro.hasTraffic)
    (hdg : s'.ro.disableGen = s.ro.disableGen)
    (hsub : ∀ sub, s.ro.sub = some sub → ∃ sub', s'.ro.sub = some sub' ∧ SubSame sub sub')
    (h : phaseInv s w = true) : phaseInv s' w = true := by
  rcases phaseInv_cases s w h with hp | ⟨hp, hre | hre | hre | hre⟩
  · rw [phaseInv_healthy s w hp] at h
    rw [phaseInv_healthy s' w (hph.trans hp), hbr]; exact h
  · rw [phaseInv_init s w hp hre] at h
    rw [phaseInv_init s' w (hph.trans hp) (hr.trans hre), hbr]; exact h
  · obtain ⟨sub, hs, _⟩ := (phaseInv_rolling_iff s w hp hre).1 h
    obtain ⟨sub', hs', hsame⟩ := hsub sub hs
    rw [phaseInv_rolling s w sub hp hre hs] at h
    rw [phaseInv_rolling s' w sub' (hph.trans hp) (hr.trans hre) hs', hbr,
      subOK_congr s.ro s'.ro sub sub' w hst hsame, linkOKo_congr s.ro s'.ro sub sub' s.br hst hsame,
      withinCur_congr s.ro s'.ro sub sub' w hst hsame]
    exact h
  · obtain ⟨sub, hs, _⟩ := (phaseInv_fin_iff s w hp hre).1 h
    obtain ⟨sub', hs', hsame⟩ := hsub sub hs
    rw [phaseInv_fin s w sub hp hre hs] at h
    rw [phaseInv_fin s' w sub' (hph.trans hp) (hr.trans hre) hs', hbr, hnet, hsty, hsame.finStep,
      finInv_congr .success s.ro s'.ro sub.finStep _ _ hsty htr hdg]
    exact h
  · rw [phaseInv_completed s w hp hre] at h
    rw [phaseInv_completed s' w (hph.trans hp) (hr.trans hre), hbr]; exact h

theorem phaseInv_wl (s : CS) (w w' : CWl) (h1 : w'.inProgressAnno = w.inProgressAnno) (h2 : w'.partition = w.partition)
    (h3 : w'.updateRevision = w.updateRevision) (h4 : w'.replicas = w.replicas) : phaseInv s w' = phaseInv s w := by
  unfold phaseInv held subOK withinCur
  rw [h1, h2, h3, h4]

/-- the number of updated pods the partition allows -/
def envAllowed (w : CWl) : Int :=
  if w.paused then w.updated
  else match w.partition with
    | some p => w.replicas - (if scaledV p w.replicas true > w.replicas then w.replicas else scaledV p w.replicas true)
    | none => w.replicas

def envUpd (w : CWl) : Int := if w.updated < envAllowed w then envAllowed w else w.updated

/-- while two revisions are out, the CloneSet controller updates as many pods as the partition allows -/
theorem envWl_ne (w : CWl) (hne : w.updateRevision ≠ w.currentRevision) :
    envWl w = { w with observedGeneration := w.generation, statusReplicas := w.replicas, updated := envUpd w,
                       updatedReady := envUpd w,
                       currentRevision := if envUpd w ≥ w.replicas then w.updateRevision else w.currentRevision } := by
  unfold envWl
  dsimp only
  rw [if_pos hne]
  rfl

theorem envWl_eq (w : CWl) (he : w.updateRevision = w.currentRevision) :
    envWl w = { w with observedGeneration := w.generation, statusReplicas := w.replicas, updated := w.replicas,
                       updatedReady := w.replicas } := by
  unfold envWl
  dsimp only
  rw [if_neg (fun h => h he)]

/-- what the CloneSet controller leaves alone, and the two status fields it always sets -/
structure EnvKept (w w' : CWl) : Prop where
  replicas : w'.replicas = w.replicas
  partition : w'.partition = w.partition
  paused : w'.paused = w.paused
  owner : w'.owner = w.owner
  updateRevision : w'.updateRevision = w.updateRevision
  anno : w'.inProgressAnno = w.inProgressAnno
  generation : w'.generation = w.generation
  observed : w'.observedGeneration = w.generation
  status : w'.statusReplicas = w.replicas

theorem envWl_kept (w : CWl) : EnvKept w (envWl w) := by
  by_cases h : w.updateRevision = w.currentRevision
  · rw [envWl_eq w h]
    exact ⟨rfl, rfl, rfl, rfl, rfl, rfl, rfl, rfl, rfl⟩
  · rw [envWl_ne w h]
    exact ⟨rfl, rfl, rfl, rfl, rfl, rfl, rfl, rfl, rfl⟩

theorem envAllowed_le (w : CWl) (h : wlOK w = true) : envAllowed w ≤ w.replicas ∧ w.updated ≤ w.replicas := by
  obtain ⟨_, _, h3, _, h5⟩ := (wlOK_iff w).1 h
  refine ⟨?_, h3⟩
  unfold envAllowed
  split
  · exact h3
  · split
    · rename_i p hp
      have := h5 p hp
      split <;> omega
    · exact Int.le_refl _

/-- under a partition that keeps at least one pod the controller never updates every pod, so the current revision stays -/
theorem envWl_lt (w : CWl) (hne : w.currentRevision ≠ w.updateRevision) (hR : 0 < w.replicas) (hu : w.updated < w.replicas)
    (k : IntOrPct) (hk : w.partition = some k) (h1 : 1 ≤ scaledV k w.replicas true) :
    (envWl w).updated < w.replicas ∧ (envWl w).currentRevision = w.currentRevision := by
  have hal : envAllowed w < w.replicas := by
    unfold envAllowed
    rw [hk]
    dsimp only
    split
    · exact hu
    · split <;> omega
  have key : envUpd w < w.replicas := by unfold envUpd; split <;> omega
  rw [envWl_ne w (Ne.symm hne)]
  exact ⟨key, if_neg (Int.not_le.2 key)⟩

/-- a workload held back at partition 100 % stays as it is -/
theorem envUpd_held (w : CWl) (hp : w.partition = some (.pct 100)) (h0 : 0 ≤ w.updated) : envUpd w = w.updated := by
  have ha : envAllowed w = if w.paused then w.updated else 0 := by
    unfold envAllowed
    rw [hp]
    dsimp only
    rw [scaledV_pct100, if_neg (Int.lt_irrefl _), Int.sub_self]
  unfold envUpd
  rw [ha]
  split
  · rw [if_neg (Int.lt_irrefl _)]
  · rw [if_neg (by omega)]

theorem envWl_ok (w : CWl) (h : wlOK w = true) : wlOK (envWl w) = true := by
  have E := envWl_kept w
  obtain ⟨_, h2, _, _, h5⟩ := (wlOK_iff w).1 h
  obtain ⟨hal, h3⟩ := envAllowed_le w h
  have hmain : (envWl w).updated ≤ w.replicas ∧
      ((envWl w).updateRevision ≠ (envWl w).currentRevision ∨ (envWl w).updated = w.replicas) := by
    by_cases hne : w.updateRevision = w.currentRevision
    · rw [envWl_eq w hne]
      exact ⟨Int.le_refl _, Or.inr rfl⟩
    · have hule : envUpd w ≤ w.replicas := by unfold envUpd; split <;> omega
      rw [envWl_ne w hne]
      refine ⟨hule, ?_⟩
      by_cases hge : envUpd w ≥ w.replicas
      · exact Or.inr (Int.le_antisymm hule hge)
      · exact Or.inl (by dsimp only; rw [if_neg hge]; exact hne)
  exact (wlOK_iff _).2 ⟨by rw [E.status, E.replicas], by rw [E.replicas]; exact h2, by rw [E.replicas]; exact hmain.1,
    by rw [E.replicas]; exact hmain.2, by rw [E.replicas, E.partition]; exact h5⟩

theorem envWl_keeps (w : CWl) (hwok : wlOK w = true) :
    wlOK (envWl w) = true ∧ (envWl w).replicas = w.replicas ∧ ∀ s : CS, phaseInv s (envWl w) = phaseInv s w := by
  have E := envWl_kept w
  exact ⟨envWl_ok w hwok, E.replicas, fun s => phaseInv_wl s w (envWl w) E.anno E.partition E.updateRevision E.replicas⟩

theorem env_fwd (s : CS) (h : fwdInv s = true) : fwdInv { s with wl := s.wl.map envWl } = true := by
  obtain ⟨w, hgone, hg, hw, hwok, hmono, hbr, hpi⟩ := fwd_at s h
  obtain ⟨e1, e2, e3⟩ := envWl_keeps w hwok
  exact fwdInv_mk _ (envWl w) hgone hg (by show s.wl.map envWl = _; rw [hw]; rfl) e1 (by rw [e2]; exact hmono) hbr
    ((e3 _).trans hpi)

theorem SubSame.refl (a : Sub) : SubSame a a := ⟨rfl, rfl, rfl, rfl, rfl, rfl⟩

/-- of the sub-status, approval / clock / crash change the sub-state (Paused → Ready only) and the age of the time stamp -/
def SubIdle (a b : Sub) : Prop :=
  b = { a with state := b.state, lastUpdate := b.lastUpdate } ∧ (b.state = a.state ∨ (a.state = .paused ∧ b.state = .ready)) ∧
  (b.lastUpdate != Age.none) = (a.lastUpdate != Age.none)

theorem SubIdle.same {a b : Sub} (h : SubIdle a b) : SubSame a b := by
  obtain ⟨e, _, hl⟩ := h
  rw [e]
  exact ⟨rfl, rfl, hl, rfl, rfl, rfl⟩

/-- what `approve`, `tick` and `crash` leave of the joint state: everything but the grace memory, the age of the
    Progressing condition and, in the sub-status, the sub-state and the age of its time stamp -/
structure Idle (s s' : CS) : Prop where
  eq : ∃ sub' age mem', s' = { s with ro := { s.ro with sub := sub', condAge := age }, mem := mem' }
  sub : (s.ro.sub = none ∧ s'.ro.sub = none) ∨ ∃ a b, s.ro.sub = some a ∧ s'.ro.sub = some b ∧ SubIdle a b

theorem Idle.refl (s : CS) : Idle s s := by
  refine ⟨⟨s.ro.sub, s.ro.condAge, s.mem, rfl⟩, ?_⟩
  cases s.ro.sub with
  | none => exact Or.inl ⟨rfl, rfl⟩
  | some a => exact Or.inr ⟨a, a, rfl, rfl, rfl, Or.inl rfl, rfl⟩

theorem approve_idle (s : CS) : Idle s (approve s) := by
  unfold approve
  split
  · exact Idle.refl s
  · cases hs : s.ro.sub with
    | none => exact Idle.refl s
    | some sub =>
      dsimp only
      split
      · rename_i hp
        exact ⟨⟨_, s.ro.condAge, s.mem, rfl⟩, Or.inr ⟨sub, _, hs, rfl, rfl, Or.inr ⟨hp, rfl⟩, rfl⟩⟩
      · exact Idle.refl s

theorem ageAge_none (a : Age) : (ageAge a != Age.none) = (a != Age.none) := by
  cases a <;> rfl

theorem tick_idle (s : CS) : Idle s (tick s) := by
  unfold tick
  dsimp only
  split
  · exact ⟨⟨s.ro.sub, s.ro.condAge, _, rfl⟩, (Idle.refl s).sub⟩
  · refine ⟨⟨_, _, _, rfl⟩, ?_⟩
    cases s.ro.sub with
    | none => exact Or.inl ⟨rfl, rfl⟩
    | some a => exact Or.inr ⟨a, _, rfl, rfl, rfl, Or.inl rfl, ageAge_none _⟩

theorem crash_idle (s : CS) : Idle s (crash s) := ⟨⟨s.ro.sub, s.ro.condAge, Mem.empty, rfl⟩, (Idle.refl s).sub⟩

theorem Idle.phaseInv {s s' : CS} (k : Idle s s') (w : CWl) (h : phaseInv s w = true) : phaseInv s' w = true := by
  obtain ⟨⟨sub', age, mem', rfl⟩, hsub⟩ := k
  refine phaseInv_congr s _ w rfl rfl rfl rfl rfl rfl rfl rfl (fun a ha => ?_) h
  rcases hsub with ⟨hn, _⟩ | ⟨a', b, ha', hb, hab⟩
  · rw [hn] at ha; cases ha
  · rw [ha'] at ha; cases ha; exact ⟨b, hb, hab.same⟩

theorem Idle.fwd {s s' : CS} (k : Idle s s') (h : fwdInv s = true) : fwdInv s' = true := by
  obtain ⟨w, hgone, hg, hw, hwok, hmono, hbr, hpi⟩ := fwd_at s h
  have hpi' := k.phaseInv w hpi
  obtain ⟨⟨sub', age, mem', rfl⟩, _⟩ := k
  exact fwdInv_mk _ w hgone ⟨hg.1, hg.2, hg.3, hg.4, hg.5, hg.6, hg.7⟩ hw hwok hmono hbr hpi'

theorem approve_fwd (s : CS) (h : fwdInv s = true) : fwdInv (approve s) = true := (approve_idle s).fwd h

theorem tick_fwd (s : CS) (h : fwdInv s = true) : fwdInv (tick s) = true := (tick_idle s).fwd h

theorem crash_fwd (s : CS) (h : fwdInv s = true) : fwdInv (crash s) = true := (crash_idle s).fwd h

theorem releaseWl_new (rev : String) (w : CWl) (h : rev ≠ w.currentRevision) :
    releaseWl rev w =
      { w with generation := w.generation + 1, inProgressAnno := true, partition := some (.pct 100), paused := false,
               updateRevision := rev, updated := 0, updatedReady := 0 } := by
  unfold releaseWl
  dsimp only
  rw [if_neg h]

theorem wlOK_release (rev : String) (w : CWl) (h : rev ≠ w.currentRevision) (hwok : wlOK w = true) :
    wlOK (releaseWl rev w) = true := by
  obtain ⟨h1, h2, _, _, _⟩ := (wlOK_iff w).1 hwok
  rw [releaseWl_new rev w h]
  exact (wlOK_iff _).2 ⟨h1, h2, h2, Or.inl h, fun k hk => by cases hk; rw [scaledV_pct100]; exact h2⟩

theorem release_fwd (s : CS) (rev : String) (h : fwdInv s = true) (hidle : idle s rev = true) :
    fwdInv { s with wl := s.wl.map (releaseWl rev) } = true := by
  obtain ⟨w, hgone, hg, hw, hwok, hmono, hbr, hpi⟩ := fwd_at s h
  obtain ⟨hph, w0, hw0, hanno, hrev⟩ := (idle_iff s rev).1 hidle
  cases hw.symm.trans hw0
  rw [phaseInv_healthy s w hph] at hpi
  simp only [Bool.and_eq_true] at hpi
  refine fwdInv_mk _ (releaseWl rev w) hgone hg (by show s.wl.map (releaseWl rev) = _; rw [hw]; rfl)
    (wlOK_release rev w hrev hwok) ?_ hbr ?_
  · rw [releaseWl_new rev w hrev]; exact hmono
  · rw [releaseWl_new rev w hrev, phaseInv_healthy { s with wl := s.wl.map (releaseWl rev) } _ hph]
    simp only [Bool.and_eq_true, Bool.or_eq_true]
    exact ⟨hpi.1, Or.inr rfl⟩

end RV.Lemmas.ClosedLoop
