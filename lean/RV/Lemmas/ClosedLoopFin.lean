/-
  One Rollout reconcile of a rollout that is cleaning up after a successful release (Progressing / Finalising,
  readable workload).  The clean-up round in normal form: what one task does (`fin_task`, `FinTaskOut`), and the round by the
  cursor it starts from (`FinRound`, `fin_round`: annotation stripped, one task run, the cursor moved on when the task is
  through).  The body of the reconcile is one such round on the observed status (`reconcile_clean`); the clean-up invariant of
  `RV.Props.Cluster` is carried across the round, which is done only when the BatchRelease is gone (`clean_round`).
-/
import RV.Lemmas.ClosedLoopRoll
import RV.Props.ClusterThms
namespace RV.Lemmas.ClosedLoop
open RV.Arith RV.Traffic RV.RolloutSM RV.Props.Reconcile RV.Props.Rollout RV.Oracle.Cluster RV.Props.Cluster

theorem finInv_congr (reason : Reason) (ro ro' : Rollout) (cur : FinStep) (br : Option BR) (n : Net)
    (h1 : ro'.style = ro.style) (h2 : ro'.hasTraffic = ro.hasTraffic) (h3 : ro'.disableGen = ro.disableGen) :
    finInv reason ro' cur br n = finInv reason ro cur br n := by
  unfold finInv
  rw [h1]
  congr 1
  funext t
  cases t <;> simp only [post, h2, h3]

theorem wl_anno_false (wl : WL) (h : wl.inProgressAnno = false) : { wl with inProgressAnno := false } = wl := by
  cases wl
  simp_all

theorem stripAnno_wl (c : Ctx) : (stripAnno c).wl = { c.wl with inProgressAnno := false } := by
  unfold stripAnno
  split
  · rfl
  · rename_i hn
    exact (wl_anno_false c.wl (by simpa using hn)).symm

theorem startCursor_wl (c : Ctx) (nx : FinStep) : (startCursor c nx).wl = c.wl := by
  unfold startCursor; split <;> rfl

/-- without a reference to a traffic-routing object every call of the Manager returns at once -/
theorem manager_noref (t : TCtx) (n : Net) (m : Mem) (h : t.hasRef = false) :
    doTrafficRouting t n m = ⟨true, false, n, m, false, []⟩ ∧ finalisingTrafficRouting t n m = ⟨true, false, n, m, false, []⟩ ∧
    restoreStableService t n m = ⟨false, false, n, m, false, []⟩ ∧ restoreGateway t n m = ⟨false, false, n, m, false, []⟩ ∧
    removeCanaryService t n m = ⟨false, false, n, m, false, []⟩ := by
  unfold doTrafficRouting finalisingTrafficRouting restoreStableService restoreGateway removeCanaryService
  rw [if_pos (by simp [h]), if_pos (by simp [h]), if_pos (by simp [h]), if_pos (by simp [h]), if_pos (by simp [h])]
  exact ⟨rfl, rfl, rfl, rfl, rfl⟩

theorem fin_callTM (f : TCtx → Net → Mem → TOut) (c c' : Ctx) (rt e : Bool) (h : callTM f c = some (c', rt, e)) :
    ∃ t, t.hasRef = c.ro.hasTraffic ∧ c'.net = (f t c.net c.mem).net ∧ e = (f t c.net c.mem).err ∧
      c'.ro = c.ro ∧ c'.wl = c.wl ∧ c'.br = c.br ∧ c'.sub = c.sub ∧ c'.mem = (f t c.net c.mem).mem ∧
      rt = (f t c.net c.mem).done := by
  obtain ⟨t0, _, ht, rfl, rfl, hd, he⟩ := callTM_inv h
  exact ⟨{ t0 with hasRevKey := c.wlSeen }, (trCtx_inv ht).1, rfl, he, rfl, rfl, rfl, by simp, rfl, hd⟩

/-- what the clean-up task at cursor `f` does to BatchRelease `br` and network `n`; `rt`: it asks for a retry (a Manager call
    without traffic routing does not) -/
abbrev FinTaskOut (f : FinStep) (wr : Bool) (br : Option BR) (n : Net) (traffic : Bool) (br' : Option BR) (n' : Net) (rt : Bool) :
    Prop :=
  match f with
  | .resumeWorkload => n' = n ∧ br' = (finalizingBatchRelease br wr).2.1 ∧ rt = (finalizingBatchRelease br wr).1
  | .releaseWorkloadControl => n' = n ∧ br' = (removeBatchRelease br).2.1 ∧ rt = (removeBatchRelease br).1
  | .routeTrafficToStable => br' = br ∧ (n' = n ∨ n' = { n with canaryIng := none }) ∧ (traffic = false → n' = n ∧ rt = false)
  | .restoreStableService => br' = br ∧ (n' = n ∨ n' = { n with stableSel := none }) ∧ (traffic = false → n' = n ∧ rt = false)
  | .removeCanaryService => br' = br ∧ (n' = n ∨ n' = { n with canarySvc := none }) ∧ (traffic = false → n' = n ∧ rt = false)
  | _ => br' = br ∧ n' = n

theorem fin_task (c c' : Ctx) (wr rt e : Bool) (hne : c.sub.finStep ≠ .routeTrafficToNew)
    (h : finTask c wr = some (c', rt, e)) :
    e = false ∧ c'.ro = c.ro ∧ c'.wl = c.wl ∧ c'.sub = c.sub ∧ (c.ro.hasTraffic = false → c'.mem = c.mem) ∧
    FinTaskOut c.sub.finStep wr c.br c.net c.ro.hasTraffic c'.br c'.net rt := by
  -- one of the three restore calls of the Manager
  have tm : ∀ {f : TCtx → Net → Mem → TOut} {cl : Net}, (∀ t, ∃ ws post, RV.Props.Traffic.Restored t c.net cl ws post (f t c.net c.mem)) →
      (∀ t, t.hasRef = false → f t c.net c.mem = ⟨false, false, c.net, c.mem, false, []⟩) → callTM f c = some (c', rt, e) →
      e = false ∧ c'.ro = c.ro ∧ c'.wl = c.wl ∧ c'.sub = c.sub ∧ (c.ro.hasTraffic = false → c'.mem = c.mem) ∧
        c'.br = c.br ∧ (c'.net = c.net ∨ c'.net = cl) ∧ (c.ro.hasTraffic = false → c'.net = c.net ∧ rt = false) := by
    intro f cl hsp hno hcall
    obtain ⟨t, ht, hn, he, h1, h2, h3, h4, hm, hrt⟩ := fin_callTM _ _ _ _ _ hcall
    obtain ⟨_, _, g⟩ := hsp t
    rw [hn, hm, hrt]
    exact ⟨he.trans g.err, h1, h2, h4, fun hh => by rw [hno t (ht.trans hh)], h3, g.net,
      fun hh => by rw [hno t (ht.trans hh)]; exact ⟨rfl, rfl⟩⟩
  unfold finTask at h
  split at h
  · rename_i hf
    simp only [Option.some.injEq, Prod.mk.injEq] at h
    obtain ⟨hc, hr, he⟩ := h
    subst hc
    rw [hf]
    exact ⟨he.symm, rfl, rfl, rfl, fun _ => rfl, rfl, rfl, hr.symm⟩
  · rename_i hf
    simp only [Option.some.injEq, Prod.mk.injEq] at h
    obtain ⟨hc, hr, he⟩ := h
    subst hc
    rw [hf]
    exact ⟨he.symm, rfl, rfl, rfl, fun _ => rfl, rfl, rfl, hr.symm⟩
  · rename_i hf
    rw [hf]
    exact tm (fun t => ⟨_, _, RV.Props.Traffic.rg_spec t c.net c.mem⟩) (fun t ht => (manager_noref t _ _ ht).2.2.2.1) h
  · rename_i hf
    rw [hf]
    exact tm (fun t => ⟨_, _, RV.Props.Traffic.rs_spec t c.net c.mem⟩) (fun t ht => (manager_noref t _ _ ht).2.2.1) h
  · rename_i hf
    rw [hf]
    exact tm (fun t => ⟨_, _, RV.Props.Traffic.rc_spec t c.net c.mem⟩) (fun t ht => (manager_noref t _ _ ht).2.2.2.2) h
  · rename_i hf
    exact absurd hf hne
  · rename_i hf
    simp only [Option.some.injEq, Prod.mk.injEq] at h
    obtain ⟨hc, hr, he⟩ := h
    subst hc
    refine ⟨he.symm, rfl, rfl, rfl, fun _ => rfl, ?_⟩
    -- the cursor is none of the five tasks: nothing happens
    unfold FinTaskOut
    split <;> first | exact ⟨rfl, rfl⟩ | (rename_i hx; exact absurd hx (by assumption))

theorem brFin_finalizing (br : Option BR) (wr : Bool) : BrFin br (finalizingBatchRelease br wr).2.1 := by
  cases br with
  | none => exact .same _
  | some b =>
    rcases finalizingBatchRelease_cases b wr with ⟨_, _, e⟩ | ⟨_, _, _, e⟩ | ⟨_, e⟩ <;> rw [e]
    · exact .same _
    · exact .same _
    · exact .changed _ _ rfl rfl rfl (Or.inr rfl) (Or.inl rfl)

theorem brFin_remove (br : Option BR) : BrFin br (removeBatchRelease br).2.1 := by
  cases br with
  | none => exact .same _
  | some b =>
    rw [removeBatchRelease_some]
    exact .changed _ _ rfl rfl rfl (Or.inl rfl) (Or.inr rfl)

theorem FinTaskOut.brFin {f : FinStep} {wr : Bool} {br br' : Option BR} {n n' : Net} {tr rt : Bool}
    (h : FinTaskOut f wr br n tr br' n' rt) : BrFin br br' := by
  unfold FinTaskOut at h
  split at h
  · rw [h.2.1]; exact brFin_finalizing br wr
  · rw [h.2.1]; exact brFin_remove br
  all_goals (rw [h.1]; exact .same _)

theorem FinTaskOut.net {f : FinStep} {wr : Bool} {br br' : Option BR} {n n' : Net} {rt : Bool}
    (h : FinTaskOut f wr br n false br' n' rt) : n' = n := by
  unfold FinTaskOut at h
  split at h
  · exact h.1
  · exact h.1
  · exact (h.2.2 rfl).1
  · exact (h.2.2 rfl).1
  · exact (h.2.2 rfl).1
  · exact h.2

theorem doFinalising_canary (c c' : Ctx) (reason : Reason) (wr d e : Bool) (hst : c.ro.style = .canary)
    (h : doFinalising c reason wr = some (c', d, e)) :
    NetLE c.net c'.net ∧ BrLE c.br c'.br ∧ BrFin c.br c'.br ∧ c'.wl = { c.wl with inProgressAnno := false } := by
  have hw0 : (finStart c reason).wl = { c.wl with inProgressAnno := false } := (startCursor_wl _ _).trans (stripAnno_wl c)
  obtain ⟨_, hb, hn, _, _⟩ := finStart_frame c reason
  -- a task the cursor knows is not `routeTrafficToNew` on a canary rollout
  have task : ∀ c1 rt er, finKnown c.ro.style (finStart c reason).sub.finStep = true →
      finTask (finStart c reason) wr = some (c1, rt, er) →
      NetLE c.net c1.net ∧ BrLE c.br c1.br ∧ BrFin c.br c1.br ∧ c1.wl = { c.wl with inProgressAnno := false } := by
    intro c1 rt er hk hrun
    have hne : (finStart c reason).sub.finStep ≠ .routeTrafficToNew := by
      intro heq
      rw [heq, hst] at hk
      simp [finKnown] at hk
    obtain ⟨l1, l2, _⟩ := finTask_le _ _ _ _ _ hne hrun
    obtain ⟨_, _, f2, _, _, f1⟩ := fin_task _ _ _ _ _ hne hrun
    rw [hn] at l1
    rw [hb] at l2 f1
    rw [hw0] at f2
    exact ⟨l1, l2, f1.brFin, f2⟩
  cases doFinalising_inv h with
  | atEnd hend =>
    obtain ⟨-, -, hb0, hn0, -⟩ := stripAnno_frame c
    rw [hb0, hn0]
    exact ⟨NetLE.refl _, BrLE.refl _, BrFin.same _, stripAnno_wl c⟩
  | restart hend hk =>
    refine ⟨?_, ?_, ?_, hw0⟩
    · show NetLE c.net (finStart c reason).net
      rw [hn]; exact NetLE.refl _
    · show BrLE c.br (finStart c reason).br
      rw [hb]; exact BrLE.refl _
    · show BrFin c.br (finStart c reason).br
      rw [hb]; exact BrFin.same _
  | stopped hend hk c1 retry err hrun hstop => exact task _ _ _ hk hrun
  | advanced hend hk c1 hrun => exact task c1 _ _ hk hrun

/-- one clean-up round away from END: the annotation is stripped, an empty cursor is started, ONE task runs at the cursor,
    and the cursor moves on only when the task reports "no retry, no error" -/
theorem fin_round_gen (c c' : Ctx) (d e : Bool) (hst : c.ro.style = .canary) (hne : c.sub.finStep ≠ .end_)
    (f1 nx : FinStep) (hnx : nextTask (taskList .canary .success) c.sub.finStep = nx)
    (hf1 : (if c.sub.finStep = .empty then nx else c.sub.finStep) = f1) (hk : finKnown .canary f1 = true)
    (h : doFinalising c .success true = some (c', d, e)) :
    ∃ c1 cr rt er, c1.ro = c.ro ∧ c1.br = c.br ∧ c1.net = c.net ∧ c1.mem = c.mem ∧
      c1.wl = { c.wl with inProgressAnno := false } ∧
      c1.sub.finStep = f1 ∧ c1.sub = { c.sub with finStep := c1.sub.finStep, lastUpdate := c1.sub.lastUpdate } ∧
      finTask c1 true = some (cr, rt, er) ∧
      (((er = true ∨ rt = true) ∧ c' = cr ∧ d = false ∧ e = er) ∨
       (er = false ∧ rt = false ∧ c' = { cr with sub := { cr.sub with finStep := nx, lastUpdate := .fresh } } ∧
         d = decide (nx = .end_) ∧ e = false)) := by
  obtain ⟨fr, fb, fn, _, ff⟩ := finStart_frame c .success
  have hw1 : (finStart c .success).wl = { c.wl with inProgressAnno := false } := (startCursor_wl _ _).trans (stripAnno_wl c)
  have hs := (stripAnno_frame c).1
  have fm : (finStart c .success).mem = c.mem := by
    unfold finStart startCursor
    split <;> exact (stripAnno_frame c).2.2.2.2.2
  have hsk : (finStart c .success).sub =
      { c.sub with finStep := (finStart c .success).sub.finStep, lastUpdate := (finStart c .success).sub.lastUpdate } := by
    unfold finStart startCursor
    rw [hs]
    split
    · rfl
    · rw [hs]
  have hsc : (finStart c .success).sub.finStep = f1 := by
    rw [ff, hst, ← hf1, ← hnx]
    split
    · rename_i he; rw [he]
    · rfl
  cases doFinalising_inv h with
  | atEnd hend => exact absurd hend hne
  | restart _ hk' => rw [hst, hsc, hk] at hk'; cases hk'
  | stopped _ _ _ rt _ hrun hstop => exact ⟨_, c', rt, e, fr, fb, fn, fm, hw1, hsc, hsk, hrun, Or.inl ⟨hstop, rfl, rfl, rfl⟩⟩
  | advanced _ _ cr hrun =>
    exact ⟨_, cr, false, false, fr, fb, fn, fm, hw1, hsc, hsk, hrun, Or.inr ⟨rfl, rfl, by rw [hst, hnx], by rw [hst, hnx], rfl⟩⟩

/-- `fin_round_gen` with its one task read through `fin_task`: `rt` = the task asked to come back; then the cursor stays at `f1`,
    otherwise it moves to `nx` and the round is done iff `nx = END` -/
theorem fin_round_task (c c' : Ctx) (d e : Bool) (hst : c.ro.style = .canary) (hne : c.sub.finStep ≠ .end_)
    (f1 nx : FinStep) (hnx : nextTask (taskList .canary .success) c.sub.finStep = nx)
    (hf1 : (if c.sub.finStep = .empty then nx else c.sub.finStep) = f1) (hk : finKnown .canary f1 = true)
    (hnr : f1 ≠ .routeTrafficToNew) (h : doFinalising c .success true = some (c', d, e)) :
    e = false ∧ c'.ro = c.ro ∧ c'.wl = { c.wl with inProgressAnno := false } ∧
    c'.sub = { c.sub with finStep := c'.sub.finStep, lastUpdate := c'.sub.lastUpdate } ∧
    (c.ro.hasTraffic = false → c'.net = c.net ∧ c'.mem = c.mem) ∧
    ∃ rt : Bool, c'.sub.finStep = (if rt then f1 else nx) ∧ d = (!rt && decide (nx = .end_)) ∧
      FinTaskOut f1 true c.br c.net c.ro.hasTraffic c'.br c'.net rt := by
  obtain ⟨c1, cr, rt, er, a1, a2, a3, am, a4, a5, a6, hrun, hout⟩ := fin_round_gen c c' d e hst hne f1 nx hnx hf1 hk h
  obtain ⟨t1, t2, t3, t4, tm, t5⟩ := fin_task c1 cr true rt er (by rw [a5]; exact hnr) hrun
  rw [a5, a1, a2, a3] at t5
  rw [a1, am] at tm
  have hnm : c.ro.hasTraffic = false → cr.net = c.net ∧ cr.mem = c.mem := fun hh => ⟨by rw [hh] at t5; exact t5.net, tm hh⟩
  rw [a1] at t2
  rw [a4] at t3
  have hsk : cr.sub = { c.sub with finStep := cr.sub.finStep, lastUpdate := cr.sub.lastUpdate } := by rw [t4]; exact a6
  rcases hout with ⟨hor, rfl, o2, o3⟩ | ⟨_, hrt, rfl, o2, o3⟩
  · have hrt : rt = true := by
      rcases hor with h | h
      · rw [t1] at h; cases h
      · exact h
    subst hrt
    exact ⟨o3.trans t1, t2, t3, hsk, hnm, true, by rw [t4]; exact a5, o2, t5⟩
  · subst hrt
    exact ⟨o3, t2, t3, by dsimp only; rw [hsk], hnm, false, rfl, o2, t5⟩

/-- the outcome of one clean-up round of a canary rollout (success list, `waitReady`), by the cursor it started at -/
def FinRound (c c' : Ctx) (d : Bool) : Prop :=
  match c.sub.finStep with
  | .empty =>
    c'.br = c.br ∧ d = false ∧ c'.sub.finStep = .restoreStableService ∧
    (c'.net = c.net ∨ c'.net = { c.net with stableSel := none }) ∧ (c.ro.hasTraffic = false → c'.net = c.net)
  | .restoreStableService =>
    c'.br = c.br ∧ d = false ∧ (c'.sub.finStep = .restoreStableService ∨ c'.sub.finStep = .routeTrafficToStable) ∧
    (c'.net = c.net ∨ c'.net = { c.net with stableSel := none }) ∧
    (c.ro.hasTraffic = false → c'.net = c.net ∧ c'.sub.finStep = .routeTrafficToStable)
  | .routeTrafficToStable =>
    c'.br = c.br ∧ d = false ∧ (c'.sub.finStep = .routeTrafficToStable ∨ c'.sub.finStep = .removeCanaryService) ∧
    (c'.net = c.net ∨ c'.net = { c.net with canaryIng := none }) ∧
    (c.ro.hasTraffic = false → c'.net = c.net ∧ c'.sub.finStep = .removeCanaryService)
  | .removeCanaryService =>
    c'.br = c.br ∧ d = false ∧ (c'.sub.finStep = .removeCanaryService ∨ c'.sub.finStep = .resumeWorkload) ∧
    (c'.net = c.net ∨ c'.net = { c.net with canarySvc := none }) ∧
    (c.ro.hasTraffic = false → c'.net = c.net ∧ c'.sub.finStep = .resumeWorkload)
  | .resumeWorkload =>
    c'.net = c.net ∧ d = false ∧ c'.br = (finalizingBatchRelease c.br true).2.1 ∧
    c'.sub.finStep = (if (finalizingBatchRelease c.br true).1 then .resumeWorkload else .releaseWorkloadControl)
  | .releaseWorkloadControl =>
    c'.net = c.net ∧ c'.br = (removeBatchRelease c.br).2.1 ∧
    (if (removeBatchRelease c.br).1 then c'.sub.finStep = .releaseWorkloadControl ∧ d = false
     else c'.sub.finStep = .end_ ∧ d = true)
  | .end_ => c'.net = c.net ∧ c'.br = c.br ∧ d = true ∧ c'.sub.finStep = .end_
  | _ => False

theorem fin_round (c c' : Ctx) (d e : Bool) (hst : c.ro.style = .canary)
    (hcur : cursorOk (taskList c.ro.style .success) c.sub.finStep = true)
    (h : doFinalising c .success true = some (c', d, e)) :
    e = false ∧ c'.ro = c.ro ∧ c'.wl = { c.wl with inProgressAnno := false } ∧
    c'.sub = { c.sub with finStep := c'.sub.finStep, lastUpdate := c'.sub.lastUpdate } ∧
    (c.ro.hasTraffic = false → c'.net = c.net ∧ c'.mem = c.mem) ∧ FinRound c c' d := by
  have hgen := fun (hne : c.sub.finStep ≠ .end_) f1 nx hnx hf1 hk hnr => fin_round_task c c' d e hst hne f1 nx hnx hf1 hk hnr h
  rw [hst] at hcur
  unfold FinRound
  cases hf : c.sub.finStep <;> rw [hf] at hcur hgen <;> dsimp only
  case end_ =>
    obtain ⟨hs, hr, hb0, hn0, -, hm0⟩ := stripAnno_frame c
    cases doFinalising_inv h with
    | atEnd => exact ⟨rfl, hr, stripAnno_wl c, by rw [hs], fun _ => ⟨hn0, hm0⟩, hn0, hb0, rfl, by rw [hs]; exact hf⟩
    | restart hend => exact absurd hf hend
    | stopped hend => exact absurd hf hend
    | advanced hend => exact absurd hf hend
  case routeTrafficToNew => exact absurd hcur (by decide)
  case other => exact absurd hcur (by decide)
  case empty =>
    obtain ⟨he, h1, h2, h3, hnm, rt, hfs, hd, t5, t6, t7⟩ :=
      hgen (by decide) .restoreStableService .restoreStableService (by decide) (by decide) (by decide) (by decide)
    exact ⟨he, h1, h2, h3, hnm, t5, by rw [hd]; cases rt <;> rfl, by rw [hfs]; cases rt <;> rfl, t6, fun hh => (t7 hh).1⟩
  case restoreStableService =>
    obtain ⟨he, h1, h2, h3, hnm, rt, hfs, hd, t5, t6, t7⟩ :=
      hgen (by decide) .restoreStableService .routeTrafficToStable (by decide) (by decide) (by decide) (by decide)
    refine ⟨he, h1, h2, h3, hnm, t5, by rw [hd]; cases rt <;> rfl, ?_, t6, fun hh => ⟨(t7 hh).1, by rw [hfs, (t7 hh).2]; rfl⟩⟩
    rw [hfs]; cases rt
    · exact Or.inr rfl
    · exact Or.inl rfl
  case routeTrafficToStable =>
    obtain ⟨he, h1, h2, h3, hnm, rt, hfs, hd, t5, t6, t7⟩ :=
      hgen (by decide) .routeTrafficToStable .removeCanaryService (by decide) (by decide) (by decide) (by decide)
    refine ⟨he, h1, h2, h3, hnm, t5, by rw [hd]; cases rt <;> rfl, ?_, t6, fun hh => ⟨(t7 hh).1, by rw [hfs, (t7 hh).2]; rfl⟩⟩
    rw [hfs]; cases rt
    · exact Or.inr rfl
    · exact Or.inl rfl
  case removeCanaryService =>
    obtain ⟨he, h1, h2, h3, hnm, rt, hfs, hd, t5, t6, t7⟩ :=
      hgen (by decide) .removeCanaryService .resumeWorkload (by decide) (by decide) (by decide) (by decide)
    refine ⟨he, h1, h2, h3, hnm, t5, by rw [hd]; cases rt <;> rfl, ?_, t6, fun hh => ⟨(t7 hh).1, by rw [hfs, (t7 hh).2]; rfl⟩⟩
    rw [hfs]; cases rt
    · exact Or.inr rfl
    · exact Or.inl rfl
  case resumeWorkload =>
    obtain ⟨he, h1, h2, h3, hnm, rt, hfs, hd, t5, t6, t7⟩ :=
      hgen (by decide) .resumeWorkload .releaseWorkloadControl (by decide) (by decide) (by decide) (by decide)
    rw [← t7]
    exact ⟨he, h1, h2, h3, hnm, t5, by rw [hd]; cases rt <;> rfl, t6, hfs⟩
  case releaseWorkloadControl =>
    obtain ⟨he, h1, h2, h3, hnm, rt, hfs, hd, t5, t6, t7⟩ :=
      hgen (by decide) .releaseWorkloadControl .end_ (by decide) (by decide) (by decide) (by decide)
    rw [← t7]
    refine ⟨he, h1, h2, h3, hnm, t5, t6, ?_⟩
    rw [hfs, hd]
    cases rt
    · exact ⟨rfl, rfl⟩
    · exact ⟨rfl, rfl⟩

/-- **the body of a reconcile of a rollout in its clean-up** is one round of `doFinalising` on the observed status, landed by
    `ofCtx`; no task of the success list fails; a round that is done sets reason Completed -/
theorem reconcile_clean (w : World) (wl : WL) (s : Sub)
    (hg : RoGood w.ro) (hph : w.ro.phase = .progressing) (hr : w.ro.reason = .finalising)
    (hwl : w.wl = some wl) (hc : wl.consistent = true) (hs : w.ro.sub = some s)
    (hcur : cursorOk (taskList w.ro.style .success) s.finStep = true) :
    ∃ c' d, doFinalising (toCtx { w with ro := csObserve w.ro wl } (csSub s wl) wl) .success true = some (c', d, false) ∧
      reconcile w =
        if d then .val { w := { ofCtx w c' (csObserve w.ro wl) with
                                ro := { (ofCtx w c' (csObserve w.ro wl)).ro with reason := .completed, succeeded := some true } },
                         roGone := false, requeue := false, err := false, writes := c'.writes }
        else .val { w := ofCtx w c' (csObserve w.ro wl), roGone := false, requeue := true, err := false, writes := c'.writes } := by
  have hsame := (csObserve_same w.ro wl).1
  cases hd : doFinalising (toCtx { w with ro := csObserve w.ro wl } (csSub s wl) wl) .success true with
  | none => exact absurd hd (doFinalising_total _ _ _ (by show (csObserve w.ro wl).steps ≠ []; rw [hsame.steps]; exact hg.steps))
  | some x =>
    obtain ⟨c', d, e⟩ := x
    cases (fin_round _ c' d e (hsame.style.trans hg.canary)
      (by show cursorOk (taskList (csObserve w.ro wl).style .success) s.finStep = true; rw [hsame.style]; exact hcur) hd).1
    refine ⟨c', d, rfl, ?_⟩
    have hfz : finalise w (csObserve w.ro wl) (some wl) .success true =
        some (ofCtx w c' (csObserve w.ro wl), d, false, c'.writes) := by
      rw [finalise_live w .success true (csObserve_sub_eq w.ro wl s hs) hc, hd]
      rfl
    rw [reconcile_eq_core w hg.notDeleting hg.enabled,
      core_finalising w wl _ _ _ _ _ d false _ (hf_good w.ro hg) hwl (cs_good w.ro wl hg hph hc) hph hc hr hfz,
      if_neg Bool.false_ne_true]
    rfl

/-- the clean-up round of `reconcile_clean` carries the clean-up invariant of `RV.Props.Cluster`, and is done only when the
    BatchRelease is gone -/
theorem clean_round (w : World) (wl : WL) (s : Sub) (hg : RoGood w.ro) (c' : Ctx) (d : Bool)
    (hcur : cursorOk (taskList w.ro.style .success) s.finStep = true)
    (hinv : finInv .success w.ro s.finStep w.br w.net = true)
    (hd : doFinalising (toCtx { w with ro := csObserve w.ro wl } (csSub s wl) wl) .success true = some (c', d, false)) :
    c'.ro = csObserve w.ro wl ∧ c'.wl = { wl with inProgressAnno := false } ∧ BrFin w.br c'.br ∧
    (if d then c'.br = none
     else cursorOk (taskList (csObserve w.ro wl).style .success) c'.sub.finStep = true ∧
       finInv .success (csObserve w.ro wl) c'.sub.finStep c'.br c'.net = true) := by
  have hsame := (csObserve_same w.ro wl).1
  obtain ⟨hro', hcur', hinv'⟩ := doFinalising_inv_partial _ c' .success true d false rfl
    (show cursorOk (taskList (csObserve w.ro wl).style .success) s.finStep = true by rw [hsame.style]; exact hcur)
    ((finInv_congr .success w.ro (csObserve w.ro wl) s.finStep w.br w.net hsame.style hsame.hasTraffic hsame.disableGen).trans hinv) hd
  obtain ⟨_, _, hbfin, hwl'⟩ := doFinalising_canary _ c' .success true d false (hsame.style.trans hg.canary) hd
  rw [hro'] at hinv'
  refine ⟨hro', hwl', hbfin, ?_⟩
  cases d with
  | true =>
    rw [((doFinalising_cursor _ _ _ _ _ _ hd).1 rfl).1] at hinv'
    exact (end_means_clean _ _ _ _ hinv').1
  | false => exact ⟨hcur', hinv'⟩

end RV.Lemmas.ClosedLoop
