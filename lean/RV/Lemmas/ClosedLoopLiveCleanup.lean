/-
  Progress of the closed loop, round-boundary classes 20 – 29 (the clean-up).  20 – 23: the cursor on a task of the traffic
  Manager, which has nothing to do.  24 – 26: the cursor on `resumeWorkload` — the BatchRelease is patched (24), the executor
  finalises and releases the CloneSet (25), the cursor moves on (26).  27, 29: the cursor on `releaseWorkloadControl` — the
  completed BatchRelease is deleted (27), then the rollout completes (29).  One fair round from a state of the class ends in the
  next class.
-/
import RV.Lemmas.ClosedLoopLiveRoCleanup
import RV.Lemmas.ClosedLoopLiveExec
namespace RV.Lemmas.ClosedLoop
open RV.Arith RV.Traffic RV.RolloutSM RV.ClosedLoop RV.Oracle.ClosedLoop

theorem lG6_csObserve_condAge (ro : Rollout) (wl : WL) : (csObserve ro wl).condAge = ro.condAge := by
  rw [RV.RolloutSM.csObserve_eq]

/-- a clean-up round on a task of the traffic Manager: the annotation goes, the cursor moves on, the executor's reconcile
    changes nothing; `k'` is the class of the next cursor -/
theorem round_tm {s : CS} {w : CWl} {k : Nat} {f : FinStep} (I : Inv s w k) (hs : FinSpec s w f) (hf : tmCursor f) (k' : Nat)
    (hs' : ∀ t w', FinSpec t w' (nextTask (taskList .canary .success) f) → ClsSpec t w' k')
    (hk : 20 ≤ k ∧ 20 ≤ k' ∧ k' < 26) (hr : clsRank k' < clsRank k) : LandsIn s k' := by
  have F := I.facts (by omega)
  obtain ⟨sub, b, hfin, rfl, hb, R⟩ := hs
  obtain ⟨c', d, hround, _, hro⟩ := finalising_stepRo s w sub F hfin
  obtain ⟨hph', hre', hst', htr'⟩ := hfin.observed (roWl w)
  obtain ⟨hbr, rfl, hf'⟩ := hround.tm hf (htr'.trans F.nt)
  have hbr' : c'.br = s.br.map roBr := hbr
  rw [if_neg Bool.false_ne_true, hbr', landBR_id, hb] at hro
  exact round_lands_fin (w3 := { w with inProgressAnno := false }) k' I F hro
    (stepBr_ready w _ b rfl R (F.brOK hb) F.rpos F.cons) ⟨hst', htr', rfl, rfl, rfl⟩ (by rw [envWl_anno, F.env])
    (hs' _ _ ⟨tailSub c'.sub, _, .tail hph' hre' rfl, hf', rfl, ⟨R.sync, R.init, R.ready, R.part, R.now, R.le⟩⟩)
    ⟨hk.2.1, hk.1, hr⟩ (fun h => absurd h (by omega))

theorem step_cls_20 (s : CS) (w : CWl) (I : Inv s w 20) : LandsIn s 21 :=
  round_tm I I.spec (Or.inl rfl) 21 (fun _ _ h => h) (by decide) (by decide)

theorem step_cls_21 (s : CS) (w : CWl) (I : Inv s w 21) : LandsIn s 22 :=
  round_tm I I.spec (Or.inr (Or.inl rfl)) 22 (fun _ _ h => h) (by decide) (by decide)

theorem step_cls_22 (s : CS) (w : CWl) (I : Inv s w 22) : LandsIn s 23 :=
  round_tm I I.spec (Or.inr (Or.inr (Or.inl rfl))) 23 (fun _ _ h => h) (by decide) (by decide)

theorem step_cls_23 (s : CS) (w : CWl) (I : Inv s w 23) : LandsIn s 24 :=
  round_tm I I.spec (Or.inr (Or.inr (Or.inr rfl))) 24 (fun _ _ h => h) (by decide) (by decide)

/-- the Rollout reconcile of a clean-up round at cursor `resumeWorkload`: `finalizingBatchRelease` is applied to the BatchRelease,
    and the cursor moves on when it is through -/
theorem stepRo_resume (s : CS) (w : CWl) (sub : Sub) (b : CBr) (F : LiveFacts s w) (hfin : Finalising s sub)
    (hf : sub.finStep = .resumeWorkload) (hb : s.br = some b) :
    ∃ sub', stepRo s = some (mid s { csObserve s.ro (roWl w) with sub := some sub' } { w with inProgressAnno := false }
        (landBR (some b) (finalizingBatchRelease (some (roBr b)) true).2.1 (some { w with inProgressAnno := false })).1) ∧
      sub'.finStep = (if (finalizingBatchRelease (some (roBr b)) true).1 then .resumeWorkload else .releaseWorkloadControl) := by
  obtain ⟨c', d, hround, _, hro⟩ := finalising_stepRo s w sub F hfin
  unfold FinRound at hround
  rw [show (roundCtx0 s w sub).sub.finStep = .resumeWorkload from hf,
    show (roundCtx0 s w sub).br = some (roBr b) by show s.br.map roBr = _; rw [hb]; rfl] at hround
  obtain ⟨_, rfl, hbr, hfs⟩ := hround
  rw [if_neg Bool.false_ne_true, hbr, hb] at hro
  exact ⟨c'.sub, hro, hfs⟩

theorem fbr_patch (b : BR) (h : b.partition.isSome = true) :
    finalizingBatchRelease (some b) true = (true, some (resumedBR b true), ["patchBR"]) := by
  rcases finalizingBatchRelease_cases b true with ⟨hp, _⟩ | ⟨hp, _⟩ | ⟨_, e⟩
  · rw [hp] at h; cases h
  · rw [hp] at h; cases h
  · exact e

/-- the BatchRelease after the patch of class 24 landed -/
def patchedBr (b : CBr) : CBr :=
  upd2 b (resumedBR (roBr b) true)

theorem patchedBr_land (b : CBr) (wl : Option CWl) :
    landBR (some b) (some (resumedBR (roBr b) true)) wl =
      (some (patchedBr b), wl) := by
  unfold landBR
  dsimp only
  rw [updatedBr_eq, if_neg (by show ¬ (b.deleting = true ∧ ¬ b.deleting = true); exact fun hx => hx.2 hx.1)]
  rfl

theorem patchedBr_facts (b : CBr) (h : b.partition.isSome = true) :
    (patchedBr b).partition = none ∧ (patchedBr b).policy = "WaitResume" ∧ (patchedBr b).deleting = b.deleting ∧
    (patchedBr b).st.phase = b.st.phase ∧ (patchedBr b).st.currentBatch = b.st.currentBatch ∧
    (patchedBr b).st.hash = (if b.st.hash = .same then .differs else b.st.hash) := by
  have hch : specChanged b (resumedBR (roBr b) true) = true := by
    cases hp : b.partition with
    | none => rw [hp] at h; cases h
    | some p => simp [specChanged, resumedBR, hp]
  unfold patchedBr upd2
  rw [if_pos hch]
  exact ⟨rfl, rfl, rfl, rfl, rfl, rfl⟩

/-- class 24: the BatchRelease is patched (no partition, `WaitResume`), the executor turns to `Finalizing`; successor class 25 -/
theorem step_cls_24 (s : CS) (w : CWl) (I : Inv s w 24) : LandsIn s 25 := by
  obtain ⟨sub, b, hfin, hf, hb, R⟩ := I.spec
  have F := I.facts (by decide)
  have hdel := ((brSync_iff b w).1 R.sync).2.del
  have hphase := ((brInit_iff b w).1 R.init).2.2.2
  obtain ⟨sub', hro, hf'⟩ := stepRo_resume s w sub b F hfin hf hb
  obtain ⟨hph', hre', hst', htr'⟩ := hfin.observed (roWl w)
  rw [fbr_patch (roBr b) R.part] at hro hf'
  dsimp only at hro hf'
  rw [patchedBr_land] at hro
  rw [if_pos rfl] at hf'
  obtain ⟨p1, p2, p3, p4, p5, _⟩ := patchedBr_facts b R.part
  generalize patchedBr b = b1 at hro p1 p2 p3 p4 p5
  -- the BatchRelease reconcile stops after the sync step, which turned the phase to `Finalizing`
  have hne : (exBr b1).status.phase ≠ .empty := by
    show b1.st.phase ≠ .empty
    rw [p4, hphase]; decide
  have hd1 : b1.deleting = false := p3.trans hdel
  have hq := sync_finalizing b1 { w with inProgressAnno := false } p1 hd1 (by rw [p4, hphase]; decide) hne
  have hbr := stepBr_stopped (mid s { csObserve s.ro (roWl w) with sub := some sub' } { w with inProgressAnno := false } (some b1)) b1 { w with inProgressAnno := false } rfl rfl
    hd1 (by
      rw [hq]
      refine decide_eq_true fun hx => ?_
      have h2 : Executor.Phase.finalizing = b1.st.phase := congrArg Executor.Status.phase hx
      rw [p4, hphase] at h2
      cases h2)
  rw [hq] at hbr
  refine round_lands_fin 25 I F hro hbr ⟨hst', htr', rfl, rfl, rfl⟩ (by rw [envWl_anno, F.env]) ?_ (by decide)
    (fun h => absurd h (by decide))
  exact ⟨tailSub sub', _, .tail hph' hre' rfl, hf', rfl, p1, rfl, rfl, rfl, rfl, rfl, hd1,
    p2, by
      show (if (exBr b1).status.hash = .empty then Executor.HashObs.same else (exBr b1).status.hash) ≠ .empty
      split
      · intro hx; cases hx
      · assumption, rfl⟩

theorem fbr_wait (b : BR) (h1 : b.partition = none) (h2 : b.phaseCompleted = false) (h3 : b.policy = "WaitResume") :
    finalizingBatchRelease (some b) true = (true, some b, []) := by
  rcases finalizingBatchRelease_cases b true with ⟨_, hc, _⟩ | ⟨_, _, _, e⟩ | ⟨hn, _⟩
  · rw [h2] at hc; cases hc
  · exact e
  · exact absurd ⟨h1, .inr (by rw [h3]; rfl)⟩ hn

theorem refresh_finalizing_fix (st : Executor.Status) (w : Executor.Workload) (h1 : st.phase = .finalizing) (h2 : st.updated = w.updated)
    (h3 : st.updatedReady = w.updatedReady) (h4 : st.hash ≠ .empty) (h5 : st.rolloutIDSame = true) :
    Executor.refreshStatus { st with phase := .finalizing } (some w) = st := by
  cases st
  simp only at h1 h2 h3 h4 h5
  subst h1 h2 h3 h5
  simp [Executor.refreshStatus, h4]

/-- class 25: the executor finalises — it releases the CloneSet and completes; successor class 26.  Needs `b.st.hash ≠ .empty`
    and `b.observedRolloutID = b.rolloutID` (otherwise the sync step changes the status and the executor does not reach
    `Finalize` in this round); the round from class 24 supplies both -/
theorem step_cls_25 (s : CS) (w : CWl) (I : Inv s w 25) : LandsIn s 26 := by
  obtain ⟨sub, b, hfin, hf, hb, hpn, hfinp, hupd, hupdr, _, _, hdel, hpol, hhash, hoid⟩ := I.spec
  have F := I.facts (by decide)
  obtain ⟨sub', hro, hf'⟩ := stepRo_resume s w sub b F hfin hf hb
  obtain ⟨hph', hre', hst', htr'⟩ := hfin.observed (roWl w)
  rw [fbr_wait (roBr b) hpn
    (by show decide (b.st.phase = .completed) = false; rw [hfinp]; rfl) hpol] at hro hf'
  rw [show landBR (some b) (some (roBr b)) (some { w with inProgressAnno := false }) = (some b, some { w with inProgressAnno := false })
    from landBR_id (some b) _] at hro
  rw [if_pos rfl] at hf'
  -- the sync step of the BatchRelease reconcile changes nothing
  have hq : Executor.syncStatus (Executor.withFinalizer (exBr b)) (Executor.initializedStatus (exBr b).status)
      (some (exWl { w with inProgressAnno := false })) = { status := (exBr b).status, stop := false } := by
    rw [sync_finalizing b _ hpn hdel (by rw [hfinp]; decide) (by rw [hfinp]; decide),
      refresh_finalizing_fix (exBr b).status (exWl { w with inProgressAnno := false }) hfinp hupd hupdr hhash
        (by show decide (b.observedRolloutID = b.rolloutID) = true; exact decide_eq_true hoid),
      decide_eq_false (fun hn => hn rfl)]
  have hrec := exec_go (exBr b) (some (exWl { w with inProgressAnno := false })) hdel hq
  rw [execute_finalizing (Executor.withFinalizer (exBr b)) (exBr b).status _ hfinp hpn] at hrec
  exact round_lands_fin 26 I F hro (stepBr_eq _ b { w with inProgressAnno := false } _ rfl rfl hrec) ⟨hst', htr', rfl, F.unp.symm, rfl⟩
    rfl ⟨tailSub sub', _, .tail hph' hre' rfl, hf', rfl, hpn, rfl, hdel, rfl⟩ (by decide)
    (fun _ => ⟨⟨rfl, rfl, rfl⟩, fun h => absurd h (by decide)⟩)

theorem fbr_completed (b : BR) (h1 : b.partition = none) (h2 : b.phaseCompleted = true) :
    finalizingBatchRelease (some b) true = (false, some b, []) := by
  rcases finalizingBatchRelease_cases b true with ⟨_, _, e⟩ | ⟨_, hc, _⟩ | ⟨hn, _⟩
  · exact e
  · rw [h2] at hc; cases hc
  · exact absurd ⟨h1, .inl h2⟩ hn

/-- class 26: the BatchRelease has completed, the cursor moves on to `releaseWorkloadControl`; successor class 27 -/
theorem step_cls_26 (s : CS) (w : CWl) (I : Inv s w 26) : LandsIn s 27 := by
  obtain ⟨sub, b, hfin, hf, hb, hpn, hcomp, hdel, hbf⟩ := I.spec
  have F := I.facts (by decide)
  obtain ⟨sub', hro, hf'⟩ := stepRo_resume s w sub b F hfin hf hb
  obtain ⟨hph', hre', hst', htr'⟩ := hfin.observed (roWl w)
  rw [fbr_completed (roBr b) hpn
    (by show decide (b.st.phase = .completed) = true; exact decide_eq_true hcomp)] at hro hf'
  rw [show landBR (some b) (some (roBr b)) (some { w with inProgressAnno := false }) = (some b, some { w with inProgressAnno := false })
    from landBR_id (some b) _] at hro
  rw [if_neg Bool.false_ne_true] at hf'
  -- the BatchRelease reconcile stops after the sync step
  have hcomp' : (Executor.withFinalizer (exBr b)).status.phase = .completed := hcomp
  have hne : (exBr b).status.phase ≠ .empty := by
    show b.st.phase ≠ .empty
    rw [hcomp]; decide
  have hst := congrArg Executor.SyncOut.status (Executor.syncStatus_eq _ (Executor.initializedStatus (exBr b).status)
    (some (exWl { w with inProgressAnno := false })) _
    (RV.Executor.syncDecide_completed (Executor.withFinalizer (exBr b)) (Executor.initializedStatus (exBr b).status) _ _ hcomp'))
  dsimp only at hst
  have hbr := stepBr_stopped (mid s { csObserve s.ro (roWl w) with sub := some sub' } { w with inProgressAnno := false } (some b)) b { w with inProgressAnno := false } rfl rfl
    hdel (RV.Executor.sync_completed_stops _ _ _ hcomp')
  rw [hst] at hbr
  have hrel := I.released (by decide) (by decide)
  exact round_lands_fin 27 I F hro hbr ⟨hst', htr', rfl, rfl, rfl⟩ rfl
    ⟨tailSub sub', _, .tail hph' hre' rfl, hf', rfl,
      by show (Executor.refreshStatus _ _).phase = _; rw [Executor.refresh_phase, Executor.initialized_id _ hne]; exact hcomp,
      hdel, rfl⟩
    (by decide) (fun _ => ⟨⟨hrel.part, hrel.unp, hrel.own⟩, fun h => absurd h (by decide)⟩)

theorem updatedBr_del (b0 : CBr) (hd : b0.deleting = false) (hf : b0.hasFinalizer = true) :
    updatedBr b0 { roBr b0 with deleting := true } = some { b0 with deleting := true } := by
  rw [updatedBr_eq, upd2_delete, if_pos ⟨rfl, by rw [hd]; exact Bool.false_ne_true⟩, if_pos hf]

/-- class 27: the Completed BatchRelease is deleted and disappears; successor class 29 -/
theorem step_cls_27 (s : CS) (w : CWl) (I : Inv s w 27) : LandsIn s 29 := by
  obtain ⟨sub, b0, hfin, hf, hbr, hbph, hbdel, hbfin⟩ := I.spec
  have F := I.facts (by decide)
  obtain ⟨c', d, hround, _, hro⟩ := finalising_stepRo s w sub F hfin
  obtain ⟨hph', hre', hst', htr'⟩ := hfin.observed (roWl w)
  have hrm : removeBatchRelease (some (roBr b0)) = (true, some { roBr b0 with deleting := true }, ["deleteBR"]) :=
    (removeBatchRelease_some (roBr b0)).trans (by rw [show (roBr b0).deleting = false from hbdel]; rfl)
  -- the Delete is issued, the cursor stays
  unfold FinRound at hround
  rw [show (roundCtx0 s w sub).sub.finStep = .releaseWorkloadControl from hf,
    show (roundCtx0 s w sub).br = some (roBr b0) by show s.br.map roBr = _; rw [hbr]; rfl, hrm] at hround
  obtain ⟨_, hcb, h3⟩ := hround
  rw [if_pos rfl] at h3
  obtain ⟨hf', rfl⟩ := h3
  rw [if_neg Bool.false_ne_true, hcb] at hro
  have hland : landBR s.br (some { roBr b0 with deleting := true }) (some { w with inProgressAnno := false }) =
      (some { b0 with deleting := true }, some { w with inProgressAnno := false }) := by
    rw [hbr]
    unfold landBR
    dsimp only
    rw [updatedBr_del b0 hbdel hbfin]
  rw [hland] at hro
  -- the BatchRelease reconcile: deleting, Completed, finalizer present: the object goes away
  have hsb : stepBr (mid s { csObserve s.ro (roWl w) with sub := some c'.sub } { w with inProgressAnno := false } (some { b0 with deleting := true })) =
      some (mid s { csObserve s.ro (roWl w) with sub := some c'.sub } { w with inProgressAnno := false } none) := by
    rw [stepBr_eq _ _ _ { br := none, wl := some (exWl { w with inProgressAnno := false }), requeue := false, err := false }
      rfl rfl (by unfold Executor.reconcile; rw [if_pos ⟨rfl, hbph, hbfin⟩])]
    exact congrArg (fun x => some (mid s { csObserve s.ro (roWl w) with sub := some c'.sub } x none)) (landW_id _)
  have hrel := I.released (by decide) (by decide)
  exact round_lands_fin 29 I F hro hsb ⟨hst', htr', rfl, rfl, rfl⟩ rfl
    ⟨tailSub c'.sub, .tail hph' hre' rfl, hf', rfl⟩
    (by decide) (fun _ => ⟨⟨hrel.part, hrel.unp, hrel.own⟩, fun h => absurd h (by decide)⟩)

/-- class 29: the cursor reaches the end, the release is recorded as succeeded; successor class 30 -/
theorem step_cls_29 (s : CS) (w : CWl) (I : Inv s w 29) : LandsIn s 30 := by
  obtain ⟨sub, hfin, hf, hbr⟩ := I.spec
  have F := I.facts (by decide)
  obtain ⟨c', d, hround, _, hro⟩ := finalising_stepRo s w sub F hfin
  obtain ⟨hph', _, hst', htr'⟩ := hfin.observed (roWl w)
  -- nothing is left to remove: the round is done
  unfold FinRound at hround
  rw [show (roundCtx0 s w sub).sub.finStep = .releaseWorkloadControl from hf,
    show (roundCtx0 s w sub).br = none by show s.br.map roBr = _; rw [hbr]; rfl] at hround
  obtain ⟨_, hcb, h3⟩ := hround
  rw [if_neg (by decide)] at h3
  rw [h3.2, if_pos rfl, hcb, hbr] at hro
  have hrel := I.released (by decide) (by decide)
  exact round_lands_fin 30 I F hro (stepBr_none _ rfl) ⟨hst', htr', rfl, rfl, rfl⟩ rfl ⟨hph', rfl, rfl, rfl⟩ (by decide)
    (fun _ => ⟨⟨hrel.part, hrel.unp, hrel.own⟩, fun _ => rfl⟩)

end RV.Lemmas.ClosedLoop
