/-
  The big case distinctions of the Rollout controller, each taken apart once.
  One reconcile: an outcome of `calculateStatus`, of `RolloutSM.inRolling` (`doProgressingInRolling`), of `finalise` and of
  `reconcileCore` comes from exactly one branch of the Go code, with that branch's guards and the sub-call that produced it
  (`calculateStatus_inv`, `inRolling_dispatch` / `inRolling_nosub`, `finalise_eq` on `finCtx`, `reconcileCore_inv`; `inRolling_panic`,
  `reconcileCore_panic` for the crashes; `reconcileCore_rolling` for the branches of a rolling rollout). `fixNext` is the
  correction of the next-step index that `inRolling` applies before it calls the release manager. `calculateStatus` also has
  its result on a Progressing rollout written out (`calculateStatus_progressing`) and its effect on the three fields
  `Reconcile` dispatches on as a finite table (`cs_ctl`).
  The release manager's helpers, one description each: a Manager call made through `callTM` (`callTM_eq`, read backwards by
  `callTM_inv`; `callTM_total`), `runBatchRelease` (`runBatchRelease_current` / `_update`), `doCanaryUpgrade`
  (`doCanaryUpgrade_eq`, its congruences), `removeBatchRelease`, `finalizingBatchRelease`, `doCanaryPaused` (`doCanaryPaused_done`),
  the step jump not taken (`doCanaryJump_false`); the round itself is in `Lemmas/Round`.
  A clean-up round: what `stripAnno` touches (`stripAnno_eq`), the context the task runs on (`finStart`), the round
  (`doFinalising_inv`).
  A plan edit during a release: the order `recalculateCanaryStep` visits the steps in (`visitOrder`, `recalc_eq`) and where
  its loop stops (`recalc_go_spec`).
-/
import RV.Model.RolloutSM
namespace RV.RolloutSM

/-- the result of a branch that only writes the status `ro`: no requeue, no error, nothing else written -/
def quiet (w : World) (ro : Rollout) : StepResult :=
  { w := { w with ro := ro }, roGone := false, requeue := false, err := false, writes := [] }

/-- the guard of the two rollback branches: the workload is rolling back to a revision other than the recorded one -/
def RolledBack (os : Sub) (wl : WL) : Prop := wl.inRollback = true ∧ wl.canaryRev ≠ os.canaryRev

/-- `util.IsRollbackInBatchPolicy` as `inRolling` evaluates it -/
def InBatch (ns : Rollout) : Prop := ¬ ns.hasTraffic = true ∧ ns.realPartition = true ∧ ns.rollbackInBatch = true

/-- the guard of the continuous-release branches: a release is recorded and the workload has moved on to another revision, not by
    a rollback -/
def Continuous (os : Sub) (wl : WL) : Prop := os.canaryRev ≠ "" ∧ wl.canaryRev ≠ os.canaryRev ∧ ¬ wl.inRollback = true

/-- the stored plan hash differs from the plan's (`hash` is neither empty nor `same`): the steps were edited during the release -/
def PlanChanged (os : Sub) : Prop := os.hash ≠ .empty ∧ os.hash ≠ .same

/-- `CheckNextBatchIndexWithCorrect` on the status the release manager works on -/
def fixNext (ns : Rollout) (s : Sub) : Sub :=
  if s.nextIdx ≤ 0 ∨ s.nextIdx > (ns.steps.length : Int) then
    { s with nextIdx := nextBatchIndex (ns.steps.length : Int) s.curIdx } else s

theorem fixNext_frame (ns : Rollout) (s : Sub) : fixNext ns s = { s with nextIdx := (fixNext ns s).nextIdx } := by
  unfold fixNext; split <;> rfl

@[simp] theorem fixNext_curIdx (ns : Rollout) (s : Sub) : (fixNext ns s).curIdx = s.curIdx := by rw [fixNext_frame]
@[simp] theorem fixNext_state (ns : Rollout) (s : Sub) : (fixNext ns s).state = s.state := by rw [fixNext_frame]

/-- The branches of `doProgressingInRolling` on a rollout whose sub-status as read is `os`, in the order of the code; every
    branch after `paused` carries `ns.paused = false`, every branch after `rollbackInBatch` also `¬ RolledBack`. `reset` is the
    continuous release of a canary rollout with the three answers of `doProgressingReset`. -/
inductive Dispatch (w : World) (os : Sub) (ns : Rollout) (s : Sub) (wl : WL) : StepResult → Prop
  | cancelling (hrb : RolledBack os wl) (hib : ¬ InBatch ns) :
      Dispatch w os ns s wl (quiet w { ns with reason := .cancelling, sub := some { s with canaryRev := wl.canaryRev } })
  | paused (hrb : ¬ (RolledBack os wl ∧ ¬ InBatch ns)) (hp : ns.paused = true) :
      Dispatch w os ns s wl (quiet w { ns with reason := .paused })
  | rollbackInBatch (hp : ¬ ns.paused = true) (hrb : RolledBack os wl) (hib : InBatch ns) :
      Dispatch w os ns s wl (quiet w { ns with sub := some { s with
        curIdx := 1, nextIdx := nextBatchIndex (ns.steps.length : Int) 1, canaryRev := wl.canaryRev,
        state := .init, lastUpdate := .fresh, hash := .same } })
  | continuousBlueGreen (hp : ¬ ns.paused = true) (hrb : ¬ RolledBack os wl) (hc : Continuous os wl) (hbg : ns.style = .blueGreen) :
      Dispatch w os ns s wl (quiet w ns)
  | reset (hp : ¬ ns.paused = true) (hrb : ¬ RolledBack os wl) (hc : Continuous os wl) (hbg : ¬ ns.style = .blueGreen)
      (c : Ctx) (done err : Bool) (hreset : doProgressingReset (toCtx { w with ro := ns } s wl) = some (c, done, err)) :
      Dispatch w os ns s wl
        { w := if done = true ∧ err = false then
                 { ofCtx w c ns with ro := { (ofCtx w c ns).ro with sub := none, reason := .initializing } }
               else ofCtx w c ns,
          roGone := false, requeue := !done && !err, err := err, writes := c.writes }
  | planSame (hp : ¬ ns.paused = true) (hrb : ¬ RolledBack os wl) (hc : ¬ Continuous os wl) (hh : PlanChanged os)
      (hre : recalculateCanaryStep ns s wl w.br = some s.nextIdx) :
      Dispatch w os ns s wl (quiet w { ns with sub := some { s with state := .ready, lastUpdate := .fresh, hash := .same } })
  | planJump (hp : ¬ ns.paused = true) (hrb : ¬ RolledBack os wl) (hc : ¬ Continuous os wl) (hh : PlanChanged os) (newIdx : Int)
      (hre : recalculateCanaryStep ns s wl w.br = some newIdx) (hne : ¬ s.nextIdx = newIdx) (s2 : Sub) (j : Bool)
      (hj : doCanaryJump ns { s with nextIdx := newIdx, lastUpdate := .fresh, hash := .same } = some (s2, j)) :
      Dispatch w os ns s wl (quiet w { ns with sub := some s2 })
  | completed (hp : ¬ ns.paused = true) (hrb : ¬ RolledBack os wl) (hc : ¬ Continuous os wl) (hh : ¬ PlanChanged os)
      (hst : s.state = .completed) : Dispatch w os ns s wl (quiet w { ns with reason := .finalising })
  | run (hp : ¬ ns.paused = true) (hrb : ¬ RolledBack os wl) (hc : ¬ Continuous os wl) (hh : ¬ PlanChanged os)
      (hst : ¬ s.state = .completed) (c : Ctx) (err : Bool)
      (hrun : runCanary (toCtx { w with ro := ns } (fixNext ns s) wl) = .ok c err) :
      Dispatch w os ns s wl { w := ofCtx w c ns, roGone := false, requeue := c.requeue, err := err, writes := c.writes }

inductive InRollingPanic (w : World) (old ns : Rollout) (s : Sub) (wl : WL) : Prop
  | noSub (ho : old.sub = none) (hg : wl.inRollback = true ∨ ¬ ns.paused = true)
  | reset (hreset : doProgressingReset (toCtx { w with ro := ns } s wl) = none)
  | recalc (hre : recalculateCanaryStep ns s wl w.br = none)
  | jump (newIdx : Int) (hre : recalculateCanaryStep ns s wl w.br = some newIdx)
      (hj : doCanaryJump ns { s with nextIdx := newIdx, lastUpdate := .fresh, hash := .same } = none)
  | run (hrun : runCanary (toCtx { w with ro := ns } (fixNext ns s) wl) = .panic)

/-- what `doProgressingInRolling` returns: with a stored sub-status `os` one branch of `Dispatch`; without one it only honours a
    pause (anything else dereferences the sub-status: `InRollingPanic.noSub`); its crashes are `InRollingPanic` -/
def InRollingOut (w : World) (old ns : Rollout) (s : Sub) (wl : WL) : Out → Prop
  | .val r => (∃ os, old.sub = some os ∧ Dispatch w os ns s wl r) ∨
      (old.sub = none ∧ ¬ wl.inRollback = true ∧ ns.paused = true ∧ r = quiet w { ns with reason := .paused })
  | .panic => InRollingPanic w old ns s wl

/-- **`doProgressingInRolling` taken apart**: every outcome comes from exactly one branch, with the guards that lead there and
    the sub-call that produced it. (In the proof the guards are decided one by one and the `if` rewritten with the decision:
    `split` on these conjunctions is two orders of magnitude dearer to check.) -/
theorem inRolling_spec (w : World) (old ns : Rollout) (s : Sub) (wl : WL) :
    InRollingOut w old ns s wl (inRolling w old ns s wl) := by
  generalize hout : inRolling w old ns s wl = out
  unfold inRolling at hout
  dsimp only at hout
  cases ho : old.sub with
  | none =>
    rw [ho] at hout
    dsimp only at hout
    by_cases hrb : wl.inRollback = true
    · rw [if_pos hrb] at hout; subst hout; exact .noSub ho (.inl hrb)
    rw [if_neg hrb] at hout
    by_cases hp : ns.paused = true
    · rw [if_pos hp] at hout; subst hout; exact .inr ⟨ho, hrb, hp, rfl⟩
    · rw [if_neg hp] at hout; subst hout; exact .noSub ho (.inr hp)
  | some os =>
    rw [ho] at hout
    dsimp only at hout
    by_cases g1 : RolledBack os wl ∧ ¬ InBatch ns
    · rw [if_pos ⟨g1.1.1, g1.1.2, g1.2⟩] at hout; subst hout; exact .inl ⟨os, ho, .cancelling g1.1 g1.2⟩
    rw [if_neg (fun g => g1 ⟨⟨g.1, g.2.1⟩, g.2.2⟩)] at hout
    by_cases hp : ns.paused = true
    · rw [if_pos hp] at hout; subst hout; exact .inl ⟨os, ho, .paused g1 hp⟩
    rw [if_neg hp] at hout
    by_cases hrb : RolledBack os wl
    · have hib : InBatch ns := Classical.not_not.mp fun hib => g1 ⟨hrb, hib⟩
      rw [if_pos ⟨hrb.1, hrb.2, hib⟩] at hout; subst hout; exact .inl ⟨os, ho, .rollbackInBatch hp hrb hib⟩
    rw [if_neg (fun g => hrb ⟨g.1, g.2.1⟩)] at hout
    by_cases hc : Continuous os wl
    · rw [if_pos (show _ ∧ _ ∧ _ from hc)] at hout
      by_cases hbg : ns.style = .blueGreen
      · rw [if_pos hbg] at hout; subst hout; exact .inl ⟨os, ho, .continuousBlueGreen hp hrb hc hbg⟩
      rw [if_neg hbg] at hout
      cases hreset : doProgressingReset (toCtx { w with ro := ns } s wl) with
      | none => rw [hreset] at hout; subst hout; exact .reset hreset
      | some x =>
        obtain ⟨c, done, err⟩ := x
        rw [hreset] at hout
        subst hout
        cases err <;> cases done <;> exact .inl ⟨os, ho, .reset hp hrb hc hbg c _ _ hreset⟩
    rw [if_neg (show ¬ (_ ∧ _ ∧ _) from hc)] at hout
    by_cases hh : PlanChanged os
    · rw [if_pos (show _ ∧ _ from hh)] at hout
      cases hre : recalculateCanaryStep ns s wl w.br with
      | none => rw [hre] at hout; subst hout; exact .recalc hre
      | some newIdx =>
        rw [hre] at hout
        dsimp only at hout
        by_cases heq : s.nextIdx = newIdx
        · rw [if_pos heq] at hout; subst hout; exact .inl ⟨os, ho, .planSame hp hrb hc hh (heq ▸ hre)⟩
        rw [if_neg heq] at hout
        cases hj : doCanaryJump ns { s with nextIdx := newIdx, lastUpdate := .fresh, hash := .same } with
        | none => rw [hj] at hout; subst hout; exact .jump newIdx hre hj
        | some x => rw [hj] at hout; subst hout; exact .inl ⟨os, ho, .planJump hp hrb hc hh newIdx hre heq x.1 x.2 hj⟩
    rw [if_neg (show ¬ (_ ∧ _) from hh)] at hout
    by_cases hst : s.state = .completed
    · rw [if_pos hst] at hout; subst hout; exact .inl ⟨os, ho, .completed hp hrb hc hh hst⟩
    rw [if_neg hst] at hout
    change (match runCanary (toCtx { w with ro := ns } (fixNext ns s) wl) with
      | .panic => Out.panic
      | .ok c err => .val { w := ofCtx w c ns, roGone := false, requeue := c.requeue, err := err, writes := c.writes }) = out at hout
    cases hrun : runCanary (toCtx { w with ro := ns } (fixNext ns s) wl) with
    | panic => rw [hrun] at hout; subst hout; exact .run hrun
    | ok c err => rw [hrun] at hout; subst hout; exact .inl ⟨os, ho, .run hp hrb hc hh hst c err hrun⟩

theorem inRolling_dispatch {w : World} {old ns : Rollout} {s os : Sub} {wl : WL} {r : StepResult}
    (h : inRolling w old ns s wl = .val r) (hos : old.sub = some os) : Dispatch w os ns s wl r := by
  have := inRolling_spec w old ns s wl
  rw [h] at this
  rcases this with ⟨os', ho, hd⟩ | ⟨ho, _⟩
  · cases ho.symm.trans hos; exact hd
  · cases ho.symm.trans hos

theorem inRolling_nosub {w : World} {old ns : Rollout} {s : Sub} {wl : WL} {r : StepResult}
    (h : inRolling w old ns s wl = .val r) (ho : old.sub = none) :
    ¬ wl.inRollback = true ∧ ns.paused = true ∧ r = quiet w { ns with reason := .paused } := by
  have := inRolling_spec w old ns s wl
  rw [h] at this
  rcases this with ⟨os, ho', _⟩ | ⟨_, h1, h2, h3⟩
  · cases ho.symm.trans ho'
  · exact ⟨h1, h2, h3⟩

theorem inRolling_frame {w : World} {old ns : Rollout} {s : Sub} {wl : WL} {r : StepResult}
    (h : inRolling w old ns s wl = .val r) :
    r.w.ro = { ns with reason := r.w.ro.reason, sub := r.w.ro.sub } ∧ r.roGone = false := by
  cases ho : old.sub with
  | none => rw [(inRolling_nosub h ho).2.2]; exact ⟨rfl, rfl⟩
  | some os =>
    cases inRolling_dispatch h ho with
    | reset _ _ _ _ c d e => cases d <;> cases e <;> exact ⟨rfl, rfl⟩
    | _ => exact ⟨rfl, rfl⟩

/-- a blue-green rollout, not paused and not rolled back, refuses a continuous release: the status comes back as given -/
theorem inRolling_refuses {w : World} {old ns : Rollout} {s os : Sub} {wl : WL} {r : StepResult}
    (h : inRolling w old ns s wl = .val r) (hos : old.sub = some os) (hnrb : ¬ wl.inRollback = true)
    (hnp : ¬ ns.paused = true) (hbg : ns.style = .blueGreen) (hc : Continuous os wl) : r = quiet w ns := by
  cases inRolling_dispatch h hos with
  | cancelling hrb | rollbackInBatch _ hrb => exact absurd hrb.1 hnrb
  | paused _ hp => exact absurd hp hnp
  | continuousBlueGreen => rfl
  | reset _ _ _ hn => exact absurd hbg hn
  | planSame _ _ hn | planJump _ _ hn | completed _ _ hn | run _ _ hn => exact absurd hc hn

theorem inRolling_panic {w : World} {old ns : Rollout} {s : Sub} {wl : WL}
    (h : inRolling w old ns s wl = .panic) : InRollingPanic w old ns s wl := by
  have := inRolling_spec w old ns s wl
  rw [h] at this
  exact this

/-- the phase `calculateRolloutStatus` starts from: a disabled rollout goes to Disabling / Disabled, an empty phase is Initial -/
def phaseIn (disabled : Bool) (p : Phase) : Phase :=
  let p0 := if disabled ∧ p ≠ .disabled ∧ p ≠ .disabling then (if p = .progressing then Phase.disabling else .disabled) else p
  if p0 = .empty then .initial else p0

theorem csDisable_eq (ro : Rollout) :
    csDisable ro = { ro with phase := if ro.disabled ∧ ro.phase ≠ .disabled ∧ ro.phase ≠ .disabling then
      (if ro.phase = .progressing then Phase.disabling else .disabled) else ro.phase } := by
  unfold csDisable; split
  · split <;> rfl
  · rfl

theorem csInitial_eq (ns : Rollout) : csInitial ns = { ns with phase := if ns.phase = .empty then Phase.initial else ns.phase } := by
  unfold csInitial; split <;> rfl

/-- the first two stages of `calculateRolloutStatus` set the phase, and nothing else -/
theorem csStart_eq (ro : Rollout) : csInitial (csDisable ro) = { ro with phase := phaseIn ro.disabled ro.phase } := by
  rw [csInitial_eq, csDisable_eq]; rfl

/-- what `csSub` is when the recorded revision is the workload's (`csSub_pos`) -/
def obsSub (s : Sub) (wl : WL) : Sub := { s with observedRolloutID := getRolloutID wl, observedGen := wl.generation }

/-- the sub-status `calculateRolloutStatus` hands on: observed rollout-id and generation are refreshed when it records the
    workload's revision -/
def csSub (s : Sub) (wl : WL) : Sub :=
  { s with observedRolloutID := if s.canaryRev ≠ "" ∧ s.canaryRev = wl.canaryRev then getRolloutID wl else s.observedRolloutID,
           observedGen := if s.canaryRev ≠ "" ∧ s.canaryRev = wl.canaryRev then wl.generation else s.observedGen }

theorem csSub_pos {s : Sub} {wl : WL} (h : s.canaryRev ≠ "" ∧ s.canaryRev = wl.canaryRev) : csSub s wl = obsSub s wl := by
  rw [csSub, if_pos h, if_pos h, obsSub]

theorem csObserve_eq (ns : Rollout) (w : WL) : csObserve ns w = { ns with sub := ns.sub.map (csSub · w) } := by
  unfold csObserve csSub
  cases hs : ns.sub with
  | none => dsimp only [Option.map_none]; rw [← hs]
  | some s =>
    dsimp only [Option.map_some]
    by_cases h : s.canaryRev ≠ "" ∧ s.canaryRev = w.canaryRev
    · rw [if_pos h, if_pos h, if_pos h]
    · rw [if_neg h, if_neg h, if_neg h]
      show ns = { ns with sub := some s }
      rw [← hs]

theorem csObserve_sub_eq (ro : Rollout) (wl : WL) (s : Sub) (hs : ro.sub = some s) : (csObserve ro wl).sub = some (csSub s wl) := by
  rw [csObserve_eq, hs]; rfl

/-- the outcomes of `calculateRolloutStatus`, the first three stages written out (`csStart_eq`, `csObserve_eq`); it returns
    nothing (wait) for a rollout that is not being deleted and whose workload status is inconsistent (`calculateStatus_none`) -/
inductive CalcStatus (ro : Rollout) : Option WL → Rollout → Prop
  | deleting (wl : Option WL) (hd : ro.deleting = true) :
      CalcStatus ro wl (if ro.phase ≠ .terminating then { ro with phase := .terminating, term := .inTerminating } else ro)
  | lost (hd : ¬ ro.deleting = true) (hdis : ¬ ro.disabled = true) :
      CalcStatus ro none { ro with phase := .initial, reason := .none, succeeded := none, term := .none, sub := none }
  | lostDisabled (hd : ¬ ro.deleting = true) (hdis : ro.disabled = true) :
      CalcStatus ro none { ro with phase := phaseIn ro.disabled ro.phase }
  | observed (hd : ¬ ro.deleting = true) (w : WL) (hc : w.consistent = true) :
      CalcStatus ro (some w) (csPhase ro { ro with phase := phaseIn ro.disabled ro.phase, sub := ro.sub.map (csSub · w) } w)

theorem calculateStatus_inv {ro ns : Rollout} {wl : Option WL} (h : calculateStatus ro wl = some ns) : CalcStatus ro wl ns := by
  unfold calculateStatus at h
  by_cases hd : ro.deleting = true
  · rw [if_pos hd] at h; cases h; exact .deleting wl hd
  rw [if_neg hd, csStart_eq] at h
  dsimp only at h
  cases wl with
  | none =>
    dsimp only at h
    by_cases hdis : ¬ ro.disabled = true
    · rw [if_pos hdis] at h; cases h; exact .lost hd hdis
    · rw [if_neg hdis] at h; cases h; exact .lostDisabled hd (Classical.not_not.mp hdis)
  | some w =>
    dsimp only at h
    by_cases hc : ¬ w.consistent = true
    · rw [if_pos hc] at h; cases h
    · rw [if_neg hc, csObserve_eq] at h; cases h; exact .observed hd w (Classical.not_not.mp hc)

theorem calculateStatus_none {ro : Rollout} {wl : WL} (hd : ¬ ro.deleting = true) (hc : ¬ wl.consistent = true) :
    calculateStatus ro (some wl) = none := by
  unfold calculateStatus; rw [if_neg hd]; dsimp only; rw [if_pos hc]

theorem csPhase_eq (ro ns : Rollout) (w : WL) :
    csPhase ro ns w =
      { ns with phase := (csPhase ro ns w).phase, reason := (csPhase ro ns w).reason, condAge := (csPhase ro ns w).condAge,
                succeeded := (csPhase ro ns w).succeeded, sub := (csPhase ro ns w).sub } := by
  unfold csPhase; split
  · rfl
  · split
    · rfl
    · split <;> rfl
  · split <;> rfl
  · rfl

/-- What `calculateRolloutStatus` makes of the phase. `a`: `none` = no workload, `some x` = a readable workload whose
    in-progress annotation is `x`. -/
def phaseAfter (deleting disabled : Bool) (a : Option Bool) (p : Phase) : Phase :=
  if deleting then .terminating else
  match a with
  | none => if ¬ disabled then .initial else phaseIn disabled p
  | some x =>
    match phaseIn disabled p with
    | .initial => .healthy
    | .healthy => if x then .progressing else .healthy
    | .disabled => if ¬ disabled then .healthy else .disabled
    | q => q

/-- What `calculateRolloutStatus` makes of the Progressing reason (`none` = left as it is): reset when the workload is lost,
    `Initializing` when a release starts. -/
def reasonAfter (deleting disabled : Bool) (a : Option Bool) (p : Phase) : Option PReason :=
  if deleting then none else
  match a with
  | none => if ¬ disabled then some .none else none
  | some x => if phaseIn disabled p = .healthy ∧ x = true then some .initializing else none

/-- What `calculateRolloutStatus` makes of the Terminating reason (`none` = left as it is). -/
def termAfter (deleting disabled : Bool) (a : Option Bool) (p : Phase) : Option TermReason :=
  if deleting then (if p ≠ .terminating then some .inTerminating else none)
  else if a = none ∧ ¬ disabled then some .none else none

/-- the last stage keeps the sub-status, or creates the one of a finished release (Healthy, no release announced, none stored) -/
theorem csPhase_sub (ro ns : Rollout) (w : WL) :
    (csPhase ro ns w).sub = ns.sub ∨
    ∃ s, (csPhase ro ns w).sub = some s ∧ s.nextIdx = nextBatchIndex (ns.steps.length : Int) s.curIdx := by
  unfold csPhase
  split
  · exact .inl rfl
  · split
    · exact .inl rfl
    · split
      · exact .inr ⟨_, rfl, rfl⟩
      · exact .inl rfl
  · split <;> exact .inl rfl
  · exact .inl rfl

theorem csPhase_ctl (ro ns : Rollout) (w : WL) :
    (csPhase ro ns w).phase = (match ns.phase with
      | .initial => Phase.healthy
      | .healthy => if w.inProgressAnno then .progressing else .healthy
      | .disabled => if ¬ ro.disabled then .healthy else .disabled
      | q => q) ∧
    (csPhase ro ns w).reason = (if ns.phase = .healthy ∧ w.inProgressAnno = true then .initializing else ns.reason) ∧
    (csPhase ro ns w).term = ns.term := by
  -- the `match` of the statement is the one of the definition: each of its branches by computation
  unfold csPhase
  split
  · rename_i hh; simp [hh]
  · rename_i hh; simp only [hh]; split
    · simp [*]
    · split <;> simp [*]
  · rename_i hh; simp only [hh]; split <;> simp [hh]
  · rename_i h1 h2 h3
    cases hp : ns.phase <;> simp_all

/-- **The status calculation on the fields `Reconcile` dispatches on** (phase, Progressing reason, Terminating reason) is a
    function of those fields, the deletion mark, `spec.disabled` and what was read of the workload. What the calculation can
    and cannot do to them is then a fact about a finite table, checked by evaluation. -/
theorem cs_ctl {ro ns : Rollout} {wl : Option WL} (h : calculateStatus ro wl = some ns) :
    ns.phase = phaseAfter ro.deleting ro.disabled (wl.map (·.inProgressAnno)) ro.phase ∧
    ns.reason = (reasonAfter ro.deleting ro.disabled (wl.map (·.inProgressAnno)) ro.phase).getD ro.reason ∧
    ns.term = (termAfter ro.deleting ro.disabled (wl.map (·.inProgressAnno)) ro.phase).getD ro.term := by
  cases calculateStatus_inv h with
  | deleting _ hd =>
    simp only [phaseAfter, reasonAfter, termAfter, hd, if_true]
    by_cases hp : ro.phase = .terminating <;> simp [hp]
  | lost hd hdis => simp [phaseAfter, reasonAfter, termAfter, hd, hdis]
  | lostDisabled hd hdis => simp [phaseAfter, reasonAfter, termAfter, hd, hdis]
  | observed hd w =>
    obtain ⟨p1, p2, p3⟩ := csPhase_ctl ro { ro with phase := phaseIn ro.disabled ro.phase, sub := ro.sub.map (csSub · w) } w
    rw [p1, p2, p3]
    simp only [phaseAfter, reasonAfter, termAfter, hd, Option.map_some, Bool.false_eq_true, if_false]
    refine ⟨trivial, ?_, by simp⟩
    split <;> rfl

-- so that `decide` closes ∀-facts about the table `phaseAfter` / `reasonAfter` / `termAfter` (`cs_term`, `cs_phase_alive`, `cs_frame` in
-- Lemmas/ReconcileFrame)
scoped instance (P : Phase → Prop) [DecidablePred P] : Decidable (∀ p, P p) :=
  decidable_of_iff (P .empty ∧ P .initial ∧ P .healthy ∧ P .progressing ∧ P .terminating ∧ P .disabled ∧ P .disabling)
    ⟨fun ⟨a, b, c, d, e, f, g⟩ p => by cases p <;> assumption, fun h => ⟨h _, h _, h _, h _, h _, h _, h _⟩⟩

scoped instance (P : Option Bool → Prop) [DecidablePred P] : Decidable (∀ a, P a) :=
  decidable_of_iff (P none ∧ P (some false) ∧ P (some true))
    ⟨fun ⟨a, b, c⟩ x => by rcases x with _ | _ | _ <;> assumption, fun h => ⟨h _, h _, h _⟩⟩

/-- the phase `calculateRolloutStatus` gives a Progressing rollout: Terminating under deletion, else Disabling if disabled -/
def livePhase (ro : Rollout) : Phase :=
  if ro.deleting = true then .terminating else if ro.disabled = true then .disabling else .progressing

/-- the Terminating reason it gives a Progressing rollout: the termination is started under deletion -/
def liveTerm (ro : Rollout) : TermReason := if ro.deleting = true then .inTerminating else ro.term

/-- the sub-status it gives a Progressing rollout: `csSub`, unless the rollout is being deleted (the observed fields are then
    left as they are). Written as an update of the two fields, so that every other field of it is the one of `s` by computation. -/
def liveSub (ro : Rollout) (wl : WL) (s : Sub) : Sub :=
  { s with observedRolloutID := if ro.deleting = true then s.observedRolloutID else (csSub s wl).observedRolloutID,
           observedGen := if ro.deleting = true then s.observedGen else (csSub s wl).observedGen }

theorem liveSub_deleting {ro : Rollout} (wl : WL) (s : Sub) (hd : ro.deleting = true) : liveSub ro wl s = s := by
  unfold liveSub; rw [if_pos hd, if_pos hd]

theorem liveSub_alive {ro : Rollout} (wl : WL) (s : Sub) (hd : ¬ ro.deleting = true) : liveSub ro wl s = csSub s wl := by
  unfold liveSub; rw [if_neg hd, if_neg hd]; rfl

/-- The status `calculateRolloutStatus` computes for a Progressing rollout whose workload can be read: the rollout itself up
    to the phase (`livePhase`), the Terminating reason (`liveTerm`) and the observed rollout-id / generation of the
    sub-status (`liveSub`). -/
theorem calculateStatus_progressing {ro : Rollout} {wl : WL} (hph : ro.phase = .progressing) (hc : wl.consistent = true) :
    calculateStatus ro (some wl) =
      some { ro with phase := livePhase ro, term := liveTerm ro, sub := ro.sub.map (liveSub ro wl) } := by
  unfold calculateStatus livePhase liveTerm
  by_cases hd : ro.deleting = true
  · rw [if_pos hd, if_pos (by simp [hph]), if_pos hd, if_pos hd]
    cases ro.sub with
    | none => rfl
    | some s => rw [Option.map_some, liveSub_deleting wl s hd]
  rw [if_neg hd, if_neg hd, if_neg hd, show liveSub ro wl = (csSub · wl) from funext (liveSub_alive wl · hd), csStart_eq]
  dsimp only
  rw [if_neg (by simp [hc]), csObserve_eq]
  -- on a Progressing rollout the first stage gives Disabling if disabled, and the last one does nothing
  unfold csPhase phaseIn
  by_cases hdis : ro.disabled = true <;> simp [hph, hdis]

theorem finalise_none {w : World} {ns : Rollout} (wl : Option WL) (reason : Reason) (wr : Bool) (hsub : ns.sub = none) :
    finalise w ns wl reason wr = some ({ w with ro := ns }, true, false, []) := by
  unfold finalise; rw [hsub]

/-- the context `finalise` runs the clean-up on: the new status `ns`, its sub-status `s`, the world's BatchRelease, network and
    grace memory, and the workload as far as it could be read (none, or one whose status is inconsistent: no in-progress
    annotation is seen and the revision label key is unknown) -/
def finCtx (w : World) (ns : Rollout) (s : Sub) : Option WL → Ctx
  | none => { toCtx { w with ro := ns } s { (default : WL) with inProgressAnno := false } with wlSeen := false }
  | some wl =>
    if ¬ wl.consistent = true then { toCtx { w with ro := ns } s { wl with inProgressAnno := false } with wlSeen := false }
    else toCtx { w with ro := ns } s wl

theorem finCtx_eq (w : World) (ns : Rollout) (s : Sub) (wl : Option WL) :
    finCtx w ns s wl = { toCtx { w with ro := ns } s (finCtx w ns s wl).wl with wlSeen := (finCtx w ns s wl).wlSeen } := by
  cases wl with
  | none => rfl
  | some wl =>
    by_cases hc : ¬ wl.consistent = true
    · simp only [finCtx, if_pos hc]; rfl
    · simp only [finCtx, if_neg hc]; rfl

/-- the workload of the world `finalise` returns: the context's, unless the workload could not be read (it is then left as found) -/
def finWl (wl : Option WL) (c : Ctx) : Option WL :=
  match wl with
  | none => none
  | some x => if ¬ x.consistent = true then some x else some c.wl

/-- **`finalise` with a sub-status is `doFinalising` on `finCtx`**, landed by `ofCtx` up to the workload -/
theorem finalise_eq (w : World) {ns : Rollout} {s : Sub} (wl : Option WL) (reason : Reason) (wr : Bool) (hsub : ns.sub = some s) :
    finalise w ns wl reason wr =
      (doFinalising (finCtx w ns s wl) reason wr).map fun x =>
        ({ ofCtx w x.1 ns with wl := finWl wl x.1 }, x.2.1, x.2.2, x.1.writes) := by
  unfold finalise
  rw [hsub]
  dsimp only
  cases wl with
  | none =>
    dsimp only [finCtx, finWl]
    split <;> rename_i hd <;> rw [hd] <;> rfl
  | some wl =>
    dsimp only [finCtx, finWl]
    by_cases hc : ¬ wl.consistent = true
    · rw [if_pos hc, if_pos hc]
      split <;> rename_i hd <;> rw [hd] <;> simp only [Option.map_none, Option.map_some, if_pos hc]
    · rw [if_neg hc, if_neg hc]
      split <;> rename_i hd <;> rw [hd] <;> simp only [Option.map_none, Option.map_some, if_neg hc] <;> rfl

/-- … and with a workload that can be read, on the plain context, landed by `ofCtx` -/
theorem finalise_live (w : World) {ns : Rollout} {s : Sub} {wl : WL} (reason : Reason) (wr : Bool) (hsub : ns.sub = some s)
    (hc : wl.consistent = true) :
    finalise w ns (some wl) reason wr =
      (doFinalising (toCtx { w with ro := ns } s wl) reason wr).map fun x => (ofCtx w x.1 ns, x.2.1, x.2.2, x.1.writes) := by
  rw [finalise_eq w (some wl) reason wr hsub]
  simp only [finCtx, finWl, hc, not_true_eq_false, if_false]
  rfl

/-- a result of `reconcileCore`: the object is gone exactly when `handleFinalizer` removed the finalizer -/
def result (w w' : World) (rq err : Bool) (ws : List String) : StepResult :=
  { w := w', roGone := (handleFinalizer w.ro).2.1, requeue := rq, err := err, writes := ws }

/-- the sub-status `Reconcile` creates when the release starts -/
def startSub (ns : Rollout) (wl : WL) : Sub :=
  { curIdx := 1, nextIdx := nextBatchIndex (ns.steps.length : Int) 1, state := .init, finStep := .empty,
    canaryRev := wl.canaryRev, stableRev := wl.stableRev, podHash := "", hash := .same,
    observedRolloutID := getRolloutID wl, observedGen := wl.generation, lastUpdate := .fresh }

/-- a Progressing rollout whose workload can be read: the switch on the Progressing reason is reached -/
structure Live (w : World) (wl : WL) : Prop where
  progressing : w.ro.phase = .progressing
  readable : w.wl = some wl
  consistent : wl.consistent = true

/-- the branches that write the calculated status and do nothing else -/
inductive Idle (w : World) (ns : Rollout) : Prop
  | noWorkload (hph : w.ro.phase = .progressing) (hwl : w.wl = none)
  | inconsistent (hph : w.ro.phase = .progressing) (wl : WL) (hwl : w.wl = some wl) (hc : ¬ wl.consistent = true)
  | paused (wl : WL) (hl : Live w wl) (hr : w.ro.reason = .paused) (hp : ns.paused = true)
  | otherReason (wl : WL) (hl : Live w wl) (hr : w.ro.reason = .other)
  | terminated (hph : w.ro.phase = .terminating) (ht : w.ro.term = .completed)
  | otherPhase (h1 : w.ro.phase ≠ .progressing) (h2 : w.ro.phase ≠ .terminating) (h3 : w.ro.phase ≠ .disabling)

/-- the four clean-up calls of `Reconcile`: workload, finalising reason, `waitReady`, and what a finished clean-up
    writes into the status -/
inductive FinCall (w : World) : Option WL → Reason → Bool → (Rollout → Rollout) → Prop
  | success (wl : WL) (hl : Live w wl) (hr : w.ro.reason = .finalising) :
      FinCall w (some wl) .success true fun x => { x with reason := .completed, succeeded := some true }
  | rollback (wl : WL) (hl : Live w wl) (hr : w.ro.reason = .cancelling) :
      FinCall w (some wl) .rollback false fun x => { x with reason := .completed, succeeded := some false }
  | terminating (hph : w.ro.phase = .terminating) (ht : w.ro.term = .inTerminating) :
      FinCall w w.wl .other false fun x => { x with term := .completed }
  | disabling (hph : w.ro.phase = .disabling) : FinCall w w.wl .other false fun x => { x with phase := .disabled }

theorem FinCall.upd_frame {w : World} {wl : Option WL} {reason : Reason} {wr : Bool} {upd : Rollout → Rollout}
    (hc : FinCall w wl reason wr upd) (x : Rollout) :
    upd x = { x with reason := (upd x).reason, succeeded := (upd x).succeeded, term := (upd x).term, phase := (upd x).phase } := by
  cases hc <;> rfl

/-- The branches of `Reconcile` up to the cursor reset. `ns` is the calculated status; where the code returns before the
    status is written (`wait`, `…Err`) the result carries the rollout `handleFinalizer` left. -/
inductive ReconcileCore (w : World) : StepResult → Prop
  | wait (hcs : calculateStatus (handleFinalizer w.ro).1 w.wl = none) :
      ReconcileCore w (result w { w with ro := (handleFinalizer w.ro).1 } true false (handleFinalizer w.ro).2.2)
  | idle (ns : Rollout) (hcs : calculateStatus (handleFinalizer w.ro).1 w.wl = some ns) (hi : Idle w ns) :
      ReconcileCore w (result w { w with ro := ns } false false (handleFinalizer w.ro).2.2)
  | initErr (ns : Rollout) (hcs : calculateStatus (handleFinalizer w.ro).1 w.wl = some ns) (wl : WL) (hl : Live w wl)
      (hr : w.ro.reason = .initializing)
      (hg : ns.hasTraffic = true ∧ (¬ w.net.stableExists = true ∨ ¬ w.net.stableIngress = true)) :
      ReconcileCore w (result w { w with ro := (handleFinalizer w.ro).1 } false true (handleFinalizer w.ro).2.2)
  | initFresh (ns : Rollout) (hcs : calculateStatus (handleFinalizer w.ro).1 w.wl = some ns) (wl : WL) (hl : Live w wl)
      (hr : w.ro.reason = .initializing) (hage : ns.condAge = .fresh) :
      ReconcileCore w (result w { w with ro := { ns with sub := some (startSub ns wl) } } true false (handleFinalizer w.ro).2.2)
  | initDone (ns : Rollout) (hcs : calculateStatus (handleFinalizer w.ro).1 w.wl = some ns) (wl : WL) (hl : Live w wl)
      (hr : w.ro.reason = .initializing) (hage : ¬ ns.condAge = .fresh) :
      ReconcileCore w (result w { w with ro := { ns with sub := some (startSub ns wl), reason := .inRolling } } false false
        (handleFinalizer w.ro).2.2)
  | pausedNoSub (ns : Rollout) (hcs : calculateStatus (handleFinalizer w.ro).1 w.wl = some ns) (wl : WL) (hl : Live w wl)
      (hr : w.ro.reason = .inRolling) (hsub : ns.sub = none) (hrb : ¬ wl.inRollback = true) (hp : ns.paused = true) :
      ReconcileCore w (result w { w with ro := { ns with reason := .paused } } false false (handleFinalizer w.ro).2.2)
  | rollingErr (ns : Rollout) (hcs : calculateStatus (handleFinalizer w.ro).1 w.wl = some ns) (wl : WL) (hl : Live w wl)
      (hr : w.ro.reason = .inRolling) (s : Sub) (hsub : ns.sub = some s) (r0 : StepResult)
      (hir : inRolling w w.ro ns s wl = .val r0) (he : r0.err = true) :
      ReconcileCore w (result w { r0.w with ro := (handleFinalizer w.ro).1 } false true ((handleFinalizer w.ro).2.2 ++ r0.writes))
  | rolling (ns : Rollout) (hcs : calculateStatus (handleFinalizer w.ro).1 w.wl = some ns) (wl : WL) (hl : Live w wl)
      (hr : w.ro.reason = .inRolling) (s : Sub) (hsub : ns.sub = some s) (r0 : StepResult)
      (hir : inRolling w w.ro ns s wl = .val r0) (he : ¬ r0.err = true) :
      ReconcileCore w (result w r0.w r0.requeue false ((handleFinalizer w.ro).2.2 ++ r0.writes))
  | resumed (ns : Rollout) (hcs : calculateStatus (handleFinalizer w.ro).1 w.wl = some ns) (wl : WL) (hl : Live w wl)
      (hr : w.ro.reason = .paused) (hp : ¬ ns.paused = true) :
      ReconcileCore w (result w { w with ro := { ns with reason := .inRolling } } false false (handleFinalizer w.ro).2.2)
  | completed (ns : Rollout) (hcs : calculateStatus (handleFinalizer w.ro).1 w.wl = some ns) (wl : WL) (hl : Live w wl)
      (hr : w.ro.reason = .completed) :
      ReconcileCore w (result w { w with ro := { ns with phase := .healthy } } false false (handleFinalizer w.ro).2.2)
  | finErr (ns : Rollout) (hcs : calculateStatus (handleFinalizer w.ro).1 w.wl = some ns) {wl : Option WL} {reason : Reason}
      {wr : Bool} {upd : Rollout → Rollout} (hc : FinCall w wl reason wr upd) (w' : World) (done : Bool) (ws : List String)
      (hf : finalise w ns wl reason wr = some (w', done, true, ws)) :
      ReconcileCore w (result w { w' with ro := (handleFinalizer w.ro).1 } false true ((handleFinalizer w.ro).2.2 ++ ws))
  | finDone (ns : Rollout) (hcs : calculateStatus (handleFinalizer w.ro).1 w.wl = some ns) {wl : Option WL} {reason : Reason}
      {wr : Bool} {upd : Rollout → Rollout} (hc : FinCall w wl reason wr upd) (w' : World) (ws : List String)
      (hf : finalise w ns wl reason wr = some (w', true, false, ws)) :
      ReconcileCore w (result w { w' with ro := upd w'.ro } false false ((handleFinalizer w.ro).2.2 ++ ws))
  | finWait (ns : Rollout) (hcs : calculateStatus (handleFinalizer w.ro).1 w.wl = some ns) {wl : Option WL} {reason : Reason}
      {wr : Bool} {upd : Rollout → Rollout} (hc : FinCall w wl reason wr upd) (w' : World) (ws : List String)
      (hf : finalise w ns wl reason wr = some (w', false, false, ws)) :
      ReconcileCore w (result w w' true false ((handleFinalizer w.ro).2.2 ++ ws))

/-- The crashes of `Reconcile`: the Progressing / Terminating condition is missing where it is dereferenced (`noReason`, `noTerm`),
    `InitializeTrafficRouting` indexes an empty plan (`initNoPlan`), `doProgressingInRolling` dereferences a missing sub-status
    (`rollingNoSub`) or crashes below (`rolling`), the clean-up crashes (`finalise`). -/
inductive ReconcileCorePanic (w : World) : Prop
  | noReason (wl : WL) (hl : Live w wl) (hr : w.ro.reason = .none)
  | initNoPlan (ns : Rollout) (hcs : calculateStatus (handleFinalizer w.ro).1 w.wl = some ns) (wl : WL) (hl : Live w wl)
      (hr : w.ro.reason = .initializing) (hg : ns.hasTraffic = true ∧ ns.steps.isEmpty = true)
  | rollingNoSub (ns : Rollout) (hcs : calculateStatus (handleFinalizer w.ro).1 w.wl = some ns) (wl : WL) (hl : Live w wl)
      (hr : w.ro.reason = .inRolling) (hsub : ns.sub = none) (hg : wl.inRollback = true ∨ ¬ ns.paused = true)
  | rolling (ns : Rollout) (hcs : calculateStatus (handleFinalizer w.ro).1 w.wl = some ns) (wl : WL) (hl : Live w wl)
      (hr : w.ro.reason = .inRolling) (s : Sub) (hsub : ns.sub = some s) (hir : inRolling w w.ro ns s wl = .panic)
  | finalise (ns : Rollout) (hcs : calculateStatus (handleFinalizer w.ro).1 w.wl = some ns) {wl : Option WL} {reason : Reason}
      {wr : Bool} {upd : Rollout → Rollout} (hc : FinCall w wl reason wr upd) (hf : finalise w ns wl reason wr = none)
  | noTerm (hph : w.ro.phase = .terminating) (ht : w.ro.term = .none)

def ReconcileCoreOut (w : World) : Out → Prop
  | .val r => ReconcileCore w r
  | .panic => ReconcileCorePanic w

theorem reconcileCore_spec (w : World) : ReconcileCoreOut w (reconcileCore w) := by
  generalize hout : reconcileCore w = out
  unfold reconcileCore at hout
  dsimp only at hout
  split at hout
  · rename_i hcs; subst hout; exact .wait hcs
  rename_i ns hcs
  have fin : ∀ {wl reason wr upd}, FinCall w wl reason wr upd →
      (match finalise w ns wl reason wr with
       | none => Out.panic
       | some (w', done, err, ws) =>
         if err = true then .val (result w { w' with ro := (handleFinalizer w.ro).1 } false true ((handleFinalizer w.ro).2.2 ++ ws))
         else if done = true then .val (result w { w' with ro := upd w'.ro } false false ((handleFinalizer w.ro).2.2 ++ ws))
         else .val (result w w' true false ((handleFinalizer w.ro).2.2 ++ ws))) = out → ReconcileCoreOut w out := by
    intro wl reason wr upd hc hout
    cases hf : finalise w ns wl reason wr with
    | none => rw [hf] at hout; subst hout; exact .finalise ns hcs hc hf
    | some x =>
      obtain ⟨w', done, err, ws⟩ := x
      rw [hf] at hout
      subst hout
      cases err with
      | true => exact .finErr ns hcs hc w' done ws hf
      | false =>
        cases done with
        | true => exact .finDone ns hcs hc w' ws hf
        | false => exact .finWait ns hcs hc w' ws hf
  split at hout
  · rename_i hph
    split at hout
    · rename_i hwl; subst hout; exact .idle ns hcs (.noWorkload hph hwl)
    rename_i wl hwl
    by_cases hc : ¬ wl.consistent = true
    · rw [if_pos hc] at hout; subst hout; exact .idle ns hcs (.inconsistent hph wl hwl hc)
    rw [if_neg hc] at hout
    have hl : Live w wl := ⟨hph, hwl, Classical.not_not.mp hc⟩
    split at hout
    · rename_i hr; subst hout; exact .noReason wl hl hr
    · rename_i hr
      by_cases h1 : ns.hasTraffic = true ∧ ns.steps.isEmpty = true
      · rw [if_pos h1] at hout; subst hout; exact .initNoPlan ns hcs wl hl hr h1
      rw [if_neg h1] at hout
      by_cases h2 : ns.hasTraffic = true ∧ (¬ w.net.stableExists = true ∨ ¬ w.net.stableIngress = true)
      · rw [if_pos h2] at hout; subst hout; exact .initErr ns hcs wl hl hr h2
      rw [if_neg h2] at hout
      by_cases h3 : ns.condAge = .fresh
      · rw [if_pos h3] at hout; subst hout; exact .initFresh ns hcs wl hl hr h3
      · rw [if_neg h3] at hout; subst hout; exact .initDone ns hcs wl hl hr h3
    · rename_i hr
      split at hout
      · rename_i hsub
        by_cases hrb : wl.inRollback = true
        · rw [if_pos hrb] at hout; subst hout; exact .rollingNoSub ns hcs wl hl hr hsub (.inl hrb)
        rw [if_neg hrb] at hout
        by_cases hp : ns.paused = true
        · rw [if_pos hp] at hout; subst hout; exact .pausedNoSub ns hcs wl hl hr hsub hrb hp
        · rw [if_neg hp] at hout; subst hout; exact .rollingNoSub ns hcs wl hl hr hsub (.inr hp)
      · rename_i s hsub
        split at hout
        · rename_i hir; subst hout; exact .rolling ns hcs wl hl hr s hsub hir
        · rename_i r0 hir
          by_cases he : r0.err = true
          · rw [if_pos he] at hout; subst hout; exact .rollingErr ns hcs wl hl hr s hsub r0 hir he
          · rw [if_neg he] at hout; subst hout; exact .rolling ns hcs wl hl hr s hsub r0 hir he
    · rename_i hr; exact fin (.success wl hl hr) hout
    · rename_i hr
      by_cases hp : ns.paused = true
      · rw [if_neg (not_not_intro hp)] at hout; subst hout; exact .idle ns hcs (.paused wl hl hr hp)
      · rw [if_pos hp] at hout; subst hout; exact .resumed ns hcs wl hl hr hp
    · rename_i hr; exact fin (.rollback wl hl hr) hout
    · rename_i hr; subst hout; exact .completed ns hcs wl hl hr
    · rename_i hr; subst hout; exact .idle ns hcs (.otherReason wl hl hr)
  · rename_i hph
    split at hout
    · rename_i ht; subst hout; exact .noTerm hph ht
    · rename_i ht; subst hout; exact .idle ns hcs (.terminated hph ht)
    · rename_i ht; exact fin (.terminating hph ht) hout
  · rename_i hph; exact fin (.disabling hph) hout
  · rename_i h1 h2 h3; subst hout; exact .idle ns hcs (.otherPhase h1 h2 h3)

theorem reconcileCore_wait {w : World} (hcs : calculateStatus (handleFinalizer w.ro).1 w.wl = none) :
    reconcileCore w = .val (result w { w with ro := (handleFinalizer w.ro).1 } true false (handleFinalizer w.ro).2.2) := by
  unfold reconcileCore; dsimp only; rw [hcs]; rfl

theorem reconcileCore_inv {w : World} {r : StepResult} (h : reconcileCore w = .val r) : ReconcileCore w r := by
  have := reconcileCore_spec w
  rw [h] at this
  exact this

/-- **the branches of `Reconcile` on a rolling rollout** (reason InRolling, workload readable and consistent): without a
    sub-status only a pause is honoured; with one the reconcile is `doProgressingInRolling`, whose error keeps the status from
    being written -/
theorem reconcileCore_rolling {w : World} {wl : WL} {r : StepResult} (h : reconcileCore w = .val r) (hl : Live w wl)
    (hr : w.ro.reason = .inRolling) :
    ∃ ns, calculateStatus (handleFinalizer w.ro).1 w.wl = some ns ∧
      ((ns.sub = none ∧ ¬ wl.inRollback = true ∧ ns.paused = true ∧
          r = result w { w with ro := { ns with reason := .paused } } false false (handleFinalizer w.ro).2.2) ∨
       ∃ s r0, ns.sub = some s ∧ inRolling w w.ro ns s wl = .val r0 ∧
         r = if r0.err = true then
               result w { r0.w with ro := (handleFinalizer w.ro).1 } false true ((handleFinalizer w.ro).2.2 ++ r0.writes)
             else result w r0.w r0.requeue false ((handleFinalizer w.ro).2.2 ++ r0.writes)) := by
  have same : ∀ {wl1}, Live w wl1 → wl1 = wl := fun hl1 => Option.some.inj (hl1.readable.symm.trans hl.readable)
  have hwl := hl.readable
  cases reconcileCore_inv h with
  | pausedNoSub ns hcs wl1 hl1 _ hsub hrb hp =>
    cases same hl1
    exact ⟨ns, hcs, .inl ⟨hsub, hrb, hp, rfl⟩⟩
  | rollingErr ns hcs wl1 hl1 _ s hsub r0 hir he =>
    cases same hl1
    exact ⟨ns, hcs, .inr ⟨s, r0, hsub, hir, by rw [if_pos he]⟩⟩
  | rolling ns hcs wl1 hl1 _ s hsub r0 hir he =>
    cases same hl1
    exact ⟨ns, hcs, .inr ⟨s, r0, hsub, hir, by rw [if_neg he]⟩⟩
  -- every other branch has another phase, another reason, or no consistent workload
  | wait hcs =>
    rw [hwl] at hcs
    unfold calculateStatus at hcs
    split at hcs
    · cases hcs
    · dsimp only at hcs; rw [if_neg (by simp [hl.consistent])] at hcs; cases hcs
  | idle _ _ hi =>
    cases hi with
    | noWorkload _ hw => cases hw.symm.trans hwl
    | inconsistent _ wl1 hw hc => cases Option.some.inj (hw.symm.trans hwl); exact absurd hl.consistent hc
    | paused _ _ hr1 | otherReason _ _ hr1 => cases hr.symm.trans hr1
    | terminated hp1 => cases hl.progressing.symm.trans hp1
    | otherPhase hp1 => exact absurd hl.progressing hp1
  | initErr _ _ _ _ hr1 | initFresh _ _ _ _ hr1 | initDone _ _ _ _ hr1 | resumed _ _ _ _ hr1 | completed _ _ _ _ hr1 =>
    cases hr.symm.trans hr1
  | finErr _ _ hc | finDone _ _ hc | finWait _ _ hc =>
    cases hc with
    | success _ _ hr1 | rollback _ _ hr1 => cases hr.symm.trans hr1
    | terminating hp1 | disabling hp1 => cases hl.progressing.symm.trans hp1

theorem reconcileCore_panic {w : World} (h : reconcileCore w = .panic) : ReconcileCorePanic w := by
  have := reconcileCore_spec w
  rw [h] at this
  exact this

end RV.RolloutSM

namespace RV.RolloutSM
open RV.Traffic

theorem trCtx_inv {ro : Rollout} {s : Sub} {t : TCtx} (h : trCtx ro s = some t) :
    t.hasRef = ro.hasTraffic ∧ t.grace = ro.grace ∧ t.disableGen = ro.disableGen ∧ t.stableRev = s.stableRev ∧
    t.canaryRev = s.podHash ∧ t.lastUpdate = s.lastUpdate := by
  unfold trCtx at h
  split at h
  · cases h
  · cases h; exact ⟨rfl, rfl, rfl, rfl, rfl, rfl⟩

theorem trCtx_congr (ro ro' : Rollout) (a b : Sub) (h1 : ro'.steps = ro.steps) (h2 : ro'.hasTraffic = ro.hasTraffic)
    (h3 : ro'.grace = ro.grace) (h4 : ro'.disableGen = ro.disableGen) (k1 : b.curIdx = a.curIdx)
    (k2 : b.stableRev = a.stableRev) (k3 : b.podHash = a.podHash) (k4 : b.lastUpdate = a.lastUpdate) :
    trCtx ro' b = trCtx ro a := by
  unfold trCtx
  rw [h1, h2, h3, h4, k1, k2, k3, k4]

/-- how the answer of a Manager call lands in the context -/
def landCall (c : Ctx) (o : TOut) (cb : Bool) : Ctx :=
  { c with net := o.net, mem := o.mem, writes := c.writes ++ o.writes,
           sub := if o.touched ∧ cb then { c.sub with lastUpdate := .fresh } else c.sub }

/-- **a Manager call made through `callTM`**: the Manager's function on the context of the current step, its answer landed
    by `landCall`; nothing without such a context -/
theorem callTM_eq (f : TCtx → Net → Mem → TOut) (c : Ctx) (cb : Bool) :
    callTM f c cb = (trCtx c.ro c.sub).map fun t =>
      (landCall c (f { t with hasRevKey := c.wlSeen } c.net c.mem) cb,
        (f { t with hasRevKey := c.wlSeen } c.net c.mem).done, (f { t with hasRevKey := c.wlSeen } c.net c.mem).err) := by
  unfold callTM
  cases trCtx c.ro c.sub <;> rfl

theorem callTM_inv {f : TCtx → Net → Mem → TOut} {c c' : Ctx} {cb d e : Bool} (h : callTM f c cb = some (c', d, e)) :
    ∃ t o, trCtx c.ro c.sub = some t ∧ o = f { t with hasRevKey := c.wlSeen } c.net c.mem ∧
      c' = { c with net := o.net, mem := o.mem, writes := c.writes ++ o.writes,
                    sub := if o.touched ∧ cb then { c.sub with lastUpdate := .fresh } else c.sub } ∧
      d = o.done ∧ e = o.err := by
  rw [callTM_eq] at h
  cases ht : trCtx c.ro c.sub with
  | none => rw [ht] at h; cases h
  | some t => rw [ht] at h; cases h; exact ⟨t, _, rfl, rfl, rfl, rfl, rfl⟩

theorem callTM_total (f : TCtx → Net → Mem → TOut) (c : Ctx) (cb : Bool) (h : c.ro.steps ≠ []) : callTM f c cb ≠ none := by
  unfold callTM trCtx
  cases hs : c.ro.steps with
  | nil => exact absurd hs h
  | cons a l => simp

theorem nextBatchIndex_le (n cur : Int) (h0 : 1 ≤ cur) (h : cur ≤ n) : nextBatchIndex n cur ≤ n := by
  unfold nextBatchIndex; split <;> omega

/-! `runBatchRelease` creates the BatchRelease (on `none`, by evaluation); leaves one that carries the wanted spec alone, and only
    then reports done; or rewrites the spec of the one it found. -/

/-- the BatchRelease found, with the spec wanted for batch `k` written over its own -/
def rewrittenBR (ro : Rollout) (b : BR) (id : String) (k : Int) (rb : Bool) : BR :=
  { b with batches := ro.steps.map (·.replicas), partition := some k, rolloutID := id, policy := "",
           rollbackAnno := rb && ro.rollbackInBatch, specOther := true, hashSame := false }

theorem runBatchRelease_current {ro : Rollout} {b : BR} {id : String} {idx : Int} {rb : Bool}
    (h : brSpecEq b (desiredBR ro id (idx - 1) rb) = true) : runBatchRelease ro (some b) id idx rb = (true, some b, []) :=
  if_pos h

theorem runBatchRelease_update {ro : Rollout} {b : BR} {id : String} {idx : Int} {rb : Bool}
    (h : brSpecEq b (desiredBR ro id (idx - 1) rb) = false) :
    runBatchRelease ro (some b) id idx rb =
      (false, some (rewrittenBR ro b id (idx - 1) rb), ["updateBR"]) :=
  if_neg (ne_true_of_eq_false h)

theorem brSpecEq_plan {b : BR} {ro : Rollout} {id : String} {k : Int} {rb : Bool} (h : brSpecEq b (desiredBR ro id k rb) = true) :
    b.batches = ro.steps.map (·.replicas) ∧ b.partition = some k := by
  unfold brSpecEq desiredBR at h
  simp only [Bool.and_eq_true, beq_iff_eq] at h
  exact ⟨h.1.1.1.1.1, h.1.1.1.1.2⟩

/-- `doCanaryUpgrade` is `runBatchRelease`; it reports done when that does and the BatchRelease reports the step's batch ready
    for the spec it carries -/
theorem doCanaryUpgrade_eq (ro : Rollout) (s : Sub) (wl : WL) (br : Option BR) :
    doCanaryUpgrade ro s wl br =
      let r := runBatchRelease ro br (getRolloutID wl) s.curIdx wl.inRollback
      (r.1 && (match r.2.1 with
         | some b => decide (b.hashSame = true ∧ b.genObserved = true ∧ b.batchReady = true ∧ ¬ b.currentBatch + 1 < s.curIdx)
         | none => false), r.2.1, r.2.2) := by
  unfold doCanaryUpgrade
  obtain ⟨d, x, ws⟩ := runBatchRelease ro br (getRolloutID wl) s.curIdx wl.inRollback
  cases d
  · rfl
  · cases x with
    | none => rfl
    | some b =>
      dsimp only
      by_cases hlt : b.currentBatch + 1 < s.curIdx <;> cases b.hashSame <;> cases b.genObserved <;> cases b.batchReady <;>
        simp [hlt]

theorem doCanaryUpgrade_br (ro : Rollout) (s : Sub) (wl : WL) (br : Option BR) :
    (doCanaryUpgrade ro s wl br).2.1 = (runBatchRelease ro br (getRolloutID wl) s.curIdx wl.inRollback).2.1 := by
  unfold doCanaryUpgrade
  dsimp only
  split
  · rfl
  · split
    · rfl
    · split
      · rfl
      · split <;> rfl

theorem doCanaryUpgrade_congr (ro : Rollout) (s s' : Sub) (wl : WL) (br : Option BR) (h : s'.curIdx = s.curIdx) :
    doCanaryUpgrade ro s' wl br = doCanaryUpgrade ro s wl br := by
  unfold doCanaryUpgrade; rw [h]

theorem doCanaryUpgrade_ro (ro ro' : Rollout) (s : Sub) (wl : WL) (br : Option BR)
    (h1 : ro'.steps = ro.steps) (h2 : ro'.rollbackInBatch = ro.rollbackInBatch) :
    doCanaryUpgrade ro' s wl br = doCanaryUpgrade ro s wl br := by
  unfold doCanaryUpgrade runBatchRelease desiredBR
  rw [h1, h2]

/-- `removeBatchRelease` of an existing BatchRelease always asks to come back; the Delete is issued once -/
theorem removeBatchRelease_some (b : BR) :
    removeBatchRelease (some b) = (true, some { b with deleting := true }, if b.deleting then [] else ["deleteBR"]) := by
  unfold removeBatchRelease
  dsimp only
  by_cases h : b.deleting = true
  · have e : ({ b with deleting := true } : BR) = b := by rw [← h]
    rw [if_pos h, if_pos h, e]
  · rw [if_neg h, if_neg h]

/-- `removeBatchRelease` asks for a retry exactly as long as the BatchRelease exists (never on the strength of having
    issued the Delete); when it does not, there is no BatchRelease -/
theorem removeBatchRelease_retry (br : Option BR) :
    (removeBatchRelease br).1 = br.isSome ∧ ((removeBatchRelease br).1 = false → (removeBatchRelease br).2.1 = none) := by
  unfold removeBatchRelease
  cases br with
  | none => exact ⟨rfl, fun _ => rfl⟩
  | some b => dsimp only; split <;> exact ⟨rfl, nofun⟩

/-- the BatchRelease after `finalizingBatchRelease` patched it: batch partition removed, finalizing policy set -/
def resumedBR (b : BR) (waitReady : Bool) : BR :=
  { b with partition := none, policy := if waitReady then "WaitResume" else "Immediate", hashSame := false }

/-- `finalizingBatchRelease` of an existing BatchRelease: done once it is resumed and Completed; waiting while it is resumed
    with the policy asked for; else it patches -/
theorem finalizingBatchRelease_cases (b : BR) (wr : Bool) :
    (b.partition = none ∧ b.phaseCompleted = true ∧ finalizingBatchRelease (some b) wr = (false, some b, [])) ∨
    (b.partition = none ∧ b.phaseCompleted = false ∧ (b.policy == "WaitResume") = wr ∧
      finalizingBatchRelease (some b) wr = (true, some b, [])) ∨
    (¬ (b.partition = none ∧ (b.phaseCompleted = true ∨ (b.policy == "WaitResume") = wr)) ∧
      finalizingBatchRelease (some b) wr = (true, some (resumedBR b wr), ["patchBR"])) := by
  unfold finalizingBatchRelease
  dsimp only
  by_cases hp : b.partition = none
  · have hn : b.partition.isNone = true := by rw [hp]; rfl
    by_cases hc : b.phaseCompleted = true
    · exact .inl ⟨hp, hc, if_pos ⟨hn, hc⟩⟩
    · have hc' : b.phaseCompleted = false := eq_false_of_ne_true hc
      by_cases hw : (b.policy == "WaitResume") = wr
      · exact .inr (.inl ⟨hp, hc', hw, by rw [if_neg (fun h => hc h.2), if_pos ⟨hn, by rw [hw]; exact beq_self_eq_true wr⟩]⟩)
      · refine .inr (.inr ⟨fun h => h.2.elim hc hw, ?_⟩)
        rw [if_neg (fun h => hc h.2), if_neg (fun h => hw (beq_iff_eq.1 h.2))]
        rfl
  · have hn : ¬ b.partition.isNone = true := fun h => hp (Option.isNone_iff_eq_none.1 h)
    refine .inr (.inr ⟨fun h => hp h.1, ?_⟩)
    rw [if_neg (fun h => hn h.1), if_neg (fun h => hn h.1)]
    rfl

theorem doCanaryJump_false {ro : Rollout} {s s' : Sub} (h : doCanaryJump ro s = some (s', false)) :
    s' = s ∧ ¬ (s.nextIdx ≠ nextBatchIndex ro.steps.length s.curIdx ∧ s.nextIdx > 0) := by
  unfold doCanaryJump at h
  dsimp only at h
  split at h
  · cases h
  · split at h
    · split at h <;> cases h
    · rename_i hn; cases h; exact ⟨rfl, hn⟩

/-- `doCanaryPaused` ends a pause in two cases only: the last step of a canary plan that releases `100%`, and a pause with a
    duration that has elapsed since the last update -/
theorem doCanaryPaused_done {ro : Rollout} {s : Sub} {step : Step} :
    (∃ rq, doCanaryPaused ro s step = some (true, rq)) ↔
      (ro.style = .canary ∧ (ro.steps.length : Int) = s.curIdx ∧ step.replicas = .pct 100) ∨
      (step.pause = .short ∧ s.lastUpdate = .elapsed) := by
  unfold doCanaryPaused
  split
  · rename_i h; exact ⟨fun _ => .inl h, fun _ => ⟨_, rfl⟩⟩
  · rename_i hn
    cases step.pause <;> cases s.lastUpdate <;> simp [hn]

end RV.RolloutSM

namespace RV.RolloutSM
open RV.Traffic

/-- `stripAnno` clears the in-progress annotation of the workload (one write if it was set) and touches nothing else -/
theorem stripAnno_eq (c : Ctx) :
    stripAnno c = { c with wl := { c.wl with inProgressAnno := false }, writes := (stripAnno c).writes } := by
  unfold stripAnno
  split
  · rfl
  · rename_i h
    obtain ⟨ro, sub, ⟨a, anno, b, d, e, f, g, i⟩, br, net, mem, rq, ws, seen⟩ := c
    cases (Bool.not_eq_true _).mp h
    rfl

theorem stripAnno_frame (c : Ctx) :
    (stripAnno c).sub = c.sub ∧ (stripAnno c).ro = c.ro ∧ (stripAnno c).br = c.br ∧ (stripAnno c).net = c.net ∧
    (stripAnno c).wlSeen = c.wlSeen ∧ (stripAnno c).mem = c.mem := by
  rw [stripAnno_eq]; exact ⟨rfl, rfl, rfl, rfl, rfl, rfl⟩

/-- the context the task of a clean-up round runs on: in-progress annotation removed, an empty cursor set to the
    first task -/
def finStart (c : Ctx) (reason : Reason) : Ctx :=
  startCursor (stripAnno c) (nextTask (taskList c.ro.style reason) c.sub.finStep)

/-- … written out: `c` up to the annotation (and its write), the cursor and, when the cursor was set, the last-update time -/
theorem finStart_eq (c : Ctx) (reason : Reason) :
    finStart c reason = { c with
      wl := { c.wl with inProgressAnno := false }, writes := (stripAnno c).writes,
      sub := { c.sub with
        finStep := if c.sub.finStep = .empty then nextTask (taskList c.ro.style reason) .empty else c.sub.finStep,
        lastUpdate := (finStart c reason).sub.lastUpdate } } := by
  unfold finStart startCursor
  rw [stripAnno_eq]
  by_cases he : c.sub.finStep = .empty
  · rw [if_pos he, if_pos he, he]
  · rw [if_neg he, if_neg he]

theorem finStart_frame (c : Ctx) (reason : Reason) :
    (finStart c reason).ro = c.ro ∧ (finStart c reason).br = c.br ∧ (finStart c reason).net = c.net ∧
    (finStart c reason).wlSeen = c.wlSeen ∧
    (finStart c reason).sub.finStep =
      if c.sub.finStep = .empty then nextTask (taskList c.ro.style reason) .empty else c.sub.finStep := by
  rw [finStart_eq]; exact ⟨rfl, rfl, rfl, rfl, rfl⟩

theorem finStart_cursor (c : Ctx) (reason : Reason) : (finStart c reason).sub.finStep =
    if c.sub.finStep = .empty then nextTask (taskList c.ro.style reason) .empty else c.sub.finStep := by
  rw [finStart_eq]

/-- The branches of `doFinalising`, in the order of the code. `restart`: the stored cursor names a task the style does not know
    (`finKnown`): back to the first task, nothing run. -/
inductive DoFinalising (c : Ctx) (reason : Reason) (wr : Bool) : Ctx → Bool → Bool → Prop
  | atEnd (hend : c.sub.finStep = .end_) : DoFinalising c reason wr (stripAnno c) true false
  | restart (hend : c.sub.finStep ≠ .end_) (hk : finKnown c.ro.style (finStart c reason).sub.finStep = false) :
      DoFinalising c reason wr
        { finStart c reason with sub := { (finStart c reason).sub with finStep := nextTask (taskList c.ro.style reason) .empty } }
        false false
  | stopped (hend : c.sub.finStep ≠ .end_) (hk : finKnown c.ro.style (finStart c reason).sub.finStep = true)
      (c' : Ctx) (retry err : Bool) (hrun : finTask (finStart c reason) wr = some (c', retry, err))
      (hstop : err = true ∨ retry = true) : DoFinalising c reason wr c' false err
  | advanced (hend : c.sub.finStep ≠ .end_) (hk : finKnown c.ro.style (finStart c reason).sub.finStep = true)
      (c' : Ctx) (hrun : finTask (finStart c reason) wr = some (c', false, false)) :
      DoFinalising c reason wr
        { c' with sub := { c'.sub with finStep := nextTask (taskList c.ro.style reason) c.sub.finStep, lastUpdate := .fresh } }
        (decide (nextTask (taskList c.ro.style reason) c.sub.finStep = .end_)) false

theorem doFinalising_inv {c c' : Ctx} {reason : Reason} {wr d e : Bool} (h : doFinalising c reason wr = some (c', d, e)) :
    DoFinalising c reason wr c' d e := by
  have hs := stripAnno_frame c
  have hro := (finStart_frame c reason).1
  unfold doFinalising at h
  dsimp only at h
  rw [hs.1, hs.2.1] at h
  rw [show startCursor (stripAnno c) (nextTask (taskList c.ro.style reason) c.sub.finStep) = finStart c reason from rfl] at h
  rw [show finKnown (finStart c reason).ro.style = finKnown c.ro.style by rw [hro]] at h
  split at h
  · cases h
  · split at h
    · rename_i hend; cases h; exact .atEnd hend
    · rename_i hend
      split at h
      · rename_i hk; cases h; exact .restart hend (by simpa using hk)
      · rename_i hk
        split at h
        · cases h
        · rename_i c1 retry err hrun
          split at h
          · rename_i hstop; cases h; exact .stopped hend (by simpa using hk) _ retry _ hrun hstop
          · rename_i hstop
            cases h
            cases err <;> cases retry <;> simp at hstop
            exact .advanced hend (by simpa using hk) c1 hrun

/-- the clean-up reports done only with its cursor at END, and without error -/
theorem doFinalising_done {c c' : Ctx} {reason : Reason} {wr d e : Bool} (h : doFinalising c reason wr = some (c', d, e))
    (hd : d = true) : c'.sub.finStep = .end_ ∧ e = false := by
  cases doFinalising_inv h with
  | atEnd hend => exact ⟨(stripAnno_frame c).1 ▸ hend, rfl⟩
  | restart | stopped => cases hd
  | advanced => exact ⟨of_decide_eq_true hd, rfl⟩

end RV.RolloutSM

namespace RV.RolloutSM
open RV.Arith

/-- the order in which `recalculateCanaryStep` visits a plan of `n` steps: the current step (0-based index `c`) first when it
    is in the plan, then the others in plan order -/
def visitOrder (n : Nat) (c : Int) : List Nat :=
  (if c ≥ 0 ∧ c < n then [c.toNat] else []) ++ (List.range n).filter fun (i : Nat) => decide ((i : Int) ≠ c)

theorem visitOrder_bound (n : Nat) (c : Int) : ∀ i ∈ visitOrder n c, i < n := by
  intro i hi
  rcases List.mem_append.mp hi with h | h
  · split at h
    · rename_i hc; simp at h; omega
    · cases h
  · simp [List.mem_filter] at h; exact h.1

theorem visitOrder_complete (n : Nat) (c : Int) (i : Nat) (hi : i < n) : i ∈ visitOrder n c := by
  by_cases h : (i : Int) = c
  · apply List.mem_append_left
    have hc : c ≥ 0 ∧ c < (n : Int) := by omega
    rw [if_pos hc]
    simp; omega
  · apply List.mem_append_right
    simp [List.mem_filter, hi, h]

/-- `recalculateCanaryStep` with a BatchRelease whose partition points at entry `e` of its plan: the loop over `visitOrder` -/
theorem recalc_eq (ro : Rollout) (s : Sub) (wl : WL) (b : BR) (p : Int) (e : IntOrPct) (hp : b.partition = some p)
    (h0 : ¬ p < 0) (he : b.batches[p.toNat]? = some e) :
    recalculateCanaryStep ro s wl (some b) =
      some (recalculateCanaryStep.go ro wl (scaledV e wl.replicas true) (visitOrder ro.steps.length (s.curIdx - 1)) 0) := by
  unfold recalculateCanaryStep
  dsimp only
  rw [hp]
  dsimp only
  rw [if_neg h0, he]
  rfl

/-- **the loop of `recalculateCanaryStep`** stops at the first visited step whose replicas suffice, else at the last one
    visited (an empty order leaves the start value) -/
theorem recalc_go_spec (ro : Rollout) (wl : WL) (cr : Int) (order : List Nat) (acc : Int)
    (hord : ∀ i ∈ order, i < ro.steps.length) :
    (order = [] ∧ recalculateCanaryStep.go ro wl cr order acc = acc) ∨
    ∃ i ∈ order, recalculateCanaryStep.go ro wl cr order acc = (i : Int) + 1 ∧
      ((∃ st, ro.steps[i]? = some st ∧ cr ≤ scaledV st.replicas wl.replicas true) ∨
       ∀ j ∈ order, ∀ st, ro.steps[j]? = some st → ¬ cr ≤ scaledV st.replicas wl.replicas true) := by
  induction order generalizing acc with
  | nil => exact .inl ⟨rfl, by unfold recalculateCanaryStep.go; rfl⟩
  | cons i is ih =>
    have hi := hord i (by simp)
    have hget : ro.steps[i]? = some ro.steps[i] := by simp [hi]
    unfold recalculateCanaryStep.go
    rw [hget]
    dsimp only
    split
    · rename_i hc; exact .inr ⟨i, by simp, rfl, .inl ⟨_, hget, hc⟩⟩
    · rename_i hc
      have hhead : ∀ st, ro.steps[i]? = some st → ¬ cr ≤ scaledV st.replicas wl.replicas true := fun st hst => by
        rw [hget] at hst; cases hst; exact hc
      rcases ih ((i : Int) + 1) (fun j hj => hord j (by simp [hj])) with ⟨hnil, hgo⟩ | ⟨j, hj, hgo, hx⟩
      · subst hnil
        exact .inr ⟨i, by simp, hgo, .inr fun j hj => by cases List.mem_singleton.mp hj; exact hhead⟩
      · refine .inr ⟨j, by simp [hj], hgo, hx.imp id fun hall k hk => ?_⟩
        rcases List.mem_cons.mp hk with rfl | hk
        · exact hhead
        · exact hall k hk

end RV.RolloutSM
