import RV.Oracle.ExecutorXPlanes
/-! What the adapters of `RV.Model.ExecutorXPlanes` add around a plane model's call: a `Bool` turned into a `CallResult`
    (`resOfBool`), a readiness check that may crash (`outBool`). -/
namespace RV.ExecutorX
open RV.Executor RV.Oracle.ExecutorX

theorem resOfBool_ok (b : Bool) : resOfBool b = .ok ↔ b = true := by
  cases b <;> decide

theorem resOfBool_err (b : Bool) : resOfBool b = .err ↔ b = false := by
  cases b <;> decide

theorem resOfBool_decide (p : Prop) [Decidable p] : resOfBool (decide p) = .ok ↔ p :=
  (resOfBool_ok _).trans decide_eq_true_iff

/-- the left-hand side is the body of the adapters' `ensure` field: for such a plane this is `Laws.ensure_ok_iff` as it stands -/
theorem ensure_outBool (x : Out Bool) :
    (match x with
      | .panic => (Out.panic : Out CallResult)
      | .val b => .val (resOfBool b)) = .val .ok ↔ outBool x = true := by
  rcases x with (_ | _) | _ <;> simp [outBool, resOfBool]

end RV.ExecutorX
