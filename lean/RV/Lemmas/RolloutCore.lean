/-
  The body of `RV.RolloutSM.reconcileCore` phase by phase, as equations: what it computes once `handleFinalizer` left
  `(ro1, g, ws0)` and `calculateStatus` over a readable workload gave `ns` (`core_healthy` … `core_terminating`, `core_rolling_eq`).
  Before them: `doCanaryPaused_true` (`doCanaryPaused_touched` across rollouts), `finish` on the four contexts the closed loop meets (`finish_init`,
  `finish_current`, `finish_create`, `finish_update`), the round on a natural cursor (`runCanary_natural`, `roundCall_canary`),
  and `csObserve` on a rolling rollout (`csObserve_rolling`, `csObserve_fix`).
-/
import RV.Lemmas.RunMove

namespace RV.Traffic

theorem fresh_ne : Age.fresh ≠ Age.none := by intro h; cases h

end RV.Traffic

namespace RV.RolloutSM
open RV.Arith RV.Traffic

/-- `doCanaryPaused_touched` across rollouts: a pause satisfied on `ro`, `b` is satisfied on a rollout with the same plan and
    style and a sub-status `a` with the same step index of which `b` is at most a refreshed copy -/
theorem doCanaryPaused_true (ro ro' : Rollout) (a b : Sub) (step : Step) (rq : Bool)
    (h : doCanaryPaused ro b step = some (true, rq)) (hst : ro'.style = ro.style) (hlen : ro'.steps = ro.steps)
    (hcur : b.curIdx = a.curIdx) (hlu : b.lastUpdate = a.lastUpdate ∨ b.lastUpdate = .fresh) :
    ∃ rq', doCanaryPaused ro' a step = some (true, rq') := by
  have e : doCanaryPaused ro' a step = doCanaryPaused ro a step := by unfold doCanaryPaused; rw [hst, hlen]
  rw [e]
  exact RV.Props.Rollout.doCanaryPaused_touched h hcur hlu

/-- `BeforeStepUpgrade` of a canary step without weight passes at once -/
theorem finish_init (ro : Rollout) (step : Step) (c : Ctx) (hst : c.sub.state = .init) (hcan : ro.style = .canary)
    (hw : step.weight = none) :
    finish ro step c = .ok { c with sub := { c.sub with state := .upgrade } } false := by
  unfold finish
  rw [hst]
  dsimp only
  rw [if_pos ⟨hcan, by simp [stepHasTraffic, hw]⟩]

/-- the sub-state `StepUpgrade` moves on to -/
def upgradeNext (ro : Rollout) (step : Step) (R : Int) : StepState :=
  if ro.style = .canary ∧ scaledV step.replicas R true ≥ R ∧ ro.realPartition then .metricsAnalysis else .trafficRouting

/-- `StepUpgrade` over a BatchRelease that carries the wanted spec -/
theorem finish_current (ro : Rollout) (step : Step) (c : Ctx) (b : BR) (hst : c.sub.state = .upgrade) (hbr : c.br = some b)
    (heq : brSpecEq b (desiredBR ro (getRolloutID c.wl) (c.sub.curIdx - 1) c.wl.inRollback) = true) :
    finish ro step c =
      if b.hashSame = true ∧ b.genObserved = true ∧ b.batchReady = true ∧ ¬ b.currentBatch + 1 < c.sub.curIdx then
        .ok { c with sub := { c.sub with state := upgradeNext ro step c.wl.replicas, podHash := c.wl.podTemplateHash,
                                          lastUpdate := .fresh },
                     br := some b, writes := c.writes ++ [] } false
      else .ok { c with br := some b, writes := c.writes ++ [] } false := by
  unfold finish
  rw [hst]
  dsimp only
  unfold upgradeOut
  rw [hbr, doCanaryUpgrade_eq, runBatchRelease_current heq]
  dsimp only
  by_cases h : b.hashSame = true ∧ b.genObserved = true ∧ b.batchReady = true ∧ ¬ b.currentBatch + 1 < c.sub.curIdx
  · rw [decide_eq_true h, if_pos h]
    rfl
  · rw [decide_eq_false h, if_neg h]
    rfl

/-- `StepUpgrade` without a BatchRelease creates it -/
theorem finish_create (ro : Rollout) (step : Step) (c : Ctx) (hst : c.sub.state = .upgrade) (hbr : c.br = none) :
    finish ro step c =
      .ok { c with br := some (desiredBR ro (getRolloutID c.wl) (c.sub.curIdx - 1) c.wl.inRollback),
                   writes := c.writes ++ ["createBR"] } false := by
  unfold finish
  rw [hst]
  dsimp only
  unfold upgradeOut
  rw [hbr, doCanaryUpgrade_eq]
  rfl

/-- `StepUpgrade` over a BatchRelease that carries another spec rewrites it -/
theorem finish_update (ro : Rollout) (step : Step) (c : Ctx) (b : BR) (hst : c.sub.state = .upgrade) (hbr : c.br = some b)
    (hne : brSpecEq b (desiredBR ro (getRolloutID c.wl) (c.sub.curIdx - 1) c.wl.inRollback) = false) :
    finish ro step c =
      .ok { c with br := some (rewrittenBR ro b (getRolloutID c.wl) (c.sub.curIdx - 1) c.wl.inRollback),
                   writes := c.writes ++ ["updateBR"] } false := by
  unfold finish
  rw [hst]
  dsimp only
  unfold upgradeOut
  rw [hbr, doCanaryUpgrade_eq, runBatchRelease_update hne]
  rfl

/-- a natural cursor (the index inside the plan, the next index the one after it) points at a step and requests no jump -/
theorem natural_cursor (c0 : Ctx) (hlo : 1 ≤ c0.sub.curIdx) (hhi : c0.sub.curIdx ≤ c0.ro.steps.length)
    (hnext : c0.sub.nextIdx = nextBatchIndex c0.ro.steps.length c0.sub.curIdx) :
    ∃ step, c0.ro.steps[(c0.sub.curIdx - 1).toNat]? = some step ∧
      doCanaryJump c0.ro (syncStep c0).sub = some ((syncStep c0).sub, false) := by
  have y1 : (syncStep c0).sub.curIdx = c0.sub.curIdx := by rw [syncStep_sub_eq]
  have y2 : (syncStep c0).sub.nextIdx = c0.sub.nextIdx := by rw [syncStep_sub_eq]
  exact ⟨c0.ro.steps[(c0.sub.curIdx - 1).toNat]'(by omega), List.getElem?_eq_getElem _,
    doCanaryJump_natural c0.ro _ (by rw [y1]; exact hlo) (by rw [y1]; exact hhi) (by rw [y1, y2]; exact hnext)⟩

/-- a round on a natural cursor, in normal form -/
theorem runCanary_natural (c0 : Ctx) (hlo : 1 ≤ c0.sub.curIdx) (hhi : c0.sub.curIdx ≤ c0.ro.steps.length)
    (hnext : c0.sub.nextIdx = nextBatchIndex c0.ro.steps.length c0.sub.curIdx) :
    ∃ step, c0.ro.steps[(c0.sub.curIdx - 1).toNat]? = some step ∧
      runCanary c0 =
        match roundCall c0.ro step c0.wl c0.sub with
        | none => finish c0.ro step (syncStep c0)
        | some k =>
          afterCall c0.ro step k (some (landCall (syncStep c0) (k.fn (roundCtx c0 step) c0.net c0.mem) k.cb,
            (k.fn (roundCtx c0 step) c0.net c0.mem).done, (k.fn (roundCtx c0 step) c0.net c0.mem).err)) := by
  obtain ⟨step, hstep, hj⟩ := natural_cursor c0 hlo hhi hnext
  exact ⟨step, hstep, runCanary_round c0 step hj hstep⟩

/-- … and, when it does not crash, by its exits -/
theorem runCanary_natural_out {c0 c' : Ctx} {err : Bool} (hlo : 1 ≤ c0.sub.curIdx) (hhi : c0.sub.curIdx ≤ c0.ro.steps.length)
    (hnext : c0.sub.nextIdx = nextBatchIndex c0.ro.steps.length c0.sub.curIdx) (h : runCanary c0 = .ok c' err) :
    ∃ step, c0.ro.steps[(c0.sub.curIdx - 1).toNat]? = some step ∧ RoundOut c0 step c' err := by
  obtain ⟨step, hstep, hj⟩ := natural_cursor c0 hlo hhi hnext
  exact ⟨step, hstep, runCanary_out hj hstep h⟩

/-- when which call is due, for a canary rollout in partition style -/
theorem roundCall_canary (ro : Rollout) (step : Step) (wl : WL) (s : Sub) (hs : ro.style = .canary) (hr : ro.realPartition = true) :
    match roundCall ro step wl s with
    | some .fin => stepHasTraffic step = false
    | some .unpin => stepHasTraffic step = true ∧ s.state = .init ∧ scaledV step.replicas wl.replicas true ≥ wl.replicas
    | some .pin => stepHasTraffic step = true ∧ s.state = .init ∧ ¬ scaledV step.replicas wl.replicas true ≥ wl.replicas ∧
        s.curIdx = 1 ∧ ro.disableGen = false
    | some .route => s.state = .trafficRouting
    | none => stepHasTraffic step = true ∧ s.state ≠ .trafficRouting ∧
        (s.state = .init → ¬ scaledV step.replicas wl.replicas true ≥ wl.replicas ∧ ¬ (s.curIdx = 1 ∧ ro.disableGen = false)) := by
  unfold roundCall
  by_cases hnt : stepHasTraffic step = false
  · rw [if_pos hnt]; exact hnt
  · have ht : stepHasTraffic step = true := by simpa using hnt
    rw [if_neg hnt]
    unfold stateCall
    cases hst : s.state <;> dsimp only
    case init =>
      rw [if_neg hnt, if_pos hs]
      by_cases hfull : scaledV step.replicas wl.replicas true ≥ wl.replicas
      · rw [if_pos ⟨hfull, hr⟩]; exact ⟨ht, rfl, hfull⟩
      · rw [if_neg (fun h => hfull h.1)]
        by_cases hf : s.curIdx = 1 ∧ ¬ ro.disableGen = true
        · rw [if_pos hf]; exact ⟨ht, rfl, hfull, hf.1, by simpa using hf.2⟩
        · rw [if_neg hf]; exact ⟨ht, nofun, fun _ => ⟨hfull, fun h => hf ⟨h.1, by simp [h.2]⟩⟩⟩
    all_goals first | rfl | exact ⟨ht, nofun, nofun⟩

/-- `CheckNextBatchIndexWithCorrect` finds nothing to correct in a sub-status whose next index is the natural one -/
theorem fixNext_natural (ns : Rollout) (s : Sub) (h : s.nextIdx = nextBatchIndex ns.steps.length s.curIdx) :
    (if s.nextIdx ≤ 0 ∨ s.nextIdx > (ns.steps.length : Int) then
      { s with nextIdx := nextBatchIndex (ns.steps.length : Int) s.curIdx } else s) = s := by
  split
  · rw [← h]
  · rfl

theorem csObserve_frame (ro : Rollout) (wl : WL) :
    (csObserve ro wl).hasFinalizer = ro.hasFinalizer ∧ (csObserve ro wl).reason = ro.reason := by
  rw [csObserve_eq]
  exact ⟨rfl, rfl⟩

theorem csObserve_rolling (ro : Rollout) (wl : WL) (s : Sub) (hs : ro.sub = some s) (h1 : s.canaryRev ≠ "")
    (h2 : s.canaryRev = wl.canaryRev) : csObserve ro wl = { ro with sub := some (obsSub s wl) } := by
  rw [csObserve_eq, hs, Option.map_some, csSub_pos ⟨h1, h2⟩]

/-- a status whose observed rollout-id and generation are up to date (or are not refreshed at all) is left as it is -/
theorem csObserve_fix (ro : Rollout) (wl : WL) (s : Sub) (hs : ro.sub = some s)
    (h : s.canaryRev ≠ "" ∧ s.canaryRev = wl.canaryRev → s.observedRolloutID = getRolloutID wl ∧ s.observedGen = wl.generation) :
    csObserve ro wl = ro := by
  have e : csSub s wl = s := by
    unfold csSub
    split
    · rename_i hc
      rw [← (h hc).1, ← (h hc).2]
    · rfl
  rw [csObserve_eq, hs, Option.map_some, e, ← hs]

/-! ### the body of a reconcile, phase by phase

`reconcileCore` after the finalizer handling left `(ro1, g, ws0)` and the status calculation over a readable workload
gave `ns`: what it computes in each phase the closed loop visits. -/

theorem core_healthy (w : World) (wl : WL) (ro1 ns : Rollout) (g : Bool) (ws0 : List String)
    (hhf : handleFinalizer w.ro = (ro1, g, ws0)) (hwl : w.wl = some wl) (hcs : calculateStatus ro1 (some wl) = some ns)
    (hph : w.ro.phase = .healthy) :
    reconcileCore w = .val { w := { w with ro := ns }, roGone := g, requeue := false, err := false, writes := ws0 } := by
  unfold reconcileCore
  simp only [hhf, hwl, hcs, hph]

theorem core_inconsistent (w : World) (wl : WL) (ro1 ns : Rollout) (g : Bool) (ws0 : List String)
    (hhf : handleFinalizer w.ro = (ro1, g, ws0)) (hwl : w.wl = some wl) (hcs : calculateStatus ro1 (some wl) = some ns)
    (hph : w.ro.phase = .progressing) (hc : wl.consistent = false) :
    reconcileCore w = .val { w := { w with ro := ns }, roGone := g, requeue := false, err := false, writes := ws0 } := by
  unfold reconcileCore
  simp only [hhf, hwl, hcs, hph, hc, Bool.false_eq_true, not_false_eq_true, if_true]

theorem core_initializing (w : World) (wl : WL) (ro1 ns : Rollout) (g : Bool) (ws0 : List String)
    (hhf : handleFinalizer w.ro = (ro1, g, ws0)) (hwl : w.wl = some wl) (hcs : calculateStatus ro1 (some wl) = some ns)
    (hph : w.ro.phase = .progressing) (hc : wl.consistent = true) (hr : w.ro.reason = .initializing)
    (hne : ns.steps ≠ []) :
    ((ns.hasTraffic = true ∧ (¬ w.net.stableExists = true ∨ ¬ w.net.stableIngress = true)) ∧
      reconcileCore w = .val { w := { w with ro := ro1 }, roGone := g, requeue := false, err := true, writes := ws0 }) ∨
    (¬ (ns.hasTraffic = true ∧ (¬ w.net.stableExists = true ∨ ¬ w.net.stableIngress = true)) ∧ ns.condAge = .fresh ∧
      reconcileCore w = .val { w := { w with ro := { ns with sub := some (startSub ns wl) } }, roGone := g, requeue := true, err := false, writes := ws0 }) ∨
    (¬ (ns.hasTraffic = true ∧ (¬ w.net.stableExists = true ∨ ¬ w.net.stableIngress = true)) ∧ ¬ ns.condAge = .fresh ∧
      reconcileCore w = .val { w := { w with ro := { ns with sub := some (startSub ns wl), reason := .inRolling } }, roGone := g, requeue := false, err := false, writes := ws0 }) := by
  have hne' : ns.steps.isEmpty = false := by simpa using hne
  unfold reconcileCore startSub
  simp only [hhf, hwl, hcs, hph, hc, hr, hne', not_true_eq_false, if_false, Bool.false_eq_true, and_false]
  split
  · rename_i h1; exact Or.inl ⟨h1, rfl⟩
  · rename_i h1
    split
    · rename_i h2; exact Or.inr (Or.inl ⟨h1, h2, rfl⟩)
    · rename_i h2; exact Or.inr (Or.inr ⟨h1, h2, rfl⟩)

theorem core_rolling (w : World) (wl : WL) (ro1 ns : Rollout) (g : Bool) (ws0 : List String) (s1 : Sub)
    (hhf : handleFinalizer w.ro = (ro1, g, ws0)) (hwl : w.wl = some wl) (hcs : calculateStatus ro1 (some wl) = some ns)
    (hph : w.ro.phase = .progressing) (hc : wl.consistent = true) (hr : w.ro.reason = .inRolling)
    (hs1 : ns.sub = some s1) :
    reconcileCore w =
      (match inRolling w w.ro ns s1 wl with
       | .panic => .panic
       | .val r =>
         if r.err then .val { w := { r.w with ro := ro1 }, roGone := g, requeue := false, err := true, writes := ws0 ++ r.writes }
         else .val { w := r.w, roGone := g, requeue := r.requeue, err := false, writes := ws0 ++ r.writes }) := by
  unfold reconcileCore
  simp only [hhf, hwl, hcs, hph, hc, hr, hs1, not_true_eq_false, if_false]
  rfl

theorem core_finalising (w : World) (wl : WL) (ro1 ns : Rollout) (g : Bool) (ws0 : List String) (w' : World) (d e : Bool)
    (ws : List String)
    (hhf : handleFinalizer w.ro = (ro1, g, ws0)) (hwl : w.wl = some wl) (hcs : calculateStatus ro1 (some wl) = some ns)
    (hph : w.ro.phase = .progressing) (hc : wl.consistent = true) (hr : w.ro.reason = .finalising)
    (hfz : finalise w ns (some wl) .success true = some (w', d, e, ws)) :
    reconcileCore w =
      if e then .val { w := { w' with ro := ro1 }, roGone := g, requeue := false, err := true, writes := ws0 ++ ws }
      else if d then .val { w := { w' with ro := { w'.ro with reason := .completed, succeeded := some true } }, roGone := g,
                            requeue := false, err := false, writes := ws0 ++ ws }
      else .val { w := w', roGone := g, requeue := true, err := false, writes := ws0 ++ ws } := by
  unfold reconcileCore
  simp only [hhf, hwl, hcs, hph, hc, hr, hfz, not_true_eq_false, if_false]

theorem core_completed (w : World) (wl : WL) (ro1 ns : Rollout) (g : Bool) (ws0 : List String)
    (hhf : handleFinalizer w.ro = (ro1, g, ws0)) (hwl : w.wl = some wl) (hcs : calculateStatus ro1 (some wl) = some ns)
    (hph : w.ro.phase = .progressing) (hc : wl.consistent = true) (hr : w.ro.reason = .completed) :
    reconcileCore w = .val { w := { w with ro := { ns with phase := .healthy } }, roGone := g, requeue := false, err := false, writes := ws0 } := by
  unfold reconcileCore
  simp only [hhf, hwl, hcs, hph, hc, hr, not_true_eq_false, if_false]

theorem core_terminated (w : World) (wl : WL) (ro1 ns : Rollout) (g : Bool) (ws0 : List String)
    (hhf : handleFinalizer w.ro = (ro1, g, ws0)) (hwl : w.wl = some wl) (hcs : calculateStatus ro1 (some wl) = some ns)
    (hph : w.ro.phase = .terminating) (ht : w.ro.term = .completed) :
    reconcileCore w = .val { w := { w with ro := ns }, roGone := g, requeue := false, err := false, writes := ws0 } := by
  unfold reconcileCore
  simp only [hhf, hwl, hcs, hph, ht]

theorem core_terminating (w : World) (wl : WL) (ro1 ns : Rollout) (g : Bool) (ws0 : List String) (w' : World) (d e : Bool)
    (ws : List String)
    (hhf : handleFinalizer w.ro = (ro1, g, ws0)) (hwl : w.wl = some wl) (hcs : calculateStatus ro1 (some wl) = some ns)
    (hph : w.ro.phase = .terminating) (ht : w.ro.term = .inTerminating)
    (hfz : finalise w ns (some wl) .other false = some (w', d, e, ws)) :
    reconcileCore w =
      if e then .val { w := { w' with ro := ro1 }, roGone := g, requeue := false, err := true, writes := ws0 ++ ws }
      else if d then .val { w := { w' with ro := { w'.ro with term := .completed } }, roGone := g, requeue := false,
                            err := false, writes := ws0 ++ ws }
      else .val { w := w', roGone := g, requeue := true, err := false, writes := ws0 ++ ws } := by
  unfold reconcileCore
  simp only [hhf, hwl, hcs, hph, ht, hfz]

/-- **the body of a reconcile of a rolling rollout is one round of the release manager on the new status** `ns` (readable
    workload, no rollback, the workload's revision, plan unchanged, `ns` un-paused, the next index of `s1` the natural one), whatever
    `handleFinalizer` decided: in sub-state `completed` only the reason changes; otherwise `runCanary` runs and is landed by
    `ofCtx`; on an error the status is not written -/
theorem core_rolling_eq (w : World) (wl : WL) (ro1 ns : Rollout) (g : Bool) (ws0 : List String) (s1 os : Sub)
    (hhf : handleFinalizer w.ro = (ro1, g, ws0)) (hwl : w.wl = some wl) (hcs : calculateStatus ro1 (some wl) = some ns)
    (hph : w.ro.phase = .progressing) (hc : wl.consistent = true) (hr : w.ro.reason = .inRolling)
    (hs1 : ns.sub = some s1) (hos : w.ro.sub = some os) (hnr : wl.inRollback = false) (hp : ns.paused = false)
    (hrev : wl.canaryRev = os.canaryRev) (hh : os.hash = .same)
    (hn1 : s1.nextIdx = nextBatchIndex ns.steps.length s1.curIdx) :
    reconcileCore w =
      if s1.state = .completed then
        .val { w := { w with ro := { ns with reason := .finalising } }, roGone := g, requeue := false, err := false,
               writes := ws0 }
      else
        match runCanary (toCtx { w with ro := ns } s1 wl) with
        | .panic => .panic
        | .ok c err =>
          if err then .val { w := { ofCtx w c ns with ro := ro1 }, roGone := g, requeue := false, err := true,
                             writes := ws0 ++ c.writes }
          else .val { w := ofCtx w c ns, roGone := g, requeue := c.requeue, err := false, writes := ws0 ++ c.writes } := by
  rw [core_rolling w wl ro1 ns g ws0 s1 hhf hwl hcs hph hc hr hs1]
  -- `doProgressingInRolling` without rollback, pause, new revision or plan change is normal rolling
  unfold inRolling
  dsimp only
  rw [hos]
  dsimp only
  rw [if_neg (by simp [hnr]), if_neg (by simp [hp]), if_neg (by simp [hnr]), if_neg (by simp [hrev]), if_neg (by simp [hh])]
  by_cases hst : s1.state = .completed
  · rw [if_pos hst, if_pos hst]
    dsimp only
    rw [if_neg Bool.false_ne_true, List.append_nil]
  · rw [if_neg hst, if_neg hst, fixNext_natural _ _ hn1]
    cases runCanary (toCtx { w with ro := ns } s1 wl) with
    | panic => rfl
    | ok c err => cases err <;> rfl

end RV.RolloutSM
