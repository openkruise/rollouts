/-
  Arithmetic behind the traffic invariant: "full" steps are upward closed along a monotone plan, and the partition the
  CloneSet control writes for a step that is not full keeps at least one pod on the old revision.
-/
import RV.Lemmas.ClosedLoopArith
import RV.Lemmas.ClosedLoopTrafficDefs
namespace RV.Lemmas.ClosedLoopTraffic
open RV.Arith RV.Traffic RV.RolloutSM RV.ClosedLoop RV.Oracle.ClosedLoop RV.Oracle.ClosedLoopTraffic RV.Lemmas.ClosedLoop RV.BatchCtx

theorem planOf_get (ro : Rollout) (k : Nat) : (planOf ro)[k]? = (ro.steps[k]?).map (·.replicas) := by
  unfold planOf
  rw [List.getElem?_map]

theorem fullAt_nonpos (ro : Rollout) (R : Int) (j : Int) (hj : j < 1) : fullAt ro R j = false := by
  unfold fullAt stepAt
  rw [if_pos hj]

theorem fullAt_entry (ro : Rollout) (R : Int) (j : Int) (hj : 1 ≤ j) (e : IntOrPct)
    (he : (planOf ro)[(j - 1).toNat]? = some e) : fullAt ro R j = decide (scaledV e R true ≥ R) := by
  rw [planOf_get] at he
  cases hs : ro.steps[(j - 1).toNat]? with
  | none => rw [hs] at he; cases he
  | some st =>
    rw [hs] at he
    cases he
    exact fullAt_step ro R j st hj hs

theorem fullAt_some (ro : Rollout) (R : Int) (i : Int) (h : fullAt ro R i = true) :
    1 ≤ i ∧ ∃ e, (planOf ro)[(i - 1).toNat]? = some e ∧ scaledV e R true ≥ R := by
  by_cases hi : i < 1
  · rw [fullAt_nonpos ro R i hi] at h; cases h
  · refine ⟨by omega, ?_⟩
    unfold fullAt at h
    rw [stepAt_pos ro i (by omega)] at h
    cases hs : ro.steps[(i - 1).toNat]? with
    | none => rw [hs] at h; cases h
    | some st =>
      rw [hs] at h
      refine ⟨st.replicas, ?_, of_decide_eq_true h⟩
      rw [planOf_get, hs]; rfl

theorem full_iff_calc (R : Int) (e : IntOrPct) (hR : 0 < R) : scaledV e R true ≥ R ↔ R ≤ calcBatchReplicas R e := by
  rw [calcBatch_eq_clamp (Int.le_of_lt hR)]
  unfold keptStable
  omega

/-- needs `0 < R`: for `R = 0` the plan `[int 0, int (-1)]` is monotone (both clamp to 0), step 1 is full, step 2 is not -/
theorem fullAt_mono (ro : Rollout) (R : Int) (hR : 0 < R) (hm : planMono R (planOf ro) = true) (i j : Int) (hij : i ≤ j)
    (hj : j ≤ ro.steps.length) (h : fullAt ro R i = true) : fullAt ro R j = true := by
  obtain ⟨hi1, a, ha, hfa⟩ := fullAt_some ro R i h
  have hlen : (j - 1).toNat < (planOf ro).length := by
    unfold planOf; rw [List.length_map]; omega
  have hb : (planOf ro)[(j - 1).toNat]? = some ((planOf ro)[(j - 1).toNat]) := List.getElem?_eq_getElem hlen
  have hle := planMono_le R (planOf ro) hm (i - 1).toNat (j - 1).toNat a _ (by omega) ha hb
  rw [fullAt_entry ro R j (by omega) _ hb]
  apply decide_eq_true
  rw [full_iff_calc R _ hR]
  have := (full_iff_calc R a hR).1 hfa
  omega

theorem desiredStable_pos (R : Int) (e : IntOrPct) (hR : 0 < R) (h : scaledV e R true < R) :
    1 ≤ desiredStable R e none ∧ desiredStable R e none ≤ R := by
  obtain ⟨hds, _, h0, _⟩ := desiredStable_eq R e none (Int.le_of_lt hR) nofun
  have := mt (full_iff_calc R e hR).mpr (by omega)
  simp only [RV.Oracle.Batch.allowed, Option.getD] at *
  omega

theorem desKnob_keepsOne (R : Int) (e : IntOrPct) (hR : 0 < R) (h : scaledV e R true < R) :
    1 ≤ scaledV (desKnob .cloneSet R e none) R true := by
  obtain ⟨hs1, hs2⟩ := desiredStable_pos R e hR h
  obtain ⟨q, hq, _, _, _, hone⟩ := parsePct_spec (desiredStable R e none) R e (Int.le_of_lt hR) (by omega) hs2
  have hne : e ≠ IntOrPct.pct 100 := by
    rintro rfl; rw [scaledV_pct100] at h; omega
  cases e with
  | int n => simp only [desKnob, scaledV_int]; exact hs1
  | pct p => simp only [desKnob, hq]; exact hone hs1 hne
  | bad => simp only [desKnob, hq]; exact hone hs1 hne

end RV.Lemmas.ClosedLoopTraffic
