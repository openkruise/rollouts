/-
  The move of the sub-status in ONE round of the release manager, with the observation that allowed it, stated on the context
  the round started from (`RunMove`, with `StateMove` for the moves inside a step; `runCanary_move`). It is read off the
  round's exits (`RoundOut`, `Finish`); the observations the switch made on the context after `syncBatchRelease` and the Manager call are carried back
  to the start here, once (`upgrade_done_unsynced`, `doCanaryPaused_touched`, `syncStep_sameStep`). Before it: `doCanaryJump`
  inverted, and what a round leaves in place (`SameStep`). After it: a round that leaves `BeforeStepUpgrade` of a step with weight is
  `BeforeStepUpgrade`'s own move (`runCanary_init_left`); a clean-up task keeps the step (`finTask_frame`).
-/
import RV.Lemmas.Round
namespace RV.Props.Rollout
open RV.Arith RV.Traffic RV.RolloutSM

/-- Go's `isStepUpgraded`: the sub-states past `StepUpgrade` (the oracle's `podsReady`: `podsReady_iff`) -/
def Upgraded (st : StepState) : Prop :=
  st = .trafficRouting ∨ st = .metricsAnalysis ∨ st = .paused ∨ st = .ready ∨ st = .completed

/-- a user step-jump request is pending in the status -/
def JumpReq (ro : Rollout) (s : Sub) : Prop :=
  s.nextIdx ≠ nextBatchIndex ro.steps.length s.curIdx ∧ 0 < s.nextIdx

/-- A jump taken by `doCanaryJump`: on a request only; to the requested step, the next index its natural successor; into
    `StepTrafficRouting` only if the current step's pods were already reported ready (`Upgraded`; the code also asks equal
    replicas, which no theorem needs), else into `BeforeStepUpgrade`; nothing else of the status changes but the update time. -/
theorem doCanaryJump_true {ro : Rollout} {s s' : Sub} (h : doCanaryJump ro s = some (s', true)) :
    JumpReq ro s ∧ s.nextIdx ≤ ro.steps.length ∧
    s' = { s with curIdx := s.nextIdx, nextIdx := nextBatchIndex ro.steps.length s.nextIdx, state := s'.state, lastUpdate := .fresh } ∧
    (s'.state = .init ∨ s'.state = .trafficRouting ∧ Upgraded s.state) := by
  unfold doCanaryJump at h
  dsimp only at h
  split at h
  · cases h
  · split at h
    · rename_i hreq
      split at h
      · cases h
      · cases h
        refine ⟨hreq, by omega, rfl, ?_⟩
        dsimp only
        split
        · rename_i hc; exact .inr ⟨rfl, hc.2⟩
        · exact .inl rfl
    · cases h

theorem jump_lands {ro : Rollout} {s s' : Sub} (h : doCanaryJump ro s = some (s', true)) :
    s'.state = .init ∨ (s'.state = .trafficRouting ∧ Upgraded s.state) := (doCanaryJump_true h).2.2.2

/-- `c1` has the rollout, the workload, the step indices, the sub-state and the stable revision of `c`, and its last-update time or
    a fresh one: what `syncBatchRelease` and the Manager calls of one `runCanary` round leave in place -/
structure SameStep (c c1 : Ctx) : Prop where
  ro : c1.ro = c.ro
  wl : c1.wl = c.wl
  curIdx : c1.sub.curIdx = c.sub.curIdx
  nextIdx : c1.sub.nextIdx = c.sub.nextIdx
  state : c1.sub.state = c.sub.state
  stableRev : c1.sub.stableRev = c.sub.stableRev
  lastUpdate : c1.sub.lastUpdate = c.sub.lastUpdate ∨ c1.sub.lastUpdate = .fresh

theorem SameStep.trans {c c1 c2 : Ctx} (h1 : SameStep c c1) (h2 : SameStep c1 c2) : SameStep c c2 :=
  ⟨h2.ro.trans h1.ro, h2.wl.trans h1.wl, h2.curIdx.trans h1.curIdx, h2.nextIdx.trans h1.nextIdx, h2.state.trans h1.state,
    h2.stableRev.trans h1.stableRev, h2.lastUpdate.elim (fun e => e ▸ h1.lastUpdate) Or.inr⟩

theorem _root_.RV.RolloutSM.TM.sameStep {c c1 : Ctx} (h : TM c c1) : SameStep c c1 := by
  obtain ⟨e, lu⟩ := h.sub.facts
  rw [h.eq, e]
  exact ⟨rfl, rfl, rfl, rfl, rfl, rfl, lu⟩

theorem syncStep_sameStep (c : Ctx) : SameStep c (syncStep c) := by
  rw [syncStep_frame]
  dsimp only
  split <;> exact ⟨rfl, rfl, rfl, rfl, rfl, rfl, Or.inl rfl⟩

/-- the pods of the step are reported ready, as `doCanaryUpgrade` sees it -/
def UpgradeDone (ro : Rollout) (c : Ctx) : Prop := (doCanaryUpgrade ro c.sub c.wl c.br).1 = true

/-- a BatchRelease whose rollout-id was just patched is not accepted as "pods ready" in the same round: the patch clears
    `hashSame`, which `doCanaryUpgrade` requires -/
theorem upgrade_done_unsynced (c : Ctx) (s : Sub)
    (h : (doCanaryUpgrade c.ro s c.wl (syncStep c).br).1 = true) : (syncStep c).br = c.br := by
  unfold syncStep at h ⊢
  dsimp only at h ⊢
  cases hb : c.br with
  | none => simp [hb]
  | some b =>
    rw [hb] at h
    dsimp only at h ⊢
    split
    · rename_i hne
      rw [if_pos hne] at h
      exfalso
      dsimp only at h
      unfold doCanaryUpgrade runBatchRelease at h
      dsimp only at h
      split at h
      · dsimp only at h; simp at h
      · dsimp only at h; simp at h
    · exact hb

/-- a pause that is satisfied on a sub-status a Manager call has touched is satisfied on the sub-status as it was: a
    refreshed time stamp never satisfies a pause -/
theorem doCanaryPaused_touched {ro : Rollout} {a b : Sub} {step : Step} {rq : Bool}
    (h : doCanaryPaused ro b step = some (true, rq)) (hcur : b.curIdx = a.curIdx)
    (hlu : b.lastUpdate = a.lastUpdate ∨ b.lastUpdate = .fresh) : ∃ rq', doCanaryPaused ro a step = some (true, rq') := by
  refine doCanaryPaused_done.mpr ((doCanaryPaused_done.mp ⟨rq, h⟩).imp (hcur ▸ ·) (.imp_right fun he => ?_))
  rcases hlu with hlu | hlu
  · exact hlu ▸ he
  · cases hlu.symm.trans he

/-- A move of the sub-state inside the step, with the observation that allowed it, on the context `c0` the round started
    from. `stay` covers every round that a Manager call, the BatchRelease or a pause stopped.
    `upgraded`: the BatchRelease as read reports the step's pods ready (and `syncBatchRelease` had nothing to patch);
    `routed`: `DoTrafficRouting` on the round's Manager context answers "done" without error (the round's call; on a step without
    weight the call is `FinalisingTrafficRouting` and `DoTrafficRouting` has nothing to route). -/
inductive StateMove (c0 c' : Ctx) : Prop
  | stay (hst : c'.sub.state = c0.sub.state)
  | toUpgrade (h0 : c0.sub.state = .init) (h1 : c'.sub.state = .upgrade)
  | upgraded (h0 : c0.sub.state = .init ∨ c0.sub.state = .upgrade) (step : Step)
      (hstep : c0.ro.steps[(c0.sub.curIdx - 1).toNat]? = some step) (hd : UpgradeDone c0.ro c0) (hsync : (syncStep c0).br = c0.br)
      (h1 : c'.sub.state = if c0.ro.style = .canary ∧ ReleasesAll c0.ro step c0.wl then .metricsAnalysis else .trafficRouting)
      (hph : c'.sub.podHash = c0.wl.podTemplateHash)
  | routed (h0 : c0.sub.state = .trafficRouting) (h1 : c'.sub.state = .metricsAnalysis) (step : Step)
      (hstep : c0.ro.steps[(c0.sub.curIdx - 1).toNat]? = some step)
      (hd : (doTrafficRouting (roundCtx c0 step) c0.net c0.mem).done = true)
      (he : (doTrafficRouting (roundCtx c0 step) c0.net c0.mem).err = false)
  | analysed (h0 : c0.sub.state = .metricsAnalysis) (h1 : c'.sub.state = .paused)
  | pauseDone (h0 : c0.sub.state = .paused) (h1 : c'.sub.state = .ready) (step : Step)
      (hstep : c0.ro.steps[(c0.sub.curIdx - 1).toNat]? = some step) (rq : Bool)
      (hp : doCanaryPaused c0.ro c0.sub step = some (true, rq))
  | complete (h0 : c0.sub.state = .ready) (h1 : c'.sub.state = .completed)

/-- One round of `runCanary` seen from the sub-status: a step jump on the user's request; the natural advance out of
    `StepReady`; or, without a jump request, a move inside the step, which keeps both indices. -/
inductive RunMove (c0 c' : Ctx) : Prop
  | jump (hreq : JumpReq c0.ro c0.sub) (hle : c0.sub.nextIdx ≤ c0.ro.steps.length) (hcur : c'.sub.curIdx = c0.sub.nextIdx)
      (hnext : c'.sub.nextIdx = nextBatchIndex c0.ro.steps.length c0.sub.nextIdx)
      (hst : c'.sub.state = .init ∨ c'.sub.state = .trafficRouting ∧ Upgraded c0.sub.state)
  | advance (hno : ¬ JumpReq c0.ro c0.sub) (h0 : c0.sub.state = .ready) (hlt : c0.sub.curIdx < c0.ro.steps.length)
      (hcur : c'.sub.curIdx = c0.sub.curIdx + 1) (hnext : c'.sub.nextIdx = nextBatchIndex c0.ro.steps.length (c0.sub.curIdx + 1))
      (h1 : c'.sub.state = .init)
  | inStep (hno : ¬ JumpReq c0.ro c0.sub) (hcur : c'.sub.curIdx = c0.sub.curIdx) (hnext : c'.sub.nextIdx = c0.sub.nextIdx)
      (hm : StateMove c0 c')

theorem runCanary_move {c0 c' : Ctx} {err : Bool} (h : runCanary c0 = .ok c' err) : RunMove c0 c' := by
  have y := syncStep_sameStep c0
  -- a round that takes no jump, on the step the index points at
  have round : ∀ step, doCanaryJump c0.ro (syncStep c0).sub = some ((syncStep c0).sub, false) →
      c0.ro.steps[(c0.sub.curIdx - 1).toNat]? = some step → RunMove c0 c' := by
    intro step hj hstep
    have hno : ¬ JumpReq c0.ro c0.sub := by
      have := (doCanaryJump_false hj).2; rwa [y.curIdx, y.nextIdx] at this
    -- a Manager call stopped the round on `c1`
    have stop : ∀ (c1 : Ctx) (q : Bool), TM (syncStep c0) c1 → RunMove c0 { c1 with requeue := q } := fun c1 q t =>
      have g := y.trans t.sameStep; .inStep hno g.curIdx g.nextIdx (.stay g.state)
    -- `StepUpgrade` on a context with the workload and BatchRelease of the synchronised context
    have up : (c0.sub.state = .init ∨ c0.sub.state = .upgrade) → ∀ cu : Ctx, cu.sub.curIdx = c0.sub.curIdx →
        cu.wl = c0.wl → cu.br = (syncStep c0).br → cu.sub.state = .upgrade → StateMove c0 (upgradeOut c0.ro step cu) := by
      intro h0 cu k1 k3 k4 k5
      rcases upgradeOut_sub c0.ro step cu with ⟨_, hs⟩ | ⟨hd, hs⟩
      · rcases h0 with h0 | h0
        · exact .toUpgrade h0 (by rw [hs, k5])
        · exact .stay (by rw [hs, k5, h0])
      · rw [doCanaryUpgrade_congr c0.ro c0.sub cu.sub cu.wl cu.br k1, k3, k4] at hd
        have hsync := upgrade_done_unsynced c0 c0.sub hd
        rw [hsync] at hd
        exact .upgraded h0 step hstep hd hsync (by rw [hs, k3]) (by rw [hs, k3])
    -- the move of the sub-state on the context `c1` the Manager call (if any) left; `obs`: what a move out of
    -- `StepTrafficRouting` rests on
    have move : ∀ c1 : Ctx, TM (syncStep c0) c1 → finish c0.ro step c1 = .ok c' err →
        (c0.sub.state = .trafficRouting → (doTrafficRouting (roundCtx c0 step) c0.net c0.mem).done = true ∧
          (doTrafficRouting (roundCtx c0 step) c0.net c0.mem).err = false) →
        RunMove c0 c' := by
      intro c1 t hf obs
      have f := y.trans t.sameStep
      have hbr := t.br
      -- every move but the advance keeps both indices
      have inStep : ∀ {c2 : Ctx}, c2.sub.curIdx = c1.sub.curIdx → c2.sub.nextIdx = c1.sub.nextIdx → StateMove c0 c2 →
          RunMove c0 c2 := fun e1 e2 m => .inStep hno (e1.trans f.curIdx) (e2.trans f.nextIdx) m
      cases (finish_inv hf).1 with
      | toUpgrade h0 => exact inStep rfl rfl (.toUpgrade (f.state.symm.trans h0) rfl)
      | enterUpgrade h0 => exact inStep (by rw [upgradeOut_frame]) (by rw [upgradeOut_frame]) (up (.inl (f.state.symm.trans h0)) _ f.curIdx f.wl hbr rfl)
      | upgrade h0 => exact inStep (by rw [upgradeOut_frame]) (by rw [upgradeOut_frame]) (up (.inr (f.state.symm.trans h0)) c1 f.curIdx f.wl hbr h0)
      | routed h0 =>
        obtain ⟨hd, he⟩ := obs (f.state.symm.trans h0)
        exact inStep rfl rfl (.routed (f.state.symm.trans h0) rfl step hstep hd he)
      | analysed h0 => exact inStep rfl rfl (.analysed (f.state.symm.trans h0) rfl)
      | pauseDone h0 rq hp =>
        obtain ⟨rq', hp'⟩ := doCanaryPaused_touched hp f.curIdx f.lastUpdate
        exact inStep rfl rfl (.pauseDone (f.state.symm.trans h0) rfl step hstep rq' hp')
      | pauseWait | noop => exact inStep rfl rfl (.stay f.state)
      | advance h0 hlt =>
        exact .advance hno (f.state.symm.trans h0) (by rw [← f.curIdx]; exact hlt) (by simp only [f.curIdx])
          (by simp only [f.curIdx]) rfl
      | complete h0 => exact inStep rfl rfl (.complete (f.state.symm.trans h0) rfl)
    cases runCanary_out hj hstep h with
    | noCall hk hf =>
      refine move _ (.refl _) hf fun ht => ?_
      rw [roundCall_tr _ _ _ _ ht] at hk
      split at hk <;> cases hk
    | callErr k _ _ hc => cases hc; exact stop _ _ (landCall_tm _ _ _)
    | callWait k _ _ _ hc => cases hc; exact stop _ true (landCall_tm _ _ _)
    | callThen k hk he hw hf =>
      refine move _ (landCall_tm _ _ _) hf fun ht => ?_
      -- in `StepTrafficRouting` the call is `DoTrafficRouting`, answered "done"; on a step without weight it is the
      -- finalising call, and `DoTrafficRouting` has nothing to route
      rw [roundCall_tr _ _ _ _ ht] at hk
      split at hk
      · rename_i hnt
        rw [doTrafficRouting_noweight _ _ _ (show (roundCtx c0 step).weight = none from stepHasTraffic_false hnt)]
        exact ⟨rfl, rfl⟩
      · cases hk
        have hd : (MCall.route.fn (roundCtx c0 step) c0.net c0.mem).done = true := by simpa [MCall.waits] using hw
        exact ⟨hd, he⟩
  rcases runCanary_cases h with ⟨s2, hj, rfl, rfl⟩ | ⟨step, _, hj, hstep, _⟩
  · obtain ⟨j1, j2, j3, j4⟩ := doCanaryJump_true hj
    rw [JumpReq, y.curIdx, y.nextIdx] at j1
    rw [y.nextIdx] at j2 j3
    rw [y.state] at j4
    exact .jump j1 j2 (by rw [j3]) (by rw [j3]) j4
  · exact round step hj hstep

/-- a round that leaves `BeforeStepUpgrade` of a step with weight for a later sub-state of the upgrade is `BeforeStepUpgrade`'s own move on
    the synchronised context: no step jump lands there, and nothing runs before the `switch` -/
theorem runCanary_init_left {c0 c' : Ctx} {err : Bool} {step : Step} (h : runCanary c0 = .ok c' err)
    (hinit : c0.sub.state = .init)
    (hleft : c'.sub.state = .upgrade ∨ c'.sub.state = .trafficRouting ∨ c'.sub.state = .metricsAnalysis)
    (hstep : c0.ro.steps[(c0.sub.curIdx - 1).toNat]? = some step) (ht : stepHasTraffic step = true) :
    initStep c0.ro step (syncStep c0) = .ok c' err := by
  have y := syncStep_sameStep c0
  rcases runCanary_cases h with ⟨s2, hj, rfl, rfl⟩ | ⟨step', _, hj, hstep', _⟩
  · rcases jump_lands hj with jst | ⟨_, jup⟩
    · rw [show ({ syncStep c0 with sub := s2 } : Ctx).sub.state = .init from jst] at hleft; simp at hleft
    · rw [y.state, hinit, Upgraded] at jup
      simp at jup
  · cases Option.some.inj (hstep'.symm.trans hstep)
    rw [runCanary_traffic c0 step hj hstep ht] at h
    simpa only [stateStep, y.state.trans hinit] using h

theorem finTask_frame {c c' : Ctx} {wr rt e : Bool} (h : finTask c wr = some (c', rt, e)) :
    SameStep c c' ∧ c'.sub.finStep = c.sub.finStep := by
  unfold finTask at h
  split at h
  -- the two BatchRelease tasks write `br` and `writes` only, the default is the identity; the four Manager tasks are `callTM`
  all_goals first
    | (cases h; exact ⟨⟨rfl, rfl, rfl, rfl, rfl, rfl, Or.inl rfl⟩, rfl⟩)
    | exact ⟨(callTM_tm h).sameStep, by rw [(callTM_tm h).sub.facts.1]⟩

end RV.Props.Rollout
