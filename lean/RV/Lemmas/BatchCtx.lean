import RV.Lemmas.Arith
import RV.Oracle.Batch
/-!
What `CalculateBatchContext` of `RV.Model.BatchCtx` computes, in the terms of the oracles of `RV.Oracle.Batch`:
the stable count of the partition kinds is the size less what the step allows (`desiredStable_eq`), the fields of
an answered context (`calcCtx_ok`), and the bounds of `NewRSReplicasLimit` as the partition-style Deployment
control uses them.
-/
namespace RV.BatchCtx
open RV.Arith IntOrPct RV.Oracle.Batch

theorem newRSLimit_nonneg (p : IntOrPct) (R : Int) (hR : 0 ≤ R) : 0 ≤ newRSReplicasLimit p R :=
  (newRSLimit_kept p R).1

theorem newRSLimit_le (p : IntOrPct) (R : Int) (hR : 0 ≤ R) : newRSReplicasLimit p R ≤ R :=
  Int.le_trans (newRSLimit_kept p R).2 (keptStable_le p hR)

/-- The shared first half of the partition-style contexts: the stable count is the size less what the step allows
    (`k` rolled-back pods count as already updated), the desired update is what it allows, and that lies between
    the `k` pods and the size. -/
theorem desiredStable_eq (R : Int) (e : IntOrPct) (nn : Option Int) (hR : 0 ≤ R)
    (hk : ∀ k, nn = some k → 0 ≤ k ∧ k ≤ R) :
    desiredStable R e nn = R - allowed R e nn ∧ (plannedDesired R e nn).2.1 = allowed R e nn ∧
    max 0 (nn.getD 0) ≤ allowed R e nn ∧ allowed R e nn ≤ R := by
  have h0 := calcBatch_nonneg R e hR
  have h1 := calcBatch_le R e hR
  cases nn with
  | none => exact ⟨rfl, rfl, by simpa [allowed] using h0, h1⟩
  | some k =>
    obtain ⟨hk0, hk1⟩ := hk k rfl
    have h2 := calcBatch_nonneg (R - k) e (by omega)
    have h3 := calcBatch_le (R - k) e (by omega)
    simp only [desiredStable, plannedDesired, allowed, Option.getD]
    split <;> dsimp only <;> omega

/-- what `CalculateBatchContext` answers: the context written out -/
theorem calcCtx_ok {o : Obs} {c : Ctx} (hc : calcCtx o = .ok c) :
    ∃ e, o.entry = some e ∧
      c = { replicas := o.replicas, updated := o.updated, updatedReady := o.updatedReady,
            planned := plannedOf o.kind o.replicas e o.noNeedUpdate, desired := desiredOf o.kind o.replicas e o.noNeedUpdate,
            knobCur := curKnob o.kind o.knobCur, knobDes := desKnob o.kind o.replicas e o.noNeedUpdate,
            failureThreshold := o.failureThreshold } := by
  unfold calcCtx at hc
  split at hc
  · cases hc
  · cases hc; exact ⟨_, ‹_›, rfl⟩

end RV.BatchCtx
