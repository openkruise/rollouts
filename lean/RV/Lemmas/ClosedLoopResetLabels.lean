/-
  Supersession, the other labels: the superseding release leads from the forward invariant into the reset invariant; workload
  progress, approval, clock and crash preserve the reset invariant.
-/
import RV.Lemmas.ClosedLoopHolds
import RV.Lemmas.ClosedLoopLabels
namespace RV.Lemmas.ClosedLoop
open RV.Arith RV.Traffic RV.RolloutSM RV.ClosedLoop RV.Oracle.ClosedLoop

theorem supersede_release (s : CS) (rev : String) (h : fwdInv s = true) (hs : supersedeOK s rev = true) :
    resetInv { s with wl := s.wl.map (releaseWl rev) } = true := by
  obtain ⟨w, hgone, hg, hw, hwok, hmono, hbr, hpi⟩ := fwd_at s h
  unfold supersedeOK at hs
  rw [hw] at hs
  cases hsub : s.ro.sub with
  | none => rw [hsub] at hs; simp at hs
  | some sub =>
    rw [hsub] at hs
    simp only [Bool.and_eq_true, beq_iff_eq, bne_iff_ne, Bool.not_eq_true', decide_eq_true_eq] at hs
    obtain ⟨⟨⟨_, hph⟩, hre⟩, ⟨⟨⟨⟨⟨⟨hR, hrev0⟩, hrevc⟩, hrevu⟩, hcan0⟩, hne⟩, hb⟩⟩ := hs
    have hrel := releaseWl_new rev w hrevc
    obtain ⟨sub0, hs0, hsg, hlink, _⟩ := (phaseInv_rolling_iff s w hph hre).1 hpi
    rw [hsub] at hs0; cases hs0
    refine (resetInv_iff _).2 ⟨(roOK_iff _).2 ⟨hgone, hg⟩, releaseWl rev w,
      by show s.wl.map (releaseWl rev) = _; rw [hw]; rfl, wlOK_release rev w hrevc hwok, by rw [hrel]; exact hmono, hbr, hph, hre,
      ⟨sub, hsub, hcan0, by rw [hrel, hsg.rev]; exact fun e => hrevu e.symm⟩, by rw [hrel]; exact hrevc,
      by rw [hrel]; exact hR, by rw [hrel], by rw [hrel]; rfl, ?_⟩
    show brHoldsO s.br (releaseWl rev w) = true
    cases hbo : s.br with
    | none => rfl
    | some b =>
      rw [hbo] at hb hlink
      simp only [Bool.and_eq_true, beq_iff_eq, Bool.not_eq_true'] at hb
      obtain ⟨⟨⟨hdel, hbph⟩, hbrev⟩, hobs⟩ := hb
      obtain ⟨hbat, ⟨p, hp, hp0, hple, hcb⟩, _, _⟩ := (linkOK_iff s.ro sub b).1 hlink
      have hlen : b.st.currentBatch < (b.batches.length : Int) := by
        rw [hbat, planOf_length]
        have := hsg.hi
        omega
      rw [hrel]
      refine (holds_iff b _).2 (Or.inr (Or.inr ⟨hdel, by rw [hp]; rfl, hbph, ?_, ?_, hlen, hobs⟩))
      · rw [hbrev]; exact wl_append_ne_empty _
      · rw [hbrev]; exact fun e => hrevu (wl_append_inj _ _ e).symm

theorem brHolds_congr (b : CBr) (w w' : CWl) (h1 : w'.updateRevision = w.updateRevision)
    (h2 : w'.replicas = w.replicas) : brHolds b w' = brHolds b w := by
  unfold brHolds
  rw [h1, h2]

theorem brHoldsO_congr (br : Option CBr) (w w' : CWl) (h1 : w'.updateRevision = w.updateRevision)
    (h2 : w'.replicas = w.replicas) : brHoldsO br w' = brHoldsO br w := by
  cases br with
  | none => rfl
  | some b => exact brHolds_congr b w w' h1 h2

theorem env_reset (s : CS) (h : resetInv s = true) : resetInv { s with wl := s.wl.map envWl } = true := by
  obtain ⟨hro, w, hw, hwok, hmono, hbr, hph, hre, hsub, hne, hR, hu, hheld, hholds⟩ := (resetInv_iff s).1 h
  have E := envWl_kept w
  have hupd : envUpd w = 0 := (envUpd_held w ((held_iff w).1 hheld) (by omega)).trans hu
  obtain ⟨g1, g2⟩ : (envWl w).updated = 0 ∧ (envWl w).currentRevision = w.currentRevision := by
    rw [envWl_ne w hne, hupd]
    exact ⟨rfl, if_neg (by omega)⟩
  obtain ⟨sub, hs, hc1, hc2⟩ := hsub
  refine (resetInv_iff _).2 ⟨hro, envWl w, by show s.wl.map envWl = _; rw [hw]; rfl, envWl_ok w hwok, ?_, hbr, hph, hre,
    ⟨sub, hs, hc1, by rw [E.updateRevision]; exact hc2⟩, by rw [E.updateRevision, g2]; exact hne, by rw [E.replicas]; exact hR, g1,
    by rw [held_iff, E.partition]; exact (held_iff w).1 hheld, ?_⟩
  · show planMono (envWl w).replicas (planOf s.ro) = true
    rw [E.replicas]; exact hmono
  · show brHoldsO s.br (envWl w) = true
    rw [brHoldsO_congr s.br w (envWl w) E.updateRevision E.replicas]; exact hholds

theorem Idle.reset {s s' : CS} (k : Idle s s') (h : resetInv s = true) : resetInv s' = true := by
  obtain ⟨hro, w, hw, hwok, hmono, hbr, hph, hre, ⟨sub, hs, hc1, hc2⟩, hrest⟩ := (resetInv_iff s).1 h
  obtain ⟨hgone, hg⟩ := (roOK_iff s).1 hro
  obtain ⟨⟨sub', age, mem', rfl⟩, hsub⟩ := k
  rcases hsub with ⟨hn, _⟩ | ⟨a, b, ha, hb, hab⟩
  · rw [hn] at hs; cases hs
  · rw [ha] at hs; cases hs
    exact (resetInv_iff _).2 ⟨(roOK_iff _).2 ⟨hgone, ⟨hg.1, hg.2, hg.3, hg.4, hg.5, hg.6, hg.7⟩⟩, w, hw, hwok, hmono, hbr,
      hph, hre, ⟨b, hb, by rw [hab.same.canaryRev]; exact hc1, by rw [hab.same.canaryRev]; exact hc2⟩, hrest⟩

theorem Idle.cursor {s s' : CS} (k : Idle s s') : resetCursor s' = resetCursor s := by
  obtain ⟨⟨sub', age, mem', rfl⟩, hsub⟩ := k
  unfold resetCursor
  rcases hsub with ⟨hn, hn'⟩ | ⟨a, b, ha, hb, hab⟩
  · rw [hn, hn']
  · rw [ha, hb]
    dsimp only
    rw [hab.same.finStep]

theorem approve_reset (s : CS) (h : resetInv s = true) : resetInv (approve s) = true := (approve_idle s).reset h

theorem tick_reset (s : CS) (h : resetInv s = true) : resetInv (tick s) = true := (tick_idle s).reset h

theorem crash_reset (s : CS) (h : resetInv s = true) : resetInv (crash s) = true := (crash_idle s).reset h

end RV.Lemmas.ClosedLoop
