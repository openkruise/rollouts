import RV.Oracle.Isolation
/-!
  Helper lemmas for the isolation slice (C19):
  * association-list maps: lookup after update, and how updates commute with `restrict`;
  * the *locality law* of every operation of the shared stores: when `p` selects all keys of an operation,
    running it on the part of the store under `p` gives that part of the new store and the same result, and
    the part of the store outside `p` is unchanged (`Within`; with an observation `WithinO`).  An operation that is
    a chain of conditionals over such steps inherits the law branch by branch (`ite_rel`); a Manager call is read through its normal form
    `managerCall_eq`;
  * from the law alone, for any store with such operations (`Local`, `GlobLocal`): frame, commutation, and
    `run_restrict` — in a trace where rollout `r`'s operations use only keys under `p` and nobody else's do, `r`'s view
    is its run alone on the part under `p`; `Props/IsolationThms` instantiates it three times (grace map, Manager
    calls, resource expectations);
  * what the key theorems need about lists, `nsName` and runs of the watch registry.
-/
namespace RV.Isolation
open RV.Oracle.Isolation

/-! ## association lists -/
section AMap
variable {β : Type}

theorem aget_restrict (p : String → Bool) (m : AMap β) (k : String) (h : p k = true) :
    aget (restrict p m) k = aget m k := by
  induction m with
  | nil => rfl
  | cons e r ih =>
    obtain ⟨k', v⟩ := e
    unfold restrict at *
    by_cases hp : p k' = true
    · simp only [List.filter_cons, hp, if_true, aget, ih]
    · have hne : k' ≠ k := fun he => hp (he ▸ h)
      simp [hp, aget, ih, hne]

theorem restrict_aset_in (p : String → Bool) (m : AMap β) (k : String) (v : β) (h : p k = true) :
    restrict p (aset m k v) = aset (restrict p m) k v := by
  induction m with
  | nil => simp [restrict, aset, h]
  | cons e r ih =>
    obtain ⟨k', v'⟩ := e
    unfold restrict at *
    by_cases hk : k' = k
    · subst hk; simp [aset, h]
    · by_cases hp : p k' = true
      · simp [aset, hk, hp, ih]
      · simp [aset, hk, hp, ih]

theorem restrict_aset_out (p : String → Bool) (m : AMap β) (k : String) (v : β) (h : p k = false) :
    restrict p (aset m k v) = restrict p m := by
  induction m with
  | nil => simp [restrict, aset, h]
  | cons e r ih =>
    obtain ⟨k', v'⟩ := e
    unfold restrict at *
    by_cases hk : k' = k
    · subst hk; simp [aset, h]
    · simp [aset, List.filter_cons, hk, ih]

theorem restrict_adel (p : String → Bool) (m : AMap β) (k : String) :
    restrict p (adel m k) = adel (restrict p m) k := by
  unfold restrict adel
  simp only [List.filter_filter]
  congr 1; funext e; exact Bool.and_comm _ _

theorem restrict_adel_out (p : String → Bool) (m : AMap β) (k : String) (h : p k = false) :
    restrict p (adel m k) = restrict p m := by
  unfold restrict adel
  simp only [List.filter_filter]
  apply List.filter_congr
  intro e _
  by_cases hk : e.1 = k
  · simp [hk, h]
  · simp [hk]

theorem restrict_filterMap (p : String → Bool) (m : AMap β) (f : String × β → Option (String × β))
    (hf : ∀ e e', f e = some e' → e'.1 = e.1) :
    restrict p (m.filterMap f) = (restrict p m).filterMap f := by
  induction m with
  | nil => rfl
  | cons e r ih =>
    unfold restrict at *
    cases hfe : f e with
    | none =>
      by_cases hp : p e.1 = true
      · simp [hfe, hp, ih]
      · simp [hfe, hp, ih]
    | some e' =>
      have := hf e e' hfe
      by_cases hp : p e.1 = true
      · simp [hfe, hp, ih, this]
      · simp [hfe, hp, ih, this]

theorem aget_aset (m : AMap β) (k k' : String) (v : β) :
    aget (aset m k v) k' = if k' = k then some v else aget m k' := by
  induction m with
  | nil => by_cases h : k = k' <;> simp [aset, aget, h, eq_comm]
  | cons e r ih =>
    obtain ⟨k₀, v₀⟩ := e
    by_cases hk : k₀ = k
    · subst hk
      by_cases h : k' = k₀
      · simp [aset, aget, h]
      · simp [aset, aget, h, Ne.symm h]
    · by_cases hk' : k₀ = k'
      · subst hk'
        simp [aset, aget, hk]
      · simp [aset, aget, hk, hk', ih]

theorem aget_adel (m : AMap β) (k k' : String) : aget (adel m k) k' = if k' = k then none else aget m k' := by
  induction m with
  | nil => simp [adel, aget]
  | cons e r ih =>
    obtain ⟨k₀, v₀⟩ := e
    unfold adel at *
    by_cases hk : k₀ = k
    · subst hk
      by_cases h : k₀ = k' <;> simpa [List.filter_cons, aget, h, eq_comm] using ih
    · by_cases hk' : k₀ = k'
      · subst hk'
        simp [hk, aget]
      · simpa [List.filter_cons, hk, aget, hk'] using ih
theorem restrict_idem (p : String → Bool) (m : AMap β) : restrict p (restrict p m) = restrict p m := by
  unfold restrict; simp [List.filter_filter]

theorem aget_eq_of_restrict_eq (m₁ m₂ : AMap β) (k : String)
    (h : restrict (fun x => x == k) m₁ = restrict (fun x => x == k) m₂) : aget m₁ k = aget m₂ k := by
  rw [← aget_restrict (fun x => x == k) m₁ k (by simp), ← aget_restrict (fun x => x == k) m₂ k (by simp), h]

/-- an operation takes the store `m` to `x` and its part under `p` to `x'`, and it is local to `p`: `x'` is the part
    of `x` under `p`, and outside `p` the store stays as it was -/
abbrev Within (p : String → Bool) (m x x' : AMap β) : Prop :=
  x' = restrict p x ∧ restrict (fun k => !p k) x = restrict (fun k => !p k) m

/-- the same for an operation that also returns an observation: the observation is the same on both stores -/
abbrev WithinO {Obs : Type} (p : String → Bool) (m : AMap β) (r r' : AMap β × Obs) : Prop :=
  r' = (restrict p r.1, r.2) ∧ restrict (fun k => !p k) r.1 = restrict (fun k => !p k) m

theorem Within.obs {Obs : Type} {p : String → Bool} {m x x' : AMap β} (h : Within p m x x') (u : Obs) :
    WithinO p m (x, u) (x', u) :=
  h.imp_left (congrArg (·, u))

theorem aset_within (p : String → Bool) (m : AMap β) (k : String) (v : β) (h : p k = true) :
    Within p m (aset m k v) (aset (restrict p m) k v) :=
  ⟨(restrict_aset_in p m k v h).symm, restrict_aset_out _ m k v (by simp [h])⟩

theorem adel_within (p : String → Bool) (m : AMap β) (k : String) (h : p k = true) :
    Within p m (adel m k) (adel (restrict p m) k) :=
  ⟨(restrict_adel p m k).symm, restrict_adel_out _ m k (by simp [h])⟩

end AMap

theorem ite_rel {α β : Type} (R : α → β → Prop) (c : Prop) [Decidable c] {x y : α} {x' y' : β}
    (hx : R x x') (hy : R y y') : R (if c then x else y) (if c then x' else y') := by
  split
  · exact hx
  · exact hy

/-! ## the locality law -/

/-- `apply` uses the store only under `keys o`: when `p` selects all of them, the operation on the part of the store
    under `p` gives that part of the new store and the same observation, and the rest of the store stays as it was -/
structure Local {ε Op Obs : Type} (keys : Op → List String)
    (apply : Nat → AMap ε → Op → AMap ε × Obs) : Prop where
  law : ∀ (p : String → Bool) (now : Nat) (m : AMap ε) (o : Op), (keys o).all p = true →
    WithinO p m (apply now m o) (apply now (restrict p m) o)

/-- the process-wide maintenance acts on every key separately -/
def GlobLocal {ε : Type} (glob : Nat → Nat → AMap ε → AMap ε) : Prop :=
  ∀ (p : String → Bool) (now a : Nat) (m : AMap ε), restrict p (glob now a m) = glob now a (restrict p m)

theorem Grace.expect_within (p : String → Bool) (g : Grace) (now : Nat) (k a : String) (h : p k = true) :
    Within p g (g.expect now k a) (Grace.expect (restrict p g) now k a) := by
  unfold Grace.expect
  rw [aget_restrict p g k h]
  cases aget g k <;> exact aset_within p g k _ h

theorem Grace.observe_within (p : String → Bool) (g : Grace) (k a : String) (h : p k = true) :
    Within p g (g.observe k a) (Grace.observe (restrict p g) k a) := by
  unfold Grace.observe
  rw [aget_restrict p g k h]
  cases aget g k with
  | none => exact ⟨rfl, rfl⟩
  | some e => exact ite_rel (Within p g) _ (adel_within p g k h) (aset_within p g k _ h)

theorem Grace.satisfied_restrict (p : String → Bool) (g : Grace) (now : Nat) (k a : String) (gr : Int) (h : p k = true) :
    Grace.satisfied (restrict p g) now k a gr = g.satisfied now k a gr := by
  unfold Grace.satisfied
  rw [aget_restrict p g k h]

theorem runWithGraceSeconds_within (p : String → Bool) (g : Grace) (now : Nat) (k a : String) (gr : Int)
    (md er : Bool) (h : p k = true) :
    WithinO p g (runWithGraceSeconds g now k a gr md er) (runWithGraceSeconds (restrict p g) now k a gr md er) := by
  obtain ⟨ho, ho'⟩ := Grace.observe_within p g k a h
  obtain ⟨he, he'⟩ := Grace.expect_within p g now k a h
  have ite := @ite_rel _ _ (WithinO (Obs := RunOut) p g)
  unfold runWithGraceSeconds
  rw [Grace.satisfied_restrict p g now k a gr h, ho, he]
  exact ite _ ⟨rfl, rfl⟩ (ite _ ⟨rfl, ho'⟩ (ite _ ⟨rfl, he'⟩ (ite _ ⟨rfl, rfl⟩ ⟨rfl, ho'⟩)))

theorem Grace.local : Local (fun o : GOp => [o.key]) Grace.apply := by
  constructor
  intro p now m o h
  have hk : p o.key = true := by simpa using h
  cases o with
  | expect k a => exact (Grace.expect_within p m now k a hk).obs _
  | observe k a => exact (Grace.observe_within p m k a hk).obs _
  | satisfied k a gr => exact ⟨by simp only [Grace.apply, Grace.satisfied_restrict p m now k a gr hk], rfl⟩
  | delete k => exact (adel_within p m k hk).obs _
  | get k => exact ⟨by simp only [Grace.apply, Grace.getExpectations, aget_restrict p m k hk], rfl⟩
  | run k a gr md er =>
    obtain ⟨e, o⟩ := runWithGraceSeconds_within p m now k a gr md er hk
    exact ⟨by simp only [Grace.apply, e], o⟩


theorem Grace.globLocal : GlobLocal Grace.glob := by
  intro p now a m
  unfold Grace.glob Grace.cleanOutdated
  apply restrict_filterMap
  intro e e' h
  dsimp only at h
  split at h
  · cases h
  · cases h; rfl

theorem ExpStore.expect_within (p : String → Bool) (st : ExpStore) (k a n : String) (h : p k = true) :
    Within p st (st.expect k a n) (ExpStore.expect (restrict p st) k a n) := by
  unfold ExpStore.expect
  rw [aget_restrict p st k h]
  cases aget st k with
  | none => exact aset_within p st k _ h
  | some e => dsimp only; cases aget e.objs a <;> exact aset_within p st k _ h

theorem ExpStore.observe_within (p : String → Bool) (st : ExpStore) (k a n : String) (h : p k = true) :
    Within p st (st.observe k a n) (ExpStore.observe (restrict p st) k a n) := by
  unfold ExpStore.observe
  rw [aget_restrict p st k h]
  cases aget st k with
  | none => exact ⟨rfl, rfl⟩
  | some e =>
    dsimp only
    cases aget e.objs a with
    | none => exact ⟨rfl, rfl⟩
    | some s =>
      exact ite_rel (Within p st) _ (aset_within p st k _ h) (adel_within p st k h)

theorem ExpStore.satisfied_within (p : String → Bool) (st : ExpStore) (now : Nat) (k : String) (h : p k = true) :
    WithinO p st (st.satisfied now k) (ExpStore.satisfied (restrict p st) now k) := by
  unfold ExpStore.satisfied
  rw [aget_restrict p st k h]
  cases aget st k with
  | none => exact ⟨rfl, rfl⟩
  | some e =>
    dsimp only
    cases e.objs.filter (fun x => x.2.length > 0) with
    | nil => exact (adel_within p st k h).obs _
    | cons x more => exact (aset_within p st k _ h).obs _

theorem brCreateCont_within (p : String → Bool) (st : ExpStore) (k : String) (sf ok : Bool) (uid : String)
    (h : p k = true) :
    WithinO p st (brCreateCont st k sf ok uid) (brCreateCont (restrict p st) k sf ok uid) := by
  obtain ⟨he, he'⟩ := ExpStore.expect_within p st k "create" uid h
  have ite := @ite_rel _ _ (WithinO (Obs := CreateOut) p st)
  unfold brCreateCont
  rw [he]
  exact ite _ ⟨rfl, rfl⟩ (ite _ ⟨rfl, rfl⟩ ⟨rfl, he'⟩)

theorem brCreate_within (p : String → Bool) (st : ExpStore) (now t : Nat) (ns n : String) (known sf ok : Bool)
    (uid : String) (h : known = false → p (nsName ns n) = true) :
    WithinO p st (brCreate st now t ns n known sf ok uid) (brCreate (restrict p st) now t ns n known sf ok uid) := by
  cases known with
  | true => exact ⟨rfl, rfl⟩
  | false =>
    have hk := h rfl
    obtain ⟨es, os⟩ := ExpStore.satisfied_within p st now (nsName ns n) hk
    obtain ⟨ed, od⟩ := adel_within p (st.satisfied now (nsName ns n)).1 (nsName ns n) hk
    obtain ⟨ec, oc⟩ := brCreateCont_within p (st.satisfied now (nsName ns n)).1 (nsName ns n) sf ok uid hk
    obtain ⟨ec', oc'⟩ := brCreateCont_within p (adel (st.satisfied now (nsName ns n)).1 (nsName ns n)) (nsName ns n) sf ok uid hk
    have ite := @ite_rel _ _ (WithinO (Obs := CreateOut) p st)
    unfold brCreate ExpStore.deleteExpectations
    dsimp only
    rw [es]
    dsimp only
    rw [ed, ec, ec']
    exact ite _ ⟨rfl, rfl⟩ (ite _ (ite _ ⟨rfl, oc'.trans (od.trans os)⟩ ⟨rfl, os⟩) ⟨rfl, oc.trans os⟩)

theorem ExpStore.local : Local EOp.keys ExpStore.apply := by
  constructor
  intro p now m o h
  cases o with
  | expect k a n => exact (ExpStore.expect_within p m k a n (by simpa [EOp.keys] using h)).obs _
  | observe k a n => exact (ExpStore.observe_within p m k a n (by simpa [EOp.keys] using h)).obs _
  | satisfied k =>
    obtain ⟨e, o⟩ := ExpStore.satisfied_within p m now k (by simpa [EOp.keys] using h)
    exact ⟨by simp only [ExpStore.apply, e], o⟩
  | delete k => exact (adel_within p m k (by simpa [EOp.keys] using h)).obs _
  | get k =>
    exact ⟨by simp only [ExpStore.apply, ExpStore.getExpectations, aget_restrict p m k (by simpa [EOp.keys] using h)], rfl⟩
  | brCreate t ns n known sf ok uid =>
    obtain ⟨e, o⟩ := brCreate_within p m now t ns n known sf ok uid (by intro hk; simpa [EOp.keys, hk] using h)
    exact ⟨by simp only [ExpStore.apply, e], o⟩
  | brObserved ns uid ow =>
    simp only [ExpStore.apply, brObserved]
    cases hk : getControllerKey ns ow with
    | none => exact ⟨rfl, rfl⟩
    | some k => exact (ExpStore.observe_within p m k _ _ (by simpa [EOp.keys, hk] using h)).obs _

theorem ExpStore.globLocal : GlobLocal ExpStore.glob := fun _ _ _ _ => rfl

/-- a Manager call that returns before `RunWithGraceSeconds` neither reads nor writes the grace map;
    otherwise it is exactly one `runWithGraceSeconds` under the key and action of `graceKey` (the `none` branch takes
    the result from the call on the empty map at time 0: on that branch it depends on neither) -/
theorem managerCall_eq (g : Grace) (now : Nat) (x : MCall) :
    managerCall g now x =
      match x.graceKey with
      | none => (g, (managerCall [] 0 x).2)
      | some (k, a) =>
        let r := runWithGraceSeconds g now k a (getGraceSeconds x.c.refs x.defaultGrace) x.cl.modified x.cl.err
        (r.1, .ofRun r.2) := by
  obtain ⟨site, ⟨ns, uid, refs, otr, dg⟩, dgr, stable, perr, cl⟩ := x
  cases refs with
  | nil => rfl
  | cons r rs =>
    cases site
    · cases perr <;> rfl
    · cases perr <;> rfl
    · cases otr <;> cases dg <;> rfl
    · cases otr <;> cases dg <;> cases stable <;> rfl
    · cases stable <;> rfl

theorem managerCall_within (p : String → Bool) (g : Grace) (now : Nat) (x : MCall)
    (h : ((x.graceKey.map (·.1)).toList).all p = true) :
    WithinO p g (managerCall g now x) (managerCall (restrict p g) now x) := by
  rw [managerCall_eq (restrict p g), managerCall_eq g]
  cases hk : x.graceKey with
  | none => exact ⟨rfl, rfl⟩
  | some ka =>
    obtain ⟨k, a⟩ := ka
    obtain ⟨e, o⟩ := runWithGraceSeconds_within p g now k a (getGraceSeconds x.c.refs x.defaultGrace) x.cl.modified x.cl.err
      (by simpa [hk] using h)
    exact ⟨by simp only [e], o⟩

theorem finalising_within (p : String → Bool) (g : Grace) (now : Nat) (a b c : MCall)
    (ha : ((a.graceKey.map (·.1)).toList).all p = true) (hb : ((b.graceKey.map (·.1)).toList).all p = true)
    (hc : ((c.graceKey.map (·.1)).toList).all p = true) :
    WithinO p g (finalising g now a b c) (finalising (restrict p g) now a b c) := by
  obtain ⟨e1, o1⟩ := managerCall_within p g now a ha
  obtain ⟨e2, o2⟩ := managerCall_within p (managerCall g now a).1 now b hb
  obtain ⟨e3, o3⟩ := managerCall_within p (managerCall (managerCall g now a).1 now b).1 now c hc
  have ite := @ite_rel _ _ (WithinO (Obs := FinOut) p g)
  unfold finalising
  cases a.c.refs with
  | nil => exact ⟨rfl, rfl⟩
  | cons _ _ =>
    dsimp only
    rw [e1]
    dsimp only
    rw [e2]
    dsimp only
    rw [e3]
    exact ite _ ⟨rfl, o1⟩ (ite _ ⟨rfl, o2.trans o1⟩ (ite _ ⟨rfl, o3.trans (o2.trans o1)⟩ ⟨rfl, o3.trans (o2.trans o1)⟩))

theorem MOp.local : Local MOp.keys MOp.apply := by
  constructor
  intro p now m o h
  cases o with
  | call x =>
    obtain ⟨e, o⟩ := managerCall_within p m now x h
    exact ⟨by simp only [MOp.apply, e], o⟩
  | finalising a b c =>
    simp only [MOp.keys, List.all_append, Bool.and_eq_true] at h
    obtain ⟨e, o⟩ := finalising_within p m now a b c h.1.1 h.1.2 h.2
    exact ⟨by simp only [MOp.apply, e], o⟩

/-! ## generic trace theory -/
section Traces
variable {ε Op Obs : Type} {keys : Op → List String}
variable {apply : Nat → AMap ε → Op → AMap ε × Obs} {glob : Nat → Nat → AMap ε → AMap ε}

theorem Local.under (L : Local keys apply) (p : String → Bool) (now : Nat) (m : AMap ε) (o : Op)
    (h : (keys o).all p = true) :
    restrict p (apply now m o).1 = (apply now (restrict p m) o).1 ∧
    (apply now m o).2 = (apply now (restrict p m) o).2 := by
  rw [(L.law p now m o h).1]
  exact ⟨rfl, rfl⟩

theorem Local.out (L : Local keys apply) (p : String → Bool) (now : Nat) (m : AMap ε) (o : Op)
    (h : (keys o).all (fun k => !p k) = true) : restrict p (apply now m o).1 = restrict p m := by
  simpa only [Bool.not_not] using (L.law (fun k => !p k) now m o h).2

theorem Local.frame (L : Local keys apply) (now : Nat) (m : AMap ε) (o : Op) (k : String)
    (h : k ∉ keys o) : aget (apply now m o).1 k = aget m k := by
  apply aget_eq_of_restrict_eq
  apply L.out
  rw [List.all_eq_true]
  intro k' hk'
  have : k' ≠ k := fun e => h (e ▸ hk')
  simp [this]

theorem Local.obs_local (L : Local keys apply) (p : String → Bool) (now : Nat) (m₁ m₂ : AMap ε) (o : Op)
    (hk : (keys o).all p = true) (h : restrict p m₁ = restrict p m₂) :
    (apply now m₁ o).2 = (apply now m₂ o).2 ∧ restrict p (apply now m₁ o).1 = restrict p (apply now m₂ o).1 := by
  have h1 := L.under p now m₁ o hk
  have h2 := L.under p now m₂ o hk
  rw [h] at h1
  exact ⟨h1.2.trans h2.2.symm, h1.1.trans h2.1.symm⟩

theorem Local.commute (L : Local keys apply) (now : Nat) (m : AMap ε) (o₁ o₂ : Op)
    (h : ∀ k ∈ keys o₁, k ∉ keys o₂) :
    (apply now (apply now m o₂).1 o₁).2 = (apply now m o₁).2 ∧
    (apply now (apply now m o₁).1 o₂).2 = (apply now m o₂).2 ∧
    ∀ k, aget (apply now (apply now m o₁).1 o₂).1 k = aget (apply now (apply now m o₂).1 o₁).1 k := by
  have s1 : (keys o₁).all (keys o₁).contains = true := by simp
  have s2 : (keys o₂).all (keys o₂).contains = true := by simp
  have d1 : (keys o₂).all (fun k => !(keys o₁).contains k) = true := by simpa using fun k hk hk' => h k hk' hk
  have d2 : (keys o₁).all (fun k => !(keys o₂).contains k) = true := by simpa using h
  -- each operation sees the part of the store under its own keys, which the other leaves alone
  have c1 := L.obs_local _ now _ _ o₁ s1 (L.out _ now m o₂ d1)
  have c2 := L.obs_local _ now _ _ o₂ s2 (L.out _ now m o₁ d2)
  refine ⟨c1.1, c2.1, fun k => ?_⟩
  by_cases k1 : k ∈ keys o₁
  · rw [L.frame _ _ o₂ k (h k k1), ← aget_restrict _ _ k (List.contains_iff_mem.mpr k1), ← c1.2,
      aget_restrict _ _ k (List.contains_iff_mem.mpr k1)]
  · by_cases k2 : k ∈ keys o₂
    · rw [L.frame _ _ o₁ k k1, ← aget_restrict _ _ k (List.contains_iff_mem.mpr k2), c2.2,
        aget_restrict _ _ k (List.contains_iff_mem.mpr k2)]
    · rw [L.frame _ _ o₂ k k2, L.frame _ _ o₁ k k1, L.frame _ _ o₁ k k1, L.frame _ _ o₂ k k2]

theorem proj_cons_own (r : Nat) (o : Op) (es : List (Ev Op)) : proj r (Ev.op r o :: es) = Ev.op r o :: proj r es := by
  simp [proj]

theorem proj_cons_other (r r' : Nat) (o : Op) (es : List (Ev Op)) (h : r' ≠ r) :
    proj r (Ev.op r' o :: es) = proj r es := by
  simp [proj, h]

theorem proj_cons_tick (r d : Nat) (es : List (Ev Op)) : proj r (Ev.tick d :: es) = Ev.tick d :: proj r es := by
  simp [proj]

theorem proj_cons_glob (r a : Nat) (es : List (Ev Op)) : proj r (Ev.glob a :: es) = Ev.glob a :: proj r es := by
  simp [proj]

theorem obsOf_cons_own (r : Nat) (x : Obs) (l : List (Nat × Obs)) : obsOf r ((r, x) :: l) = x :: obsOf r l := by
  simp [obsOf]

theorem obsOf_cons_other (r r' : Nat) (x : Obs) (l : List (Nat × Obs)) (h : r' ≠ r) :
    obsOf r ((r', x) :: l) = obsOf r l := by
  simp [obsOf, h]

/-- **a rollout's view of a run of the whole process is its run alone**: for every trace in which the
    operations of rollout `r` use only keys selected by `p` and nobody else's operation uses such a key,
    the clock, the part of the store under `p`, and everything `r` observes are the same as when only
    `r`'s operations (and the clock, and the maintenance) run on the part of the store under `p` -/
theorem run_restrict (L : Local keys apply) (G : GlobLocal glob) (p : String → Bool) (r : Nat) :
    ∀ (tr : List (Ev Op)) (s : Nat × AMap ε), sepFor keys p r tr = true →
      (run apply glob s tr).1.1 = (run apply glob (s.1, restrict p s.2) (proj r tr)).1.1 ∧
      restrict p (run apply glob s tr).1.2 = (run apply glob (s.1, restrict p s.2) (proj r tr)).1.2 ∧
      obsOf r (run apply glob s tr).2 = obsOf r (run apply glob (s.1, restrict p s.2) (proj r tr)).2 := by
  intro tr
  induction tr with
  | nil => intro s _; exact ⟨rfl, rfl, rfl⟩
  | cons e es ih =>
    intro s hs
    have hes : sepFor keys p r es = true := by
      simp only [sepFor, List.all_cons, Bool.and_eq_true] at hs ⊢; exact hs.2
    cases e with
    | op r' o =>
      by_cases hr : r' = r
      · subst hr
        have hk : (keys o).all p = true := by
          simp only [sepFor, List.all_cons, Bool.and_eq_true] at hs; simpa using hs.1
        have hin := L.under p s.1 s.2 o hk
        have := ih (s.1, (apply s.1 s.2 o).1) hes
        rw [proj_cons_own]
        simp only [run, stepEv, Option.toList, List.cons_append, List.nil_append, obsOf_cons_own]
        simp only [] at this
        rw [hin.1] at this
        rw [← hin.2]
        exact ⟨this.1, this.2.1, by rw [this.2.2]⟩
      · have hk : (keys o).all (fun k => !p k) = true := by
          simp only [sepFor, List.all_cons, Bool.and_eq_true] at hs; simpa [hr] using hs.1
        have hout := L.out p s.1 s.2 o hk
        have := ih (s.1, (apply s.1 s.2 o).1) hes
        rw [proj_cons_other r r' o es hr]
        simp only [run, stepEv, Option.toList, List.cons_append, List.nil_append, obsOf_cons_other r r' _ _ hr]
        simp only [] at this
        rw [hout] at this
        exact this
    | tick d =>
      have := ih (s.1 + d, s.2) hes
      rw [proj_cons_tick]
      simp only [run, stepEv, Option.toList, List.nil_append]
      exact this
    | glob a =>
      have := ih (s.1, glob s.1 a s.2) hes
      rw [proj_cons_glob]
      simp only [run, stepEv, Option.toList, List.nil_append]
      simp only [] at this
      rw [G p s.1 a s.2] at this
      exact this

theorem obsOf_proj_all (r : Nat) : ∀ (tr : List (Ev Op)) (s : Nat × AMap ε),
    obsOf r (run apply glob s (proj r tr)).2 = (run apply glob s (proj r tr)).2.map (·.2) := by
  intro tr
  induction tr with
  | nil => intro s; rfl
  | cons e es ih =>
    intro s
    cases e with
    | op r' o =>
      by_cases hr : r' = r
      · subst hr
        rw [proj_cons_own]
        simp only [run, stepEv, Option.toList, List.cons_append, List.nil_append, obsOf_cons_own, List.map_cons]
        rw [ih]
      · rw [proj_cons_other r r' o es hr]; exact ih s
    | tick d => rw [proj_cons_tick]; simp only [run, stepEv, Option.toList, List.nil_append]; exact ih _
    | glob a => rw [proj_cons_glob]; simp only [run, stepEv, Option.toList, List.nil_append]; exact ih _

end Traces

/-! ## a list of identities, read at two ids -/

theorem mem_of_lookup {β : Type} (l : List (Nat × β)) (k : Nat) (v : β) (h : l.lookup k = some v) : (k, v) ∈ l := by
  obtain ⟨l₁, l₂, rfl, _⟩ := List.lookup_eq_some_iff.mp h
  exact List.mem_append_right _ (List.mem_cons_self ..)

/-- the shape `allDistinct` and `brAllDistinct` share (every entry well-formed, every two entries with different ids
    `d`-distinct), read at two ids -/
theorem distinct_of_all {β : Type} (wf : β → Bool) (d : β → β → Bool) (l : List (Nat × β))
    (h : (l.all fun a => wf a.2 && l.all fun b => a.1 == b.1 || d a.2 b.2) = true)
    {r r' : Nat} {a b : β} (hr : l.lookup r = some a) (hr' : l.lookup r' = some b) (hne : r' ≠ r) :
    wf a = true ∧ wf b = true ∧ d a b = true := by
  have hA := List.all_eq_true.mp h _ (mem_of_lookup l r a hr)
  have hB := List.all_eq_true.mp h _ (mem_of_lookup l r' b hr')
  simp only [Bool.and_eq_true] at hA hB
  have hab := List.all_eq_true.mp hA.2 _ (mem_of_lookup l r' b hr')
  have hne' : (r == r') = false := by simpa using fun e => hne e.symm
  rw [hne', Bool.false_or] at hab
  exact ⟨hA.1, hB.1, hab⟩

/-! ## keys are injective: `nsName`, `-canary`, the actions -/

theorem toList_nsName (ns n : String) : (nsName ns n).toList = ns.toList ++ '/' :: n.toList := by
  unfold nsName
  rw [String.toList_append, String.toList_append]
  simp

theorem list_split_unique {α : Type} [DecidableEq α] (c : α) :
    ∀ (l₁ l₂ r₁ r₂ : List α), c ∉ l₁ → c ∉ l₂ → l₁ ++ c :: r₁ = l₂ ++ c :: r₂ → l₁ = l₂ ∧ r₁ = r₂ := by
  intro l₁
  induction l₁ with
  | nil =>
    intro l₂ r₁ r₂ _ h2 h
    cases l₂ with
    | nil => simp at h; exact ⟨rfl, h⟩
    | cons b l₂' =>
      simp only [List.nil_append, List.cons_append, List.cons.injEq] at h
      exact absurd (h.1 ▸ List.mem_cons_self ..) h2
  | cons a l₁' ih =>
    intro l₂ r₁ r₂ h1 h2 h
    cases l₂ with
    | nil =>
      simp only [List.nil_append, List.cons_append, List.cons.injEq] at h
      exact absurd (h.1 ▸ List.mem_cons_self ..) h1
    | cons b l₂' =>
      simp only [List.cons_append, List.cons.injEq] at h
      have := ih l₂' r₁ r₂ (fun m => h1 (List.mem_cons_of_mem _ m)) (fun m => h2 (List.mem_cons_of_mem _ m)) h.2
      exact ⟨by rw [h.1, this.1], this.2⟩

theorem noSlash_iff (s : String) : noSlash s = true ↔ '/' ∉ s.toList := by
  simp [noSlash]

/-- `types.NamespacedName.String()` is injective on namespaces without '/' -/
theorem nsName_injective {ns₁ n₁ ns₂ n₂ : String} (h₁ : noSlash ns₁ = true) (h₂ : noSlash ns₂ = true)
    (h : nsName ns₁ n₁ = nsName ns₂ n₂) : ns₁ = ns₂ ∧ n₁ = n₂ := by
  have hl := congrArg String.toList h
  rw [toList_nsName, toList_nsName] at hl
  have := list_split_unique '/' _ _ _ _ ((noSlash_iff _).mp h₁) ((noSlash_iff _).mp h₂) hl
  exact ⟨String.toList_inj.mp this.1, String.toList_inj.mp this.2⟩

theorem noSlash_ne_nsName (u ns n : String) (h : noSlash u = true) : u ≠ nsName ns n := by
  intro e
  have := (noSlash_iff u).mp h
  rw [e, toList_nsName] at this
  exact this (by simp)

theorem canaryName_injective {s₁ s₂ : String} (h : s₁ ++ "-canary" = s₂ ++ "-canary") : s₁ = s₂ :=
  (String.append_left_inj _).mp h

theorem action_injective {s₁ s₂ : Site} (h : s₁.action = s₂.action) : s₁ = s₂ := by
  cases s₁ <;> cases s₂ <;> simp [Site.action] at h ⊢

/-! ## the watch registry, step by step -/

theorem WState.run_append (s : WState) (a b : List WEv) : s.run (a ++ b) = (s.run a).run b := by
  induction a generalizing s with
  | nil => rfl
  | cons e es ih => exact ih _

theorem step_start (s : WState) (r : Nat) (gvk : String) :
    s.step (.start r gvk) = if watchStart s.registry gvk = true then { s with inflight := r :: s.inflight } else s := rfl
theorem step_finish (s : WState) (r : Nat) (gvk : String) (res : AddRes) :
    s.step (.finish r gvk res) = if s.inflight.contains r = true then
      { registry := (watchFinish s.registry gvk res).1, inflight := s.inflight.filter (· != r),
        succeeded := if res = .added then gvk :: s.succeeded else s.succeeded } else s := rfl


theorem finish_registry_mem (w : List String) (gvk : String) (res : AddRes) (k : String) :
    k ∈ (watchFinish w gvk res).1 ↔ (k ∈ w ∨ (k = gvk ∧ res = .added)) := by
  unfold watchFinish
  cases res with
  | err => simp
  | notServed => simp
  | added =>
    by_cases hc : w.contains gvk = true
    · have hm : gvk ∈ w := by simpa using hc
      simp only [hc, if_true]
      constructor
      · exact Or.inl
      · rintro (h | ⟨h, _⟩)
        · exact h
        · exact h ▸ hm
    · simp only [hc]
      simp [List.mem_append]

theorem registry_step_mono (s : WState) (e : WEv) (k : String) (h : k ∈ s.registry) : k ∈ (s.step e).registry := by
  cases e with
  | start r gvk => rw [step_start]; split <;> exact h
  | finish r gvk res =>
    rw [step_finish]
    split
    · show k ∈ (watchFinish s.registry gvk res).1
      rw [finish_registry_mem]; exact Or.inl h
    · exact h

theorem registry_run_mono (tr : List WEv) : ∀ (s : WState) (k : String), k ∈ s.registry → k ∈ (s.run tr).registry := by
  induction tr with
  | nil => intro s k h; exact h
  | cons e es ih => intro s k h; exact ih _ k (registry_step_mono s e k h)

end RV.Isolation
