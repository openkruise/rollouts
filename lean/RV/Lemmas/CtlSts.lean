import RV.Oracle.CtlSts
import RV.Props.C01
import RV.Lemmas.OneWrite
import RV.Lemmas.Webhook
/-!
Lemmas about the partition-style StatefulSet-like / DaemonSet control planes (`RV.Model.CtlSts`).  Everything the theorems
of `RV/Props/CtlStsThms.lean` say goes through three inversions, each done once here.  `step_ran`: a controller call is a
`OneWrite.Ran` of `writeOf`, so results, faults and write counts come from `Lemmas/OneWrite.lean` and only what `writeOf`
writes (`claimed`, `upgraded`, `ctrlFinalize_eq`) is plane-specific.  `submit_spec`: the two webhook handlers decide by
`relevant` and `dsNoRU`.  `updatedReadyOf_eq`: `ListOwnedPods` plus the `WrappedPodCount` loop is the length of a filter.
The first section says how each projection of `spec.updateStrategy` fares under `mergeRU`, `normUS`, `setPartition`, so
that no later proof case-splits on the shape of the strategy block.
-/
namespace RV.CtlSts
open RV.Arith IntOrPct RV.Webhook RV.BatchCtx RV.Oracle.Batch RV.Oracle.CtlSts

/-! ### the update strategy block under patches -/

theorem curPart_norm (k : Kind) (us : US) : currentPartition (normUS k us) = currentPartition us := by
  rcases us with _ | _ | ⟨t, _ | _ | ⟨p, pa, un⟩⟩ <;> cases k <;> (try cases p) <;> rfl

theorem partV_norm (k : Kind) (us : US) : partV (normUS k us) = partV us := by
  rcases us with _ | _ | ⟨t, _ | _ | ⟨p, pa, un⟩⟩ <;> cases k <;> rfl

theorem hasRU_norm (k : Kind) (us : US) : hasRU (normUS k us) = hasRU us := by
  rcases us with _ | _ | ⟨t, _ | _ | ⟨p, pa, un⟩⟩ <;> cases k <;> rfl

theorem effType_norm (k : Kind) (us : US) : effType (normUS k us) = effType us := by
  rcases us with _ | _ | ⟨t, _ | _ | ⟨p, pa, un⟩⟩ <;> cases k <;> rfl

theorem isUnordered_norm (k : Kind) (us : US) : isUnordered k (normUS k us) = isUnordered k us := by
  rcases us with _ | _ | ⟨t, _ | _ | ⟨p, pa, un⟩⟩ <;> cases k <;> rfl

theorem normUS_idem (k : Kind) (us : US) : normUS k (normUS k us) = normUS k us := by
  rcases us with _ | _ | ⟨t, _ | _ | ⟨p, pa, un⟩⟩ <;> cases k <;> try rfl
  simp only [normUS]
  by_cases h : pa = some true <;> simp [h]

theorem curPart_merge_int (us : US) (n : Int) (pa : Option Bool) : currentPartition (mergeRU us (.int n) pa) = n := by
  rcases us with _ | _ | ⟨t, _ | _ | ⟨p, pa', un⟩⟩ <;> rfl

theorem curPart_merge_absent (us : US) (pa : Option Bool) : currentPartition (mergeRU us .absent pa) = 0 := by
  rcases us with _ | _ | ⟨t, _ | _ | ⟨p, pa', un⟩⟩ <;> rfl

theorem partV_merge (us : US) (p : PartV) (pa : Option Bool) : partV (mergeRU us p pa) = p := by
  rcases us with _ | _ | ⟨t, _ | _ | ⟨p', pa', un⟩⟩ <;> rfl

theorem hasRU_merge (us : US) (p : PartV) (pa : Option Bool) : hasRU (mergeRU us p pa) = true := by
  rcases us with _ | _ | ⟨t, _ | _ | ⟨p', pa', un⟩⟩ <;> rfl

theorem effType_merge (us : US) (p : PartV) (pa : Option Bool) : effType (mergeRU us p pa) = effType us := by
  rcases us with _ | _ | ⟨t, _ | _ | ⟨p', pa', un⟩⟩ <;> rfl

theorem isUnordered_merge (k : Kind) (us : US) (p : PartV) (pa : Option Bool) :
    isUnordered k (mergeRU us p pa) = isUnordered k us := by
  rcases us with _ | _ | ⟨t, _ | _ | ⟨p', pa', un⟩⟩ <;> cases k <;> rfl

theorem usPaused_merge_none (k : Kind) (us : US) (p : PartV) :
    usPaused (normUS k (mergeRU us p none)) = usPaused (normUS k us) := by
  rcases us with _ | _ | ⟨t, _ | _ | ⟨p', pa', un⟩⟩ <;> cases k <;> rfl

theorem usPaused_merge_false (k : Kind) (us : US) (p : PartV) :
    usPaused (normUS k (mergeRU us p (some false))) ≠ some true := by
  rcases us with _ | _ | ⟨t, _ | _ | ⟨p', pa', un⟩⟩ <;> cases k <;> simp [mergeRU, normUS, usPaused]

theorem usPaused_merge_false_ds (us : US) (p : PartV) :
    usPaused (normUS .daemonSet (mergeRU us p (some false))) = some false := by
  rcases us with _ | _ | ⟨t, _ | _ | ⟨p', pa', un⟩⟩ <;> rfl

theorem merge_idem (k : Kind) (us : US) (p : PartV) (pa : Option Bool) :
    normUS k (mergeRU (normUS k (mergeRU us p pa)) p pa) = normUS k (mergeRU us p pa) := by
  -- the merged block carries `p` and the patch's `paused` (the stored one when the patch has none); the decoding is idempotent;
  -- what `rfl` leaves is the `omitempty` test of the Advanced StatefulSet on a `paused` that is a variable
  rcases us with _ | _ | ⟨t, _ | _ | ⟨p', pa', un⟩⟩ <;> cases k <;> cases pa <;> try rfl
  all_goals
    simp only [mergeRU, normUS]
    first
      | rfl
      | (rename_i b; cases b <;> rfl)
      | (by_cases h : pa' = some true <;> simp [h])

theorem curPart_setPartition (us : US) (n : Int) : currentPartition (setPartition us n) = n := by
  rcases us with _ | _ | ⟨t, _ | _ | ⟨p', pa', un⟩⟩ <;> rfl

theorem effType_setPartition (us : US) (n : Int) : effType (setPartition us n) = effType us := by
  rcases us with _ | _ | ⟨t, _ | _ | ⟨p', pa', un⟩⟩ <;> rfl

theorem isUnordered_setPartition (k : Kind) (us : US) (n : Int) : isUnordered k (setPartition us n) = isUnordered k us := by
  rcases us with _ | _ | ⟨t, _ | _ | ⟨p', pa', un⟩⟩ <;> cases k <;> rfl

theorem usPaused_setPartition (us : US) (n : Int) : usPaused (setPartition us n) = usPaused us := by
  rcases us with _ | _ | ⟨t, _ | _ | ⟨p', pa', un⟩⟩ <;> rfl

/-- stated as the last conjunct of `Oracle.CtlSts.holdFrame`, its only use (`holdFrame_heldOf`) -/
theorem usType_setPartition (us : US) (n : Int) :
    (match us with
     | .present t _ => usType (setPartition us n) == t
     | _ => usType (setPartition us n) == "RollingUpdate") = true := by
  rcases us with _ | _ | ⟨t, _ | _ | ⟨p', pa', un⟩⟩ <;> simp [setPartition, usType]

/-! ### arithmetic of the exposure -/

theorem sizeOK_iff (r : Int) : sizeOK r = true ↔ 0 ≤ r ∧ r ≤ 32767 :=
  ⟨fun h => of_decide_eq_true h, fun h => decide_eq_true h⟩

theorem exposure_hold (r : Int) (h : sizeOK r = true) : exposure (int maxInt16) r = 0 := by
  obtain ⟨h0, h1⟩ := (sizeOK_iff r).mp h
  simp only [exposure, keptStable_int, maxInt16]
  omega

theorem exposure_zero (r : Int) : exposure (int 0) r = max 0 r ∨ exposure (int 0) r = r := by
  simp only [exposure, keptStable_int]
  omega

theorem bkind_cases (w : Wl) : bkind w = .stsOrdered ∨ bkind w = .stsUnordered ∨ bkind w = .daemonSet := by
  unfold bkind
  cases w.kind <;> simp only [] <;> (try split) <;> simp

theorem desKnob_int (w : Wl) (r : Int) (e : IntOrPct) (nn : Option Int) :
    desKnob (bkind w) r e nn = int (desiredPartition w r e nn) := by
  unfold desiredPartition
  rcases bkind_cases w with h | h | h <;> rw [h] <;> simp only [desKnob]
  · cases nn <;> rfl
  · rfl
  · rfl

theorem nnValid (w : Wl) {r : Int} {nn : Option Int} (hr : 0 ≤ r) (hn : nnOK r nn = true) :
    RV.Props.C01.NnValid (bkind w) r nn := by
  refine ⟨hr, fun x hx => ?_, .inl ?_⟩
  · subst hx; simpa [nnOK] using hn
  · rcases bkind_cases w with hk | hk | hk <;> rw [hk] <;> rfl

theorem orderedExtra_nonneg (w : Wl) (nn : Option Int) : 0 ≤ orderedExtra w nn := by
  unfold orderedExtra
  split
  · split <;> omega
  · exact Int.le_refl 0

/-- C01.1 for the three kinds, as an equation: what `CalculateBatchContext` asks for exposes what the step allows; an
    ordered update leaves the `k` no-need-update pods out -/
theorem desired_exposure (w : Wl) (r : Int) (e : IntOrPct) (nn : Option Int) (hr : 0 ≤ r) (hn : nnOK r nn = true) :
    exposure (int (desiredPartition w r e nn)) r = allowed r e nn - orderedExtra w nn := by
  have hv := nnValid w hr hn
  have h := RV.Props.C01.exposureOf_desKnob (bkind w) r e nn hv
  rw [desKnob_int] at h
  unfold orderedExtra
  rcases bkind_cases w with hk | hk | hk <;> rw [hk] at h ⊢ <;> simp only [exposureOf] at h <;> rw [h]
  · cases nn with
    | none => rfl
    | some k =>
      have := (hv.2.1 k rfl).1
      simp only [Option.getD]
      split <;> omega
  · exact (Int.sub_zero _).symm
  · exact (Int.sub_zero _).symm

theorem desired_exposure_bound (w : Wl) (r : Int) (e : IntOrPct) (nn : Option Int) (hr : 0 ≤ r) (hn : nnOK r nn = true) :
    exposure (int (desiredPartition w r e nn)) r ≤ allowed r e nn :=
  desired_exposure w r e nn hr hn ▸ Int.sub_le_self _ (orderedExtra_nonneg w nn)

/-- C07 for the three kinds: `DesiredUpdatedReplicas` is what the step allows — by `desired_exposure` what the desired
    partition exposes, for an ordered update together with the `k` no-need-update pods -/
theorem desiredOf_allowed (w : Wl) (r : Int) (e : IntOrPct) (nn : Option Int) (hr : 0 ≤ r) (hn : nnOK r nn = true) :
    desiredOf (bkind w) r e nn = allowed r e nn := by
  obtain ⟨hds, hpl, _, _⟩ := desiredStable_eq r e nn hr (nnValid w hr hn).2.1
  rcases bkind_cases w with hk | hk | hk <;> rw [hk] <;> simp only [desiredOf]
  · cases nn with
    | none => exact hpl
    | some k => simp only []; omega
  · exact hpl
  · exact hpl

/-! ### the shape of a controller step -/

/-- what the controller call of step `s` would write on workload `w` of size `r` (`none`: nothing) -/
def writeOf (rel : Rel) (s : Step) (w : Wl) (r : Int) : Option Wl :=
  match s.call with
  | .initialize => ctrlInitialize w r
  | .upgradeBatch =>
    if r = 0 then none else
    match entryOf rel s.batch with
    | some e => ctrlUpgradeBatch w r e rel.noNeedUpdate
    | none => none
  | .finalize => some (ctrlFinalize w s.bpNil)
  | .submit => none

/-- the read after the Get fails (`OneWrite.Ran`'s `readFails`): the List of the pods, and only for a workload whose pods
    are listed (`needsList`) -/
def readFails (f : Fault) (w : Wl) : Prop := f = .list ∧ needsList w = true

instance (f : Fault) (w : Wl) : Decidable (readFails f w) := by unfold readFails; infer_instance

theorem build_cases (d : Option Wl) (f : Fault) :
    (f = .get ∧ build d f = .err) ∨ (f ≠ .get ∧ d = none ∧ build d f = .notFound) ∨
    ∃ w, f ≠ .get ∧ d = some w ∧
      ((replicasOf w = none ∧ build d f = .panic) ∨
       ∃ r, replicasOf w = some r ∧
         ((readFails f w ∧ build d f = .err) ∨ (¬ readFails f w ∧ build d f = .ok w r))) := by
  unfold build
  by_cases hg : f = .get
  · exact .inl ⟨hg, if_pos hg⟩
  · rw [if_neg hg]
    cases d with
    | none => exact .inr (.inl ⟨hg, rfl, rfl⟩)
    | some w =>
      refine .inr (.inr ⟨w, hg, rfl, ?_⟩)
      simp only
      cases replicasOf w with
      | none => exact .inl ⟨rfl, rfl⟩
      | some r =>
        refine .inr ⟨r, rfl, ?_⟩
        by_cases hrf : readFails f w
        · exact .inl ⟨hrf, if_pos ⟨hrf.2, hrf.1⟩⟩
        · exact .inr ⟨hrf, if_neg fun hh => hrf ⟨hh.2, hh.1⟩⟩

/-- the three `plane*` functions as one match on `build`: they differ only in the NotFound answer (`client.IgnoreNotFound`
    in `Finalize`), in the observation `Initialize` returns, and in `writeOf`. The only panic after `build` is
    `CalculateBatchContext` under `UpgradeBatch` indexing a plan entry that is not there (`Batches[currentBatch]`), which an
    empty workload (`r = 0`) never reaches; it is pulled out here so that `writeOf` need not speak of it -/
theorem step_ctrl (c : Cfg) (d : Option Wl) (s : Step) (hc : s.call ≠ .submit) :
    step c d s =
      match build d s.fault with
      | .panic => .panic
      | .err => .val { res := .err, wl := d, writes := 0, obs := none }
      | .notFound => .val { res := if s.call = .finalize then .ok else .err, wl := d, writes := 0, obs := none }
      | .ok w r =>
        if s.call = .upgradeBatch ∧ r ≠ 0 ∧ entryOf c.rel s.batch = none then .panic
        else .val (commit w (writeOf c.rel s w r) s.fault
          (if s.call = .initialize then some { observedReplicas := r, noNeedUpdate := noNeedUpdate c.rel } else none)) := by
  cases hcall : s.call
  · simp only [step, hcall, planeInitialize, writeOf, reduceCtorEq, false_and, if_false, if_true]
    cases build d s.fault <;> rfl
  · simp only [step, hcall, planeUpgradeBatch, writeOf, reduceCtorEq, true_and, if_false]
    cases build d s.fault with
    | ok w r =>
      simp only [entryOf]
      by_cases hr0 : r = 0
      · simp only [hr0, if_true, ne_eq, not_true, false_and, if_false, commit]
      · by_cases hb : s.batch < 0
        · simp only [hr0, hb, if_true, if_false, ne_eq, not_false_eq_true, and_self]
        · simp only [hr0, hb, if_false, ne_eq, not_false_eq_true, true_and]
          cases c.rel.batches[s.batch.toNat]? <;> rfl
    | _ => rfl
  · simp only [step, hcall, planeFinalize, writeOf, reduceCtorEq, false_and, if_false, if_true]
    cases build d s.fault <;> rfl
  · exact absurd hcall hc

theorem res_ne : Res.ok ≠ Res.err := nofun

/-- the controller call of step `s` as a one-write call: the size is `util.GetReplicas`, the read after the Get is the
    List of the pods, and only `Finalize` ignores NotFound -/
abbrev Ctl (rel : Rel) (s : Step) : Option Wl → Res → Option Wl → Nat → Prop :=
  OneWrite.Ran .ok .err replicasOf (writeOf rel s) (s.fault = .get) (readFails s.fault) (s.fault = .write)
    (s.call = .finalize)

/-- a controller call is a one-write call (the admission's `rejected` is not among its results) -/
theorem step_ran {c : Cfg} {d : Option Wl} {s : Step} {o : StepOut} (hc : s.call ≠ .submit) (h : step c d s = .val o) :
    Ctl c.rel s d o.res o.wl o.writes := by
  rw [step_ctrl c d s hc] at h
  rcases build_cases d s.fault with ⟨hg, hb⟩ | ⟨hg, rfl, hb⟩ | ⟨w, hg, rfl, ⟨_, hb⟩ | ⟨r, hr, ⟨hrf, hb⟩ | ⟨hrf, hb⟩⟩⟩ <;>
    rw [hb] at h <;> simp only at h
  · cases h; exact .getErr hg
  · cases h
    by_cases hf : s.call = .finalize
    · rw [if_pos hf]; exact .absentOk hg hf
    · rw [if_neg hf]; exact .absentErr hg hf
  · cases h
  · cases h; exact .readErr hg hr hrf
  · split at h
    · cases h
    · cases h
      cases hw : writeOf c.rel s w r with
      | none => exact .noop hg hr hrf hw
      | some w' =>
        by_cases hf : s.fault = .write
        · rw [show commit w (some w') s.fault _ = _ from if_pos hf]; exact .failed hg hr hrf hw hf
        · rw [show commit w (some w') s.fault _ = _ from if_neg hf]; exact .written hg hr hrf hw hf

theorem step_panic_cases {c : Cfg} {d : Option Wl} {s : Step} (h : step c d s = .panic) :
    (∃ w, d = some w ∧ replicasOf w = none) ∨
    (s.call = .upgradeBatch ∧ ∃ w r, d = some w ∧ replicasOf w = some r ∧ r ≠ 0 ∧ entryOf c.rel s.batch = none) := by
  by_cases hc : s.call = .submit
  · simp only [step, hc] at h
    split at h
    · cases h
    · split at h <;> cases h
  · rw [step_ctrl c d s hc] at h
    rcases build_cases d s.fault with ⟨_, hb⟩ | ⟨_, _, hb⟩ | ⟨w, _, rfl, ⟨hr, _⟩ | ⟨r, hr, ⟨_, hb⟩ | ⟨_, hb⟩⟩⟩
    · rw [hb] at h; cases h
    · rw [hb] at h; cases h
    · exact .inl ⟨w, rfl, hr⟩
    · rw [hb] at h; cases h
    · rw [hb] at h
      simp only at h
      split at h
      · next hp => exact .inr ⟨hp.1, w, r, rfl, hr, hp.2⟩
      · cases h

/-! ### what each controller call writes -/

/-- the workload after `Initialize`'s patch: control-info of this BatchRelease, partition `initPartition` (MaxInt16; DaemonSet: its
    size), `paused: false`; `normUS` because the model stores what the typed client decodes -/
def claimed (w : Wl) (r : Int) : Wl :=
  { w with control := .this, us := normUS w.kind (mergeRU w.us (.int (initPartition w r)) (some false)) }

/-- after `UpgradeBatch`'s patch: the partition only (`paused` is not in the patch) -/
def upgraded (w : Wl) (r : Int) (e : IntOrPct) (nn : Option Int) : Wl :=
  { w with us := normUS w.kind (mergeRU w.us (.int (desiredPartition w r e nn)) none) }

theorem ctrlInitialize_some {w w' : Wl} {r : Int} (h : ctrlInitialize w r = some w') :
    w.control ≠ .this ∧ w' = claimed w r := by
  unfold ctrlInitialize at h
  split at h
  · cases h
  · rename_i hu
    simp only [Option.some.injEq] at h
    exact ⟨hu, h.symm⟩

theorem ctrlInitialize_none {w : Wl} {r : Int} (h : ctrlInitialize w r = none) : w.control = .this := by
  unfold ctrlInitialize at h
  split at h
  · assumption
  · cases h

theorem ctrlUpgradeBatch_some {w w' : Wl} {r : Int} {e : IntOrPct} {nn : Option Int}
    (h : ctrlUpgradeBatch w r e nn = some w') :
    desiredPartition w r e nn < currentPartition w.us ∧ w' = upgraded w r e nn := by
  unfold ctrlUpgradeBatch at h
  simp only at h
  split at h
  · cases h
  · rename_i hlt
    simp only [Option.some.injEq] at h
    exact ⟨by omega, h.symm⟩

theorem ctrlUpgradeBatch_none {w : Wl} {r : Int} {e : IntOrPct} {nn : Option Int}
    (h : ctrlUpgradeBatch w r e nn = none) : currentPartition w.us ≤ desiredPartition w r e nn := by
  unfold ctrlUpgradeBatch at h
  simp only at h
  split at h
  · assumption
  · cases h

theorem ctrlFinalize_eq (w : Wl) (bpNil : Bool) :
    ctrlFinalize w bpNil =
      if bpNil then { w with us := normUS w.kind (mergeRU w.us .absent (finPaused w.kind)), control := .none }
      else { w with control := .none } := by
  unfold ctrlFinalize
  cases bpNil <;> simp

theorem initialize_ok {c : Cfg} {d : Option Wl} {s : Step} {o : StepOut} (hcall : s.call = .initialize)
    (h : step c d s = .val o) (hok : o.res = .ok) :
    ∃ w r, d = some w ∧ replicasOf w = some r ∧
      ((w.control = .this ∧ o.wl = some w) ∨ (w.control ≠ .this ∧ o.wl = some (claimed w r))) := by
  rcases (step_ran (by rw [hcall]; decide) h).ok_cases res_ne hok with ⟨_, _, hf⟩ | ⟨w, r, rfl, hrep, hrest⟩
  · rw [hcall] at hf; cases hf
  · have hw : writeOf c.rel s w r = ctrlInitialize w r := by simp only [writeOf, hcall]
    rw [hw] at hrest
    refine ⟨w, r, rfl, hrep, ?_⟩
    rcases hrest with ⟨hn, hwl⟩ | ⟨w', hsome, hwl⟩
    · exact .inl ⟨ctrlInitialize_none hn, hwl⟩
    · obtain ⟨hnt, rfl⟩ := ctrlInitialize_some hsome
      exact .inr ⟨hnt, hwl⟩

theorem finalize_ok {c : Cfg} {d : Option Wl} {s : Step} {o : StepOut} (hcall : s.call = .finalize)
    (h : step c d s = .val o) (hok : o.res = .ok) :
    (d = none ∧ o.wl = none) ∨ ∃ w, d = some w ∧ o.wl = some (ctrlFinalize w s.bpNil) := by
  rcases (step_ran (by rw [hcall]; decide) h).ok_cases res_ne hok with ⟨hd, hwl, _⟩ | ⟨w, r, rfl, _, hrest⟩
  · exact .inl ⟨hd, hwl⟩
  · have hw : writeOf c.rel s w r = some (ctrlFinalize w s.bpNil) := by simp only [writeOf, hcall]
    rw [hw] at hrest
    rcases hrest with ⟨hn, _⟩ | ⟨w', hsome, hwl⟩
    · cases hn
    · cases hsome
      exact .inr ⟨w, rfl, hwl⟩

theorem needsList_typed (w : Wl) (h : w.kind ≠ .unstructured) : needsList w = true := by
  unfold needsList
  cases hk : w.kind <;> first | rfl | exact absurd hk h

theorem replicasOf_congr {a b : Wl} (hk : a.kind = b.kind) (hr : a.replicas = b.replicas) : replicasOf a = replicasOf b := by
  unfold replicasOf; rw [hk, hr]

theorem needsList_congr {a b : Wl} (hk : a.kind = b.kind) (hr : a.updatedReady = b.updatedReady) : needsList a = needsList b := by
  unfold needsList; rw [hk, hr]

theorem exposure_claimed (w : Wl) (r : Int) (hr : replicasOf w = some r) (hs : sizeOK r = true) :
    exposureW (claimed w r) = 0 := by
  have h1 : replicasOf (claimed w r) = some r := by rw [← hr]; exact replicasOf_congr rfl rfl
  have h2 : currentPartition (claimed w r).us = initPartition w r := by
    simp only [claimed, curPart_norm, curPart_merge_int]
  simp only [exposureW, h1, h2]
  unfold initPartition
  cases w.kind
  · exact exposure_hold r hs
  · exact exposure_hold r hs
  · exact exposure_hold r hs
  · rw [exposure_int r r ((sizeOK_iff r).mp hs).1 (Int.le_refl r)]; exact Int.sub_self r

theorem upgrade_write {rel : Rel} {s : Step} {w w' : Wl} {r : Int} (hcall : s.call = .upgradeBatch)
    (h : writeOf rel s w r = some w') :
    r ≠ 0 ∧ ∃ e, entryOf rel s.batch = some e ∧ desiredPartition w r e rel.noNeedUpdate < currentPartition w.us ∧
      w' = upgraded w r e rel.noNeedUpdate := by
  simp only [writeOf, hcall] at h
  split at h
  · cases h
  · rename_i hr0
    split at h
    · rename_i e he
      obtain ⟨hlt, hw'⟩ := ctrlUpgradeBatch_some h
      exact ⟨hr0, e, he, hlt, hw'⟩
    · cases h

theorem upgrade_nowrite {rel : Rel} {s : Step} {w : Wl} {r : Int} {e : IntOrPct} (hcall : s.call = .upgradeBatch)
    (hr0 : r ≠ 0) (he : entryOf rel s.batch = some e) (h : writeOf rel s w r = none) :
    currentPartition w.us ≤ desiredPartition w r e rel.noNeedUpdate := by
  simp only [writeOf, hcall, hr0, if_false, he] at h
  exact ctrlUpgradeBatch_none h

theorem upgraded_replicas (w : Wl) (r : Int) (e : IntOrPct) (nn : Option Int) :
    replicasOf (upgraded w r e nn) = replicasOf w := replicasOf_congr rfl rfl

theorem upgraded_partition (w : Wl) (r : Int) (e : IntOrPct) (nn : Option Int) :
    currentPartition (upgraded w r e nn).us = desiredPartition w r e nn := by
  simp only [upgraded, curPart_norm, curPart_merge_int]

theorem exposureW_upgraded {w : Wl} {r : Int} (e : IntOrPct) (nn : Option Int) (hrep : replicasOf w = some r) :
    exposureW (upgraded w r e nn) = exposure (int (desiredPartition w r e nn)) r := by
  simp only [exposureW, upgraded_replicas, hrep, upgraded_partition]

theorem upgraded_frame (w : Wl) (r : Int) (e : IntOrPct) (nn : Option Int) :
    partV (upgraded w r e nn).us = .int (desiredPartition w r e nn) ∧ sameButPartition w (upgraded w r e nn) = true := by
  refine ⟨by simp only [upgraded, partV_norm, partV_merge], ?_⟩
  have h1 : ({ upgraded w r e nn with us := w.us } : Wl) = w := by cases w; rfl
  have h2 : effType (upgraded w r e nn).us = effType w.us := by simp only [upgraded, effType_norm, effType_merge]
  have h3 : usPaused (upgraded w r e nn).us = usPaused (normUS w.kind w.us) := usPaused_merge_none _ _ _
  have h4 : isUnordered (upgraded w r e nn).kind (upgraded w r e nn).us = isUnordered w.kind w.us := by
    simp only [upgraded, isUnordered_norm, isUnordered_merge]
  simp [sameButPartition, h1, h2, h3, h4]

theorem released_finalize (w : Wl) : released (ctrlFinalize w true) = true := by
  rw [ctrlFinalize_eq]
  simp only [if_true, released, partV_norm, partV_merge, curPart_norm, curPart_merge_absent, hasRU_norm, hasRU_merge,
    beq_self_eq_true, Bool.true_and, Bool.and_true]
  cases hk : w.kind <;> simp [finPaused, usPaused_merge_false_ds]

theorem finalize_control (w : Wl) (b : Bool) : (ctrlFinalize w b).control = .none := by
  rw [ctrlFinalize_eq]; cases b <;> rfl

theorem finalize_sameButKnobs (w : Wl) (b : Bool) : sameButKnobs w (ctrlFinalize w b) = true := by
  have h0 : ({ ctrlFinalize w b with us := w.us, control := w.control } : Wl) = w := by
    rw [ctrlFinalize_eq]; cases b <;> (cases w; rfl)
  simp [sameButKnobs, h0]

theorem finalize_us (w : Wl) : (ctrlFinalize w false).us = w.us := by
  rw [ctrlFinalize_eq]; rfl

theorem finalize_effType (w : Wl) : effType (ctrlFinalize w true).us = effType w.us := by
  rw [ctrlFinalize_eq]; simp only [if_true, effType_norm, effType_merge]

theorem finalize_isUnordered (w : Wl) :
    isUnordered (ctrlFinalize w true).kind (ctrlFinalize w true).us = isUnordered w.kind w.us := by
  rw [ctrlFinalize_eq]; simp only [if_true, isUnordered_norm, isUnordered_merge]

theorem finalize_usPaused (w : Wl) (hk : w.kind ≠ .daemonSet) :
    usPaused (ctrlFinalize w true).us = usPaused (normUS w.kind w.us) := by
  rw [ctrlFinalize_eq]
  simp only [if_true]
  have : finPaused w.kind = none := by
    unfold finPaused; cases hh : w.kind <;> first | rfl | exact absurd hh hk
  rw [this]
  exact usPaused_merge_none _ _ _

theorem writeOf_congr {a b : Step} (rel : Rel) (w : Wl) (r : Int) (hcall : a.call = b.call)
    (hb : a.call ≠ .upgradeBatch ∨ a.batch = b.batch) (hf : a.call ≠ .finalize ∨ a.bpNil = b.bpNil) :
    writeOf rel a w r = writeOf rel b w r := by
  unfold writeOf
  rw [← hcall]
  cases hc : a.call
  · rfl
  · rw [hb.resolve_left (fun h => h hc)]
  · rw [hf.resolve_left (fun h => h hc)]
  · rfl

/-- after its own write `Initialize` finds its control-info; `UpgradeBatch` finds the partition equal to the desired one, which
    depends only on kind and `unorderedUpdate`, and the patch keeps both; `Finalize` has no guard and patches again: the same
    object (`merge_idem`) -/
theorem writeOf_idem {rel : Rel} {s : Step} {w w' : Wl} {r : Int} (h : writeOf rel s w r = some w') :
    writeOf rel s w' r = none ∨ (s.call = .finalize ∧ writeOf rel s w' r = some w') := by
  cases hc : s.call
  · obtain ⟨_, rfl⟩ := ctrlInitialize_some (show ctrlInitialize w r = some w' by simpa only [writeOf, hc] using h)
    exact .inl (by simp only [writeOf, hc, ctrlInitialize, claimed, if_true])
  · obtain ⟨hr0, e, he, _, rfl⟩ := upgrade_write hc h
    have hdp : desiredPartition (upgraded w r e rel.noNeedUpdate) r e rel.noNeedUpdate =
        desiredPartition w r e rel.noNeedUpdate := by
      simp only [desiredPartition, bkind, upgraded, isUnordered_norm, isUnordered_merge]
    exact .inl (by simp only [writeOf, hc, hr0, if_false, he, ctrlUpgradeBatch, hdp, upgraded_partition, Int.le_refl, if_true])
  · simp only [writeOf, hc, Option.some.injEq] at h
    subst h
    refine .inr ⟨rfl, ?_⟩
    simp only [writeOf, hc, Option.some.injEq]
    rw [ctrlFinalize_eq, ctrlFinalize_eq]
    cases s.bpNil
    · rfl
    · simp only [if_true, merge_idem w.kind w.us .absent (finPaused w.kind)]
  · simp only [writeOf, hc] at h; cases h

/-! ### the webhook step -/

theorem applyEdit_kind (d : Wl) (e : Edit) : (applyEdit d e).kind = d.kind := by
  unfold applyEdit
  cases e.tmpl <;> cases e.replicas <;> cases e.us <;> simp <;> split <;> rfl

theorem applyEdit_frame (d : Wl) (e : Edit) :
    (applyEdit d e).control = d.control ∧ (applyEdit d e).inProgress = d.inProgress ∧
    (applyEdit d e).updatedReady = d.updatedReady ∧ (applyEdit d e).rest = d.rest := by
  unfold applyEdit
  cases e.tmpl <;> cases e.replicas <;> cases e.us <;> simp <;> split <;> simp

theorem applyEdit_quiet (d : Wl) (e : Edit) (h1 : e.replicas = none) (h2 : e.us = none) :
    (applyEdit d e).us = d.us ∧ (applyEdit d e).replicas = d.replicas ∧ (applyEdit d e).kind = d.kind := by
  unfold applyEdit
  rw [h1, h2]
  cases e.tmpl <;> exact ⟨rfl, rfl, rfl⟩

theorem parseGV (k : Kind) : parseGroupVersion (apiVersionOf k) = some (groupOf k) := by
  cases k <;> decide +kernel

open RV.Oracle.C08 (releaseChange matchedRollout) in
/-- the part the handlers share (`RV.Webhook.gated`), in the webhook world of the model: a new template of a workload the
    world's Rollout references -/
theorem gated_world (w : World) (d new : Wl) (hk : new.kind = d.kind) (k : Rollout → HRes) :
    gated (toObj new) (toObj d) (worldRollouts w d.kind) k =
      if (w.matched && d.tmpl != new.tmpl) = true then
        k { name := "ro", deleting := false, phaseDisabled := false, refApiVersion := apiVersionOf d.kind,
            refKind := kindName d.kind, refName := "wl", emptyRelease := false, hasTraffic := false }
      else .ok false (toObj new) := by
  have hm : matchedRollout (toObj new) (worldRollouts w d.kind) = (worldRollouts w d.kind).head? := by
    unfold worldRollouts
    cases w.matched
    · rfl
    · simp [matchedRollout, RV.Oracle.C08.active, RV.Oracle.C08.refMatches, parseGV, toObj, hk]
  unfold gated
  rw [hm, show releaseChange (toObj d) (toObj new) = (d.tmpl != new.tmpl) from rfl]
  unfold worldRollouts
  cases w.matched <;> cases (d.tmpl != new.tmpl) <;> rfl

theorem stsRolling_toUS (us : US) : RV.Oracle.C08.stsRolling (toUS us) = stsRolling us := by
  rcases us with _ | _ | ⟨t, _ | _ | ⟨_ | _ | _, pa, un⟩⟩ <;> rfl

theorem hasRU_toUS (us : US) :
    (match toUS us with
     | .present _ (.present _) => true
     | _ => false) = hasRU us := by
  rcases us with _ | _ | ⟨t, _ | _ | ⟨_ | _ | _, pa, un⟩⟩ <;> rfl

theorem decision_ds (w : World) (d new : Wl) (hk : new.kind = d.kind) (hd : d.kind = .daemonSet) :
    webhookDecision w d new =
      if relevant w d new = true then
        (if hasRU new.us = true then
           (match toUS new.us with
            | .present t _ => .ok true { toObj new with us := .present t (.present (some maxInt16)), inProgress := .rollout "ro" }
            | _ => .panic)
         else .panic)
      else .ok false (toObj new) := by
  have hrel : relevant w d new = (w.matched && d.tmpl != new.tmpl) := by simp only [relevant, hk, hd, Bool.and_true]
  simp only [webhookDecision, hd]
  rw [handleDaemonSet_gated, ← hd, gated_world w d new hk, hrel]
  split
  · rw [show (toObj new).us = toUS new.us from rfl]
    rcases new.us with _ | _ | ⟨t, _ | _ | ⟨_ | _ | _, pa, un⟩⟩ <;> rfl
  · rfl

theorem decision_sts (w : World) (d new : Wl) (hk : new.kind = d.kind) (hd : d.kind ≠ .daemonSet) :
    webhookDecision w d new =
      if relevant w d new = true then
        .ok true { toObj new with us := setStatefulSetPartition (toUS new.us) maxInt16, inProgress := .rollout "ro" }
      else .ok false (toObj new) := by
  have hnk : new.kind ≠ .daemonSet := by rw [hk]; exact hd
  have hwd : webhookDecision w d new = handleStatefulSetLike (toObj new) (toObj d) true (worldRollouts w d.kind) := by
    unfold webhookDecision
    cases hh : d.kind <;> first | rfl | exact absurd hh hd
  have hrel : relevant w d new =
      (w.matched && (d.tmpl != new.tmpl) && (new.replicas != some 0 && stsRolling new.us && d.tmplPresent && new.tmplPresent)) := by
    unfold relevant
    cases hh : new.kind <;> first | rfl | exact absurd hh hnk
  rw [hwd, hrel, handleStatefulSetLike_gated, gated_world w d new hk]
  simp only [show (toObj new).replicas = new.replicas from rfl, show (toObj new).us = toUS new.us from rfl, stsRolling_toUS,
    show (toObj d).tmplPresent = d.tmplPresent from rfl, show (toObj new).tmplPresent = new.tmplPresent from rfl]
  -- the handler's guard on the object comes first, the oracle's last
  generalize (new.replicas != some 0 && stsRolling new.us && d.tmplPresent && new.tmplPresent) = a,
    (w.matched && d.tmpl != new.tmpl) = m
  cases a <;> cases m <;> rfl

theorem submit_spec (w : World) (d : Wl) (e : Edit) :
    submit w d e =
      if relevant w d (applyEdit d e) = true then
        (if dsNoRU (applyEdit d e) = true then none
         else some { applyEdit d e with us := setPartition (applyEdit d e).us maxInt16, inProgress := true })
      else some (applyEdit d e) := by
  have hk := applyEdit_kind d e
  unfold submit
  simp only
  generalize applyEdit d e = new at hk ⊢
  by_cases hd : d.kind = .daemonSet
  · rw [decision_ds w d new hk hd]
    have hnk : new.kind = .daemonSet := by rw [hk, hd]
    cases relevant w d new
    · simp
    · simp only [if_true, dsNoRU, hnk, beq_self_eq_true, Bool.true_and]
      rcases new.us with _ | _ | ⟨t, _ | _ | ⟨_ | _ | _, pa, un⟩⟩ <;> simp [toUS, hasRU]
  · rw [decision_sts w d new hk hd]
    have hnk : new.kind ≠ .daemonSet := by rw [hk]; exact hd
    cases relevant w d new
    · simp
    · simp [dsNoRU, hnk]

/-- the admitted object of a relevant change -/
def heldOf (new : Wl) : Wl := { new with us := setPartition new.us maxInt16, inProgress := true }

theorem submit_step_cases {c : Cfg} {d0 : Wl} {s : Step} {o : StepOut} (hc : s.call = .submit)
    (h : step c (some d0) s = .val o) :
    (relevant c.world d0 (applyEdit d0 s.edit) = true ∧ dsNoRU (applyEdit d0 s.edit) = true ∧
       o = { res := .rejected, wl := some d0, writes := 0, obs := none }) ∨
    (relevant c.world d0 (applyEdit d0 s.edit) = true ∧ dsNoRU (applyEdit d0 s.edit) = false ∧
       o = { res := .ok, wl := some (heldOf (applyEdit d0 s.edit)), writes := 0, obs := none }) ∨
    (relevant c.world d0 (applyEdit d0 s.edit) = false ∧
       o = { res := .ok, wl := some (applyEdit d0 s.edit), writes := 0, obs := none }) := by
  simp only [step, hc] at h
  rw [submit_spec] at h
  cases hr : relevant c.world d0 (applyEdit d0 s.edit)
  · right; right
    simp only [hr, Bool.false_eq_true, if_false, Out.val.injEq] at h
    exact ⟨rfl, h.symm⟩
  · cases hn : dsNoRU (applyEdit d0 s.edit)
    · right; left
      simp only [hr, hn, if_true, Bool.false_eq_true, if_false, Out.val.injEq] at h
      exact ⟨rfl, rfl, h.symm⟩
    · left
      simp only [hr, hn, if_true, Out.val.injEq] at h
      exact ⟨rfl, rfl, h.symm⟩

theorem holdFrame_heldOf (new : Wl) : holdFrame new (heldOf new) = true := by
  have h1 : ({ heldOf new with us := new.us, inProgress := new.inProgress } : Wl) = new := by cases new; rfl
  have h4 := usType_setPartition new.us maxInt16
  simp only [holdFrame, h1, beq_self_eq_true, Bool.true_and]
  have h2 : usPaused (heldOf new).us = usPaused new.us := usPaused_setPartition _ _
  have h3 : isUnordered (heldOf new).kind (heldOf new).us = isUnordered new.kind new.us := isUnordered_setPartition _ _ _
  have h5 : (heldOf new).us = setPartition new.us maxInt16 := rfl
  rw [h2, h3, h5]
  simp only [beq_self_eq_true, Bool.true_and]
  exact h4

theorem exposure_heldOf (new : Wl) (r : Int) (hr : replicasOf new = some r) (hs : sizeOK r = true) :
    exposureW (heldOf new) = 0 := by
  have h1 : replicasOf (heldOf new) = some r := by rw [← hr]; exact replicasOf_congr rfl rfl
  simp only [exposureW, h1]
  have : currentPartition (heldOf new).us = maxInt16 := curPart_setPartition _ _
  rw [this]
  exact exposure_hold r hs

/-! ### the user's view -/

theorem view_applyEdit (d : Wl) (e : Edit) : view (applyEdit d e) = editView (view d) e := by
  unfold applyEdit editView view
  cases e.tmpl <;> cases e.replicas <;> cases e.us <;> simp <;> (try split) <;> simp_all

theorem view_patch (w : Wl) (p : PartV) (pa : Option Bool) (c : Owner) :
    view { w with us := normUS w.kind (mergeRU w.us p pa), control := c } = view w := by
  simp only [view, effType_norm, effType_merge, isUnordered_norm, isUnordered_merge]

theorem view_control (w : Wl) (c : Owner) : view { w with control := c } = view w := rfl

structure Kept (w w' : Wl) : Prop where
  view : view w' = view w
  inProgress : w'.inProgress = w.inProgress
  kind : w'.kind = w.kind
  replicas : w'.replicas = w.replicas

theorem writeOf_frame {rel : Rel} {s : Step} {w w' : Wl} {r : Int} (h : writeOf rel s w r = some w') : Kept w w' := by
  unfold writeOf at h
  cases hc : s.call <;> simp only [hc] at h
  · obtain ⟨_, hw⟩ := ctrlInitialize_some h
    subst hw
    exact ⟨view_patch w _ _ _, rfl, rfl, rfl⟩
  · split at h
    · cases h
    · split at h
      · obtain ⟨_, hw⟩ := ctrlUpgradeBatch_some h
        subst hw
        exact ⟨view_patch w _ none w.control, rfl, rfl, rfl⟩
      · cases h
  · simp only [Option.some.injEq] at h
    subst h
    rw [ctrlFinalize_eq]
    cases s.bpNil
    · exact ⟨rfl, rfl, rfl, rfl⟩
    · exact ⟨view_patch w _ _ _, rfl, rfl, rfl⟩
  · cases h

/-! ### one step of a walk -/

theorem step_exposure {c : Cfg} {d : Wl} {r : Int} {s : Step} {o : StepOut}
    (hrep : replicasOf d = some r) (hs : sizeOK r = true) (hnn : nnOK r c.rel.noNeedUpdate = true)
    (hq1 : s.edit.replicas = none) (hq2 : s.edit.us = none) (h : step c (some d) s = .val o) :
    ∃ d', o.wl = some d' ∧ replicasOf d' = some r ∧ exposureW d' ≤ max (exposureW d) (stepAllow c.rel r s) := by
  have hr0 : 0 ≤ r := ((sizeOK_iff r).mp hs).1
  have hx0 : 0 ≤ exposureW d := by rw [exposureW, hrep]; exact exposure_nonneg _ r hr0
  by_cases hc : s.call = .submit
  · obtain ⟨e1, e2, e3⟩ := applyEdit_quiet d s.edit hq1 hq2
    have hrn : replicasOf (applyEdit d s.edit) = some r := (replicasOf_congr e3 e2).trans hrep
    rcases submit_step_cases hc h with ⟨_, _, rfl⟩ | ⟨_, _, rfl⟩ | ⟨_, rfl⟩
    · exact ⟨d, rfl, hrep, Int.le_max_left _ _⟩
    · exact ⟨_, rfl, (replicasOf_congr rfl rfl).trans hrn, by rw [exposure_heldOf _ r hrn hs]; omega⟩
    · exact ⟨_, rfl, hrn, by simp only [exposureW, hrn, hrep, e1]; exact Int.le_max_left _ _⟩
  · rcases (step_ran hc h).obj with ⟨hwl, _⟩ | ⟨w, r', w', hd, hrep', hsome, hwl, _⟩
    · exact ⟨d, hwl, hrep, Int.le_max_left _ _⟩
    · cases hd
      rw [hrep] at hrep'; cases hrep'
      refine ⟨w', hwl, ?_⟩
      cases hcall : s.call
      · obtain ⟨_, hw'⟩ := ctrlInitialize_some (show ctrlInitialize d r = some w' by simpa only [writeOf, hcall] using hsome)
        subst hw'
        exact ⟨(replicasOf_congr rfl rfl).trans hrep, by rw [exposure_claimed d r hrep hs]; omega⟩
      · obtain ⟨_, e, he, _, rfl⟩ := upgrade_write hcall hsome
        have hb := desired_exposure_bound d r e c.rel.noNeedUpdate hr0 hnn
        have hal : stepAllow c.rel r s = max 0 (allowed r e c.rel.noNeedUpdate) := by simp only [stepAllow, hcall, he]
        refine ⟨(upgraded_replicas ..).trans hrep, ?_⟩
        rw [exposureW_upgraded _ _ hrep, hal]
        omega
      · simp only [writeOf, hcall, Option.some.injEq] at hsome
        subst hsome
        have hrf : replicasOf (ctrlFinalize d s.bpNil) = some r := by
          rw [← hrep, ctrlFinalize_eq]; cases s.bpNil <;> exact replicasOf_congr rfl rfl
        refine ⟨hrf, ?_⟩
        cases hb : s.bpNil
        · exact Int.le_max_left _ _
        · have hcp : currentPartition (ctrlFinalize d true).us = 0 := by
            rw [ctrlFinalize_eq]; simp only [if_true, curPart_norm, curPart_merge_absent]
          have hal : stepAllow c.rel r s = max 0 r := by simp only [stepAllow, hcall, hb, if_true]
          rw [hb] at hrf
          simp only [exposureW, hrf, hcp, hal, exposure_int 0 r (Int.le_refl 0) hr0]
          omega
      · exact absurd hcall hc

/-! ### the pods behind the readiness verdict -/

theorem foldl_count (f : Pod → Bool) (pods : List Pod) : ∀ n : Int,
    pods.foldl (fun count p => if f p then count + 1 else count) n = n + ((pods.filter f).length : Nat) := by
  induction pods with
  | nil => intro n; simp
  | cons p ps ih =>
    intro n
    simp only [List.foldl_cons, List.filter_cons]
    cases hf : f p
    · simp only [Bool.false_eq_true, if_false]; exact ih n
    · simp only [if_true, List.length_cons]; rw [ih]; omega

theorem wrappedPodCount_eq (f : Pod → Bool) (pods : List Pod) :
    wrappedPodCount f pods = ((pods.filter f).length : Nat) := by
  unfold wrappedPodCount
  rw [foldl_count]; omega

theorem counted_iff (rev : String) (p : Pod) :
    ((countsFilter rev p &&
      (if isCompleted p then false else if !isOwned p.owner then false else true)) && (p.inNamespace && p.selMatch)) =
    liveReadyUpdated rev p := by
  -- both sides are the conjunction of the same seven tests, in the order of the code on the left
  unfold countsFilter liveReadyUpdated livePod
  generalize p.inNamespace = a, p.selMatch = b, isCompleted p = c, isOwned p.owner = d, p.terminating = e,
    isConsistent p rev = f, isPodReady p = g
  revert a b c d e f g
  decide

theorem updatedReadyOf_eq (rev : String) (pods : List Pod) :
    updatedReadyOf rev pods = liveReadyUpdatedCount rev pods := by
  unfold updatedReadyOf liveReadyUpdatedCount listOwned
  rw [wrappedPodCount_eq, List.filter_filter, List.filter_filter]
  congr 2
  apply List.filter_congr
  intro p _
  exact counted_iff rev p

theorem lruCount_cons (rev : String) (p : Pod) (ps : List Pod) :
    liveReadyUpdatedCount rev (p :: ps) = (if liveReadyUpdated rev p = true then 1 else 0) + liveReadyUpdatedCount rev ps := by
  unfold liveReadyUpdatedCount
  simp only [List.filter_cons]
  cases liveReadyUpdated rev p <;> simp <;> omega

theorem lruCount_append (rev : String) (xs ys : List Pod) :
    liveReadyUpdatedCount rev (xs ++ ys) = liveReadyUpdatedCount rev xs + liveReadyUpdatedCount rev ys := by
  unfold liveReadyUpdatedCount
  simp only [List.filter_append, List.length_append]
  omega

theorem degradePod_not_counted (rev : String) (h : Degrade) (p q : Pod) (hq : degradePod h p = some q) :
    liveReadyUpdated rev q = false := by
  cases h <;> simp only [degradePod, Option.some.injEq, reduceCtorEq] at hq <;> subst hq
  · have : isPodReady { p with conds := [("Ready", "False")] } = false := by
      simp [isPodReady, List.find?]
    simp [liveReadyUpdated, this]
  · simp [liveReadyUpdated, livePod]
  · have : isConsistent { p with hashLabel := "", revLabel := "" } rev = false := by
      simp [isConsistent]
    simp [liveReadyUpdated, this]
  · have : isCompleted { p with phase := "Failed" } = true := by simp [isCompleted]
    simp [liveReadyUpdated, livePod, this]
  · simp [liveReadyUpdated, livePod, isOwned]

theorem degradeAt_none (h : Degrade) : ∀ (i : Nat) (pods : List Pod), pods[i]? = none → degradeAt h i pods = pods := by
  intro i pods
  induction pods generalizing i with
  | nil => intro _; cases i <;> rfl
  | cons p ps ih =>
    intro hi
    cases i with
    | zero => simp at hi
    | succ i =>
      simp only [List.getElem?_cons_succ] at hi
      simp only [degradeAt, ih i hi]

theorem lruCount_degradeAt (rev : String) (h : Degrade) : ∀ (i : Nat) (pods : List Pod) (p : Pod), pods[i]? = some p →
    liveReadyUpdatedCount rev (degradeAt h i pods) =
      liveReadyUpdatedCount rev pods - (if liveReadyUpdated rev p = true then 1 else 0) := by
  intro i pods
  induction pods generalizing i with
  | nil => intro p hp; simp at hp
  | cons a as ih =>
    intro p hp
    cases i with
    | zero =>
      simp only [List.getElem?_cons_zero, Option.some.injEq] at hp
      subst hp
      simp only [degradeAt]
      cases hq : degradePod h a with
      | none => simp only [Option.toList, List.nil_append, lruCount_cons]; omega
      | some q =>
        have := degradePod_not_counted rev h a q hq
        simp only [Option.toList, List.cons_append, List.nil_append, lruCount_cons, this, Bool.false_eq_true, if_false]
        omega
    | succ i =>
      simp only [List.getElem?_cons_succ] at hp
      simp only [degradeAt, lruCount_cons, ih i p hp]
      omega

theorem readyPods_nonneg (w : Wl) (cl : Cluster) : 0 ≤ readyPods w cl := by
  unfold readyPods
  cases h : needsList w
  · -- the pods are not listed only when the status reports a positive number
    unfold needsList at h
    cases hk : w.kind <;> simp only [hk, reduceCtorEq, decide_eq_false_iff_not] at h
    simp only [Bool.false_eq_true, if_false]; omega
  · simp only [if_true, liveReadyUpdatedCount]; omega

theorem countersOf_updatedReady (w : Wl) (r : Int) (cl : Cluster) : (countersOf w r cl).updatedReady = readyPods w cl := by
  unfold countersOf readyPods
  simp only [updatedReadyOf_eq]

theorem planeVerdict_cases {rel : Rel} {batch : Int} {d : Option Wl} {cl : Cluster} {f : Fault} {o : VerdictOut}
    (h : planeVerdict rel batch d cl f = .val o) :
    o.writes = 0 ∧
    ((o.counters = none ∧ o.ctx = none ∧ o.verdict = .err ∧
        (d = none ∨ ∃ w, d = some w ∧ readsOK f w = false)) ∨
     (∃ w r, d = some w ∧ replicasOf w = some r ∧ readsOK f w = true ∧ o.counters = some (countersOf w r cl) ∧
        ((r = 0 ∧ o.ctx = none ∧ o.verdict = .is .ok) ∨
         (r ≠ 0 ∧ ∃ e, entryOf rel batch = some e ∧ o.ctx = some (batchCtxOf rel w (countersOf w r cl) e) ∧
            o.verdict = .is (isBatchReady (batchCtxOf rel w (countersOf w r cl) e) none))))) := by
  unfold planeVerdict at h
  rcases build_cases d f with ⟨hg, hb⟩ | ⟨_, rfl, hb⟩ | ⟨w, hg, rfl, ⟨_, hb⟩ | ⟨r, hr, ⟨hrf, hb⟩ | ⟨hrf, hb⟩⟩⟩ <;>
    rw [hb] at h <;> simp only at h
  · cases h
    refine ⟨rfl, .inl ⟨rfl, rfl, rfl, ?_⟩⟩
    cases d with
    | none => exact .inl rfl
    | some w => exact .inr ⟨w, rfl, by simp [readsOK, hg]⟩
  · cases h; exact ⟨rfl, .inl ⟨rfl, rfl, rfl, .inl rfl⟩⟩
  · cases h
  · cases h; exact ⟨rfl, .inl ⟨rfl, rfl, rfl, .inr ⟨w, rfl, by simp [readsOK, hrf.1, hrf.2]⟩⟩⟩
  · have hro : readsOK f w = true := by
      simp only [readsOK, Bool.and_eq_true, bne_iff_ne, ne_eq, Bool.not_eq_true', Bool.and_eq_false_iff, beq_eq_false_iff_ne]
      refine ⟨hg, ?_⟩
      by_cases hfl : f = .list
      · exact .inr (Bool.eq_false_iff.mpr fun hn => hrf ⟨hfl, hn⟩)
      · exact .inl hfl
    by_cases hr0 : r = 0
    · rw [if_pos hr0] at h; cases h
      exact ⟨rfl, .inr ⟨w, r, rfl, hr, hro, rfl, .inl ⟨hr0, rfl, rfl⟩⟩⟩
    · rw [if_neg hr0] at h
      by_cases hb : batch < 0
      · rw [if_pos hb] at h; cases h
      · rw [if_neg hb] at h
        cases he : rel.batches[batch.toNat]? with
        | none => rw [he] at h; cases h
        | some e =>
          rw [he] at h; cases h
          exact ⟨rfl, .inr ⟨w, r, rfl, hr, hro, rfl, .inr ⟨hr0, e, by simp only [entryOf, hb, if_false, he], rfl, rfl⟩⟩⟩

/-- the readiness check reads the plan entry `UpgradeBatch` reads: where it crashes, so does that call -/
theorem planeVerdict_panic {rel : Rel} {batch : Int} {d : Option Wl} {cl : Cluster} {f : Fault}
    (h : planeVerdict rel batch d cl f = .panic) : planeUpgradeBatch rel batch d f = .panic := by
  unfold planeVerdict at h
  unfold planeUpgradeBatch
  cases hb : build d f with
  | panic => rfl
  | err => rw [hb] at h; cases h
  | notFound => rw [hb] at h; cases h
  | ok w r =>
    rw [hb] at h
    simp only at h ⊢
    by_cases hr0 : r = 0
    · rw [if_pos hr0] at h; cases h
    · rw [if_neg hr0] at h ⊢
      by_cases hlt : batch < 0
      · exact if_pos hlt
      · rw [if_neg hlt] at h ⊢
        cases he : rel.batches[batch.toNat]? with
        | none => rfl
        | some e => rw [he] at h; cases h

end RV.CtlSts
