/-
  Supersession, executor side: a BatchRelease that "holds" (Completed; deleted / being finalised with its batch partition still
  set; or Progressing on a recorded revision that is no longer the workload's) never lowers the workload's partition, and keeps holding.
-/
import RV.Lemmas.ClosedLoop
import RV.Lemmas.ClosedLoopExec
namespace RV.Lemmas.ClosedLoop
open RV.Arith RV.BatchCtx RV.ClosedLoop RV.Oracle.ClosedLoop

/-! `exWl` hands the executor the revisions as the CloneSet status reports them, prefixed with `wl-`: the prefix is injective, and
    a prefixed revision is never the empty string that stands for "nothing recorded". -/

theorem wl_append_inj (a b : String) (h : "wl-" ++ a = "wl-" ++ b) : a = b :=
  (String.append_right_inj "wl-").mp h

theorem wl_append_ne_empty (a : String) : "wl-" ++ a ≠ "" := by
  intro h
  have := congrArg String.length h
  simp at this

theorem holds_iff (b : CBr) (w : CWl) :
    brHolds b w = true ↔
      b.st.phase = .completed ∨
      (b.partition.isSome = true ∧ (b.deleting = true ∨ b.st.phase = .finalizing)) ∨
      (b.deleting = false ∧ b.partition.isSome = true ∧ b.st.phase = .progressing ∧ b.st.updateRevision ≠ "" ∧
        b.st.updateRevision ≠ "wl-" ++ w.updateRevision ∧ b.st.currentBatch < b.batches.length ∧
        b.st.observedReplicas = w.replicas) := by
  unfold brHolds
  simp [and_assoc, or_assoc]

/-- a Progressing release whose recorded revision is not the workload's, over a workload with no updated pod: `syncInfo` answers
    `podTemplateChanged` (or `stillReconciling` on a stale generation), on which the sync step stops and the executor writes
    nothing (`holds_step_superseded`): the repaired defect `supersedeRace` -/
theorem holds_event (b : CBr) (w : CWl) (hd : b.deleting = false) (hur : b.st.updateRevision ≠ "")
    (hur2 : b.st.updateRevision ≠ "wl-" ++ w.updateRevision) (hor : b.st.observedReplicas = w.replicas)
    (hst : w.statusReplicas = w.replicas) (hR : 0 < w.replicas) (hupd : w.updated = 0)
    (hne : w.updateRevision ≠ w.currentRevision) :
    (Executor.syncInfo (Executor.withFinalizer (exBr b)) (exBr b).status (some (exWl w))).1 = .podTemplateChanged ∨
    (Executor.syncInfo (Executor.withFinalizer (exBr b)) (exBr b).status (some (exWl w))).1 = .stillReconciling := by
  have hd' : ¬ (Executor.withFinalizer (exBr b)).deleting = true := by
    show ¬ b.deleting = true
    rw [hd]; exact Bool.false_ne_true
  unfold Executor.syncInfo
  rw [if_neg hd']
  dsimp only
  by_cases hg : ¬ ((exWl w).observedGeneration ≥ (exWl w).generation)
  · rw [if_pos hg]; right; rfl
  · rw [if_neg hg]
    have h1 : ¬ (exWl w).statusReplicas = (exWl w).updated := by
      show ¬ w.statusReplicas = w.updated
      omega
    have h2 : ¬ ((exBr b).status.observedReplicas ≠ -1 ∧ (exWl w).replicas ≠ (exBr b).status.observedReplicas) := by
      intro hx
      exact hx.2 hor.symm
    have h3 : ¬ ((exBr b).status.updateRevision ≠ "" ∧ (exWl w).updateRevision = (exWl w).currentRevision ∧
        (exBr b).status.stableRevision = (exWl w).updateRevision ∧
        (exBr b).status.stableRevision ≠ (exBr b).status.updateRevision) := by
      intro hx
      exact hne (wl_append_inj _ _ hx.2.1)
    have h4 : (exBr b).status.updateRevision ≠ "" ∧ (exWl w).updateRevision ≠ (exBr b).status.updateRevision :=
      ⟨hur, fun hx => hur2 hx.symm⟩
    rw [if_neg h1, if_neg h2, if_neg h3, if_pos h4]
    left; rfl

/-- what the reconcile of a BatchRelease that holds leaves: the workload keeps its partition and pause flag, and the BatchRelease,
    if it is still there, keeps holding -/
def Held (b : CBr) (w : CWl) (o : Executor.StepOut) : Prop :=
  (∃ ew, o.wl = some ew ∧ ew.partition = w.partition ∧ ew.paused = w.paused) ∧ brHoldsO (o.br.map (stLand b)) w = true

theorem holds_step_completed (b : CBr) (w : CWl) (o : Executor.StepOut)
    (h : Executor.reconcile (exBr b) (some (exWl w)) = .val o) (hc : b.st.phase = .completed) :
    Held b w o := by
  have hc' : (exBr b).status.phase = .completed := hc
  rcases rec_cases _ _ o h with ⟨_, _, hb', hw⟩ | ⟨_, hb', hw⟩ | ⟨hs, _⟩
  · refine ⟨⟨exWl w, hw, rfl, rfl⟩, ?_⟩
    rw [hb']; rfl
  · refine ⟨⟨exWl w, hw, rfl, rfl⟩, ?_⟩
    have hk := exec_completed_stays _ _ o _ h hb' hc'
    rw [hb']
    show brHolds (stLand b _) w = true
    exact (holds_iff _ _).2 (Or.inl hk)
  · have := Executor.sync_completed_stops (Executor.withFinalizer (exBr b))
      (Executor.initializedStatus (exBr b).status) (some (exWl w)) hc'
    rw [this] at hs; cases hs

theorem holds_step_finalizing (b : CBr) (w : CWl) (o : Executor.StepOut)
    (h : Executor.reconcile (exBr b) (some (exWl w)) = .val o) (hc : b.st.phase ≠ .completed)
    (hps : b.partition.isSome = true) (hdf : b.deleting = true ∨ b.st.phase = .finalizing) :
    Held b w o := by
  have hfin : Executor.isPlanFinalizing (Executor.withFinalizer (exBr b)) = true := by
    show (b.deleting || decide (b.st.phase = .finalizing) || b.partition.isNone) = true
    rcases hdf with hd | hf
    · simp [hd]
    · simp [hf]
  have hcn : (Executor.withFinalizer (exBr b)).status.phase ≠ .completed := hc
  have hsp : (Executor.syncStatus (Executor.withFinalizer (exBr b)) (Executor.initializedStatus (exBr b).status)
      (some (exWl w))).status.phase = .finalizing := by
    rw [Executor.syncStatus_eq _ _ _ _ (Executor.syncDecide_finalizing (Executor.withFinalizer (exBr b))
      (Executor.initializedStatus (exBr b).status) _ _ hcn hfin)]
    exact Executor.refresh_phase _ _
  rcases rec_cases _ _ o h with ⟨_, hp, _⟩ | ⟨_, hb', hw⟩ | ⟨hns, ns', wl', rq, er, hex, hb', hw⟩
  · exact absurd hp hc
  · refine ⟨⟨exWl w, hw, rfl, rfl⟩, ?_⟩
    rw [hb']
    show brHolds (stLand b _) w = true
    exact (holds_iff _ _).2 (Or.inr (Or.inl ⟨hps, Or.inr hsp⟩))
  · rw [Executor.sync_nostop_status _ _ _ hns] at hsp
    have hsp' : (exBr b).status.phase = .finalizing := hsp
    cases hex with
    | finalized _ hf =>
      refine ⟨⟨{ exWl w with owner := .none }, ?_, rfl, rfl⟩, ?_⟩
      · have hwl' : wl' = (Executor.finalize (Executor.withFinalizer (exBr b)) (some (exWl w))).1 :=
          (congrArg Prod.fst (Executor.Out.val.inj hf)).symm
        rw [hw, hwl']
        unfold Executor.finalize
        dsimp only
        have hpn : ¬ (Executor.withFinalizer (exBr b)).partition.isNone = true := by
          show ¬ b.partition.isNone = true
          cases hpp : b.partition with
          | none => rw [hpp] at hps; cases hps
          | some p => exact Bool.false_ne_true
        rw [if_neg hpn]
      · rw [hb']
        show brHolds (stLand b _) w = true
        exact (holds_iff _ _).2 (Or.inl rfl)
    | finErr _ hf =>
      have := congrArg Prod.snd (Executor.Out.val.inj hf)
      rw [show (Executor.finalize _ _).2 = .ok from Executor.finalize_ok _ _] at this
      cases this
    | initialized hq | initErr hq =>
      rcases Executor.normPhase_preparing _ hq with e | e | e <;> rw [hsp'] at e <;> cases e
    | progressing hp => rw [hsp'] at hp; cases hp
    | idle hq => rw [hsp'] at hq; cases hq

theorem holds_step_superseded (b : CBr) (w : CWl) (o : Executor.StepOut)
    (h : Executor.reconcile (exBr b) (some (exWl w)) = .val o) (hbne : b.batches ≠ [])
    (hd : b.deleting = false) (hps : b.partition.isSome = true) (hpg : b.st.phase = .progressing)
    (hur : b.st.updateRevision ≠ "") (hur2 : b.st.updateRevision ≠ "wl-" ++ w.updateRevision)
    (hcb : b.st.currentBatch < b.batches.length) (hor : b.st.observedReplicas = w.replicas)
    (hst : w.statusReplicas = w.replicas) (hR : 0 < w.replicas) (hupd : w.updated = 0)
    (hne : w.updateRevision ≠ w.currentRevision) :
    Held b w o := by
  have hpg' : (Executor.withFinalizer (exBr b)).status.phase = .progressing := hpg
  have hnf : Executor.isPlanFinalizing (Executor.withFinalizer (exBr b)) = false := by
    show (b.deleting || decide (b.st.phase = .finalizing) || b.partition.isNone) = false
    cases hpp : b.partition with
    | none => rw [hpp] at hps; cases hps
    | some p => simp [hd, hpg]
  have hne0 : (exBr b).status.phase ≠ .empty := by
    show b.st.phase ≠ .empty
    rw [hpg]; decide
  have hev := holds_event b w hd hur hur2 hor hst hR hupd hne
  have hsync := Executor.syncStatus_event_stop (Executor.withFinalizer (exBr b)) (some (exWl w)) hpg' hnf hev
  rw [wf_status] at hsync
  obtain ⟨hstop, hshape⟩ := hsync
  rcases rec_cases _ _ o h with ⟨_, hp, _⟩ | ⟨_, hb', hw⟩ | ⟨hns, _⟩
  · have hp' : b.st.phase = .completed := hp
    rw [hpg] at hp'; cases hp'
  · rw [Executor.initialized_id _ hne0] at hb'
    refine ⟨⟨exWl w, hw, rfl, rfl⟩, ?_⟩
    rw [hb']
    show brHolds (stLand b _) w = true
    rcases hshape with ⟨h1, h2, h3, h4⟩ | ⟨hu, _⟩
    · refine (holds_iff _ _).2 (Or.inr (Or.inr ⟨hd, hps, h1, ?_, ?_, ?_, ?_⟩))
      · show (Executor.syncStatus _ _ _).status.updateRevision ≠ ""
        rw [h2]; exact hur
      · show (Executor.syncStatus _ _ _).status.updateRevision ≠ _
        rw [h2]; exact hur2
      · show (Executor.syncStatus _ _ _).status.currentBatch < (b.batches.length : Int)
        rcases h4 with h4 | h4
        · rw [h4]; exact hcb
        · rw [h4]
          exact Executor.signalRecalculate_lt (Executor.withFinalizer (exBr b)) _ hbne
      · show (Executor.syncStatus _ _ _).status.observedReplicas = _
        rw [h3]; exact hor
    · exfalso
      have hu' : (decide (b.st.currentBatch ≥ b.batches.length) && decide (b.st.phase = .progressing)) = true := hu
      simp only [Bool.and_eq_true, decide_eq_true_eq] at hu'
      omega
  · rw [Executor.initialized_id _ hne0, hstop] at hns; cases hns

theorem holds_step (b : CBr) (w : CWl) (o : Executor.StepOut)
    (h : Executor.reconcile (exBr b) (some (exWl w)) = .val o)
    (hb : brHolds b w = true) (hbok : brOK b = true) (hst : w.statusReplicas = w.replicas) (hR : 0 < w.replicas)
    (hupd : w.updated = 0) (hne : w.updateRevision ≠ w.currentRevision) :
    Held b w o := by
  obtain ⟨hbne, _⟩ := (brOK_iff b).1 hbok
  by_cases hc : b.st.phase = .completed
  · exact holds_step_completed b w o h hc
  · rcases (holds_iff b w).1 hb with hc' | ⟨hps, hdf⟩ | ⟨hd, hps, hpg, hur, hur2, hcb, hor⟩
    · exact absurd hc' hc
    · exact holds_step_finalizing b w o h hc hps hdf
    · exact holds_step_superseded b w o h hbne hd hps hpg hur hur2 hcb hor hst hR hupd hne

end RV.Lemmas.ClosedLoop
