/-
  Progress of the closed loop, one fair round in normal form.  Without traffic routing neither reconcile touches the network
  objects or the grace map, so the state after each of them is `mid s ro w br`, and the last three labels of the round are a
  function on it (`tail_mid`).  `LiveFacts`: what every class takes from `liveInv`.  `round_mid`: the round from its two
  reconciles; `round_lands`: the one statement every class theorem ends in (`round_lands_step`, `round_lands_fin`: its readings
  for a round that stays on its step and for a round of the clean-up).
-/
import RV.Lemmas.ClosedLoopLiveClasses
import RV.Lemmas.ClosedLoopLiveEnv
import RV.Lemmas.ClosedLoopStepBr
import RV.Lemmas.ClosedLoopStepRo
namespace RV.Lemmas.ClosedLoop
open RV.Arith RV.Traffic RV.RolloutSM RV.ClosedLoop RV.Oracle.ClosedLoop RV.Props.Reconcile

/-- the last three labels of a round, which cannot fail -/
def roundTail (b : CS) : CS := tick (approve { b with wl := b.wl.map envWl })

theorem round_eq (s a b : CS) (h1 : stepRo s = some a) (h2 : stepBr a = some b) : round s = some (roundTail b) := by
  simp only [round, roundLabels, run, step, h1, h2, roundTail]

theorem rounds_succ (k : Nat) (s s' : CS) (h : round s = some s') : rounds (k + 1) s = rounds k s' := by
  simp only [rounds, h]

theorem rounds_fix (k : Nat) (s : CS) (h : round s = some s) : rounds k s = some s := by
  induction k with
  | zero => rfl
  | succ k ih => rw [rounds_succ k s s h]; exact ih

theorem rounds_add (j k : Nat) (s s' : CS) (h : rounds j s = some s') : rounds (j + k) s = rounds k s' := by
  induction j generalizing s with
  | zero => simp only [rounds, Option.some.injEq] at h; subst h; simp
  | succ j ih =>
    cases hr : round s with
    | none => simp only [rounds, hr] at h; cases h
    | some t =>
      rw [rounds_succ j s t hr] at h
      rw [show j + 1 + k = (j + k) + 1 by omega, rounds_succ (j + k) s t hr]
      exact ih t h

theorem liveInv_iff (s : CS) :
    liveInv s = true ↔ fwdInv s = true ∧ liveCfg s = true ∧ cls s ≠ 0 ∧ (cls s = 1 ∨ atBoundary s = true) := by
  unfold liveInv
  simp only [Bool.and_eq_true, Bool.or_eq_true, bne_iff_ne, ne_eq, beq_iff_eq, and_assoc]

theorem ageAge_idem (a : Age) : ageAge (ageAge a) = ageAge a := by cases a <;> rfl
theorem ageExp_idem (a : Exp) : ageExp (ageExp a) = ageExp a := by cases a <;> rfl

theorem tick_idem (x : CS) : tick (tick x) = tick x := by
  obtain ⟨gone, ro, wl, br, net, mem⟩ := x
  cases gone
  · cases hsub : ro.sub <;> simp [tick, hsub, ageAge_idem, ageExp_idem]
  · simp [tick, ageExp_idem]

/-- the joint state with the Rollout's status, the workload and the BatchRelease replaced: without traffic routing neither
    reconcile touches the network objects or the grace map, so this is the shape of the state after each of them -/
def mid (s : CS) (ro : Rollout) (w : CWl) (br : Option CBr) : CS :=
  { gone := false, ro := ro, wl := some w, br := br, net := s.net, mem := s.mem }

/-- approval and clock on the sub-status -/
def tailSub (x : Sub) : Sub :=
  { x with state := if x.state = .paused then .ready else x.state, lastUpdate := ageAge x.lastUpdate }

theorem tailSub_state {x : Sub} {st : StepState} (h : x.state = st) (hp : st ≠ .paused) : (tailSub x).state = st := by
  show (if x.state = .paused then StepState.ready else x.state) = st
  rw [h, if_neg hp]

def tailRo (ro : Rollout) : Rollout := { ro with sub := ro.sub.map tailSub, condAge := ageAge ro.condAge }

theorem mid_of (s : CS) (w : CWl) (ro : Rollout) (hw : s.wl = some w) : { s with gone := false, ro := ro } = mid s ro w s.br := by
  unfold mid; rw [← hw]

theorem tail_mid (s : CS) (ro : Rollout) (w : CWl) (br : Option CBr) :
    roundTail (mid s ro w br) = mid (tick s) (tailRo ro) (envWl w) br := by
  unfold roundTail approve mid
  dsimp only [Option.map]
  rw [if_neg Bool.false_ne_true]
  cases hs : ro.sub with
  | none =>
    dsimp only
    unfold tick tailRo
    dsimp only
    rw [if_neg Bool.false_ne_true, hs]
    rfl
  | some x =>
    dsimp only
    by_cases hp : x.state = .paused
    · rw [if_pos hp]
      unfold tick tailRo tailSub
      dsimp only
      rw [if_neg Bool.false_ne_true, hs]
      dsimp only [Option.map]
      rw [if_pos hp]
    · rw [if_neg hp]
      unfold tick tailRo tailSub
      dsimp only
      rw [if_neg Bool.false_ne_true, hs]
      dsimp only [Option.map]
      rw [if_neg hp]

theorem fwd_wlOK (b : CS) (w : CWl) (hf : fwdInv b = true) (hw : b.wl = some w) : wlOK w = true := by
  obtain ⟨w', _, _, hw', hwok, _⟩ := fwd_at b hf
  rw [hw] at hw'
  cases hw'
  exact hwok

theorem liveCfg_iff (s : CS) (w : CWl) (hw : s.wl = some w) : liveCfg s = true ↔
    s.ro.hasTraffic = false ∧ (∀ st ∈ s.ro.steps, st.weight = none ∧ st.pause ≠ .long) ∧ 0 < w.replicas ∧
    (planOf s.ro).all (stepReady w.replicas) = true ∧ w.paused = false ∧ w.updateRevision ≠ "" := by
  unfold liveCfg
  rw [hw]
  simp only [Bool.and_eq_true, Bool.not_eq_true', List.all_eq_true, Option.isNone_iff_eq_none, bne_iff_ne, ne_eq,
    decide_eq_true_eq, and_assoc]

theorem liveCfg_congr (s s' : CS) (w w' : CWl) (hw : s.wl = some w) (hw' : s'.wl = some w')
    (h1 : s'.ro.hasTraffic = s.ro.hasTraffic) (h2 : s'.ro.steps = s.ro.steps) (h3 : w'.replicas = w.replicas)
    (h4 : w'.paused = w.paused) (h5 : w'.updateRevision = w.updateRevision) : liveCfg s' = liveCfg s := by
  unfold liveCfg planOf
  rw [hw, hw', h1, h2]
  dsimp only
  rw [h3, h4, h5]

/-- the invariant at a round boundary, in parts -/
structure LiveFacts (s : CS) (w : CWl) : Prop where
  fwd : fwdInv s = true
  gone : s.gone = false
  good : RoGood s.ro
  wl : s.wl = some w
  wok : wlOK w = true
  brok : brOKo s.br = true
  pi : phaseInv s w = true
  cfg : liveCfg s = true
  nt : s.ro.hasTraffic = false
  steps : ∀ st ∈ s.ro.steps, st.weight = none ∧ st.pause ≠ .long
  rpos : 0 < w.replicas
  plan : (planOf s.ro).all (stepReady w.replicas) = true
  unp : w.paused = false
  rev : w.updateRevision ≠ ""
  env : envWl w = w
  tick : tick s = s
  cons : w.generation = w.observedGeneration

theorem live_facts (s : CS) (w : CWl) (h : liveInv s = true) (hw : s.wl = some w) (h1 : cls s ≠ 1) : LiveFacts s w := by
  obtain ⟨hf, hcfg, _, hb⟩ := (liveInv_iff s).1 h
  have hb' : atBoundary s = true := hb.resolve_left h1
  obtain ⟨w', hgone, hg, hw', hwok, _, hbr, hpi⟩ := fwd_at s hf
  rw [hw] at hw'
  cases hw'
  unfold atBoundary at hb'
  rw [hw] at hb'
  simp only [Bool.and_eq_true, beq_iff_eq] at hb'
  obtain ⟨c1, c2, c3, c4, c5, c6⟩ := (liveCfg_iff s w hw).1 hcfg
  exact ⟨hf, hgone, hg, hw, hwok, hbr, hpi, hcfg, c1, c2, c3, c4, c5, c6, hb'.1, hb'.2, envWl_fixed_observed w hb'.1⟩

theorem Inv.facts {s : CS} {w : CWl} {k : Nat} (I : Inv s w k) (h1 : k ≠ 1) : LiveFacts s w :=
  live_facts s w I.live I.wl (by rw [cls_of_spec s w k I.wl I.spec]; exact h1)

theorem LiveFacts.brOK {s : CS} {w : CWl} {b : CBr} (F : LiveFacts s w) (hb : s.br = some b) : brOK b = true := by
  have := F.brok
  rw [hb] at this
  exact this

/-- what the classes that wait in `StepUpgrade` start from: the facts of the round boundary, the BatchRelease well-formed and with
    the policy `createBatchRelease` writes -/
theorem Inv.upgrading {s : CS} {w : CWl} {k : Nat} {sub : Sub} {b : CBr} (I : Inv s w k) (hup : Upgrading s sub b)
    (hk : k ≠ 1 ∧ k < 20 ∧ 0 < clsRank k) : LiveFacts s w ∧ b.policy = "" ∧ brOK b = true :=
  ⟨I.facts hk.1, I.policy hup.br hk.2.1 hk.2.2, (I.facts hk.1).brOK hup.br⟩

theorem LiveFacts.roll {s : CS} {w : CWl} {sub : Sub} (F : LiveFacts s w) (h : Rolling s sub) :
    SubGood s.ro sub w.updateRevision ∧ linkOKo s.ro sub s.br = true ∧ withinCur s.ro sub w = true := by
  obtain ⟨x, hx, r⟩ := (phaseInv_rolling_iff s w h.ph h.re).1 F.pi
  cases h.sub.symm.trans hx
  exact r

theorem LiveFacts.step_exists {s : CS} {w : CWl} {sub : Sub} (F : LiveFacts s w) (hsg : SubGood s.ro sub w.updateRevision) :
    ∃ step, s.ro.steps[(sub.curIdx - 1).toNat]? = some step ∧ step.weight = none := by
  have hlo := hsg.lo
  have hhi := hsg.hi
  have hlt : (sub.curIdx - 1).toNat < s.ro.steps.length := by omega
  exact ⟨s.ro.steps[(sub.curIdx - 1).toNat], List.getElem?_eq_getElem hlt, (F.steps _ (List.getElem_mem hlt)).1⟩

theorem LiveFacts.consistent {s : CS} {w : CWl} (F : LiveFacts s w) : (roWl w).consistent = true :=
  decide_eq_true F.cons

theorem stepRo_mid (s : CS) (w : CWl) (r : StepResult) (hgone : s.gone = false) (hw : s.wl = some w)
    (hrec : reconcile (roWorld s) = .val r) (hwl : r.w.wl = (roWorld s).wl) (hbr : r.w.br = (roWorld s).br)
    (hnet : r.w.net = s.net) (hmem : r.w.mem = s.mem) (hg : r.roGone = false) : stepRo s = some (mid s r.w.ro w s.br) := by
  rw [stepRo_status s r hgone hrec hwl hbr hnet hmem hg, mid_of s w _ hw]

theorem round_of (s a b : CS) (hf : fwdInv s = true) (h1 : stepRo s = some a) (h2 : stepBr a = some b) :
    round s = some (roundTail b) ∧ fwdInv b = true := by
  obtain ⟨a0, g1, ha⟩ := stepRo_fwd s hf
  cases g1.symm.trans h1
  obtain ⟨b0, g2, hb⟩ := stepBr_fwd a ha
  cases g2.symm.trans h2
  exact ⟨round_eq s a b h1 h2, hb⟩

/-- what the two reconciles of a round must leave alone -/
structure Kept (s : CS) (w : CWl) (ro : Rollout) (w' : CWl) : Prop where
  steps : ro.steps = s.ro.steps
  tr : ro.hasTraffic = s.ro.hasTraffic
  R : w'.replicas = w.replicas
  pa : w'.paused = w.paused
  rev : w'.updateRevision = w.updateRevision

/-- the round from its two reconciles: it ends at a round boundary, in a state of the forward invariant and of the
    configuration -/
theorem round_mid {s : CS} {w w1 w2 : CWl} {ro1 : Rollout} {br1 br2 : Option CBr} (hf : fwdInv s = true)
    (hcfg : liveCfg s = true) (hw : s.wl = some w) (hro : stepRo s = some (mid s ro1 w1 br1))
    (hbr : stepBr (mid s ro1 w1 br1) = some (mid s ro1 w2 br2)) (K : Kept s w ro1 w2) :
    round s = some (mid (tick s) (tailRo ro1) (envWl w2) br2) ∧
    (cls (mid (tick s) (tailRo ro1) (envWl w2) br2) ≠ 0 → liveInv (mid (tick s) (tailRo ro1) (envWl w2) br2) = true) := by
  obtain ⟨hround, hfb⟩ := round_of s _ _ hf hro hbr
  rw [tail_mid] at hround
  refine ⟨hround, fun h => (liveInv_iff _).2 ⟨?_, ?_, h, Or.inr ?_⟩⟩
  · rw [← tail_mid]
    exact tick_fwd _ (approve_fwd _ (env_fwd _ hfb))
  · rw [liveCfg_congr s _ w (envWl w2) hw rfl K.tr K.steps ((envWl_kept w2).replicas.trans K.R) ((envWl_kept w2).paused.trans K.pa)
      ((envWl_kept w2).updateRevision.trans K.rev)]
    exact hcfg
  · show (envWl (envWl w2) == envWl w2 && tick (mid (tick s) (tailRo ro1) (envWl w2) br2) == mid (tick s) (tailRo ro1) (envWl w2) br2) = true
    rw [envWl_idem w2 (fwd_wlOK _ w2 hfb rfl), ← tail_mid,
      show tick (roundTail (mid s ro1 w2 br2)) = roundTail (mid s ro1 w2 br2) from tick_idem _]
    simp

/-- **one fair round, all classes**: from a state of class `k` whose Rollout reconcile leaves `(ro1, w1, br1)` and whose
    BatchRelease reconcile then leaves `(w2, br2)`, the round ends in `mid s (tailRo ro1) (envWl w2) br2`; if that state is in a
    class `k'` further along the path, the three invariants hold again and the measure has decreased (`lands`).  What a class
    supplies is the two reconciles, as equations, and the class of the result (`w3`: the workload once the CloneSet controller
    has caught up; `cur'` in `hlt`: the step the rollout is on afterwards). -/
theorem round_lands {s : CS} {w w1 w2 w3 : CWl} {ro1 : Rollout} {br1 br2 : Option CBr} {k : Nat} (k' : Nat) (I : Inv s w k)
    (F : LiveFacts s w) (hro : stepRo s = some (mid s ro1 w1 br1)) (hbr : stepBr (mid s ro1 w1 br1) = some (mid s ro1 w2 br2))
    (K : Kept s w ro1 w2) (he : envWl w2 = w3) (hs' : ClsSpec (mid s (tailRo ro1) w3 br2) w3 k') (hk' : k' ≠ 0)
    (hlt : ∀ cur', (∀ x, ro1.sub = some x → cur' = x.curIdx) →
      clsMu s.ro.steps.length cur' k' < clsMu s.ro.steps.length (curOf s) k)
    (hpol : k' < 20 → ∀ b, br2 = some b → b.policy = "")
    (hdone : 26 ≤ k' → Released w2 ∧ (30 ≤ k' → ro1.succeeded = some true)) : LandsIn s k' := by
  subst he
  obtain ⟨hround, hlive⟩ := round_mid F.fwd F.cfg F.wl hro hbr K
  rw [F.tick] at hround hlive
  have E := envWl_kept w2
  have hcur : ∀ x, ro1.sub = some x → curOf (mid s (tailRo ro1) (envWl w2) br2) = x.curIdx := fun x hx => by
    unfold curOf mid tailRo
    dsimp only
    rw [hx]
    rfl
  exact lands I hround rfl hs' hk' hlive K.steps (hlt _ hcur) hpol
    (fun h => ⟨⟨E.partition.trans (hdone h).1.part, E.paused.trans (hdone h).1.unp, E.owner.trans (hdone h).1.own⟩, (hdone h).2⟩)

/-- `round_lands` for a round that stays on the step of `sub` (classes 5 – 17): the measure falls with the rank of the class, and
    nothing is asked of the clean-up -/
theorem round_lands_step {s : CS} {w w1 w2 w3 : CWl} {ro1 : Rollout} {br1 br2 : Option CBr} {k : Nat} {sub : Sub} (k' : Nat)
    (I : Inv s w k) (F : LiveFacts s w) (hro : stepRo s = some (mid s ro1 w1 br1))
    (hbr : stepBr (mid s ro1 w1 br1) = some (mid s ro1 w2 br2)) (K : Kept s w ro1 w2) (he : envWl w2 = w3)
    (hs' : ClsSpec (mid s (tailRo ro1) w3 br2) w3 k') (hsub : s.ro.sub = some sub)
    (hcur : ∃ x, ro1.sub = some x ∧ x.curIdx = sub.curIdx)
    (hk : (5 ≤ k' ∧ k' < 20) ∧ (5 ≤ k ∧ k < 20) ∧ clsRank k' < clsRank k)
    (hpol : ∀ b, br2 = some b → b.policy = "") : LandsIn s k' := by
  obtain ⟨x, hx, e⟩ := hcur
  exact round_lands k' I F hro hbr K he hs' (by omega)
    (fun _ h => by rw [h x hx, e, curOf_eq hsub]; exact clsMu_lt_step hk.1 hk.2.1 hk.2.2) (fun _ => hpol)
    (fun h => absurd h (by omega))

/-- `round_lands` for a round of the clean-up (classes 20 –): the measure is the rank of the class, the policy is free -/
theorem round_lands_fin {s : CS} {w w1 w2 w3 : CWl} {ro1 : Rollout} {br1 br2 : Option CBr} {k : Nat} (k' : Nat)
    (I : Inv s w k) (F : LiveFacts s w) (hro : stepRo s = some (mid s ro1 w1 br1))
    (hbr : stepBr (mid s ro1 w1 br1) = some (mid s ro1 w2 br2)) (K : Kept s w ro1 w2) (he : envWl w2 = w3)
    (hs' : ClsSpec (mid s (tailRo ro1) w3 br2) w3 k') (hk : 20 ≤ k' ∧ 20 ≤ k ∧ clsRank k' < clsRank k)
    (hdone : 26 ≤ k' → Released w2 ∧ (30 ≤ k' → ro1.succeeded = some true)) : LandsIn s k' :=
  round_lands k' I F hro hbr K he hs' (by omega) (fun _ _ => clsMu_lt_fin hk.1 hk.2.1 hk.2.2) (fun h => absurd h (by omega)) hdone

/-- the clean-up goes on after the last three labels of the round -/
theorem Finalising.tail {s : CS} {ro' : Rollout} {w' : CWl} {br : Option CBr} {sub' : Sub} (hph : ro'.phase = .progressing)
    (hre : ro'.reason = .finalising) (hsub : ro'.sub = some sub') : Finalising (mid s (tailRo ro') w' br) (tailSub sub') :=
  ⟨hph, hre, by show ro'.sub.map tailSub = _; rw [hsub]; rfl⟩

end RV.Lemmas.ClosedLoop
