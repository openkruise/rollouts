import RV.Oracle.TrafficX
/-!
The API value of a call (`Api.read_cases`, `Api.spend_cases`; what every call owes about a read fault: `ReadLaw`), provider writes
(`NamedWrites`), the provider laws (`LawfulProvider`) and the combinators that preserve them: `idle`, `onFst`, `onSnd`,
`seq (onFst P) (onSnd Q)` (two members of a `CompositeController` over disjoint objects: `pairP_lawful`), `seq P idle` (the last
member of the loop; through `PRes.Agrees`: equal up to the flag of a failed call), and the two equations that put a
`composite` of three into that form (`onSnd_seq`, `onSnd_idle`).
-/
namespace RV.TrafficX
open RV.Traffic RV.Oracle.TrafficX

variable {S G G₁ G₂ : Type}

theorem Api.read_of_not_armed {a : Api} (h : a.armed = false) : a.read = (false, a) := by
  obtain ⟨w, r⟩ := a
  cases r with
  | none => rfl
  | some k => cases k with
    | zero => rfl
    | succ k => simp [Api.armed] at h

@[simp] theorem Api.read_ok : Api.ok.read = (false, Api.ok) := rfl
@[simp] theorem Api.spend_ok : Api.ok.spend = some Api.ok := rfl
@[simp] theorem Api.armed_ok : Api.ok.armed = false := rfl

theorem Api.spend_armed {a a1 : Api} (h : a.spend = some a1) : a1.armed = a.armed := by
  obtain ⟨w, r⟩ := a
  cases w with
  | none => simp [Api.spend] at h; subst h; rfl
  | some k => cases k with
    | zero => simp [Api.spend] at h
    | succ k => simp [Api.spend] at h; subst h; rfl

theorem Api.read_cases (a : Api) :
    (a.read.1 = true ∧ a.armed = true ∧ a.read.2.armed = false) ∨
    (a.read.1 = false ∧ a.read.2.armed = a.armed) := by
  obtain ⟨w, r⟩ := a
  cases r with
  | none => right; exact ⟨rfl, rfl⟩
  | some k => cases k with
    | zero => right; exact ⟨rfl, rfl⟩
    | succ k => cases k with
      | zero => left; exact ⟨rfl, rfl, rfl⟩
      | succ k => right; exact ⟨rfl, rfl⟩

theorem Api.read_w (a : Api) : a.read.2.w = a.w := by
  obtain ⟨w, r⟩ := a
  cases r with
  | none => rfl
  | some k => cases k with
    | zero => rfl
    | succ k => cases k <;> rfl

theorem Api.read_fail {a : Api} (h : a.read.1 = true) : a.read.2.armed = false := by
  rcases Api.read_cases a with ⟨_, _, h'⟩ | ⟨h', _⟩
  · exact h'
  · rw [h] at h'; cases h'

theorem Api.read_pass {a : Api} (h : a.read.1 = false) : a.read.2.armed = a.armed := by
  rcases Api.read_cases a with ⟨h', _⟩ | ⟨_, h'⟩
  · rw [h] at h'; cases h'
  · exact h'

theorem Api.read_snd_not_armed {a : Api} (h : a.armed = false) : a.read.2 = a := by
  rw [Api.read_of_not_armed h]

theorem Api.read_armed_mono (a : Api) : a.read.2.armed = true → a.armed = true := by
  rcases Api.read_cases a with ⟨_, h, h'⟩ | ⟨_, h⟩
  · intro x; rw [h'] at x; cases x
  · intro x; rw [← h]; exact x

theorem Api.spend_cases (a : Api) :
    (a.spend = none ∧ RV.Custom.spend a.w = none) ∨
    ∃ a1, a.spend = some a1 ∧ RV.Custom.spend a.w = some a1.w ∧ a1.r = a.r := by
  obtain ⟨w, r⟩ := a
  rcases w with _ | _ | k
  · exact .inr ⟨_, rfl, rfl, rfl⟩
  · exact .inl ⟨rfl, rfl⟩
  · exact .inr ⟨_, rfl, rfl, rfl⟩

theorem armed_of_r {a b : Api} (h : b.r = a.r) : b.armed = a.armed := by
  unfold Api.armed; rw [h]

theorem readFailed_iff {a b : Api} : readFailed a b = true ↔ a.armed = true ∧ b.armed = false := by
  simp [readFailed]

theorem readFailed_self (a : Api) : readFailed a a = false := by
  unfold readFailed; cases a.armed <;> rfl

/-- what every call owes about the read fault, `a` being the API value before it, `b` the one after it and `err`
    its error: a `Get` that failed is reported, and a spent fault stays spent -/
def ReadLaw (a b : Api) (err : Bool) : Prop :=
  (readFailed a b = true → err = true) ∧ (b.armed = true → a.armed = true)

theorem readFailed_of_armed_eq {a b : Api} (h : b.armed = a.armed) : readFailed a b = false := by
  unfold readFailed
  rw [h]
  cases a.armed <;> rfl

theorem ReadLaw.of_armed_eq {a b : Api} (h : b.armed = a.armed) (err : Bool) : ReadLaw a b err :=
  ⟨fun hf => (by rw [readFailed_of_armed_eq h] at hf; cases hf), fun hb => h ▸ hb⟩

theorem ReadLaw.not_failed {a b : Api} (h : ReadLaw a b false) : readFailed a b = false :=
  Bool.eq_false_iff.mpr fun hf => Bool.false_ne_true (h.1 hf)

theorem ReadLaw.of_spent {a b : Api} (h : b.armed = false) : ReadLaw a b true :=
  ⟨fun _ => rfl, fun hb => by rw [h] at hb; cases hb⟩

theorem ReadLaw.trans {a b c : Api} {e₁ e₂ : Bool} (h₁ : ReadLaw a b e₁) (h₂ : ReadLaw b c e₂) :
    ReadLaw a c (e₁ || e₂) := by
  refine ⟨fun h => ?_, fun h => h₁.2 (h₂.2 h)⟩
  obtain ⟨ha, hc⟩ := readFailed_iff.mp h
  cases e₁
  · -- the fault was still armed after the first call, so it is the second that spent it
    cases hb : b.armed
    · cases h₁.1 (readFailed_iff.mpr ⟨ha, hb⟩)
    · exact h₂.1 (readFailed_iff.mpr ⟨hb, hc⟩)
  · rfl

theorem readFailed_congr {a a' : Api} (h : a'.armed = a.armed) (b : Api) : readFailed a' b = readFailed a b := by
  unfold readFailed; rw [h]

theorem readFailed_two_reads (a : Api) (h1 : a.read.1 = false) (h2 : a.read.2.read.1 = false) :
    readFailed a a.read.2.read.2 = false :=
  readFailed_of_armed_eq ((Api.read_pass h2).trans (Api.read_pass h1))

/-- every write of a provider call is a provider write (not one of the Manager's Service writes) -/
def NamedWrites (ws : List String) : Prop := ∀ w, w ∈ ws → isProviderWrite w = true

theorem NamedWrites.nil : NamedWrites [] := fun _ h => by cases h
theorem NamedWrites.cons {w : String} {ws : List String} (hw : isProviderWrite w = true) (h : NamedWrites ws) :
    NamedWrites (w :: ws) := by
  intro x hx
  rcases List.mem_cons.mp hx with e | e
  · rw [e]; exact hw
  · exact h x e
theorem NamedWrites.append {a b : List String} (ha : NamedWrites a) (hb : NamedWrites b) : NamedWrites (a ++ b) := by
  intro w hw
  rcases List.mem_append.mp hw with h | h
  · exact ha w h
  · exact hb w h
theorem NamedWrites.providerTouched_false {ws : List String} (h : providerTouched ws = false) (hn : NamedWrites ws) :
    ws = [] := by
  cases ws with
  | nil => rfl
  | cons w r =>
    have := hn w (by simp)
    simp [providerTouched, this] at h

/-- the result of a call that found nothing to do -/
def PRes.noop (g : G) (flag : Bool) (a : Api) : PRes G := ⟨g, flag, false, a, [], false⟩

/-- **the provider laws**: what the Manager theorems need of a network provider.
    `Inv` is an invariant of the provider's objects (it may mention the user's original objects),
    `spec g s` says that the objects carry the step `s`, `clean g` that nothing of a rollout is left,
    `μ` is a variant that bounds the number of `EnsureRoutes` rounds. -/
structure LawfulProvider (P : Provider S G) (Inv : G → Prop) (spec : G → S → Prop) (clean : G → Prop)
    (μ : G → S → Nat) (bound : Nat) : Prop where
  /-- safety, whatever the health of the API server -/
  inv_ensure : ∀ a g s, Inv g → Inv (P.ensure a g s).g
  inv_finalise : ∀ a g, Inv g → Inv (P.finalise a g).g
  /-- *verified-means-spec* -/
  verified_spec : ∀ a g s, Inv g → (P.ensure a g s).panic = false → (P.ensure a g s).err = false →
    (P.ensure a g s).flag = true → spec (P.ensure a g s).g s
  /-- *idempotent*: after a verified `EnsureRoutes` the same call changes nothing, writes nothing and verifies -/
  verified_stable : ∀ a g s, Inv g → (P.ensure a g s).panic = false → (P.ensure a g s).err = false →
    (P.ensure a g s).flag = true → ∀ a', a'.armed = false →
      P.ensure a' (P.ensure a g s).g s = PRes.noop (P.ensure a g s).g true a'
  /-- *finalise-restores*: a `Finalise` that returns no error leaves the objects clean … -/
  finalise_clean : ∀ a g, Inv g → (P.finalise a g).panic = false → (P.finalise a g).err = false →
    clean (P.finalise a g).g
  /-- … and a further `Finalise` has nothing to do -/
  finalise_stable : ∀ a g, Inv g → (P.finalise a g).panic = false → (P.finalise a g).err = false →
    ∀ a', a'.armed = false → P.finalise a' (P.finalise a g).g = PRes.noop (P.finalise a g).g false a'
  /-- on a healthy API server `Finalise` neither fails nor panics -/
  finalise_healthy : ∀ g, Inv g → (P.finalise Api.ok g).err = false ∧ (P.finalise Api.ok g).panic = false
  /-- a round of `EnsureRoutes` on a healthy API server that neither fails nor verifies makes progress
      (and a round that verifies does not undo any) -/
  ensure_progress : ∀ g s, Inv g → (P.ensure Api.ok g s).panic = false → (P.ensure Api.ok g s).err = false →
    ((P.ensure Api.ok g s).flag = false → μ (P.ensure Api.ok g s).g s < μ g s) ∧
    μ (P.ensure Api.ok g s).g s ≤ μ g s
  μ_le : ∀ g s, μ g s ≤ bound
  /-- a healthy API server stays healthy -/
  healthy_ensure : ∀ g s, (P.ensure Api.ok g s).a = Api.ok
  healthy_finalise : ∀ g, (P.finalise Api.ok g).a = Api.ok
  /-- provider writes are not Service writes -/
  writes_ensure : ∀ a g s, NamedWrites (P.ensure a g s).writes
  writes_finalise : ∀ a g, NamedWrites (P.finalise a g).writes
  /-- a read that failed (not NotFound) is reported as an error; a spent read fault stays spent -/
  read_fault_ensure : ∀ a g s, (P.ensure a g s).panic = false →
    (readFailed a (P.ensure a g s).a = true → (P.ensure a g s).err = true) ∧
    ((P.ensure a g s).a.armed = true → a.armed = true)
  read_fault_finalise : ∀ a g, (P.finalise a g).panic = false →
    (readFailed a (P.finalise a g).a = true → (P.finalise a g).err = true) ∧
    ((P.finalise a g).a.armed = true → a.armed = true)

theorem LawfulProvider.mono {P : Provider S G} {Inv : G → Prop} {spec spec' : G → S → Prop} {clean clean' : G → Prop}
    {μ : G → S → Nat} {bound bound' : Nat}
    (h : LawfulProvider P Inv spec clean μ bound)
    (hs : ∀ g s, Inv g → spec g s → spec' g s) (hc : ∀ g, Inv g → clean g → clean' g) (hb : bound ≤ bound') :
    LawfulProvider P Inv spec' clean' μ bound' :=
  { h with
    verified_spec := fun a g s hi hp he hf => hs _ _ (h.inv_ensure a g s hi) (h.verified_spec a g s hi hp he hf)
    finalise_clean := fun a g hi hp he => hc _ (h.inv_finalise a g hi) (h.finalise_clean a g hi hp he)
    μ_le := fun g s => Nat.le_trans (h.μ_le g s) hb }

theorem idle_lawful : LawfulProvider (idle : Provider S G) (fun _ => True) (fun _ _ => True) (fun _ => True)
    (fun _ _ => 0) 0 where
  inv_ensure := fun _ _ _ _ => trivial
  inv_finalise := fun _ _ _ => trivial
  verified_spec := fun _ _ _ _ _ _ _ => trivial
  verified_stable := fun _ _ _ _ _ _ _ _ _ => rfl
  finalise_clean := fun _ _ _ _ _ => trivial
  finalise_stable := fun _ _ _ _ _ _ _ => rfl
  finalise_healthy := fun _ _ => ⟨rfl, rfl⟩
  ensure_progress := fun _ _ _ _ _ => ⟨fun h => by simp [idle] at h, Nat.le_refl _⟩
  μ_le := fun _ _ => Nat.le_refl _
  healthy_ensure := fun _ _ => rfl
  healthy_finalise := fun _ => rfl
  writes_ensure := fun _ _ _ => NamedWrites.nil
  writes_finalise := fun _ _ => NamedWrites.nil
  read_fault_ensure := fun a _ _ _ => ⟨fun h => by simp [idle, readFailed_self] at h, fun h => h⟩
  read_fault_finalise := fun a _ _ => ⟨fun h => by simp [idle, readFailed_self] at h, fun h => h⟩

theorem onFst_lawful {P : Provider S G₁} {Inv : G₁ → Prop} {spec : G₁ → S → Prop} {clean : G₁ → Prop}
    {μ : G₁ → S → Nat} {bound : Nat} (h : LawfulProvider P Inv spec clean μ bound) :
    LawfulProvider (onFst P : Provider S (G₁ × G₂)) (fun g => Inv g.1) (fun g s => spec g.1 s) (fun g => clean g.1)
      (fun g s => μ g.1 s) bound where
  inv_ensure := fun a g s hi => h.inv_ensure a g.1 s hi
  inv_finalise := fun a g hi => h.inv_finalise a g.1 hi
  verified_spec := fun a g s hi hp he hf => h.verified_spec a g.1 s hi hp he hf
  verified_stable := fun a g s hi hp he hf a' ha' => by
    have := h.verified_stable a g.1 s hi hp he hf a' ha'
    simp only [onFst, PRes.noop] at this ⊢
    rw [this]
  finalise_clean := fun a g hi hp he => h.finalise_clean a g.1 hi hp he
  finalise_stable := fun a g hi hp he a' ha' => by
    have := h.finalise_stable a g.1 hi hp he a' ha'
    simp only [onFst, PRes.noop] at this ⊢
    rw [this]
  finalise_healthy := fun g hi => h.finalise_healthy g.1 hi
  ensure_progress := fun g s hi hp he => h.ensure_progress g.1 s hi hp he
  μ_le := fun g s => h.μ_le g.1 s
  healthy_ensure := fun g s => h.healthy_ensure g.1 s
  healthy_finalise := fun g => h.healthy_finalise g.1
  writes_ensure := fun a g s => h.writes_ensure a g.1 s
  writes_finalise := fun a g => h.writes_finalise a g.1
  read_fault_ensure := fun a g s hp => h.read_fault_ensure a g.1 s hp
  read_fault_finalise := fun a g hp => h.read_fault_finalise a g.1 hp

theorem onSnd_lawful {P : Provider S G₂} {Inv : G₂ → Prop} {spec : G₂ → S → Prop} {clean : G₂ → Prop}
    {μ : G₂ → S → Nat} {bound : Nat} (h : LawfulProvider P Inv spec clean μ bound) :
    LawfulProvider (onSnd P : Provider S (G₁ × G₂)) (fun g => Inv g.2) (fun g s => spec g.2 s) (fun g => clean g.2)
      (fun g s => μ g.2 s) bound where
  inv_ensure := fun a g s hi => h.inv_ensure a g.2 s hi
  inv_finalise := fun a g hi => h.inv_finalise a g.2 hi
  verified_spec := fun a g s hi hp he hf => h.verified_spec a g.2 s hi hp he hf
  verified_stable := fun a g s hi hp he hf a' ha' => by
    have := h.verified_stable a g.2 s hi hp he hf a' ha'
    simp only [onSnd, PRes.noop] at this ⊢
    rw [this]
  finalise_clean := fun a g hi hp he => h.finalise_clean a g.2 hi hp he
  finalise_stable := fun a g hi hp he a' ha' => by
    have := h.finalise_stable a g.2 hi hp he a' ha'
    simp only [onSnd, PRes.noop] at this ⊢
    rw [this]
  finalise_healthy := fun g hi => h.finalise_healthy g.2 hi
  ensure_progress := fun g s hi hp he => h.ensure_progress g.2 s hi hp he
  μ_le := fun g s => h.μ_le g.2 s
  healthy_ensure := fun g s => h.healthy_ensure g.2 s
  healthy_finalise := fun g => h.healthy_finalise g.2
  writes_ensure := fun a g s => h.writes_ensure a g.2 s
  writes_finalise := fun a g => h.writes_finalise a g.2
  read_fault_ensure := fun a g s hp => h.read_fault_ensure a g.2 s hp
  read_fault_finalise := fun a g hp => h.read_fault_finalise a g.2 hp

theorem seq_ensure_cases (p q : Provider S G) (a : Api) (g : G) (s : S) :
    let r1 := p.ensure a g s
    let r2 := q.ensure r1.a r1.g s
    (r1.panic = true ∧ (seq p q).ensure a g s = r1) ∨
    (r1.panic = false ∧ r1.err = true ∧ (seq p q).ensure a g s = { r1 with flag := false }) ∨
    (r1.panic = false ∧ r1.err = false ∧
      (seq p q).ensure a g s =
        ⟨r2.g, if r2.panic then r2.flag else !r2.err && (r1.flag && r2.flag), r2.err, r2.a, r1.writes ++ r2.writes,
          r2.panic⟩) := by
  simp only [seq]
  generalize p.ensure a g s = r1
  cases hp : r1.panic
  · cases he : r1.err
    · right; right
      refine ⟨rfl, rfl, ?_⟩
      generalize q.ensure r1.a r1.g s = r2
      obtain ⟨g2, f2, e2, a2, w2, p2⟩ := r2
      cases p2 <;> cases e2 <;> rfl
    · exact .inr (.inl ⟨rfl, rfl, rfl⟩)
  · exact .inl ⟨rfl, rfl⟩

theorem seq_ensure_ok {p q : Provider S G} {a : Api} {g : G} {s : S}
    (hp : ((seq p q).ensure a g s).panic = false) (he : ((seq p q).ensure a g s).err = false) :
    let r1 := p.ensure a g s
    let r2 := q.ensure r1.a r1.g s
    r1.panic = false ∧ r1.err = false ∧ r2.panic = false ∧ r2.err = false ∧
    (seq p q).ensure a g s = ⟨r2.g, r1.flag && r2.flag, false, r2.a, r1.writes ++ r2.writes, false⟩ := by
  rcases seq_ensure_cases p q a g s with ⟨p1, h⟩ | ⟨_, e1, h⟩ | ⟨p1, e1, h⟩
  · rw [h, p1] at hp; cases hp
  · rw [h] at he; rw [show (p.ensure a g s).err = false from he] at e1; cases e1
  · rw [h] at hp he ⊢
    simp only at hp he
    simp only [hp, he, p1, e1, Bool.false_eq_true, if_false, Bool.not_false, Bool.true_and, true_and]

theorem seq_finalise_cases (p q : Provider S G) (a : Api) (g : G) :
    let r1 := p.finalise a g
    let r2 := q.finalise r1.a r1.g
    (r1.panic = true ∧ (seq p q).finalise a g = r1) ∨
    (r1.panic = false ∧ r2.panic = true ∧ (seq p q).finalise a g = { r2 with writes := r1.writes ++ r2.writes }) ∨
    (r1.panic = false ∧ r2.panic = false ∧
      (seq p q).finalise a g =
        ⟨r2.g, (!r1.err && r1.flag) || r2.flag, r1.err || r2.err, r2.a, r1.writes ++ r2.writes, false⟩) := by
  simp only [seq]
  cases hp : (p.finalise a g).panic
  · cases hp2 : (q.finalise (p.finalise a g).a (p.finalise a g).g).panic
    · exact .inr (.inr ⟨rfl, rfl, by simp only [Bool.false_eq_true, if_false]⟩)
    · exact .inr (.inl ⟨rfl, rfl, by simp only [Bool.false_eq_true, Bool.false_eq_true, if_false, if_true]⟩)
  · exact .inl ⟨rfl, by simp only [if_true]⟩

theorem seq_finalise_ok {p q : Provider S G} {a : Api} {g : G} (hp : ((seq p q).finalise a g).panic = false) :
    let r1 := p.finalise a g
    let r2 := q.finalise r1.a r1.g
    r1.panic = false ∧ r2.panic = false ∧
    (seq p q).finalise a g =
      ⟨r2.g, (!r1.err && r1.flag) || r2.flag, r1.err || r2.err, r2.a, r1.writes ++ r2.writes, false⟩ := by
  rcases seq_finalise_cases p q a g with ⟨p1, h⟩ | ⟨_, p2, h⟩ | ⟨p1, p2, h⟩
  · rw [h, p1] at hp; cases hp
  · rw [h] at hp; rw [show (q.finalise (p.finalise a g).a (p.finalise a g).g).panic = false from hp] at p2; cases p2
  · exact ⟨p1, p2, h⟩

/-- `r'` is `r`, except perhaps for the flag of a call that failed (which no caller looks at) -/
structure PRes.Agrees (r' r : PRes G) : Prop where
  g : r'.g = r.g
  err : r'.err = r.err
  a : r'.a = r.a
  writes : r'.writes = r.writes
  panic : r'.panic = r.panic
  flag : r.err = false → r'.flag = r.flag

theorem PRes.Agrees.eq {r' r : PRes G} (h : r'.Agrees r) (he : r'.err = false) : r' = r := by
  obtain ⟨h1, h2, h3, h4, h5, h6⟩ := h
  obtain ⟨g', f', e', a', w', p'⟩ := r'
  obtain ⟨g, f, e, a, w, p⟩ := r
  simp only at h1 h2 h3 h4 h5 h6 he
  subst h1 h2 h3 h4 h5
  rw [h6 he]

theorem LawfulProvider.of_agrees {P P' : Provider S G} {Inv : G → Prop} {spec : G → S → Prop} {clean : G → Prop}
    {μ : G → S → Nat} {bound : Nat} (h : LawfulProvider P Inv spec clean μ bound)
    (he : ∀ a g s, (P'.ensure a g s).Agrees (P.ensure a g s))
    (hf : ∀ a g, (P'.finalise a g).Agrees (P.finalise a g)) :
    LawfulProvider P' Inv spec clean μ bound where
  inv_ensure a g s hi := (he a g s).g ▸ h.inv_ensure a g s hi
  inv_finalise a g hi := (hf a g).g ▸ h.inv_finalise a g hi
  verified_spec a g s hi hp hne hfl := by
    have e := (he a g s).eq hne
    rw [e] at hp hne hfl ⊢
    exact h.verified_spec a g s hi hp hne hfl
  verified_stable a g s hi hp hne hfl a' ha' := by
    have e := (he a g s).eq hne
    rw [e] at hp hne hfl ⊢
    have hs := h.verified_stable a g s hi hp hne hfl a' ha'
    rw [← hs]
    exact (he a' _ s).eq ((he a' _ s).err.trans (by rw [hs]; rfl))
  finalise_clean a g hi hp hne := by
    have e := (hf a g).eq hne
    rw [e] at hp hne ⊢
    exact h.finalise_clean a g hi hp hne
  finalise_stable a g hi hp hne a' ha' := by
    have e := (hf a g).eq hne
    rw [e] at hp hne ⊢
    have hs := h.finalise_stable a g hi hp hne a' ha'
    rw [← hs]
    exact (hf a' _).eq ((hf a' _).err.trans (by rw [hs]; rfl))
  finalise_healthy g hi := by
    rw [(hf Api.ok g).err, (hf Api.ok g).panic]
    exact h.finalise_healthy g hi
  ensure_progress g s hi hp hne := by
    have e := (he Api.ok g s).eq hne
    rw [e] at hp hne ⊢
    exact h.ensure_progress g s hi hp hne
  μ_le := h.μ_le
  healthy_ensure g s := (he Api.ok g s).a.trans (h.healthy_ensure g s)
  healthy_finalise g := (hf Api.ok g).a.trans (h.healthy_finalise g)
  writes_ensure a g s := (he a g s).writes ▸ h.writes_ensure a g s
  writes_finalise a g := (hf a g).writes ▸ h.writes_finalise a g
  read_fault_ensure a g s hp := by
    rw [(he a g s).panic] at hp
    rw [(he a g s).err, (he a g s).a]
    exact h.read_fault_ensure a g s hp
  read_fault_finalise a g hp := by
    rw [(hf a g).panic] at hp
    rw [(hf a g).err, (hf a g).a]
    exact h.read_fault_finalise a g hp

theorem seq_idle_lawful {P : Provider S G} {Inv : G → Prop} {spec : G → S → Prop} {clean : G → Prop}
    {μ : G → S → Nat} {bound : Nat} (h : LawfulProvider P Inv spec clean μ bound) :
    LawfulProvider (seq P idle) Inv spec clean μ bound := by
  refine h.of_agrees (fun a g s => ?_) (fun a g => ?_)
  · rcases seq_ensure_cases P idle a g s with ⟨_, e⟩ | ⟨_, e1, e⟩ | ⟨p1, e1, e⟩ <;> rw [e]
    · exact ⟨rfl, rfl, rfl, rfl, rfl, fun _ => rfl⟩
    · exact ⟨rfl, rfl, rfl, rfl, rfl, fun h => by rw [e1] at h; cases h⟩
    · exact ⟨rfl, e1.symm, rfl, List.append_nil _, p1.symm, fun _ => by simp [idle]⟩
  · rcases seq_finalise_cases P idle a g with ⟨_, e⟩ | ⟨_, p2, _⟩ | ⟨p1, _, e⟩
    · rw [e]; exact ⟨rfl, rfl, rfl, rfl, rfl, fun _ => rfl⟩
    · cases p2
    · rw [e]
      exact ⟨rfl, Bool.or_false _, rfl, List.append_nil _, p1.symm, fun h => by simp [idle, h]⟩

/-- two members of a `CompositeController` that manage disjoint objects -/
abbrev pairP (P : Provider S G₁) (Q : Provider S G₂) : Provider S (G₁ × G₂) := seq (onFst P) (onSnd Q)

theorem pairP_lawful {P : Provider S G₁} {Q : Provider S G₂}
    {I₁ : G₁ → Prop} {sp₁ : G₁ → S → Prop} {cl₁ : G₁ → Prop} {μ₁ : G₁ → S → Nat} {b₁ : Nat}
    {I₂ : G₂ → Prop} {sp₂ : G₂ → S → Prop} {cl₂ : G₂ → Prop} {μ₂ : G₂ → S → Nat} {b₂ : Nat}
    (hP : LawfulProvider P I₁ sp₁ cl₁ μ₁ b₁) (hQ : LawfulProvider Q I₂ sp₂ cl₂ μ₂ b₂) :
    LawfulProvider (pairP P Q) (fun g => I₁ g.1 ∧ I₂ g.2) (fun g s => sp₁ g.1 s ∧ sp₂ g.2 s)
      (fun g => cl₁ g.1 ∧ cl₂ g.2) (fun g s => μ₁ g.1 s + μ₂ g.2 s) (b₁ + b₂) where
  inv_ensure := by
    intro a g s ⟨h1, h2⟩
    have i1 := hP.inv_ensure a g.1 s h1
    have i2 := hQ.inv_ensure (P.ensure a g.1 s).a g.2 s h2
    rcases seq_ensure_cases (onFst P) (onSnd Q) a g s with ⟨_, e⟩ | ⟨_, _, e⟩ | ⟨_, _, e⟩ <;> rw [e]
    · exact ⟨i1, h2⟩
    · exact ⟨i1, h2⟩
    · exact ⟨i1, i2⟩
  inv_finalise := by
    intro a g ⟨h1, h2⟩
    have i1 := hP.inv_finalise a g.1 h1
    have i2 := hQ.inv_finalise (P.finalise a g.1).a g.2 h2
    rcases seq_finalise_cases (onFst P) (onSnd Q) a g with ⟨_, e⟩ | ⟨_, _, e⟩ | ⟨_, _, e⟩ <;> rw [e]
    · exact ⟨i1, h2⟩
    · exact ⟨i1, i2⟩
    · exact ⟨i1, i2⟩
  verified_spec := by
    intro a g s ⟨h1, h2⟩ hp he hf
    obtain ⟨p1, e1, p2, e2, e⟩ := seq_ensure_ok hp he
    rw [e] at hf ⊢
    simp only [Bool.and_eq_true] at hf
    exact ⟨hP.verified_spec a g.1 s h1 p1 e1 hf.1, hQ.verified_spec _ g.2 s h2 p2 e2 hf.2⟩
  verified_stable := by
    intro a g s ⟨h1, h2⟩ hp he hf a' ha'
    obtain ⟨p1, e1, p2, e2, e⟩ := seq_ensure_ok hp he
    rw [e] at hf ⊢
    simp only [Bool.and_eq_true] at hf
    have s1 := hP.verified_stable a g.1 s h1 p1 e1 hf.1 a' ha'
    have s2 := hQ.verified_stable (P.ensure a g.1 s).a g.2 s h2 p2 e2 hf.2 a' ha'
    simp only [seq, onFst, onSnd, s1, s2, PRes.noop, Bool.false_eq_true, if_false, Bool.and_self, List.append_nil]
  finalise_clean := by
    intro a g ⟨h1, h2⟩ hp he
    obtain ⟨p1, p2, e⟩ := seq_finalise_ok hp
    rw [e] at he ⊢
    simp only [Bool.or_eq_false_iff] at he
    exact ⟨hP.finalise_clean a g.1 h1 p1 he.1, hQ.finalise_clean _ g.2 h2 p2 he.2⟩
  finalise_stable := by
    intro a g ⟨h1, h2⟩ hp he a' ha'
    obtain ⟨p1, p2, e⟩ := seq_finalise_ok hp
    rw [e] at he ⊢
    simp only [Bool.or_eq_false_iff] at he
    have s1 := hP.finalise_stable a g.1 h1 p1 he.1 a' ha'
    have s2 := hQ.finalise_stable (P.finalise a g.1).a g.2 h2 p2 he.2 a' ha'
    simp only [seq, onFst, onSnd, s1, s2, PRes.noop, Bool.false_eq_true, if_false, Bool.not_false, Bool.and_false,
      Bool.or_self, List.append_nil]
  finalise_healthy := by
    intro g ⟨h1, h2⟩
    obtain ⟨e1, p1⟩ := hP.finalise_healthy g.1 h1
    obtain ⟨e2, p2⟩ := hQ.finalise_healthy g.2 h2
    have a1 := hP.healthy_finalise g.1
    simp only [seq, onFst, onSnd, p1, a1, p2, e1, e2, Bool.false_eq_true, if_false, Bool.or_self, and_self]
  ensure_progress := by
    intro g s ⟨h1, h2⟩ hp he
    obtain ⟨p1, e1, p2, e2, e⟩ := seq_ensure_ok hp he
    rw [e]
    have a1 : ((onFst P).ensure Api.ok g s).a = Api.ok := hP.healthy_ensure g.1 s
    rw [a1] at p2 e2 ⊢
    obtain ⟨q1, l1⟩ := hP.ensure_progress g.1 s h1 p1 e1
    obtain ⟨q2, l2⟩ := hQ.ensure_progress g.2 s h2 p2 e2
    refine ⟨fun hf => ?_, Nat.add_le_add l1 l2⟩
    rcases Bool.and_eq_false_iff.mp hf with hf | hf
    · exact Nat.add_lt_add_of_lt_of_le (q1 hf) l2
    · exact Nat.add_lt_add_of_le_of_lt l1 (q2 hf)
  μ_le := fun g s => Nat.add_le_add (hP.μ_le g.1 s) (hQ.μ_le g.2 s)
  healthy_ensure := by
    intro g s
    have a1 : ((onFst P).ensure Api.ok g s).a = Api.ok := hP.healthy_ensure g.1 s
    rcases seq_ensure_cases (onFst P) (onSnd Q) Api.ok g s with ⟨_, e⟩ | ⟨_, _, e⟩ | ⟨_, _, e⟩ <;> rw [e]
    · exact a1
    · exact a1
    · rw [a1]; exact hQ.healthy_ensure g.2 s
  healthy_finalise := by
    intro g
    have a1 : ((onFst P).finalise Api.ok g).a = Api.ok := hP.healthy_finalise g.1
    rcases seq_finalise_cases (onFst P) (onSnd Q) Api.ok g with ⟨_, e⟩ | ⟨_, _, e⟩ | ⟨_, _, e⟩ <;> rw [e]
    · exact a1
    · rw [a1]; exact hQ.healthy_finalise g.2
    · rw [a1]; exact hQ.healthy_finalise g.2
  writes_ensure := by
    intro a g s
    have w1 := hP.writes_ensure a g.1 s
    have w2 := hQ.writes_ensure (P.ensure a g.1 s).a g.2 s
    rcases seq_ensure_cases (onFst P) (onSnd Q) a g s with ⟨_, e⟩ | ⟨_, _, e⟩ | ⟨_, _, e⟩ <;> rw [e]
    · exact w1
    · exact w1
    · exact w1.append w2
  writes_finalise := by
    intro a g
    have w1 := hP.writes_finalise a g.1
    have w2 := hQ.writes_finalise (P.finalise a g.1).a g.2
    rcases seq_finalise_cases (onFst P) (onSnd Q) a g with ⟨_, e⟩ | ⟨_, _, e⟩ | ⟨_, _, e⟩ <;> rw [e]
    · exact w1
    · exact w1.append w2
    · exact w1.append w2
  read_fault_ensure := by
    intro a g s hp
    rcases seq_ensure_cases (onFst P) (onSnd Q) a g s with ⟨p1, e⟩ | ⟨p1, e1, e⟩ | ⟨p1, e1, e⟩ <;> rw [e] at hp ⊢
    · rw [p1] at hp; cases hp
    · exact hP.read_fault_ensure a g.1 s p1
    · have r1 : ReadLaw a _ false := e1 ▸ hP.read_fault_ensure a g.1 s p1
      exact r1.trans (hQ.read_fault_ensure _ g.2 s hp)
  read_fault_finalise := by
    intro a g hp
    obtain ⟨p1, p2, e⟩ := seq_finalise_ok hp
    rw [e]
    exact ReadLaw.trans (hP.read_fault_finalise a g.1 p1) (hQ.read_fault_finalise _ g.2 p2)

theorem Provider.ext' {P Q : Provider S G} (h1 : ∀ g, P.initz g = Q.initz g)
    (h2 : ∀ a g s, P.ensure a g s = Q.ensure a g s) (h3 : ∀ a g, P.finalise a g = Q.finalise a g) : P = Q := by
  cases P; cases Q
  simp only [Provider.mk.injEq]
  exact ⟨funext h1, funext fun a => funext fun g => funext fun s => h2 a g s, funext fun a => funext fun g => h3 a g⟩

theorem onSnd_seq (A B : Provider S G₂) : seq (onSnd A) (onSnd B) = (onSnd (seq A B) : Provider S (G₁ × G₂)) := by
  apply Provider.ext'
  · intro g; rfl
  · intro a g s
    simp only [seq, onSnd]
    by_cases hp : (A.ensure a g.2 s).panic = true
    · simp only [hp, if_true]
    · by_cases he : (A.ensure a g.2 s).err = true
      · simp only [hp, he, Bool.false_eq_true, if_false, if_true]
      · by_cases hp2 : (B.ensure (A.ensure a g.2 s).a (A.ensure a g.2 s).g s).panic = true
        · simp only [hp, he, hp2, Bool.false_eq_true, if_false, if_true]
        · by_cases he2 : (B.ensure (A.ensure a g.2 s).a (A.ensure a g.2 s).g s).err = true <;>
            simp only [hp, he, hp2, he2, Bool.false_eq_true, if_false, if_true]
  · intro a g
    simp only [seq, onSnd]
    by_cases hp : (A.finalise a g.2).panic = true
    · simp only [hp, if_true]
    · by_cases hp2 : (B.finalise (A.finalise a g.2).a (A.finalise a g.2).g).panic = true <;>
        simp only [hp, hp2, Bool.false_eq_true, if_false, if_true]

theorem onSnd_idle : (idle : Provider S (G₁ × G₂)) = onSnd idle := by
  apply Provider.ext' <;> intros <;> rfl

end RV.TrafficX
