/-
  Supersession, label `br`: a BatchRelease reconcile preserves the reset invariant.
-/
import RV.Lemmas.ClosedLoopHolds
import RV.Lemmas.ClosedLoopStepBr
namespace RV.Lemmas.ClosedLoop
open RV.Arith RV.ClosedLoop RV.Oracle.ClosedLoop

theorem resetbr_brHolds_land (b : CBr) (w : CWl) (ew : Executor.Workload) : brHolds b (landW w ew) = brHolds b w := rfl

theorem stepBr_reset (s : CS) (h : resetInv s = true) : ∃ s', stepBr s = some s' ∧ resetInv s' = true := by
  obtain ⟨hro, w, hw, hwok, hmono, hbrok, hph, hr, hsub, hne, hR, hupd, hheld, hholds⟩ := (resetInv_iff s).1 h
  cases hb : s.br with
  | none => exact ⟨s, stepBr_none s hb, h⟩
  | some b =>
    rw [hb] at hbrok hholds
    obtain ⟨o, ew, hrec, hew, _, hstep, hwl', hwok', hbrok'⟩ := stepBr_land s w b hw hb hbrok hwok
    obtain ⟨⟨ew', hew', hpart, _⟩, hholds'⟩ := holds_step b w o hrec hholds hbrok ((wlOK_iff w).1 hwok).1 hR hupd hne
    rw [hew] at hew'; cases hew'
    refine ⟨_, hstep, (resetInv_iff _).2 ⟨hro, landW w ew, hwl', hwok', hmono, hbrok', hph, hr, hsub, hne, hR, hupd, ?_, ?_⟩⟩
    · rw [held_iff] at hheld ⊢
      exact hpart.trans hheld
    · show brHoldsO (o.br.map (stLand b)) (landW w ew) = true
      cases hob : o.br with
      | none => rfl
      | some eb => rw [hob] at hholds'; exact hholds'

theorem stepBr_cursor (s s' : CS) (h : resetCursor s = true) (hs : stepBr s = some s') : resetCursor s' = true := by
  obtain ⟨_, e, _, _, hb⟩ := stepBr_frame hs
  rw [resetCursor_iff] at h ⊢
  rw [e]
  exact fun sub a b c => hb (h sub a b c)

end RV.Lemmas.ClosedLoop
