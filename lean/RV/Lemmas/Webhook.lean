import RV.Lemmas.InsertSort
import RV.Oracle.C08
/-!
Lemmas for C08.  The four handlers differ in a guard on the object and in the patch; what they share is `gated` (release
change, first active Rollout, non-empty strategy).  For a selected, eligible request that gate is `mustHoldRollout`
(`gated_mustHold`), which gives `handle` as one `match` over the kinds (`handle_kinds`): the statement `Props/C08` reads.
A Deployment carrying the in-progress marker goes through `handleDeploymentInProgress_spec`.  Before that: the Go loops
equal their counterparts in `RV.Oracle.C08` (`isEffective_eq`, `fetch_eq`, `getRS_eq`), the stable ReplicaSet by an
invariant of `findLoop`; the oracle's input predicates in the fields they read (`wellFormed_iff`, `depInProgress_iff`).
-/
namespace RV.Webhook
open RV.Arith RV.Oracle.C08

theorem equalIgnoreHash_eq (a b : Tmpl) : equalIgnoreHash a b = (a.body == b.body) := by
  cases a with | mk b1 h1 => cases b with | mk b2 h2 =>
  by_cases h : b1 = b2
  · simp [equalIgnoreHash, h]
  · have hne : ({ body := b1, hash := "" } : Tmpl) ≠ { body := b2, hash := "" } := by
      intro e; injection e with e1 _; exact h e1
    have e1 : (({ body := b1, hash := "" } : Tmpl) == { body := b2, hash := "" }) = false := by
      rw [beq_eq_false_iff_ne]; exact hne
    have e2 : (b1 == b2) = false := by rw [beq_eq_false_iff_ne]; exact h
    simp only [equalIgnoreHash]
    rw [e1, e2]

theorem isEffective_eq (old new : Obj) : isEffectiveRevisionChange old new = releaseChange old new := by
  unfold isEffectiveRevisionChange releaseChange
  rw [equalIgnoreHash_eq]
  by_cases h : new.rolloutId = "" <;> by_cases h2 : old.rolloutId = new.rolloutId <;>
    by_cases h3 : old.tmpl.body = new.tmpl.body <;> simp [h, h2, h3]

theorem fetch_eq (o : Obj) (rs : List Rollout) : fetchMatchedRollout o rs = matchedRollout o rs := by
  induction rs with
  | nil => rfl
  | cons r rs ih =>
    unfold fetchMatchedRollout matchedRollout
    simp only [List.find?_cons]
    unfold matchedRollout at ih
    by_cases hd : r.deleting = true
    · simp [hd, active, ih]
    · by_cases hp : r.phaseDisabled = true
      · simp [hd, hp, active, ih]
      · cases hg : parseGroupVersion r.refApiVersion with
        | none => simp [hd, hp, active, refMatches, hg, ih]
        | some g =>
          have hiff : (active r && refMatches o r) = (o.group == g && o.kind == r.refKind && o.name == r.refName) := by
            -- both guards are off; what is left are the three tests with their sides swapped
            simp [active, refMatches, hg, hd, hp]
            rw [BEq.comm (a := g), BEq.comm (a := r.refKind), BEq.comm (a := r.refName)]
          by_cases hm : (o.group == g && o.kind == r.refKind && o.name == r.refName) = true
          · simp [hd, hp, hm, hiff]
          · simp [hd, hp, hm, hiff, ih]

theorem matched_mem {o : Obj} {rs : List Rollout} {r : Rollout} (h : matchedRollout o rs = some r) :
    r ∈ rs ∧ active r = true ∧ refMatches o r = true := by
  unfold matchedRollout at h
  have h1 := List.mem_of_find?_eq_some h
  have h2 := List.find?_some h
  simp at h2
  exact ⟨h1, h2.1, h2.2⟩

theorem getRS_eq (rq : Req) : getReplicaSetsForDeployment rq.rss = activeRS rq := by
  unfold getReplicaSetsForDeployment activeRS
  apply List.filter_congr
  intro rs _
  cases rs.selected <;> cases rs.deleting <;> cases h : (rs.replicas == some 0) <;>
    cases h2 : (rs.ctrl == Ctrl.same) <;> simp_all

theorem sortRS_perm (l : List RS) : (sortRS l).Perm l := by
  have h := InsertSort.perm_foldl
    (InsertSort.perm_insert insRev (fun _ => rfl) fun x y ys => by rw [insRev]; split <;> simp) l []
  rw [List.append_nil] at h
  exact (List.reverse_perm _).trans h

theorem mem_sortRS (y : RS) (l : List RS) : y ∈ sortRS l ↔ y ∈ l :=
  (sortRS_perm l).mem_iff

theorem findLoop_isSome (b : Nat) (l : List RS) (n o : Option RS)
    (h : ∀ rs ∈ l, rs.replicas.isSome = true) : (findLoop b l n o).isSome = true := by
  induction l generalizing n o with
  | nil => simp [findLoop]
  | cons rs rest ih =>
    have hr := h rs (List.mem_cons_self ..)
    have ht : ∀ x ∈ rest, x.replicas.isSome = true := fun x hx => h x (List.mem_cons_of_mem _ hx)
    unfold findLoop
    split
    · exact ih _ _ ht
    · split
      · cases hrep : rs.replicas with
        | none => simp [hrep] at hr
        | some r => simp only []; split <;> exact ih _ _ ht
      · exact ih _ _ ht

/-- the stable ReplicaSet the loop returns is an element with a template other than `b` (or the initial `o`); stated for
    any `P` such elements satisfy, so that `findCanary_stable` gets membership and the template in one pass -/
theorem findLoop_stable (b : Nat) (P : RS → Prop) (l : List RS) (n o : Option RS) (res : Option RS × Option RS)
    (h : findLoop b l n o = some res)
    (hl : ∀ rs ∈ l, rs.tmplBody ≠ b → P rs) (ho : ∀ s, o = some s → P s) :
    ∀ s, res.2 = some s → P s := by
  induction l generalizing n o with
  | nil => simp [findLoop] at h; subst h; exact ho
  | cons rs rest ih =>
    have ht : ∀ x ∈ rest, x.tmplBody ≠ b → P x := fun x hx => hl x (List.mem_cons_of_mem _ hx)
    unfold findLoop at h
    split at h
    · exact ih _ _ h ht ho
    · rename_i hne
      have hP : P rs := hl rs (List.mem_cons_self ..) (by simpa using hne)
      split at h
      · cases hrep : rs.replicas with
        | none => simp [hrep] at h
        | some r =>
          simp only [hrep] at h
          split at h
          · exact ih _ _ h ht (fun s hs => by cases hs; exact hP)
          · exact ih _ _ h ht ho
      · exact ih _ _ h ht ho

theorem findCanary_stable {l : List RS} {d : Obj} {a : Option RS} {s : RS}
    (h : findCanaryAndStableReplicaSet l d = some (a, some s)) : s ∈ l ∧ s.tmplBody ≠ d.tmpl.body := by
  unfold findCanaryAndStableReplicaSet at h
  refine findLoop_stable d.tmpl.body (fun x => x ∈ l ∧ x.tmplBody ≠ d.tmpl.body) _ none none _ h ?_ ?_ s rfl
  · intro rs hrs hne
    exact ⟨(mem_sortRS rs _).mp hrs, hne⟩
  · intro s hs; cases hs

theorem findCanary_isSome (l : List RS) (d : Obj) (h : ∀ rs ∈ l, rs.replicas.isSome = true) :
    (findCanaryAndStableReplicaSet l d).isSome = true :=
  findLoop_isSome _ _ _ _ fun rs hrs => h rs ((mem_sortRS rs l).mp hrs)

theorem dispatch_eq (rq : Req) :
    (if rq.unified then dispatchUnified rq else dispatchWorkload rq) =
      match wkind rq with
      | .deployment => finish (handleDeployment rq.new rq.old rq.rollouts rq.rss)
      | .cloneSet => finish (handleCloneSet rq.new rq.old rq.rollouts)
      | .daemonSet => dispatchDaemonSet rq
      | .stsLike => finish (handleStatefulSetLike rq.new rq.old rq.oldMetaPresent rq.rollouts)
      | .notHandled => .allowed := by
  unfold wkind dispatchUnified dispatchWorkload isDeployment isCloneSet isDaemonSet isStatefulSetType
  -- only group, kind and the two flags matter: the handlers' results are carried along as variables
  generalize finish (handleDeployment ..) = D
  generalize finish (handleCloneSet ..) = C
  generalize dispatchDaemonSet rq = S
  generalize finish (handleStatefulSetLike ..) = T
  generalize rq.new.group = g
  generalize rq.new.kind = k
  generalize (rq.new.workloadType.toLower == "statefulset") = t
  by_cases h3 : k = "StatefulSet"
  · cases rq.unified <;> simp [h3]
  by_cases hg : g = "apps.kruise.io"
  · by_cases h1 : k = "CloneSet"
    · cases rq.unified <;> simp [hg, h1]
    by_cases h2 : k = "DaemonSet"
    · cases rq.unified <;> simp [hg, h2]
    cases rq.unified <;> cases t <;> simp [hg, h1, h2, h3]
  by_cases hg' : g = "apps"
  · by_cases h4 : k = "Deployment"
    · cases rq.unified <;> simp [hg', h4]
    cases rq.unified <;> cases t <;> simp [hg', h3, h4]
  cases rq.unified <;> cases t <;> simp [hg, hg', h3]

theorem handle_selected {rq : Req} (hs : selected rq = true) :
    handle rq = if rq.dryRunSet then (if rq.unified then dispatchUnified rq else dispatchWorkload rq) else .panic := by
  unfold selected at hs
  unfold handle handleUnified handleWorkload checkWorkloadRules
  cases hc : rq.cfg with
  | none => simp [hc] at hs
  | some whs =>
    simp only [hc, Bool.and_eq_true, beq_iff_eq] at hs
    obtain ⟨⟨h1, h2⟩, h3⟩ := hs
    cases hd : rq.dryRunSet <;> cases hu : rq.unified <;> simp [h1, h2, h3]

theorem handle_unselected {rq : Req} (hs : selected rq = false) :
    handle rq = .allowed ∨ (handle rq = .errored ∧ rq.cfg = none ∧ rq.op = "UPDATE" ∧ rq.subResource = "")
      ∨ (handle rq = .panic ∧ rq.dryRunSet = false) := by
  unfold selected at hs
  unfold handle handleUnified handleWorkload checkWorkloadRules
  by_cases h1 : rq.op = "UPDATE" <;> by_cases h2 : rq.subResource = "" <;>
    cases hu : rq.unified <;> simp [h1, h2]
  all_goals
    cases hc : rq.cfg with
    | none => simp
    | some whs =>
      simp only [hc, h1, h2, beq_self_eq_true, Bool.true_and] at hs
      cases hd : rq.dryRunSet <;> simp [hs]

theorem handle_dispatch {rq : Req} (hs : selected rq = true) (hd : rq.dryRunSet = true) :
    handle rq =
      match wkind rq with
      | .deployment => finish (handleDeployment rq.new rq.old rq.rollouts rq.rss)
      | .cloneSet => finish (handleCloneSet rq.new rq.old rq.rollouts)
      | .daemonSet => dispatchDaemonSet rq
      | .stsLike => finish (handleStatefulSetLike rq.new rq.old rq.oldMetaPresent rq.rollouts)
      | .notHandled => .allowed := by
  rw [handle_selected hs, hd, if_pos rfl, dispatch_eq]

/-- without `dryRun` the attributes of `checkWorkloadRules` cannot be built -/
theorem handle_noDryRun {rq : Req} (hs : selected rq = true) (hd : rq.dryRunSet = false) : handle rq = .panic := by
  rw [handle_selected hs, hd]; rfl

/-! ### the four handlers: a guard on the object, then the part they share -/

/-- What the four handlers share: nothing is done unless the update is a release change and the
    first active Rollout referencing the object has a strategy; then `k` decides. -/
def gated (new old : Obj) (ros : List Rollout) (k : Rollout → HRes) : HRes :=
  if !releaseChange old new then .ok false new
  else match matchedRollout new ros with
    | none => .ok false new
    | some r => if r.emptyRelease then .ok false new else k r

theorem gated_cases {new old : Obj} {ros : List Rollout} {k : Rollout → HRes} {P : HRes → Prop}
    (h0 : P (.ok false new)) (hk : ∀ r, r.emptyRelease = false → P (k r)) : P (gated new old ros k) := by
  unfold gated
  split
  · exact h0
  · split
    · exact h0
    · rename_i r _
      cases he : r.emptyRelease
      · exact hk r he
      · exact h0

theorem handleCloneSet_gated (new old : Obj) (ros : List Rollout) :
    handleCloneSet new old ros =
      if new.replicas == some 0 then .ok false new
      else gated new old ros fun r =>
        match hasTrafficRoutings r with
        | none => .panic
        | some ht =>
          if ht && new.statusReplicas != new.statusUpdated then .ok false new
          else .ok true { new with csPartition := some (.pct 100), inProgress := .rollout r.name } := by
  unfold handleCloneSet gated; rw [isEffective_eq, fetch_eq]; rfl

theorem handleDaemonSet_gated (new old : Obj) (ros : List Rollout) :
    handleDaemonSet new old ros =
      gated new old ros fun r =>
        match new.us with
        | .present t (.present _) =>
          .ok true { new with us := .present t (.present (some maxInt16)), inProgress := .rollout r.name }
        | _ => .panic := by
  unfold handleDaemonSet gated; rw [isEffective_eq, fetch_eq]; rfl

theorem isStsRolling_eq (o : Obj) : isStatefulSetRollingUpdate o = stsRolling o.us := by
  unfold isStatefulSetRollingUpdate stsRolling
  cases o.us <;> rfl

theorem getReplicas_zero (o : Obj) : (getReplicasUnstructured o == 0) = (o.replicas == some 0) := by
  unfold getReplicasUnstructured
  cases h : o.replicas with
  | none => simp
  | some r => by_cases h0 : r = 0 <;> simp [h0]

theorem handleStatefulSetLike_gated (new old : Obj) (omp : Bool) (ros : List Rollout) :
    handleStatefulSetLike new old omp ros =
      if !(new.replicas != some 0 && stsRolling new.us && old.tmplPresent && new.tmplPresent) then .ok false new
      else if new.rolloutId != "" && !omp then .panic
      else gated new old ros fun r =>
        .ok true { new with us := setStatefulSetPartition new.us maxInt16, inProgress := .rollout r.name } := by
  unfold handleStatefulSetLike gated
  rw [isEffective_eq, fetch_eq, isStsRolling_eq, getReplicas_zero]
  simp only [bne]
  -- the two early returns of the handler are the four conjuncts, negated
  cases new.replicas == some 0 <;> cases stsRolling new.us <;> cases old.tmplPresent <;> cases new.tmplPresent <;> rfl

/-- the branch of `handleDeployment` for a Deployment that does not carry the in-progress marker -/
theorem handleDeployment_gated (new old : Obj) (ros : List Rollout) (rss : List RS) (hip : new.inProgress = .absent) :
    handleDeployment new old ros rss =
      if new.replicas == some 0 then .ok false new
      else gated new old ros fun r =>
        if (getReplicaSetsForDeployment rss).length == 0 then .ok false new
        else match hasTrafficRoutings r with
          | none => .panic
          | some ht =>
            if ht && (getReplicaSetsForDeployment rss).length != 1 then .ok false new
            else match findCanaryAndStableReplicaSet (getReplicaSetsForDeployment rss) new with
              | none => .panic
              | some (_, stableRS) =>
                let o := match stableRS with
                  | none => new
                  | some s => { new with stableRev := s.hashLabel }
                .ok true { o with paused := true, inProgress := .rollout r.name } := by
  unfold handleDeployment gated; rw [isEffective_eq, fetch_eq, if_neg (by simp [hip])]; rfl

theorem handleDeployment_inProgress {new old : Obj} {ros : List Rollout} {rss : List RS}
    (h : new.inProgress ≠ .absent) :
    handleDeployment new old ros rss = handleDeploymentInProgress new old := by
  unfold handleDeployment
  simp [h]

/-- For a selected, eligible request the gate is `mustHoldRollout`, provided `k` backs off from a
    Rollout with traffic routing while the workload runs several revisions.  The handler may run on
    an object `o` that differs from the submitted one in fields the gate does not read. -/
theorem gated_mustHold {rq : Req} {o : Obj} {k K : Rollout → HRes} (hs : selected rq = true)
    (hel : eligible rq = true)
    (hk : ∀ r, r.emptyRelease = false → k r = if r.hasTraffic && !singleRevision rq then .ok false o else K r)
    (hrc : releaseChange rq.old o = releaseChange rq.old rq.new := by rfl)
    (hm : matchedRollout o rq.rollouts = matchedRollout rq.new rq.rollouts := by rfl) :
    gated o rq.old rq.rollouts k =
      match mustHoldRollout rq with
      | none => .ok false o
      | some r => K r := by
  unfold gated mustHoldRollout
  rw [hs, hel, hrc, hm]
  cases releaseChange rq.old rq.new
  · rfl
  · cases matchedRollout rq.new rq.rollouts with
    | none => rfl
    | some r =>
      cases he : r.emptyRelease
      · cases ht : r.hasTraffic <;> cases hr : singleRevision rq <;> simp [he, hk r he, ht, hr]
      · simp [he]

theorem mustHold_ineligible {rq : Req} (h : eligible rq = false) : mustHoldRollout rq = none := by
  simp [mustHoldRollout, h]

theorem mustHold_selected {rq : Req} {r : Rollout} (hm : mustHoldRollout rq = some r) :
    selected rq = true ∧ eligible rq = true := by
  unfold mustHoldRollout at hm; split at hm <;> simp_all

/-- an eligible workload is of a kind the webhook handles, and a Deployment among them is not marked in-progress -/
theorem eligible_kind {rq : Req} (h : eligible rq = true) :
    wkind rq ≠ .notHandled ∧ (wkind rq = .deployment → rq.new.inProgress = .absent) := by
  unfold eligible at h
  cases hk : wkind rq <;> simp_all

theorem wellFormed_iff (rq : Req) :
    wellFormed rq = true ↔
      rq.dryRunSet = true ∧ rq.oldMetaPresent = true ∧ rq.rss.all (fun rs => rs.replicas.isSome) = true ∧
      (wkind rq = .daemonSet → typedUSOk rq.new.us = true ∧ typedUSOk rq.old.us = true) := by
  cases hk : wkind rq <;> simp [wellFormed, hk, and_assoc]

theorem depInProgress_iff (rq : Req) :
    depInProgress rq = true ↔ wkind rq = .deployment ∧ selected rq = true ∧ rq.new.inProgress ≠ .absent := by
  simp [depInProgress, and_assoc]

/-- `handle` on a selected request with `dryRun` set, other than a Deployment that carries the in-progress marker: what each
    kind answers, in terms of `mustHoldRollout`.  A DaemonSet that does not decode is turned away first; the
    StatefulSet-like handler dereferences the old metadata before it looks at the Rollouts -/
theorem handle_kinds {rq : Req} (hs : selected rq = true) (hd : rq.dryRunSet = true)
    (hip : wkind rq = .deployment → rq.new.inProgress = .absent) :
    handle rq =
      match wkind rq with
      | .deployment =>
        match mustHoldRollout rq with
        | none => .allowed
        | some r =>
          match findCanaryAndStableReplicaSet (activeRS rq) rq.new with
          | none => .panic
          | some (_, none) => .patched { rq.new with paused := true, inProgress := .rollout r.name }
          | some (_, some s) =>
            .patched { rq.new with stableRev := s.hashLabel, paused := true, inProgress := .rollout r.name }
      | .cloneSet =>
        match mustHoldRollout rq with
        | none => .allowed
        | some r => .patched { rq.new with csPartition := some (.pct 100), inProgress := .rollout r.name }
      | .daemonSet =>
        if !(typedUSOk rq.new.us && typedUSOk rq.old.us) then .errored
        else match mustHoldRollout rq with
          | none => .allowed
          | some r =>
            match rq.new.us with
            | .present t (.present _) =>
              .patched { rq.new with us := .present t (.present (some maxInt16)), inProgress := .rollout r.name }
            | _ => .panic
      | .stsLike =>
        if eligible rq && rq.new.rolloutId != "" && !rq.oldMetaPresent then .panic
        else match mustHoldRollout rq with
          | none => .allowed
          | some r => .patched { rq.new with us := setStatefulSetPartition rq.new.us maxInt16,
                                              inProgress := .rollout r.name }
      | .notHandled => .allowed := by
  rw [handle_dispatch hs hd]
  cases hk : wkind rq with
  | notHandled => rfl
  | cloneSet =>
    have hel : eligible rq = (rq.new.replicas != some 0) := by simp only [eligible, hk]
    simp only []
    rw [handleCloneSet_gated]
    by_cases h0 : rq.new.replicas = some 0
    · simp [h0, mustHold_ineligible (rq := rq) (by simp [hel, h0]), finish]
    · rw [if_neg (by simpa using h0), gated_mustHold hs (by simpa [hel] using h0) (K := fun r =>
          .ok true { rq.new with csPartition := some (.pct 100), inProgress := .rollout r.name }) fun r he => by
        simp [hasTrafficRoutings, he, singleRevision, hk]]
      cases mustHoldRollout rq <;> rfl
  | daemonSet =>
    simp only []
    unfold dispatchDaemonSet
    -- the handler runs on the decoded object; decoding changes nothing `mustHoldRollout` reads
    have key : ∀ us, finish (handleDaemonSet { rq.new with us := us } rq.old rq.rollouts) =
        match mustHoldRollout rq with
        | none => .allowed
        | some r =>
          match us with
          | .present t (.present _) =>
            .patched { rq.new with us := .present t (.present (some maxInt16)), inProgress := .rollout r.name }
          | _ => .panic := by
      intro us
      rw [handleDaemonSet_gated, gated_mustHold hs (by simp only [eligible, hk]) fun r _ => by
        simp only [singleRevision, hk, Bool.not_true, Bool.and_false, Bool.false_eq_true, if_false]; rfl]
      cases mustHoldRollout rq with
      | none => rfl
      | some r => rcases us with _ | _ | ⟨t, _ | _ | p⟩ <;> rfl
    -- decoding fails exactly on the shapes `typedUSOk` excludes; an absent strategy decodes to one without `rollingUpdate`
    rcases hn : rq.new.us with _ | _ | ⟨t, _ | _ | p⟩ <;> rcases ho : rq.old.us with _ | _ | ⟨t', _ | _ | p'⟩ <;>
      simp [decodeTypedUS, typedUSOk, key]
  | stsLike =>
    have hel : eligible rq = (rq.new.replicas != some 0 && stsRolling rq.new.us && rq.old.tmplPresent && rq.new.tmplPresent) := by
      simp only [eligible, hk]
    simp only []
    rw [handleStatefulSetLike_gated, ← hel]
    cases he : eligible rq
    · rw [mustHold_ineligible he]; rfl
    · rw [gated_mustHold hs he fun r _ => by
        simp only [singleRevision, hk, Bool.not_true, Bool.and_false, Bool.false_eq_true, if_false]; rfl]
      cases rq.new.rolloutId != "" <;> cases rq.oldMetaPresent <;> cases mustHoldRollout rq <;> rfl
  | deployment =>
    have hip := hip hk
    have hel : eligible rq = (rq.new.replicas != some 0 && !(activeRS rq).isEmpty) := by
      simp [eligible, hk, hip]
    simp only []
    rw [handleDeployment_gated _ _ _ _ hip, getRS_eq]
    by_cases h0 : rq.new.replicas = some 0
    · simp [h0, mustHold_ineligible (rq := rq) (by simp [hel, h0]), finish]
    rw [if_neg (by simpa using h0)]
    cases hl : activeRS rq with
    | nil =>
      rw [gated_cases (P := (· = .ok false rq.new)) rfl fun r _ => by simp, mustHold_ineligible (by simp [hel, hl])]; rfl
    | cons x xs =>
      rw [← hl, gated_mustHold hs (by simp [hel, h0, hl]) (K := fun r =>
        match findCanaryAndStableReplicaSet (activeRS rq) rq.new with
        | none => .panic
        | some (_, stableRS) =>
          let o := match stableRS with
            | none => rq.new
            | some s => { rq.new with stableRev := s.hashLabel }
          .ok true { o with paused := true, inProgress := .rollout r.name }) fun r he => by
        simp [hasTrafficRoutings, he, singleRevision, hk, hl]]
      cases mustHoldRollout rq with
      | none => rfl
      | some r => rcases findCanaryAndStableReplicaSet (activeRS rq) rq.new with _ | ⟨a, _ | s⟩ <;> rfl

theorem isPartitionStyle_eq (o : Obj) : isPartitionStyle (getDeploymentStrategy o) = partitionStyle o := by
  unfold isPartitionStyle getDeploymentStrategy partitionStyle
  -- without a valid annotation the strategy is the zero value: what is left is `"".toLower == "partition"`, evaluated
  cases o.stratAnno <;> simp [DepStrategy.zero] <;> decide +kernel

/-- the in-progress branch always answers, changes nothing but `paused`, the strategy and its annotation, and pauses a
    canary- or partition-style release, or any release change -/
theorem handleDeploymentInProgress_spec (new old : Obj) :
    ∃ c o, handleDeploymentInProgress new old = .ok c o
      ∧ { o with paused := new.paused, stratType := new.stratType, stratRU := new.stratRU,
                 stratAnno := new.stratAnno } = new
      ∧ ((repauseStyle new = true ∨ releaseChange old new = true) →
            o.paused = true ∧ (c = false → new.paused = true)) := by
  cases new with
  | mk g k n wt rep rid tp t ip pa st sru sa hos sr csp sR sU us rest =>
  simp only [handleDeploymentInProgress, isPartitionStyle_eq, repauseStyle, isEffective_eq]
  generalize partitionStyle _ = ps
  cases ps
  · cases hos
    · -- canary style
      simp only [Bool.false_eq_true, if_false]
      refine ⟨_, _, rfl, ?_, ?_⟩
      · split <;> rfl
      · intro _; constructor
        · split <;> rfl
        · cases pa <;> simp
    · -- blue-green style
      simp only [Bool.false_eq_true, if_false, if_true]
      refine ⟨_, _, rfl, ?_, ?_⟩
      · split <;> split <;> rfl
      · intro h
        simp only [Bool.false_or, Bool.not_true, Bool.false_eq_true, false_or] at h
        simp only [h, if_true]
        constructor
        · split <;> rfl
        · simp
  · -- partition style
    simp only [if_true]
    refine ⟨_, _, rfl, ?_, ?_⟩
    · split <;> rfl
    · intro _; constructor
      · split <;> rfl
      · cases pa <;> simp

end RV.Webhook
