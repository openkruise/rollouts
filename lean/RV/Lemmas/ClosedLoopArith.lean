/-
  Arithmetic of the closed-loop exposure invariant: a plan that is monotone step by step is monotone at any distance
  (`planMono_le`), `within` is monotone along it, the partition the CloneSet control writes for an entry of the plan is
  `within` that entry and never negative (`within_desKnob`, `desKnob_nonneg`), a workload held at 100 % exposes nothing.
-/
import RV.Oracle.ClosedLoop
import RV.Props.C01
namespace RV.Lemmas.ClosedLoop
open RV.Arith IntOrPct RV.BatchCtx RV.Oracle.ClosedLoop RV.Oracle.Batch

theorem within_mono (R : Int) (plan : List IntOrPct) (e e' k : IntOrPct)
    (hle : calcBatchReplicas R e ≤ calcBatchReplicas R e') (h : within R plan e k = true) : within R plan e' k = true := by
  unfold within at h ⊢
  simp only [Bool.or_eq_true, Bool.and_eq_true, decide_eq_true_eq] at h ⊢
  rcases h with h | ⟨h1, h2⟩
  · left; omega
  · right; exact ⟨h1, by omega⟩

theorem planMono_le (R : Int) (plan : List IntOrPct) (h : planMono R plan = true) (i j : Nat) (a b : IntOrPct) (hij : i ≤ j)
    (ha : plan[i]? = some a) (hb : plan[j]? = some b) : calcBatchReplicas R a ≤ calcBatchReplicas R b := by
  induction plan generalizing i j a b with
  | nil => simp at ha
  | cons x rest ih =>
    have htail : planMono R rest = true ∧ ∀ (k : Nat) c, rest[k]? = some c → calcBatchReplicas R x ≤ calcBatchReplicas R c := by
      cases rest with
      | nil => exact ⟨rfl, fun k c hc => by simp at hc⟩
      | cons y rest' =>
        unfold planMono at h
        simp only [Bool.and_eq_true, decide_eq_true_eq] at h
        refine ⟨h.2, fun k c hc => ?_⟩
        have := ih h.2 0 k y c (Nat.zero_le _) rfl hc
        omega
    cases i with
    | zero =>
      simp only [List.getElem?_cons_zero, Option.some.injEq] at ha
      subst ha
      cases j with
      | zero => simp only [List.getElem?_cons_zero, Option.some.injEq] at hb; subst hb; exact Int.le_refl _
      | succ j => exact htail.2 j b (by simpa using hb)
    | succ i =>
      cases j with
      | zero => omega
      | succ j => exact ih htail.1 i j a b (by omega) (by simpa using ha) (by simpa using hb)

theorem exposure_pct100 (R : Int) (hR : 0 ≤ R) : exposure (pct 100) R = 0 := by
  unfold exposure
  rw [keptStable_pct100]
  omega

theorem within_held (R : Int) (plan : List IntOrPct) (e : IntOrPct) (hR : 0 ≤ R) : within R plan e (pct 100) = true := by
  unfold within
  rw [exposure_pct100 R hR]
  have := calcBatch_nonneg R e hR
  simp only [Bool.or_eq_true, decide_eq_true_eq]
  left; exact this

theorem mem_any_isStr (plan : List IntOrPct) (e : IntOrPct) (i : Nat) (h : plan[i]? = some e) (hs : isStr e = true) :
    plan.any isStr = true := by
  rw [List.any_eq_true]
  exact ⟨e, List.mem_of_getElem? h, hs⟩

/-- **C01.1 → closed loop** — the partition the CloneSet control computes for entry `e` of the plan is within `e` -/
theorem within_desKnob (R : Int) (plan : List IntOrPct) (e : IntOrPct) (i : Nat) (hR : 0 ≤ R) (h : plan[i]? = some e) :
    within R plan e (desKnob .cloneSet R e none) = true := by
  have hb := RV.Props.C01.desKnob_exposure_bound .cloneSet R e none ⟨hR, (fun k hk => by cases hk), Or.inl rfl⟩
  unfold exposureBound at hb
  unfold within
  simp only [allowed, exposureOf] at hb
  by_cases hs : isStr e = true
  · rw [if_pos ⟨trivial, hs⟩] at hb
    have hb' := of_decide_eq_true hb
    simp only [Bool.or_eq_true, Bool.and_eq_true, decide_eq_true_eq]
    right; exact ⟨mem_any_isStr plan e i h hs, hb'⟩
  · rw [if_neg (by intro hc; exact hs hc.2)] at hb
    have hb' := of_decide_eq_true hb
    simp only [Bool.or_eq_true, decide_eq_true_eq]
    left; exact hb'

/-- the partition the CloneSet control writes is never negative (so the workload controller never over-updates) -/
theorem desKnob_nonneg (R : Int) (e : IntOrPct) (hR : 0 ≤ R) : 0 ≤ scaledV (desKnob .cloneSet R e none) R true := by
  obtain ⟨hds, _, h0, h1⟩ := desiredStable_eq R e none hR nofun
  obtain ⟨q, hq, hq0, _⟩ := parsePct_spec (desiredStable R e none) R e hR (by omega) (by omega)
  cases e with
  | int n => simp only [desKnob, scaledV_int]; omega
  | pct p => simp only [desKnob, hq]; exact hq0
  | bad => simp only [desKnob, hq]; exact hq0

theorem exposureBound_cloneSet (R : Int) (e k : IntOrPct) :
    exposureBound .cloneSet R e none k =
      if isStr e = true then decide (100 * (exposure k R - calcBatchReplicas R e) < max R 1)
      else decide (exposure k R ≤ calcBatchReplicas R e) := by
  cases h : isStr e <;> simp [exposureBound, h, RV.BatchCtx.exposureOf, allowed] <;> congr

end RV.Lemmas.ClosedLoop
