/-
  Progress of the closed loop, the Rollout reconcile of a clean-up round (Progressing / Finalising, classes 20 – 29) without
  traffic routing: the round of `doFinalising` on the observed status, described by `RV.Lemmas.ClosedLoop.FinRound`, touches
  neither the network nor the grace memory and lands on the joint state as `finalising_stepRo` says; on a cursor of the
  traffic Manager the round only moves the cursor on (`FinRound.tm`).
-/
import RV.Lemmas.ClosedLoopLiveRound
namespace RV.Lemmas.ClosedLoop
open RV.Arith RV.Traffic RV.RolloutSM RV.ClosedLoop RV.Oracle.ClosedLoop RV.Props.Reconcile RV.Props.Rollout RV.Props.Cluster

/-- the Rollout controller's write of the BatchRelease leaves the workload alone unless it creates one -/
theorem landBR_wl (old : Option CBr) (new : Option BR) (w0 : CWl) (h : old = none → new = none) :
    (landBR old new (some w0)).2 = some w0 := by
  cases old with
  | none => rw [h rfl]; rfl
  | some c => cases new <;> rfl

/-- the status `calculateRolloutStatus` hands to the clean-up -/
theorem Finalising.observed {s : CS} {sub : Sub} (h : Finalising s sub) (wl : WL) :
    (csObserve s.ro wl).phase = .progressing ∧ (csObserve s.ro wl).reason = .finalising ∧
    (csObserve s.ro wl).steps = s.ro.steps ∧ (csObserve s.ro wl).hasTraffic = s.ro.hasTraffic :=
  ⟨(csObserve_same s.ro wl).2.2.trans h.ph, (csObserve_frame s.ro wl).2.trans h.re, (csObserve_same s.ro wl).1.1,
    (csObserve_same s.ro wl).1.2.1⟩

/-- **the Rollout reconcile of a clean-up round without traffic routing**: one round `FinRound` of `doFinalising` on the observed
    status; it keeps the sub-status but for the cursor and the time stamp, and touches neither the network nor the grace memory;
    a round that is done records the release as completed -/
theorem finalising_stepRo (s : CS) (w : CWl) (sub : Sub) (F : LiveFacts s w) (hfin : Finalising s sub) :
    ∃ c' d, FinRound (roundCtx0 s w sub) c' d ∧
      c'.sub = { csSub sub (roWl w) with finStep := c'.sub.finStep, lastUpdate := c'.sub.lastUpdate } ∧
      stepRo s = some (mid s
        (if d then { csObserve s.ro (roWl w) with sub := some c'.sub, reason := .completed, succeeded := some true }
         else { csObserve s.ro (roWl w) with sub := some c'.sub })
        { w with inProgressAnno := false } (landBR s.br c'.br (some { w with inProgressAnno := false })).1) := by
  obtain ⟨sub0, hs0, hcur, hinv⟩ := (phaseInv_fin_iff s w hfin.ph hfin.re).1 F.pi
  rw [hfin.sub] at hs0
  cases hs0
  obtain ⟨s', c', d, hstep, _, _, hd, hs', hbf, _⟩ :=
    stepRo_clean s w sub F.gone F.good F.wl F.consistent hfin.ph hfin.re hfin.sub hcur hinv
  have hsame := (csObserve_same s.ro (roWl w)).1
  obtain ⟨_, _, _, hsk, hnm, hround⟩ := fin_round (roundCtx0 s w sub) c' d false (hsame.2.2.1.trans F.good.canary)
    (by show RV.Oracle.Cluster.cursorOk (taskList (csObserve s.ro (roWl w)).style .success) sub.finStep = true
        rw [hsame.2.2.1]; exact hcur) hd
  obtain ⟨hnet, hmem⟩ := hnm (hsame.2.1.trans F.nt)
  refine ⟨c', d, hround, hsk, ?_⟩
  rw [hstep, hs', landBR_wl s.br c'.br _ (fun h => by generalize c'.br = x at hbf; rw [h] at hbf; cases hbf; rfl), hnet, hmem]
  rfl

/-- the clean-up cursors on which the Rollout controller calls the traffic Manager: classes 20 – 23 -/
def tmCursor (f : FinStep) : Prop :=
  f = .empty ∨ f = .restoreStableService ∨ f = .routeTrafficToStable ∨ f = .removeCanaryService

/-- a clean-up round on a cursor of the traffic Manager, for a rollout without traffic routing: the cursor moves on -/
theorem FinRound.tm {c c' : Ctx} {d : Bool} (h : FinRound c c' d) (hf : tmCursor c.sub.finStep) (hnt : c.ro.hasTraffic = false) :
    c'.br = c.br ∧ d = false ∧ c'.sub.finStep = nextTask (taskList .canary .success) c.sub.finStep := by
  unfold FinRound at h
  rcases hf with e | e | e | e <;> rw [e] at h ⊢
  · exact ⟨h.1, h.2.1, h.2.2.1⟩
  · exact ⟨h.1, h.2.1, (h.2.2.2.2 hnt).2⟩
  · exact ⟨h.1, h.2.1, (h.2.2.2.2 hnt).2⟩
  · exact ⟨h.1, h.2.1, (h.2.2.2.2 hnt).2⟩

end RV.Lemmas.ClosedLoop
