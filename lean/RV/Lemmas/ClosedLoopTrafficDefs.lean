/-
  Shared vocabulary of the traffic lemmas of the closed loop: the traffic invariant `trInv` taken apart
  (`trInv = fwdInv ∧ trRest`), its clauses as propositions, the plan entry behind `weightOf` / `fullAt`, what the posts of the
  clean-up cursor say of the network (`fin_inv_posts`, `unpinned_of_post`), the rolling clauses as propositions over what they
  read (`RollP`; `RollAt` on a joint state), and the whole invariant at a state with its workload (`TrAt`, `tr_at`; by phase: `TrCase`).
-/
import RV.Lemmas.ClosedLoop
import RV.Oracle.ClosedLoopTraffic
namespace RV.Lemmas.ClosedLoopTraffic
open RV.Arith RV.Traffic RV.RolloutSM RV.ClosedLoop RV.Oracle.ClosedLoop RV.Oracle.ClosedLoopTraffic RV.Lemmas.ClosedLoop

/-- the traffic part of `trInv` (everything but `fwdInv`) -/
def trRest (s : CS) : Bool :=
  match s.wl with
  | some w => decide (0 < w.replicas) && trPhase s w
  | none => false

theorem trInv_iff (s : CS) : trInv s = true ↔ fwdInv s = true ∧ trRest s = true := by
  unfold trInv trRest
  rw [Bool.and_eq_true]
  exact Iff.rfl

theorem trRest_some (s : CS) (w : CWl) (hw : s.wl = some w) :
    trRest s = true ↔ 0 < w.replicas ∧ trPhase s w = true := by
  unfold trRest
  rw [hw]
  simp only [Bool.and_eq_true, decide_eq_true_eq]

theorem trPhase_healthy (s : CS) (w : CWl) (h : s.ro.phase = .healthy) :
    trPhase s w = (netClean s.net && (if w.inProgressAnno then pendingWl w else released w)) := by
  unfold trPhase; rw [h]

theorem trPhase_init (s : CS) (w : CWl) (hp : s.ro.phase = .progressing) (hr : s.ro.reason = .initializing) :
    trPhase s w = (netClean s.net && pendingWl w) := by
  unfold trPhase; rw [hp, hr]

theorem trPhase_rolling (s : CS) (w : CWl) (sub : Sub) (hp : s.ro.phase = .progressing) (hr : s.ro.reason = .inRolling)
    (hs : s.ro.sub = some sub) :
    trPhase s w = (netCore s sub w true && brSome s sub && firstPin s sub w && trState s sub w) := by
  unfold trPhase; rw [hp, hr]; dsimp only; rw [hs]

theorem trPhase_fin (s : CS) (w : CWl) (sub : Sub) (hp : s.ro.phase = .progressing) (hr : s.ro.reason = .finalising)
    (hs : s.ro.sub = some sub) :
    trPhase s w = (netCore s sub w false && finBr s sub w && sub.canaryRev == w.updateRevision &&
      decide (sub.curIdx ≤ s.ro.steps.length)) := by
  unfold trPhase; rw [hp, hr]; dsimp only; rw [hs]

theorem trPhase_completed (s : CS) (w : CWl) (hp : s.ro.phase = .progressing) (hr : s.ro.reason = .completed) :
    trPhase s w = (netClean s.net && released w) := by
  unfold trPhase; rw [hp, hr]

theorem trPhase_ext (s s' : CS) (w : CWl) (h1 : s'.ro = s.ro) (h2 : s'.br = s.br) (h3 : s'.net = s.net) :
    trPhase s' w = trPhase s w := by
  unfold trPhase netCore pinOK svcOK ingOK baseOK brSome firstPin trState finBr effIdx
  rw [h1, h2, h3]

theorem netClean_iff (n : Net) : netClean n = true ↔ n.canaryIng = none ∧ n.canarySvc = none ∧ n.stableSel = none := by
  unfold netClean
  simp only [Bool.and_eq_true, Option.isNone_iff_eq_none, and_assoc]

theorem released_iff (w : CWl) : released w = true ↔ w.partition = none ∧ w.paused = false ∧ w.owner = .none := by
  unfold released
  simp only [Bool.and_eq_true, Option.isNone_iff_eq_none, Bool.not_eq_true', beq_iff_eq, and_assoc]

theorem fullAt_steps (ro ro' : Rollout) (R j : Int) (h : ro'.steps = ro.steps) : fullAt ro' R j = fullAt ro R j := by
  unfold fullAt stepAt; rw [h]

theorem weightOf_steps (ro ro' : Rollout) (j : Int) (h : ro'.steps = ro.steps) : weightOf ro' j = weightOf ro j := by
  unfold weightOf stepAt; rw [h]

theorem stepAt_pos (ro : Rollout) (j : Int) (hlo : 1 ≤ j) : stepAt ro j = ro.steps[(j - 1).toNat]? := if_neg (by omega)

theorem weightOf_step (ro : Rollout) (j : Int) (step : Step) (hlo : 1 ≤ j) (hstep : ro.steps[(j - 1).toNat]? = some step) :
    weightOf ro j = step.weight := by
  unfold weightOf
  rw [stepAt_pos ro j hlo, hstep]
  rfl

theorem weightOf_some (ro : Rollout) (j : Int) (wt : Nat) (hlo : 1 ≤ j) (h : weightOf ro j = some wt) :
    ∃ step, ro.steps[(j - 1).toNat]? = some step ∧ step.weight = some wt := by
  unfold weightOf at h
  rw [stepAt_pos ro j hlo] at h
  cases hst : ro.steps[(j - 1).toNat]? with
  | none => rw [hst] at h; cases h
  | some step => rw [hst] at h; exact ⟨step, rfl, h⟩

theorem fullAt_step (ro : Rollout) (R j : Int) (step : Step) (hlo : 1 ≤ j) (hstep : ro.steps[(j - 1).toNat]? = some step) :
    fullAt ro R j = decide (scaledV step.replicas R true ≥ R) := by
  unfold fullAt
  rw [stepAt_pos ro j hlo, hstep]

theorem pinOK_iff (s : CS) (sub : Sub) (w : CWl) : pinOK s sub w = true ↔
    ∀ r, s.net.stableSel = some r → r = sub.stableRev ∧ r ≠ "" ∧ fullAt s.ro w.replicas (effIdx s sub) = false ∧
      s.ro.hasTraffic = true ∧ s.ro.disableGen = false := by
  unfold pinOK
  cases s.net.stableSel with
  | none => simp
  | some r => simp [and_assoc]

theorem svcOK_iff (s : CS) (w : CWl) : svcOK s w = true ↔
    ∀ r, s.net.canarySvc = some r → r = w.updateRevision ∧ s.ro.hasTraffic = true ∧ s.ro.disableGen = false := by
  unfold svcOK
  cases s.net.canarySvc with
  | none => simp
  | some r => simp [and_assoc]

theorem ingOK_iff (s : CS) : ingOK s = true ↔
    ∀ x, s.net.canaryIng = some x → s.ro.hasTraffic = true ∧ (s.ro.disableGen = true ∨ s.net.canarySvc.isSome = true) := by
  unfold ingOK
  cases s.net.canaryIng with
  | none => simp
  | some x => simp

theorem hashOK_iff (sub : Sub) (w : CWl) : hashOK sub w = true ↔ sub.podHash = "" ∨ sub.podHash = w.updateRevision := by
  unfold hashOK
  simp

theorem baseOK_iff (s : CS) : baseOK s = true ↔ (s.ro.hasTraffic = true → s.net.stableExists = true ∧ s.net.stableIngress = true) := by
  unfold baseOK
  cases s.ro.hasTraffic <;> simp

theorem brSome_iff (s : CS) (sub : Sub) : brSome s sub = true ↔
    ((RV.Oracle.RolloutSM.podsReady sub.state = true ∨ 2 ≤ sub.curIdx) → s.br.isSome = true) := by
  unfold brSome
  cases s.br.isSome <;> simp

theorem firstPin_iff (s : CS) (sub : Sub) (w : CWl) : firstPin s sub w = true ↔
    (firstStepPins s.ro w.replicas = true → sub.curIdx = 1 → (sub.state ≠ .init ∨ s.br.isSome = true) →
      s.net.stableSel.getD "" = sub.stableRev) := by
  unfold firstPin
  cases firstStepPins s.ro w.replicas
  · simp
  · by_cases h1 : sub.curIdx = 1 <;> by_cases h2 : sub.state = .init <;> cases s.br <;> simp [h1, h2]

theorem trState_iff (s : CS) (sub : Sub) (w : CWl) : trState s sub w = true ↔
    (sub.state = .trafficRouting → fullAt s.ro w.replicas sub.curIdx = false) := by
  unfold trState
  cases fullAt s.ro w.replicas sub.curIdx <;> simp

theorem stableAlive_iff (sub : Sub) (w : CWl) : stableAlive sub w = true ↔
    keepsOne w = true ∧ w.updated < w.replicas ∧ w.currentRevision = sub.stableRev ∧ w.currentRevision ≠ w.updateRevision := by
  unfold stableAlive
  simp only [Bool.and_eq_true, decide_eq_true_eq, beq_iff_eq, bne_iff_ne, ne_eq, and_assoc]

theorem netCore_iff (s : CS) (sub : Sub) (w : CWl) (rolling : Bool) : netCore s sub w rolling = true ↔
    ((if rolling then fullAt s.ro w.replicas (effIdx s sub) else s.net.stableSel.isNone) = true ∨ stableAlive sub w = true) ∧
    pinOK s sub w = true ∧ svcOK s w = true ∧ ingOK s = true ∧ hashOK sub w = true ∧ baseOK s = true := by
  unfold netCore
  cases rolling <;> simp [and_assoc]

/-- `effIdx` on what it reads: sub-state, step index, batch partition of the BatchRelease (if any) -/
def roll_eff (st : StepState) (cur : Int) (bp : Option (Option Int)) : Int :=
  if st = .init then
    (match bp with
     | some (some p) => if cur ≤ p + 1 then cur else cur - 1
     | _ => cur - 1)
  else cur

theorem effIdx_eq (s : CS) (sub : Sub) : effIdx s sub = roll_eff sub.state sub.curIdx (s.br.map (·.partition)) := by
  unfold effIdx roll_eff
  cases hb : s.br with
  | none => rfl
  | some b =>
    cases hp : b.partition with
    | none => simp only [Option.map_some, hp]
    | some p => simp only [Option.map_some, hp]

/-- the rolling part of `trPhase` (`netCore … true`, `brSome`, `firstPin`, `trState`) and the cursor order of `linkOK`, as
    propositions over what they read: rollout, workload size, revision being released, `stableAlive`, sub-state, step index,
    recorded stable revision and pod-template hash, batch partition of the BatchRelease, network; and the index bounds of
    `SubGood` (`lo`, `hi`) -/
structure RollP (ro : Rollout) (R : Int) (rev : String) (alive : Prop) (st : StepState) (cur : Int) (srev ph : String)
    (bp : Option (Option Int)) (n : Net) : Prop where
  -- full or alive: the highest step handed to the BatchRelease replaces every pod, or pods of the stable revision remain
  t2 : fullAt ro R (roll_eff st cur bp) = true ∨ alive
  pin : ∀ r, n.stableSel = some r → r = srev ∧ r ≠ "" ∧ fullAt ro R (roll_eff st cur bp) = false ∧ ro.hasTraffic = true ∧
    ro.disableGen = false
  svc : ∀ r, n.canarySvc = some r → r = rev ∧ ro.hasTraffic = true ∧ ro.disableGen = false
  ing : ∀ x, n.canaryIng = some x → ro.hasTraffic = true ∧ (ro.disableGen = true ∨ n.canarySvc.isSome = true)
  hash : ph = "" ∨ ph = rev
  base : ro.hasTraffic = true → n.stableExists = true ∧ n.stableIngress = true
  brSome : (RV.Oracle.RolloutSM.podsReady st = true ∨ 2 ≤ cur) → bp.isSome = true
  firstPin : firstStepPins ro R = true → cur = 1 → (st ≠ .init ∨ bp.isSome = true) → n.stableSel.getD "" = srev
  trState : st = .trafficRouting → fullAt ro R cur = false
  link : ∀ p, bp = some (some p) → p ≤ cur - 1
  lo : 1 ≤ cur
  hi : cur ≤ ro.steps.length

/-- pods of the stable revision need only be alive while the highest step handed over is not full -/
theorem RollP.imp_alive {ro : Rollout} {R : Int} {rev : String} {alive alive' : Prop} {st : StepState} {cur : Int} {srev ph : String}
    {bp : Option (Option Int)} {n : Net} (h : RollP ro R rev alive st cur srev ph bp n)
    (ha : fullAt ro R (roll_eff st cur bp) = false → alive → alive') : RollP ro R rev alive' st cur srev ph bp n := by
  refine ⟨?_, h.pin, h.svc, h.ing, h.hash, h.base, h.brSome, h.firstPin, h.trState, h.link, h.lo, h.hi⟩
  cases hf : fullAt ro R (roll_eff st cur bp) with
  | true => exact .inl rfl
  | false => exact .inr (ha hf (h.t2.resolve_left (by rw [hf]; exact Bool.false_ne_true)))

/-- `RollP` at a joint state; the batch partition is `none` without a BatchRelease, `some none` with one that has none -/
def RollAt (s : CS) (sub : Sub) (w : CWl) : Prop :=
  RollP s.ro w.replicas w.updateRevision (stableAlive sub w = true) sub.state sub.curIdx sub.stableRev sub.podHash
    (s.br.map (·.partition)) s.net

/-- `netCore` for either flag. For `false` (the clean-up's form: un-pinned or alive): a pinned stable Service means the step
    handed over is not full (`pin`), hence `alive` (`t2`) -/
theorem RollAt.netClauses {s : CS} {sub : Sub} {w : CWl} (h : RollAt s sub w) (r : Bool) : netCore s sub w r = true := by
  have hpin := h.pin
  have h2 := h.t2
  rw [← effIdx_eq] at hpin h2
  refine (netCore_iff s sub w r).2 ⟨?_, (pinOK_iff s sub w).2 hpin, (svcOK_iff s w).2 h.svc, (ingOK_iff s).2 h.ing,
    (hashOK_iff sub w).2 h.hash, (baseOK_iff s).2 h.base⟩
  cases r
  · rw [if_neg Bool.false_ne_true]
    cases hs : s.net.stableSel with
    | none => exact Or.inl rfl
    | some x => exact Or.inr (h2.resolve_left (by rw [(hpin x hs).2.2.1]; exact Bool.false_ne_true))
  · rw [if_pos rfl]; exact h2

theorem RollAt.clauses {s : CS} {sub : Sub} {w : CWl} (h : RollAt s sub w) :
    (netCore s sub w true && brSome s sub && firstPin s sub w && trState s sub w) = true := by
  have hbs := h.brSome
  have hfp := h.firstPin
  rw [Option.isSome_map] at hbs hfp
  simp only [Bool.and_eq_true]
  exact ⟨⟨⟨h.netClauses true, (brSome_iff s sub).2 hbs⟩, (firstPin_iff s sub w).2 hfp⟩, (trState_iff s sub w).2 h.trState⟩

theorem RollAt.of_clauses {s : CS} {sub : Sub} {w : CWl}
    (h : (netCore s sub w true && brSome s sub && firstPin s sub w && trState s sub w) = true)
    (hlink : linkOKo s.ro sub s.br = true) (hlo : 1 ≤ sub.curIdx) (hhi : sub.curIdx ≤ s.ro.steps.length) : RollAt s sub w := by
  simp only [Bool.and_eq_true] at h
  obtain ⟨⟨⟨hcore, hbs⟩, hfp⟩, hts⟩ := h
  obtain ⟨h2, hpin, hsvc, hing, hhash, hbase⟩ := (netCore_iff s sub w true).1 hcore
  rw [if_pos rfl] at h2
  rw [pinOK_iff] at hpin
  rw [effIdx_eq] at h2 hpin
  refine ⟨h2, hpin, (svcOK_iff s w).1 hsvc, (ingOK_iff s).1 hing, (hashOK_iff sub w).1 hhash, (baseOK_iff s).1 hbase,
    ?_, ?_, (trState_iff s sub w).1 hts, fun p hp => ?_, hlo, hhi⟩
  · rw [Option.isSome_map]; exact (brSome_iff s sub).1 hbs
  · rw [Option.isSome_map]; exact (firstPin_iff s sub w).1 hfp
  · cases hb : s.br with
    | none => rw [hb] at hp; cases hp
    | some b =>
      rw [hb] at hp hlink
      simp only [Option.map_some, Option.some.injEq] at hp
      obtain ⟨_, ⟨q, hq, _, l3, _⟩, _, _⟩ := (linkOK_iff s.ro sub b).1 hlink
      rw [hp] at hq; cases hq
      exact l3

/-- `finBr`: the BatchRelease and the workload along the clean-up cursor. Untouched (`linked`) up to `ResumeWorkload`; there
    resumed — batch partition removed, not being deleted, Completed only with the workload released; at `ReleaseWorkloadControl`
    resumed and Completed with the workload released, or gone; gone at the end -/
inductive FinBr (s : CS) (sub : Sub) (w : CWl) : Prop
  | linked (b : CBr) (hb : s.br = some b) (hf : beforeResume sub.finStep = true ∨ sub.finStep = .resumeWorkload)
      (hl : linkOK s.ro sub b = true)
  | resumed (b : CBr) (hb : s.br = some b) (hf : sub.finStep = .resumeWorkload) (hd : b.deleting = false)
      (hp : b.partition = none) (hc : b.st.phase = .completed → released w = true)
  | completed (b : CBr) (hb : s.br = some b) (hf : sub.finStep = .releaseWorkloadControl) (hp : b.partition = none)
      (hc : b.st.phase = .completed) (hrel : released w = true)
  | gone (hb : s.br = none) (hf : sub.finStep = .releaseWorkloadControl ∨ sub.finStep = .end_) (hrel : released w = true)

theorem finBr_iff (s : CS) (sub : Sub) (w : CWl) : finBr s sub w = true ↔ FinBr s sub w := by
  unfold finBr
  constructor
  · intro h
    cases hf : sub.finStep <;> rw [hf] at h <;> dsimp only at h
    case empty | restoreStableService | routeTrafficToStable | removeCanaryService =>
      cases hb : s.br with
      | none => rw [hb] at h; cases h
      | some b => rw [hb] at h; exact .linked b hb (.inl (by rw [hf]; rfl)) h
    case resumeWorkload =>
      cases hb : s.br with
      | none => rw [hb] at h; cases h
      | some b =>
        rw [hb] at h
        simp only [Bool.or_eq_true, Bool.and_eq_true, Bool.not_eq_true', Option.isNone_iff_eq_none, bne_iff_ne, ne_eq] at h
        rcases h with h | ⟨⟨hd, hp⟩, hc⟩
        · exact .linked b hb (.inr hf) h
        · exact .resumed b hb hf hd hp (fun e => hc.resolve_left (fun n => n e))
    case releaseWorkloadControl =>
      cases hb : s.br with
      | none => rw [hb] at h; exact .gone hb (.inl hf) h
      | some b =>
        rw [hb] at h
        simp only [Bool.and_eq_true, Option.isNone_iff_eq_none, beq_iff_eq] at h
        exact .completed b hb hf h.1.1 h.1.2 h.2
    case end_ =>
      simp only [Bool.and_eq_true, Option.isNone_iff_eq_none] at h
      exact .gone h.1 (.inr hf) h.2
    all_goals cases h
  · intro h
    cases h with
    | linked b hb hf hl =>
      rw [hb]
      rcases hf with hf | hf
      · cases hs : sub.finStep <;> rw [hs] at hf <;> first | exact hl | cases hf
      · rw [hf]
        dsimp only
        rw [hl]; rfl
    | resumed b hb hf hd hp hc =>
      rw [hb, hf]
      dsimp only
      rw [hd, hp]
      cases hph : decide (b.st.phase = .completed) with
      | false => simp [of_decide_eq_false hph]
      | true => simp [hc (of_decide_eq_true hph)]
    | completed b hb hf hp hc hrel =>
      rw [hb, hf]
      dsimp only
      rw [hp, hc, hrel]; rfl
    | gone hb hf hrel =>
      rw [hb]
      rcases hf with hf | hf <;> rw [hf] <;> dsimp only
      · exact hrel
      · rw [hrel]; rfl

/-- `finInv` (success order, canary style): the post-condition of every task the cursor `f` has passed -/
theorem fin_inv_posts (ro : Rollout) (f : FinStep) (br : Option BR) (n : Net) (hst : ro.style = .canary)
    (h : RV.Oracle.Cluster.finInv .success ro f br n = true) (t : FinStep)
    (ht : t ∈ RV.Oracle.Cluster.doneTasks (taskList .canary .success) f) : RV.Oracle.Cluster.post t ro br n = true := by
  unfold RV.Oracle.Cluster.finInv at h
  rw [hst, List.all_eq_true] at h
  exact h t ht

/-- the post of `RestoreStableService` allows a selector on the stable Service only without traffic routing, without the
    stable Service, or empty; `pinOK` and `baseOK` exclude all three -/
theorem unpinned_of_post (s : CS) (sub : Sub) (w : CWl) (br : Option RolloutSM.BR)
    (hp : RV.Oracle.Cluster.post .restoreStableService s.ro br s.net = true) (hpin : pinOK s sub w = true)
    (hbase : baseOK s = true) : s.net.stableSel = none := by
  cases hsel : s.net.stableSel with
  | none => rfl
  | some r =>
    obtain ⟨_, hne, _, htr, _⟩ := (pinOK_iff s sub w).1 hpin r hsel
    unfold RV.Oracle.Cluster.post at hp
    dsimp only at hp
    rw [htr, ((baseOK_iff s).1 hbase htr).1, hsel] at hp
    simp only [Bool.not_true, Bool.false_or, Option.getD_some, beq_iff_eq] at hp
    exact absurd hp hne

/-- a state of the invariant, by phase and reason: what `phaseInv` and `trPhase` say there -/
inductive TrCase (s : CS) (w : CWl) : Prop
  | healthy (hph : s.ro.phase = .healthy) (hbr : s.br = none) (hheld : w.inProgressAnno = true → held w = true)
      (hnet : netClean s.net = true) (hwl : (if w.inProgressAnno then pendingWl w else released w) = true)
  | init (hph : s.ro.phase = .progressing) (hr : s.ro.reason = .initializing) (hbr : s.br = none) (hheld : held w = true)
      (hnet : netClean s.net = true) (hpend : pendingWl w = true)
  | rolling (sub : Sub) (hph : s.ro.phase = .progressing) (hr : s.ro.reason = .inRolling) (hsub : s.ro.sub = some sub)
      (hsg : SubGood s.ro sub w.updateRevision) (hlink : linkOKo s.ro sub s.br = true) (hwithin : withinCur s.ro sub w = true)
      (hroll : RollAt s sub w)
  | fin (sub : Sub) (hph : s.ro.phase = .progressing) (hr : s.ro.reason = .finalising) (hsub : s.ro.sub = some sub)
      (hcur : RV.Oracle.Cluster.cursorOk (taskList s.ro.style .success) sub.finStep = true)
      (hinv : RV.Oracle.Cluster.finInv .success s.ro sub.finStep (s.br.map roBr) s.net = true)
      (hnc : netCore s sub w false = true) (hfb : FinBr s sub w) (hrev : sub.canaryRev = w.updateRevision)
      (hidx : sub.curIdx ≤ s.ro.steps.length)
  | completed (hph : s.ro.phase = .progressing) (hr : s.ro.reason = .completed) (hbr : s.br = none)
      (hanno : w.inProgressAnno = false) (hnet : netClean s.net = true) (hrel : released w = true)

theorem TrCase.phase {s : CS} {w : CWl} (h : TrCase s w) : s.ro.phase = .healthy ∨ s.ro.phase = .progressing := by
  cases h with
  | healthy hph => exact Or.inl hph
  | init hph => exact Or.inr hph
  | rolling _ hph => exact Or.inr hph
  | fin _ hph => exact Or.inr hph
  | completed hph => exact Or.inr hph

theorem TrCase.rolling_inv {s : CS} {w : CWl} {sub : Sub} (h : TrCase s w) (hph : s.ro.phase = .progressing)
    (hr : s.ro.reason = .inRolling) (hsub : s.ro.sub = some sub) :
    SubGood s.ro sub w.updateRevision ∧ linkOKo s.ro sub s.br = true ∧ RollAt s sub w := by
  cases h with
  | healthy hp => rw [hph] at hp; cases hp
  | init _ hr' => rw [hr] at hr'; cases hr'
  | rolling sub0 _ _ hsub0 hsg hlink _ hroll => cases hsub.symm.trans hsub0; exact ⟨hsg, hlink, hroll⟩
  | fin _ _ hr' => rw [hr] at hr'; cases hr'
  | completed _ hr' => rw [hr] at hr'; cases hr'

theorem trCase_of {s : CS} {w : CWl} (hpi : phaseInv s w = true) (htp : trPhase s w = true) : TrCase s w := by
  unfold trPhase at htp
  split at htp
  · rename_i hph
    rw [Bool.and_eq_true] at htp
    rw [phaseInv_healthy s w hph] at hpi
    simp only [Bool.and_eq_true, Bool.or_eq_true, Bool.not_eq_true', Option.isNone_iff_eq_none] at hpi
    refine .healthy hph hpi.1 (fun ha => ?_) htp.1 htp.2
    rcases hpi.2 with hh | hh
    · rw [ha] at hh; cases hh
    · exact hh
  · rename_i hph hr
    rw [Bool.and_eq_true] at htp
    rw [phaseInv_init s w hph hr] at hpi
    simp only [Bool.and_eq_true, Option.isNone_iff_eq_none] at hpi
    exact .init hph hr hpi.1 hpi.2 htp.1 htp.2
  · rename_i hph hr
    split at htp
    · rename_i sub hsub
      rw [phaseInv_rolling s w sub hph hr hsub] at hpi
      simp only [Bool.and_eq_true] at hpi
      have hsg := (subOK_iff s.ro sub w).1 hpi.1.1
      exact .rolling sub hph hr hsub hsg hpi.1.2 hpi.2 (.of_clauses htp hpi.1.2 hsg.lo hsg.hi)
    · cases htp
  · rename_i hph hr
    split at htp
    · rename_i sub hsub
      simp only [Bool.and_eq_true, beq_iff_eq, decide_eq_true_eq] at htp
      rw [phaseInv_fin s w sub hph hr hsub] at hpi
      simp only [Bool.and_eq_true] at hpi
      exact .fin sub hph hr hsub hpi.1 hpi.2 htp.1.1.1 ((finBr_iff s sub w).1 htp.1.1.2) htp.1.2 htp.2
    · cases htp
  · rename_i hph hr
    rw [Bool.and_eq_true] at htp
    rw [phaseInv_completed s w hph hr] at hpi
    simp only [Bool.and_eq_true, Bool.not_eq_true', Option.isNone_iff_eq_none] at hpi
    exact .completed hph hr hpi.1 hpi.2 htp.1 htp.2
  · cases htp

/-- the traffic invariant at a state with workload `w`: the forward invariant clause by clause, at least one replica, `trPhase`,
    and what `phaseInv` and `trPhase` say in the phase the rollout is in -/
structure TrAt (s : CS) (w : CWl) : Prop where
  fwd : Fwd s w
  pos : 0 < w.replicas
  tp : trPhase s w = true
  case : TrCase s w

theorem tr_at (s : CS) (h : trInv s = true) : ∃ w, TrAt s w := by
  obtain ⟨hf, hr⟩ := (trInv_iff s).1 h
  obtain ⟨w, F⟩ := fwd_at s hf
  obtain ⟨hR, htp⟩ := (trRest_some s w F.wl).1 hr
  exact ⟨w, F, hR, htp, trCase_of F.pi htp⟩

theorem TrAt.fin {s : CS} {w : CWl} {sub : Sub} (T : TrAt s w) (hph : s.ro.phase = .progressing) (hr : s.ro.reason = .finalising)
    (hsub : s.ro.sub = some sub) :
    netCore s sub w false = true ∧ FinBr s sub w ∧ sub.canaryRev = w.updateRevision ∧ sub.curIdx ≤ s.ro.steps.length := by
  cases T.case with
  | healthy hp => rw [hph] at hp; cases hp
  | init _ hr' => rw [hr] at hr'; cases hr'
  | rolling _ _ hr' => rw [hr] at hr'; cases hr'
  | fin sub0 _ _ hsub0 _ _ hnc hfb hrev hidx => cases hsub.symm.trans hsub0; exact ⟨hnc, hfb, hrev, hidx⟩
  | completed _ hr' => rw [hr] at hr'; cases hr'

theorem TrAt.rollAt {s : CS} {w : CWl} {sub : Sub} (T : TrAt s w) (hph : s.ro.phase = .progressing) (hr : s.ro.reason = .inRolling)
    (hsub : s.ro.sub = some sub) : RollAt s sub w :=
  (T.case.rolling_inv hph hr hsub).2.2

end RV.Lemmas.ClosedLoopTraffic
