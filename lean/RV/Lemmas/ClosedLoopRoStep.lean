/-
  Label `ro` on the joint state, phase by phase: what ONE Rollout reconcile does to the joint state, with the post-state written
  out (status, BatchRelease and workload as the writes land, network and grace memory of the reconciler's context): `stepRo_quiet`,
  `stepRo_roll`, `stepRo_clean`.  Before them, how the BatchRelease writes of a reconcile land (`landBR`).  After them, the label
  opened once from a state of the forward invariant: `RoStep` lists the three cases, `stepRo_open` says one of them applies; the
  invariants over label `ro` are case analyses of it.
-/
import RV.Lemmas.ClosedLoop
import RV.Lemmas.ClosedLoopFin
namespace RV.Lemmas.ClosedLoop
open RV.Arith RV.Traffic RV.RolloutSM RV.ClosedLoop RV.Oracle.ClosedLoop RV.Oracle.Batch RV.Props.Reconcile

/-- what a landed update keeps of the stored object and takes from the written one -/
structure UpdOK (c : CBr) (b : BR) (c2 : CBr) : Prop where
  batches : c2.batches = b.batches
  partition : c2.partition = b.partition
  rollbackAnno : c2.rollbackAnno = b.rollbackAnno
  cb : c2.st.currentBatch = c.st.currentBatch
  phase : c2.st.phase = c.st.phase
  nnu : c2.st.noNeedUpdate = c.st.noNeedUpdate

theorem spec_same (c : CBr) (b : BR) (h : specChanged c b = false) : c.batches = b.batches ∧ c.partition = b.partition := by
  unfold specChanged at h
  simp only [Bool.not_eq_false', Bool.and_eq_true, beq_iff_eq] at h
  exact ⟨h.1.1.1.1, h.1.1.1.2⟩

/-- the object after the spec / annotation part of an update landed (before a delete is looked at) -/
def upd2 (c : CBr) (b : BR) : CBr :=
  { (if specChanged c b then
      { c with batches := b.batches, partition := b.partition, rolloutID := b.rolloutID, policy := b.policy,
               specOther := b.specOther, failureThreshold := if b.specOther then none else c.failureThreshold,
               generation := c.generation + 1,
               st := { c.st with hash := if c.st.hash = .same then .differs else c.st.hash } }
     else c) with rollbackAnno := b.rollbackAnno }

theorem updatedBr_eq (c : CBr) (b : BR) :
    updatedBr c b = if b.deleting ∧ ¬ c.deleting then (if c.hasFinalizer then some { upd2 c b with deleting := true } else none)
      else some (upd2 c b) := rfl

theorem upd2_ok (c : CBr) (b : BR) : UpdOK c b (upd2 c b) ∧ (upd2 c b).deleting = c.deleting := by
  unfold upd2
  cases hch : specChanged c b
  · obtain ⟨h1, h2⟩ := spec_same c b hch
    rw [if_neg (by simp)]
    exact ⟨⟨h1, h2, rfl, rfl, rfl, rfl⟩, rfl⟩
  · rw [if_pos rfl]
    exact ⟨⟨rfl, rfl, rfl, rfl, rfl, rfl⟩, rfl⟩

/-- a Delete carries the object as it is stored: nothing but the deletion mark can land -/
theorem upd2_delete (c : CBr) : upd2 c { roBr c with deleting := true } = c := by
  cases c
  unfold upd2 specChanged roBr
  simp

theorem updatedBr_some (c : CBr) (b : BR) (hd : b.deleting = c.deleting) :
    ∃ c2, updatedBr c b = some c2 ∧ UpdOK c b c2 ∧ c2.deleting = c.deleting := by
  rw [updatedBr_eq, if_neg (by rw [hd]; simp)]
  exact ⟨_, rfl, (upd2_ok c b).1, (upd2_ok c b).2⟩

theorem updatedBr_any (c : CBr) (b : BR) : updatedBr c b = none ∨ ∃ c2, updatedBr c b = some c2 ∧ UpdOK c b c2 := by
  obtain ⟨⟨h1, h2, h3, h4, h5, h6⟩, _⟩ := upd2_ok c b
  rw [updatedBr_eq]
  split
  · split
    · exact Or.inr ⟨_, rfl, ⟨h1, h2, h3, h4, h5, h6⟩⟩
    · exact Or.inl rfl
  · exact Or.inr ⟨_, rfl, ⟨h1, h2, h3, h4, h5, h6⟩⟩

theorem map_roBr_some (cbr : Option CBr) (b : BR) (h : cbr.map roBr = some b) : ∃ c, cbr = some c ∧ roBr c = b := by
  cases cbr with
  | none => cases h
  | some c => exact ⟨c, rfl, by simpa using h⟩

theorem map_roBr_none (cbr : Option CBr) (h : cbr.map roBr = none) : cbr = none := by
  cases cbr with
  | none => rfl
  | some c => cases h

theorem linkOKo_mono (ro : Rollout) (sub s' : Sub) (br : Option CBr) (hle : sub.curIdx ≤ s'.curIdx)
    (h : linkOKo ro sub br = true) : linkOKo ro s' br = true := by
  cases br with
  | none => rfl
  | some c =>
    obtain ⟨h1, ⟨p, hp, a, b, d⟩, h3, h4⟩ := (linkOK_iff ro sub c).1 h
    exact (linkOK_iff ro s' c).2 ⟨h1, ⟨p, hp, a, by omega, d⟩, h3, h4⟩

theorem upd_land (ro : Rollout) (sub s' : Sub) (c : CBr) (b' : BR) (w : CWl) (p : Int) (hplan : planOf ro ≠ [])
    (hbrok : brOK c = true) (hlink : linkOK ro sub c = true) (k1 : b'.deleting = c.deleting)
    (k2 : b'.batches = planOf ro) (k3 : b'.partition = some p) (k4 : b'.rollbackAnno = false)
    (hp : ∀ q, c.partition = some q → q ≤ p) (hple : p ≤ s'.curIdx - 1) :
    ∃ c2, landBR (some c) (some b') (some w) = (some c2, some w) ∧ brOK c2 = true ∧ linkOK ro s' c2 = true ∧
      c2.partition = b'.partition := by
  obtain ⟨c2, e, u, ud⟩ := updatedBr_some c b' k1
  obtain ⟨_, a2, _, _, a5⟩ := (brOK_iff c).1 hbrok
  obtain ⟨_, ⟨q, hq, l2, _, l4⟩, l5, l6⟩ := (linkOK_iff ro sub c).1 hlink
  have := hp q hq
  refine ⟨c2, by show (updatedBr c b', some w) = _; rw [e], ?_, ?_, u.partition⟩
  · refine (brOK_iff c2).2 ⟨by rw [u.batches, k2]; exact hplan, by rw [u.cb]; exact a2, ?_, by rw [u.rollbackAnno, k4],
      by rw [u.nnu]; exact a5⟩
    intro r hr
    rw [u.partition, k3] at hr
    cases hr; omega
  · exact (linkOK_iff ro s' c2).2 ⟨by rw [u.batches, k2], ⟨p, by rw [u.partition, k3], by omega, hple, by rw [u.cb]; omega⟩,
      by rw [ud]; exact l5, by rw [u.phase]; exact l6⟩

theorem roll_land (ro : Rollout) (id : String) (sub s' : Sub) (cbr : Option CBr) (nb : Option BR) (w : CWl)
    (hsteps : ro.steps ≠ []) (h : BrRoll ro sub.curIdx id (cbr.map roBr) nb) (hlo : 1 ≤ sub.curIdx)
    (hle : sub.curIdx ≤ s'.curIdx) (hbrok : brOKo cbr = true) (hlink : linkOKo ro sub cbr = true) :
    ∃ br' o, landBR cbr nb (some w) = (br', some { w with owner := o }) ∧ brOKo br' = true ∧ linkOKo ro s' br' = true ∧
      br'.map (·.partition) = nb.map (·.partition) := by
  have hplan : planOf ro ≠ [] := by
    unfold planOf; intro hh; exact hsteps (List.map_eq_nil_iff.mp hh)
  generalize hb0 : cbr.map roBr = b0 at h
  cases h with
  | same =>
    subst hb0
    exact ⟨cbr, w.owner, by rw [landBR_id], hbrok, linkOKo_mono ro sub s' cbr hle hlink, by cases cbr <;> rfl⟩
  | created =>
    have hn := map_roBr_none cbr hb0
    subst hn
    refine ⟨some (createdBr (desiredBR ro id (sub.curIdx - 1) false)), (if w.owner = .this then .other else w.owner), ?_, ?_, ?_, rfl⟩
    · show (some (createdBr _), some (if w.owner = .this then { w with owner := .other } else w)) = _
      split <;> rfl
    · refine (brOK_iff _).2 ⟨hplan, Int.le_refl _, fun p hp => ?_, rfl, rfl⟩
      have : sub.curIdx - 1 = p := Option.some.inj hp
      omega
    · refine (linkOK_iff _ _ _).2 ⟨rfl, ⟨sub.curIdx - 1, rfl, by omega, by omega, ?_⟩, rfl, Or.inl rfl⟩
      show (0 : Int) ≤ sub.curIdx - 1
      omega
  | kept b b' k1 k2 k3 k4 =>
    obtain ⟨c, rfl, rfl⟩ := map_roBr_some cbr b hb0
    obtain ⟨hpl, ⟨q, hq, _, hq2, _⟩, _, _⟩ := (linkOK_iff ro sub c).1 hlink
    obtain ⟨c2, e, h1, h2, h3⟩ := upd_land ro sub s' c b' w q hplan hbrok hlink k1 (k2.trans hpl) (k3.trans hq)
      (k4.trans ((brOK_iff c).1 hbrok).2.2.2.1)
      (fun r hr => by rw [hq] at hr; cases hr; exact Int.le_refl _) (by omega)
    exact ⟨some c2, w.owner, e, h1, h2, congrArg some h3⟩
  | updated b b' k1 k2 k3 k4 =>
    obtain ⟨c, rfl, rfl⟩ := map_roBr_some cbr b hb0
    obtain ⟨_, ⟨q, hq, _, hq2, _⟩, _, _⟩ := (linkOK_iff ro sub c).1 hlink
    obtain ⟨c2, e, h1, h2, h3⟩ := upd_land ro sub s' c b' w (sub.curIdx - 1) hplan hbrok hlink k1 k2 k3 k4
      (fun r hr => by rw [hq] at hr; cases hr; exact hq2) (by omega)
    exact ⟨some c2, w.owner, e, h1, h2, congrArg some h3⟩

theorem linkOKo_plan (ro ro' : Rollout) (sub : Sub) (br : Option CBr) (h : planOf ro' = planOf ro) :
    linkOKo ro' sub br = linkOKo ro sub br := by
  unfold linkOKo linkOK; rw [h]

theorem fin_land (cbr : Option CBr) (nb : Option BR) (wl : Option CWl) (h : BrFin (cbr.map roBr) nb)
    (hbrok : brOKo cbr = true) :
    ∃ br', landBR cbr nb wl = (br', wl) ∧ brOKo br' = true ∧ RV.Props.Cluster.BrLE nb (br'.map roBr) ∧
      (nb = none → br' = none) := by
  generalize hb0 : cbr.map roBr = b0 at h
  cases h with
  | same =>
    subst hb0
    refine ⟨cbr, landBR_id _ _, hbrok, RV.Props.Cluster.BrLE.refl _, fun hn => map_roBr_none cbr hn⟩
  | changed b b' k1 k2 k3 k4 k5 =>
    obtain ⟨c, hc, hcb⟩ := map_roBr_some cbr b hb0
    subst hc
    subst hcb
    have hbrok' : brOK c = true := hbrok
    refine ⟨updatedBr c b', rfl, ?_, ?_, fun hn => by cases hn⟩
    · rcases updatedBr_any c b' with e | ⟨c2, e, u⟩
      · rw [e]; rfl
      · rw [e]
        show brOK c2 = true
        rw [brOK_iff] at hbrok' ⊢
        obtain ⟨a1, a2, a3, a4, a5⟩ := hbrok'
        refine ⟨by rw [u.batches, k1]; exact a1, by rw [u.cb]; exact a2, ?_, by rw [u.rollbackAnno, k2]; exact a4,
          by rw [u.nnu]; exact a5⟩
        intro p hp
        rw [u.partition] at hp
        rcases k4 with k4 | k4
        · rw [k4] at hp; exact a3 p hp
        · rw [k4] at hp; cases hp
    · rcases updatedBr_any c b' with e | ⟨c2, e, u⟩
      · rw [e]
        exact ⟨fun _ => rfl, fun _ _ _ _ => Or.inl rfl⟩
      · rw [e]
        refine ⟨fun hn => (by cases hn), fun b hb hp hcpl => Or.inr ⟨roBr c2, rfl, ?_, ?_⟩⟩
        · have hb' : b' = b := Option.some.inj hb
          subst hb'
          show c2.partition.isNone = true
          rw [u.partition]; exact hp
        · have hb' : b' = b := Option.some.inj hb
          subst hb'
          show decide (c2.st.phase = .completed) = true
          rw [u.phase]
          have : (roBr c).phaseCompleted = true := by rw [← k3]; exact hcpl
          exact this

/-- what a Rollout reconcile that writes nothing but the status makes of it: nothing (the workload status is not readable, or
    `InitializeTrafficRouting` fails), or the move of phase / reason from Healthy, Initializing or Completed -/
inductive QuietRo (s : CS) (w : CWl) (ro' : Rollout) : Prop
  | same (e : ro' = s.ro)
  | noticed (hph : s.ro.phase = .healthy) (ha : w.inProgressAnno = true) (p : ro'.phase = .progressing)
      (q : ro'.reason = .initializing)
  | idle (hph : s.ro.phase = .healthy) (ha : w.inProgressAnno = false) (p : ro'.phase = .healthy)
  | done (hph : s.ro.phase = .progressing) (hr : s.ro.reason = .completed) (p : ro'.phase = .healthy)
  | waiting (hph : s.ro.phase = .progressing) (hr : s.ro.reason = .initializing) (p : ro'.phase = .progressing)
      (q : ro'.reason = .initializing)
  | started (hph : s.ro.phase = .progressing) (hr : s.ro.reason = .initializing) (p : ro'.phase = .progressing)
      (q : ro'.reason = .inRolling) (hsub : ro'.sub = some (startSub s.ro (roWl w)))
      (hbase : s.ro.hasTraffic = true → s.net.stableExists = true ∧ s.net.stableIngress = true)

/-- **a Rollout reconcile that writes nothing but the status** lands as `{ s with ro := ro' }` with `QuietRo` -/
theorem stepRo_quiet (s : CS) (w : CWl) (hgone : s.gone = false) (hg : RoGood s.ro) (hw : s.wl = some w)
    (hcase : (roWl w).consistent = false ∨ s.ro.phase = .healthy ∨
      (s.ro.phase = .progressing ∧ (s.ro.reason = .initializing ∨ s.ro.reason = .completed))) :
    ∃ ro', stepRo s = some { s with gone := false, ro := ro' } ∧ SpecKept s.ro ro' ∧ QuietRo s w ro' := by
  have hwl := world_wl s w hw
  obtain ⟨o1, _, o3⟩ := csObserve_same s.ro (roWl w)
  obtain ⟨f1, f2⟩ := csObserve_frame s.ro (roWl w)
  -- `SpecKept` of a successor is given unfolded: folded, `Same _ (csObserve ..)` is first compared with `Same _ ro'` argument by
  -- argument, which fails only after both rollouts are normalised
  cases hc : (roWl w).consistent with
  | false =>
    exact ⟨s.ro, stepRo_status s _ hgone (reconcile_wait (roWorld s) (roWl w) hg hwl hc) rfl rfl rfl rfl rfl, ⟨Same.rfl' _, rfl⟩, .same rfl⟩
  | true =>
    rcases hcase with hc0 | hph | ⟨hph, hr | hr⟩
    · rw [hc] at hc0; cases hc0
    · refine ⟨_, stepRo_status s _ hgone (reconcile_healthy (roWorld s) (roWl w) hg hwl hc hph) rfl rfl rfl rfl rfl,
        cs_specKept _ _ _ (cs_good_phase s.ro (roWl w) hg hc (by rw [hph]; decide)), ?_⟩
      rcases csPhase_healthy s.ro (csObserve s.ro (roWl w)) (roWl w) (o3.trans hph) with ⟨a, p, q⟩ | ⟨a, p⟩
      · exact .noticed hph a p q
      · exact .idle hph a p
    · rcases reconcile_initializing (roWorld s) (roWl w) hg hwl hc hph hr with ⟨_, k⟩ | ⟨_, _, k⟩ | ⟨hb, _, k⟩
      · exact ⟨s.ro, stepRo_status s _ hgone k rfl rfl rfl rfl rfl, ⟨Same.rfl' _, rfl⟩, .same rfl⟩
      · exact ⟨_, stepRo_status s _ hgone k rfl rfl rfl rfl rfl, (by unfold SpecKept Same; exact ⟨o1, f1⟩), .waiting hph hr (o3.trans hph) (f2.trans hr)⟩
      · exact ⟨_, stepRo_status s _ hgone k rfl rfl rfl rfl rfl, (by unfold SpecKept Same; exact ⟨o1, f1⟩), .started hph hr (o3.trans hph) rfl rfl fun ht =>
          ⟨Decidable.byContradiction (fun h => hb ⟨ht, Or.inl h⟩), Decidable.byContradiction (fun h => hb ⟨ht, Or.inr h⟩)⟩⟩
    · exact ⟨_, stepRo_status s _ hgone (reconcile_completed (roWorld s) (roWl w) hg hwl hc hph hr) rfl rfl rfl rfl rfl, (by unfold SpecKept Same; exact ⟨o1, f1⟩),
        .done hph hr rfl⟩

/-- the context the release manager (and the clean-up) starts from: the status and sub-status as `calculateRolloutStatus`
    hands them on -/
def roundCtx0 (s : CS) (w : CWl) (sub : Sub) : Ctx :=
  toCtx { roWorld s with ro := csObserve s.ro (roWl w) } (csSub sub (roWl w)) (roWl w)

/-- the joint state after one Rollout reconcile of a rolling rollout on sub-status `sub`: the hand-over to the clean-up (only the
    reason changes), or one round `c` of the release manager, landed; on an error the status is not written -/
inductive RollOut (s : CS) (w : CWl) (sub : Sub) (s' : CS) : Prop
  | handover (hst : sub.state = .completed)
      (eq : s' = { s with ro := { csObserve s.ro (roWl w) with reason := .finalising, sub := some (csSub sub (roWl w)) } })
  | round (hst : sub.state ≠ .completed) (c : Ctx) (err : Bool) (run : runCanary (roundCtx0 s w sub) = .ok c err)
      (eq : s' = ⟨false, if err then s.ro else { csObserve s.ro (roWl w) with sub := some c.sub }, (landBR s.br c.br (some w)).2,
        (landBR s.br c.br (some w)).1, c.net, c.mem⟩)
      (reason : s'.ro.reason = .inRolling) (x : Sub) (hx : s'.ro.sub = some x) (good : SubGood s'.ro x w.updateRevision)
      (lo : sub.curIdx ≤ x.curIdx) (hi : x.curIdx ≤ sub.curIdx + 1)
      (roll : BrRoll s.ro sub.curIdx (getRolloutID (roWl w)) (s.br.map roBr) c.br)

/-- **one Rollout reconcile of a rolling rollout**: the hand-over to the clean-up (sub-state `completed`: only the reason changes),
    or one round of the release manager on the observed status; on an error the status is not written; how the written
    BatchRelease lands is `roll_land` under the `BrRoll` stated last -/
theorem stepRo_roll (s : CS) (w : CWl) (sub : Sub) (hgone : s.gone = false) (hg : RoGood s.ro) (hw : s.wl = some w)
    (hwok : wlOK w = true) (hc : (roWl w).consistent = true) (hph : s.ro.phase = .progressing) (hr : s.ro.reason = .inRolling)
    (hsub : s.ro.sub = some sub) (hsg : SubGood s.ro sub w.updateRevision) :
    ∃ s', stepRo s = some s' ∧ s'.gone = false ∧ SpecKept s.ro s'.ro ∧ s'.ro.phase = .progressing ∧ RollOut s w sub s' := by
  have hnr := noRollback w hwok
  obtain ⟨o1, _, o3⟩ := csObserve_same s.ro (roWl w)
  obtain ⟨f1, f2⟩ := csObserve_frame s.ro (roWl w)
  have hgN := hsg.observed (roWl w)
  have hrec := reconcile_rolling_eq (roWorld s) (roWl w) sub hg hph hr (world_wl s w hw) hc hnr hsub hsg
  by_cases hst : sub.state = .completed
  · rw [if_pos hst] at hrec
    refine ⟨_, stepRo_eq s hgone _ hrec, rfl, (by unfold SpecKept Same; exact ⟨o1, f1⟩), o3.trans hph, .handover hst ?_⟩
    rw [landRo_status s _ rfl rfl rfl rfl, ← csObserve_sub_eq s.ro (roWl w) sub hsub]
    cases s
    cases hgone
    rfl
  · rw [if_neg hst] at hrec
    cases hrc : runCanary (toCtx { roWorld s with ro := csObserve (roWorld s).ro (roWl w) } (csSub sub (roWl w)) (roWl w)) with
    | panic => exact absurd hrc (runCanary_roll_total _ _ hgN)
    | ok c err =>
      rw [hrc] at hrec
      obtain ⟨r2, r3, r4, r5, r6⟩ := runCanary_roll _ c err _ hrc hnr hgN
      have hbr : BrRoll s.ro sub.curIdx (getRolloutID (roWl w)) (s.br.map roBr) c.br := r6.congr (ro' := s.ro) o1.steps.symm
      -- the workload write of the round is the in-progress annotation, which it leaves as it is
      have hanno : c.wl.inProgressAnno = w.inProgressAnno := by rw [show c.wl = roWl w from r2]; rfl
      unfold ofCtx at hrec
      dsimp only at hrec
      cases err with
      | true =>
        -- the status is not written
        rw [if_pos rfl] at hrec
        have hs' := stepRo_wl s _ w c.wl hgone hrec hw rfl
        rw [hanno] at hs'
        exact ⟨_, hs', rfl, ⟨Same.rfl' _, rfl⟩, hph,
          .round hst c true hrc rfl hr sub hsub hsg (Int.le_refl _) (by omega) hbr⟩
      | false =>
        rw [if_neg Bool.false_ne_true] at hrec
        have hs' := stepRo_wl s _ w c.wl hgone hrec hw rfl
        rw [hanno] at hs'
        exact ⟨_, hs', rfl, (by unfold SpecKept Same; exact ⟨o1, f1⟩), o3.trans hph,
          .round hst c false hrc rfl (f2.trans hr) c.sub rfl ⟨r3.lo, r3.hi, r3.next, r3.lu, r3.hash, r3.rev, r3.fin⟩ r4 r5 hbr⟩

/-- the joint state after one Rollout reconcile of a rollout in its clean-up: `c'`, `d` are what the round of `doFinalising` left -/
structure CleanOut (s : CS) (w : CWl) (sub : Sub) (s' : CS) (c' : Ctx) (d : Bool) : Prop where
  run : doFinalising (roundCtx0 s w sub) .success true = some (c', d, false)
  eq : s' = ⟨false,
        if d then { csObserve s.ro (roWl w) with sub := some c'.sub, reason := .completed, succeeded := some true }
          else { csObserve s.ro (roWl w) with sub := some c'.sub },
        (landBR s.br c'.br (some { w with inProgressAnno := false })).2,
        (landBR s.br c'.br (some { w with inProgressAnno := false })).1, c'.net, c'.mem⟩
  brFin : BrFin (s.br.map roBr) c'.br
  next : (s'.ro.reason = .finalising ∧ ∃ x, s'.ro.sub = some x ∧
      RV.Oracle.Cluster.cursorOk (taskList s'.ro.style .success) x.finStep = true ∧
      RV.Oracle.Cluster.finInv .success s'.ro x.finStep c'.br c'.net = true) ∨
    (s'.ro.reason = .completed ∧ c'.br = none)

/-- **one Rollout reconcile of a rollout in its clean-up**: one round of `doFinalising` on the observed status, in which no task
    fails; a round that is done sets reason Completed; the clean-up invariant of `RV.Props.Cluster` is carried -/
theorem stepRo_clean (s : CS) (w : CWl) (sub : Sub) (hgone : s.gone = false) (hg : RoGood s.ro) (hw : s.wl = some w)
    (hc : (roWl w).consistent = true) (hph : s.ro.phase = .progressing) (hr : s.ro.reason = .finalising)
    (hsub : s.ro.sub = some sub) (hcur : RV.Oracle.Cluster.cursorOk (taskList s.ro.style .success) sub.finStep = true)
    (hinv : RV.Oracle.Cluster.finInv .success s.ro sub.finStep (s.br.map roBr) s.net = true) :
    ∃ s' c' d, stepRo s = some s' ∧ SpecKept s.ro s'.ro ∧ s'.ro.phase = .progressing ∧ CleanOut s w sub s' c' d := by
  obtain ⟨o1, _, o3⟩ := csObserve_same s.ro (roWl w)
  obtain ⟨f1, f2⟩ := csObserve_frame s.ro (roWl w)
  obtain ⟨c', d, hd, hrec⟩ := reconcile_clean (roWorld s) (roWl w) sub hg hph hr (world_wl s w hw) hc hsub hcur
  obtain ⟨_, hwl', hbfin, hout⟩ := clean_round (roWorld s) (roWl w) sub hg c' d hcur hinv hd
  have hanno : c'.wl.inProgressAnno = false := by rw [hwl']
  cases d with
  | true =>
    rw [if_pos rfl] at hrec
    unfold ofCtx at hrec
    have hs' := stepRo_wl s _ w c'.wl hgone hrec hw rfl
    rw [hanno] at hs'
    exact ⟨_, c', true, hs', (by unfold SpecKept Same; exact ⟨o1, f1⟩), o3.trans hph, hd, rfl, hbfin, Or.inr ⟨rfl, hout⟩⟩
  | false =>
    rw [if_neg Bool.false_ne_true] at hrec
    unfold ofCtx at hrec
    have hs' := stepRo_wl s _ w c'.wl hgone hrec hw rfl
    rw [hanno] at hs'
    exact ⟨_, c', false, hs', (by unfold SpecKept Same; exact ⟨o1, f1⟩), o3.trans hph, hd, rfl, hbfin,
      Or.inl ⟨f2.trans hr, c'.sub, rfl, hout.1, (finInv_congr .success (csObserve s.ro (roWl w)) _ c'.sub.finStep c'.br c'.net rfl rfl rfl).trans hout.2⟩⟩

/-- **label `ro` from a state of the forward invariant**, by what the reconcile finds: only the status is written (workload
    status not readable, Healthy, Initializing, Completed); one round of the release manager; one clean-up round.  Each case
    with the clauses of `phaseInv` it starts from and the successor as `stepRo_quiet` / `stepRo_roll` / `stepRo_clean` give it -/
inductive RoStep (s : CS) (w : CWl) (s' : CS) : Prop
  | quiet (ro' : Rollout)
      (hcase : (roWl w).consistent = false ∨ s.ro.phase = .healthy ∨
        (s.ro.phase = .progressing ∧ (s.ro.reason = .initializing ∨ s.ro.reason = .completed)))
      (e : s' = { s with gone := false, ro := ro' }) (hk : SpecKept s.ro ro') (hro : QuietRo s w ro')
  | roll (sub : Sub) (hc : (roWl w).consistent = true) (hph : s.ro.phase = .progressing) (hr : s.ro.reason = .inRolling)
      (hsub : s.ro.sub = some sub) (hsg : SubGood s.ro sub w.updateRevision) (hlink : linkOKo s.ro sub s.br = true)
      (hwithin : withinCur s.ro sub w = true) (hg' : s'.gone = false) (hk : SpecKept s.ro s'.ro)
      (hrph : s'.ro.phase = .progressing) (hout : RollOut s w sub s')
  | clean (sub : Sub) (hc : (roWl w).consistent = true) (hph : s.ro.phase = .progressing) (hr : s.ro.reason = .finalising)
      (hsub : s.ro.sub = some sub) (hcur : RV.Oracle.Cluster.cursorOk (taskList s.ro.style .success) sub.finStep = true)
      (hinv : RV.Oracle.Cluster.finInv .success s.ro sub.finStep (s.br.map roBr) s.net = true) (c' : Ctx) (d : Bool)
      (hk : SpecKept s.ro s'.ro) (hrph : s'.ro.phase = .progressing) (hout : CleanOut s w sub s' c' d)

theorem stepRo_open {s : CS} {w : CWl} (F : Fwd s w) : ∃ s', stepRo s = some s' ∧ RoStep s w s' := by
  have quiet : ∀ hcase, ∃ s', stepRo s = some s' ∧ RoStep s w s' := fun hcase =>
    have ⟨ro', hst, hk, hro⟩ := stepRo_quiet s w F.gone F.good F.wl hcase
    ⟨_, hst, .quiet ro' hcase rfl hk hro⟩
  cases hc : (roWl w).consistent with
  | false => exact quiet (.inl hc)
  | true =>
    rcases phaseInv_cases s w F.pi with hph | ⟨hph, hr | hr | hr | hr⟩
    · exact quiet (.inr (.inl hph))
    · exact quiet (.inr (.inr ⟨hph, .inl hr⟩))
    · obtain ⟨sub, hs, hsg, hlink, hwithin⟩ := F.rolling hph hr
      obtain ⟨s', hst, hg', hk, hrph, hout⟩ := stepRo_roll s w sub F.gone F.good F.wl F.wok hc hph hr hs hsg
      exact ⟨s', hst, .roll sub hc hph hr hs hsg hlink hwithin hg' hk hrph hout⟩
    · obtain ⟨sub, hs, hcur, hinv⟩ := (phaseInv_fin_iff s w hph hr).1 F.pi
      obtain ⟨s', c', d, hst, hk, hrph, hout⟩ := stepRo_clean s w sub F.gone F.good F.wl hc hph hr hs hcur hinv
      exact ⟨s', hst, .clean sub hc hph hr hs hcur hinv c' d hk hrph hout⟩
    · exact quiet (.inr (.inr ⟨hph, .inr hr⟩))

end RV.Lemmas.ClosedLoop
