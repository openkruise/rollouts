/-
  C03, second sentence, in the closed loop: when a Rollout reconcile reports a step as routed (`StepTrafficRouting` → a later
  sub-state of the same step), the canary Ingress carries exactly the step's weight and both Services are in place
  (`RV.Props.Traffic.done_means_routed` lifted to the joint state).
-/
import RV.Lemmas.ClosedLoopGate
import RV.Lemmas.ClosedLoopTrafficRoll
import RV.Props.TrafficThms
namespace RV.Lemmas.ClosedLoopTraffic
open RV.Arith RV.Traffic RV.RolloutSM RV.ClosedLoop RV.Oracle.ClosedLoop RV.Oracle.ClosedLoopTraffic RV.Lemmas.ClosedLoop
open RV.Props.Reconcile

theorem done_routed (t : TCtx) (n : Net) (m : Mem) (wt : Nat) (href : t.hasRef = true) (hw : t.weight = some wt)
    (hd : (doTrafficRouting t n m).done = true) :
    (doTrafficRouting t n m).net = n ∧
    n.canaryIng = (if wt = 0 ∧ n.canaryIng.isNone = true then none else some wt) ∧
    (t.disableGen = false → n.canarySvc = some t.canaryRev ∧ n.stableSel = some t.stableRev) := by
  obtain ⟨fp, _⟩ := RV.Props.Traffic.done_is_fixed_point t n m hd
  have h := RV.Props.Traffic.done_means_routed t n m
  rw [fp, hd] at h
  unfold RV.Oracle.Traffic.doneMeansRouted at h
  rw [if_pos ⟨rfl, href⟩, hw] at h
  simp only [Bool.and_eq_true, Bool.or_eq_true, decide_eq_true_eq] at h
  obtain ⟨h1, h2⟩ := h
  refine ⟨fp, ?_, ?_⟩
  · rcases h1 with h1 | ⟨h0, h1⟩
    · rw [h1]
      rw [if_neg (by intro hc; cases hc.2)]
    · rw [h1, if_pos ⟨h0, rfl⟩]
  · intro hdg
    rcases h2 with h2 | h2
    · rw [hdg] at h2; cases h2
    · exact h2

theorem routed_round (c0 c' : Ctx) (err : Bool) (rev : String) (step : Step) (wt : Nat) (h : runCanary c0 = .ok c' err)
    (hg : SubGood c0.ro c0.sub rev) (hst : c0.sub.state = .trafficRouting) (hpost : postRouting c'.sub.state = true)
    (hstep : c0.ro.steps[(c0.sub.curIdx - 1).toNat]? = some step) (hw : step.weight = some wt)
    (href : c0.ro.hasTraffic = true) :
    c'.net = c0.net ∧
    c0.net.canaryIng = (if wt = 0 ∧ c0.net.canaryIng.isNone = true then none else some wt) ∧
    (c0.ro.disableGen = false → c0.net.canarySvc = some c'.sub.podHash ∧ c0.net.stableSel = some c'.sub.stableRev) := by
  obtain ⟨step', hstep', hn, _, hp, hs, _, ⟨hd, _, _⟩ | ⟨_, hs'⟩⟩ := routing_round c0 c' err rev h hg hst
  · cases hstep'.symm.trans hstep
    have e : live_call (roundCtx c0 step) c0.net c0.mem = doTrafficRouting (roundCtx c0 step) c0.net c0.mem := by
      unfold live_call; rw [show (roundCtx c0 step).weight = some wt from hw]
    rw [e] at hd hn
    obtain ⟨r1, r2, r3⟩ := done_routed (roundCtx c0 step) c0.net c0.mem wt href hw hd
    rw [hn, hp, hs]
    exact ⟨r1, r2, r3⟩
  · rw [hs'] at hpost; cases hpost

theorem routed_exact_step (s s' : CS) (h : trInv s = true) (hs : step s .ro = some s') : routedExact s s' = true := by
  have hs0 : stepRo s = some s' := hs
  unfold routedExact
  cases hrs : rollingSub s with
  | none => rfl
  | some sub =>
    cases hrs' : rollingSub s' with
    | none => rfl
    | some sub' =>
      dsimp only
      split
      · rename_i hcond
        obtain ⟨hst, _, hpost, href⟩ := hcond
        cases hwt : weightOf s.ro sub.curIdx with
        | none => rfl
        | some wt =>
          dsimp only
          obtain ⟨_, hph, hr, hsub⟩ := (rollingSub_some_iff s sub).1 hrs
          obtain ⟨_, _, _, hsub'⟩ := (rollingSub_some_iff s' sub').1 hrs'
          obtain ⟨w, T⟩ := tr_at s h
          cases hc : (roWl w).consistent with
          | false =>
            -- the waiting reconcile changes nothing
            rw [stepRo_wait s w T.fwd.gone T.fwd.good T.fwd.wl hc] at hs0
            cases hs0
            cases hsub.symm.trans hsub'
            rw [hst] at hpost
            exact absurd hpost (by decide)
          | true =>
            have hsame := (csObserve_same s.ro (roWl w)).1
            obtain ⟨hsg, _, _, _, ⟨hcomp, _⟩ | ⟨_, c, br', o, hrc, _, e, _⟩⟩ := tr_round_step T hc hph hr hsub hs0
            · rw [hst] at hcomp; cases hcomp
            · rw [e] at hsub' ⊢
              cases (show some c.sub = some sub' from hsub')
              obtain ⟨step, hstep, hwgt⟩ := weightOf_some s.ro sub.curIdx wt hsg.lo hwt
              obtain ⟨r1, r2, r3⟩ := routed_round _ c false _ step wt hrc (hsg.observed (roWl w)) hst hpost
                (by show (csObserve s.ro (roWl w)).steps[(sub.curIdx - 1).toNat]? = some step; rw [hsame.steps]; exact hstep) hwgt
                (by show (csObserve s.ro (roWl w)).hasTraffic = true; rw [hsame.hasTraffic]; exact href)
              -- restated on `s`: `(roundCtx0 s w sub).net` is `s.net` by unfolding, which `rw` does not see
              have r1' : c.net = s.net := r1
              have r2' : s.net.canaryIng = (if wt = 0 ∧ s.net.canaryIng.isNone = true then none else some wt) := r2
              have r3' : (csObserve s.ro (roWl w)).disableGen = false → s.net.canarySvc = some c.sub.podHash ∧ s.net.stableSel = some c.sub.stableRev := r3
              show (c.net.canaryIng == _ && (s.ro.disableGen || (c.net.canarySvc == _ && c.net.stableSel == _))) = true
              rw [r1']
              simp only [Bool.and_eq_true, Bool.or_eq_true, beq_iff_eq]
              refine ⟨r2', ?_⟩
              cases hdg : s.ro.disableGen with
              | true => exact Or.inl rfl
              | false => exact Or.inr (r3' (by rw [hsame.disableGen]; exact hdg))
      · rfl

end RV.Lemmas.ClosedLoopTraffic
