/-
  Progress of the closed loop, the executor's reconcile in normal form on the closed loop's views: how its result lands
  (`landSt`, `stepBr_status`), the sync step (`sync_steady`, `sync_quiet`, `sync_finalizing`), the reconcile as one equation on it (`reconcile_live`): it
  stops after it (`exec_stopped_of_ne`, `stepBr_stopped`) or goes on to execute (`exec_go`: `exec_preparing`, `exec_upgrading` on
  `upgradeBatch_entry`, `exec_verify`, `execute_finalizing`), and the fixed point of a batch reported ready (`exec_ready`,
  `stepBr_ready`).
-/
import RV.Lemmas.ClosedLoopLiveRound
namespace RV.Lemmas.ClosedLoop
open RV.Arith RV.Traffic RV.RolloutSM RV.ClosedLoop RV.Oracle.ClosedLoop

theorem landW_id (w : CWl) : landW w (exWl w) = w := by
  unfold landW exWl
  dsimp only
  rw [if_neg (by simp)]

theorem wlLand_id (w : CWl) : wlLand (some w) (some (exWl w)) = some w :=
  congrArg some (landW_id w)

/-- how a status the executor wrote lands -/
def landSt (b : CBr) (st : Executor.Status) : CBr :=
  { b with hasFinalizer := true, st := st, observedGeneration := b.generation,
           observedRolloutID := if st.rolloutIDSame then b.rolloutID else b.observedRolloutID }

theorem stepBr_status (a : CS) (b : CBr) (w : CWl) (st : Executor.Status) (rq er : Bool) (hb : a.br = some b)
    (hw : a.wl = some w)
    (hrec : Executor.reconcile (exBr b) (some (exWl w)) =
      .val { br := some { Executor.withFinalizer (exBr b) with status := st }, wl := some (exWl w), requeue := rq, err := er }) :
    stepBr a = some { a with br := some (landSt b st), wl := some w } := by
  rw [stepBr_eq a b w _ hb hw hrec]
  unfold landBr
  dsimp only
  rw [hw, wlLand_id]
  rfl

theorem landSt_core (b : CBr) (w : CWl) (st : Executor.Status) (hc : BrCore b w) (hh : st.hash = .same)
    (hr : st.rolloutIDSame = true) : BrCore (landSt b st) w := by
  refine ⟨rfl, rfl, hc.del, ?_, hc.rid, hc.so, hc.ft, hh⟩
  show (if st.rolloutIDSame = true then b.rolloutID else b.observedRolloutID) = b.rolloutID
  rw [if_pos hr]

/-- the sync step over a BatchRelease on a batch of its plan that the executor has not yet looked at (`Preparing`, nothing
    recorded) or has initialised on this workload: only the counters are refreshed -/
theorem sync_steady (b : CBr) (w : CWl) (hc : BrCore b w) (hbok : brOK b = true) (hp : b.partition.isSome = true)
    (hcb : b.st.currentBatch < b.batches.length) (hgen : w.generation = w.observedGeneration)
    (hst : (b.st.phase = .preparing ∧ b.st.observedReplicas = -1 ∧ b.st.updateRevision = "") ∨ brInit b w = true) :
    Executor.syncStatus (Executor.withFinalizer (exBr b)) (Executor.initializedStatus (exBr b).status) (some (exWl w)) =
      { status := Executor.refreshStatus (exBr b).status (some (exWl w)),
        stop := decide (Executor.refreshStatus (exBr b).status (some (exWl w)) ≠ (exBr b).status) } := by
  obtain ⟨hph, hrep, hrev⟩ : (b.st.phase = .preparing ∨ b.st.phase = .progressing) ∧
      (b.st.observedReplicas = -1 ∨ b.st.observedReplicas = w.replicas) ∧
      (b.st.updateRevision = "" ∨ b.st.updateRevision = "wl-" ++ w.updateRevision) := by
    rcases hst with ⟨h1, h2, h3⟩ | h
    · exact ⟨Or.inl h1, Or.inl h2, Or.inl h3⟩
    · obtain ⟨i1, i2, _, i4⟩ := (brInit_iff b w).1 h
      exact ⟨Or.inr i4, Or.inr i2, Or.inr i1⟩
  rw [RV.Executor.initialized_id _ (by show b.st.phase ≠ .empty; rcases hph with h | h <;> rw [h] <;> decide)]
  exact RV.Executor.syncStatus_normal (Executor.withFinalizer (exBr b)) (exBr b).status (some (exWl w)) (some (exWl w))
    (RV.Executor.syncInfo_normal _ _ _ hc.del (Int.le_of_eq hgen) (Or.inr ⟨hrep.imp_right Eq.symm, hrev.imp_right Eq.symm⟩))
    (RV.Executor.syncDecide_steady _ _ _ hc.del hp hph hc.hash hcb ((brOK_iff b).1 hbok).2.2.2.1)

/-- … and when the counters are the workload's, nothing changes -/
theorem sync_quiet (b : CBr) (w : CWl) (hs : brSync b w = true) (hbok : brOK b = true) (hp : b.partition.isSome = true)
    (hcb : b.st.currentBatch < b.batches.length) (hgen : w.generation = w.observedGeneration)
    (hst : (b.st.phase = .preparing ∧ b.st.observedReplicas = -1 ∧ b.st.updateRevision = "") ∨ brInit b w = true) :
    Executor.syncStatus (Executor.withFinalizer (exBr b)) (Executor.initializedStatus (exBr b).status) (some (exWl w)) =
      { status := (exBr b).status, stop := false } := by
  obtain ⟨⟨hu, hur⟩, hc⟩ := (brSync_iff b w).1 hs
  rw [sync_steady b w hc hbok hp hcb hgen hst,
    RV.Executor.refresh_id (exBr b).status (exWl w) hu hur hc.hash (decide_eq_true hc.oid), decide_eq_false (fun hn => hn rfl)]

/-- the sync step over a BatchRelease at work whose batch partition is gone: the phase becomes `Finalizing`, the counters are
    refreshed -/
theorem sync_finalizing (b : CBr) (w : CWl) (hpn : b.partition = none) (hd : b.deleting = false) (hc : b.st.phase ≠ .completed)
    (hne : b.st.phase ≠ .empty) :
    Executor.syncStatus (Executor.withFinalizer (exBr b)) (Executor.initializedStatus (exBr b).status) (some (exWl w)) =
      { status := Executor.refreshStatus { (exBr b).status with phase := .finalizing } (some (exWl w)),
        stop := decide (Executor.refreshStatus { (exBr b).status with phase := .finalizing } (some (exWl w)) ≠ (exBr b).status) } := by
  have hfinz : Executor.isPlanFinalizing (Executor.withFinalizer (exBr b)) = true := by
    show (b.deleting || decide (b.st.phase = .finalizing) || b.partition.isNone) = true
    rw [hpn]; simp
  rw [Executor.syncStatus_eq _ _ _ _ (RV.Executor.syncDecide_finalizing (Executor.withFinalizer (exBr b))
    (Executor.initializedStatus (exBr b).status) _ _ hc hfinz)]
  dsimp only
  rw [RV.Executor.syncInfo_info _ _ _ (by exact hd), Executor.initialized_id (exBr b).status hne, Bool.false_or]
  rfl

theorem sync_stop_of_ne (br : Executor.BR) (ns : Executor.Status) (wl : Option Executor.Workload)
    (h : (Executor.syncStatus br ns wl).status ≠ br.status) : (Executor.syncStatus br ns wl).stop = true := by
  unfold Executor.syncStatus at h ⊢
  dsimp only at h ⊢
  rw [decide_eq_true h, Bool.or_true]

/-- `Executor.reconcile` of a BatchRelease that is not being deleted, on the sync step over the BatchRelease's own status -/
theorem reconcile_live (eb : Executor.BR) (wl : Option Executor.Workload) (hd : eb.deleting = false) :
    Executor.reconcile eb wl =
      if (Executor.syncStatus (Executor.withFinalizer eb) (Executor.initializedStatus eb.status) wl).stop = true then
        .val { br := some { Executor.withFinalizer eb with
                            status := (Executor.syncStatus (Executor.withFinalizer eb) (Executor.initializedStatus eb.status) wl).status },
               wl := wl,
               requeue := decide ((Executor.syncStatus (Executor.withFinalizer eb) (Executor.initializedStatus eb.status) wl).status ≠
                 eb.status),
               err := false }
      else
        match Executor.execute (Executor.withFinalizer eb)
          (Executor.syncStatus (Executor.withFinalizer eb) (Executor.initializedStatus eb.status) wl).status wl with
        | .panic => .panic
        | .val (ns', wl', rq, er) =>
          .val { br := some { Executor.withFinalizer eb with status := ns' }, wl := wl', requeue := rq, err := er } := by
  unfold Executor.reconcile
  rw [if_neg (by simp [hd])]
  rfl

/-- a sync step that changes the status stops the reconcile, which persists the new status and requeues -/
theorem exec_stopped_of_ne (eb : Executor.BR) (wl : Option Executor.Workload) (st : Executor.Status) (hd : eb.deleting = false)
    (hst : (Executor.syncStatus (Executor.withFinalizer eb) (Executor.initializedStatus eb.status) wl).status = st)
    (hne : st ≠ eb.status) :
    Executor.reconcile eb wl =
      .val { br := some { Executor.withFinalizer eb with status := st }, wl := wl, requeue := true, err := false } := by
  rw [reconcile_live eb wl hd, if_pos (sync_stop_of_ne _ _ _ (by rw [hst]; exact hne)), hst, decide_eq_true hne]

theorem stepBr_stopped (a : CS) (b : CBr) (w : CWl) (hb : a.br = some b) (hw : a.wl = some w) (hd : b.deleting = false)
    (hstop : (Executor.syncStatus (Executor.withFinalizer (exBr b)) (Executor.initializedStatus (exBr b).status)
      (some (exWl w))).stop = true) :
    stepBr a = some { a with wl := some w, br := some (landSt b (Executor.syncStatus (Executor.withFinalizer (exBr b))
      (Executor.initializedStatus (exBr b).status) (some (exWl w))).status) } :=
  stepBr_status a b w _ _ _ hb hw (by rw [reconcile_live (exBr b) (some (exWl w)) hd, if_pos hstop])

theorem exec_go (eb : Executor.BR) (wl : Option Executor.Workload) (hd : eb.deleting = false)
    (hsync : Executor.syncStatus (Executor.withFinalizer eb) (Executor.initializedStatus eb.status) wl =
      { status := eb.status, stop := false }) :
    Executor.reconcile eb wl =
      match Executor.execute (Executor.withFinalizer eb) eb.status wl with
      | .panic => .panic
      | .val (ns', wl', rq, er) => .val { br := some { Executor.withFinalizer eb with status := ns' }, wl := wl', requeue := rq, err := er } := by
  rw [reconcile_live eb wl hd, hsync, if_neg Bool.false_ne_true]

theorem execute_finalizing (br : Executor.BR) (ns : Executor.Status) (w : Executor.Workload) (h : ns.phase = .finalizing)
    (hp : br.partition = none) :
    Executor.execute br ns (some w) =
      .val ({ ns with phase := .completed }, some { w with owner := .none, partition := none, paused := false }, false, false) := by
  rw [RV.ExecutorX.execute_eq]
  refine RV.ExecutorX.ExecX.eq (.finalized h ?_)
  show Executor.Out.val (Executor.finalize br (some w)) = _
  unfold Executor.finalize
  simp [hp]

theorem exec_preparing (br : Executor.BR) (w : Executor.Workload)
    (hsync : Executor.syncStatus (Executor.withFinalizer br) (Executor.initializedStatus br.status) (some w) =
      { status := br.status, stop := false })
    (hp : br.status.phase = .preparing) (hd : br.deleting = false) (hra : br.rollbackAnno = false) :
    Executor.reconcile br (some w) = .val
      { br := some { Executor.withFinalizer br with status :=
          { br.status with stableRevision := w.currentRevision, updateRevision := w.updateRevision,
                           observedReplicas := w.replicas, phase := .progressing } },
        wl := some (if w.owner = .this then w else { w with owner := .this, paused := false, partition := some (.pct 100) }),
        requeue := true, err := false } := by
  rw [exec_go br (some w) hd hsync]
  unfold Executor.execute Executor.normPhase
  rw [if_neg (by rw [hp]; decide)]
  dsimp only
  rw [hp]
  dsimp only
  unfold Executor.execPreparing Executor.initializeWl
  dsimp only
  have hra' : (Executor.withFinalizer br).rollbackAnno = false := hra
  rw [hra']
  simp only [Bool.false_eq_true, if_false, if_true]

/-- `UpgradeBatch` on a CloneSet writes the partition of the batch only when that lowers it -/
theorem upgradeBatch_entry (br : Executor.BR) (ns : Executor.Status) (w : Executor.Workload) (e : IntOrPct) (hR : w.replicas ≠ 0)
    (h0 : 0 ≤ br.status.currentBatch) (he : br.batches[br.status.currentBatch.toNat]? = some e) :
    Executor.upgradeBatch br ns (some w) = .val
      (some (if scaledV (w.partition.getD (.int 0)) w.replicas true ≤
          scaledV (RV.BatchCtx.desKnob .cloneSet w.replicas e br.status.noNeedUpdate) w.replicas true then w
        else { w with partition := some (RV.BatchCtx.desKnob .cloneSet w.replicas e br.status.noNeedUpdate) }), .ok) := by
  unfold Executor.upgradeBatch RV.BatchCtx.calcCtx Executor.obsOf
  dsimp only
  rw [if_neg hR, if_neg (by omega), he]
  dsimp only
  unfold RV.BatchCtx.upgrade RV.BatchCtx.curKnob
  dsimp only
  by_cases hle : scaledV (w.partition.getD (.int 0)) w.replicas true ≤
      scaledV (RV.BatchCtx.desKnob .cloneSet w.replicas e br.status.noNeedUpdate) w.replicas true
  · rw [if_pos hle, if_pos hle]
  · rw [if_neg hle, if_neg hle]

theorem exec_upgrading (br : Executor.BR) (w : Executor.Workload) (e : IntOrPct)
    (hsync : Executor.syncStatus (Executor.withFinalizer br) (Executor.initializedStatus br.status) (some w) =
      { status := br.status, stop := false })
    (hp : br.status.phase = .progressing) (hbs : br.status.batchState = .empty ∨ br.status.batchState = .upgrading)
    (hd : br.deleting = false) (hR : w.replicas ≠ 0) (h0 : 0 ≤ br.status.currentBatch)
    (he : br.batches[br.status.currentBatch.toNat]? = some e) (hnn : br.status.noNeedUpdate = none) :
    ∃ w', Executor.reconcile br (some w) = .val
      { br := some { Executor.withFinalizer br with status := { br.status with batchState := .verifying } },
        wl := some w', requeue := true, err := false } ∧
      ((w' = w ∧ scaledV (w.partition.getD (.int 0)) w.replicas true ≤
          scaledV (RV.BatchCtx.desKnob .cloneSet w.replicas e none) w.replicas true) ∨
        w' = { w with partition := some (RV.BatchCtx.desKnob .cloneSet w.replicas e none) }) := by
  -- an empty batch state is read as `Upgrading`
  have hns : Executor.normState br.status = { br.status with batchState := .upgrading } := by
    unfold Executor.normState
    rcases hbs with h | h
    · rw [if_pos (Or.inl h)]
    · rw [if_neg (by rw [h]; simp), ← h]
  have hup := upgradeBatch_entry (Executor.withFinalizer br) (Executor.normState br.status) w e hR h0 he
  rw [show (Executor.withFinalizer br).status.noNeedUpdate = none from hnn] at hup
  generalize hw' : (if scaledV (w.partition.getD (.int 0)) w.replicas true ≤
      scaledV (RV.BatchCtx.desKnob .cloneSet w.replicas e none) w.replicas true then w
    else { w with partition := some (RV.BatchCtx.desKnob .cloneSet w.replicas e none) }) = w' at hup
  refine ⟨w', ?_, ?_⟩
  · rw [exec_go br (some w) hd hsync, RV.ExecutorX.execute_eq,
      RV.ExecutorX.ExecX.eq (.progressing hp (.upgraded (by rw [hns]) hup)), hns]
  · by_cases hle : scaledV (w.partition.getD (.int 0)) w.replicas true ≤
        scaledV (RV.BatchCtx.desKnob .cloneSet w.replicas e none) w.replicas true
    · rw [← hw', if_pos hle]; exact Or.inl ⟨rfl, hle⟩
    · rw [← hw', if_neg hle]; exact Or.inr rfl

theorem exec_verify (br : Executor.BR) (w : Executor.Workload)
    (hsync : Executor.syncStatus (Executor.withFinalizer br) (Executor.initializedStatus br.status) (some w) =
      { status := br.status, stop := false })
    (hd : br.deleting = false) (hph : br.status.phase = .progressing) (hbs : br.status.batchState = .verifying)
    (hr : RV.Oracle.Executor.batchReadyNow br (some w) = true) :
    Executor.reconcile br (some w) =
      .val { br := some { Executor.withFinalizer br with status := { br.status with batchState := .ready, hasReadyTime := true } },
             wl := some w, requeue := true, err := false } := by
  have hex : Executor.execute (Executor.withFinalizer br) br.status (some w) =
      .val ({ br.status with batchState := .ready, hasReadyTime := true }, some w, true, false) := by
    rw [RV.ExecutorX.execute_eq]
    refine RV.ExecutorX.ExecX.eq (.progressing hph ?_)
    rw [RV.Executor.normState_of_known _ (by rw [hbs]; decide) (by rw [hbs]; decide)]
    exact .verified hbs (RV.Props.Executor.ensureReady_of_ready br br.status (some w) hr)
  rw [exec_go br (some w) hd hsync, hex]

theorem ReadyAt.finReady {b : CBr} {w : CWl} {k : Int} (R : ReadyAt b w k) : FinReady b w :=
  ⟨R.sync, R.init, R.ready, by rw [R.part]; rfl, R.now, by
    show (match b.partition with | some p => decide (p ≤ b.st.currentBatch) | none => false) = true
    rw [R.part, R.cb]
    exact decide_eq_true (Int.le_refl k)⟩

/-- the flag `rolloutIDSame` the reconcile writes back is not read by the classes -/
theorem ReadyAt.stOf {b : CBr} {w : CWl} {k : Int} (R : ReadyAt b w k) : ReadyAt { b with st := stOf b } w k :=
  ⟨R.sync, R.init, R.ready, R.time, R.part, R.cb, R.now⟩

theorem FinReady.stOf {b : CBr} {w : CWl} (R : FinReady b w) : FinReady { b with st := stOf b } w :=
  ⟨R.sync, R.init, R.ready, R.part, R.now, R.le⟩

/-- the batch the executor is on is inside the plan when the readiness check can be evaluated -/
theorem ready_lt (br : Executor.BR) (ew : Executor.Workload) (hR : ew.replicas ≠ 0) (h0 : 0 ≤ br.status.currentBatch)
    (h : RV.Oracle.Executor.batchReadyNow br (some ew) = true) : br.status.currentBatch < br.batches.length := by
  by_cases hlt : br.status.currentBatch < br.batches.length
  · exact hlt
  · exfalso
    unfold RV.Oracle.Executor.batchReadyNow at h
    dsimp only at h
    rw [if_neg hR] at h
    have e : RV.BatchCtx.calcCtx (Executor.obsOf br br.status ew) = .panic := by
      unfold RV.BatchCtx.calcCtx Executor.obsOf
      dsimp only
      have : (if br.status.currentBatch < 0 then none else br.batches[br.status.currentBatch.toNat]?) = none := by
        split
        · rfl
        · apply List.getElem?_eq_none; omega
      rw [this]
    rw [e] at h
    cases h

theorem exec_ready (b : CBr) (w : CWl) (R : FinReady b w) (hbrok : brOK b = true) (hR : 0 < w.replicas)
    (hgen : w.generation = w.observedGeneration) :
    ∃ o, Executor.reconcile (exBr b) (some (exWl w)) = .val o ∧ o.br = some (Executor.withFinalizer (exBr b)) ∧
      o.wl = some (exWl w) := by
  have k2 := ((brOK_iff b).1 hbrok).2.1
  have hph : (exBr b).status.phase = .progressing := ((brInit_iff b w).1 R.init).2.2.2
  have hlt : b.st.currentBatch < b.batches.length := ready_lt (exBr b) (exWl w) (by show w.replicas ≠ 0; omega) k2 R.now
  have hns : RV.Oracle.Executor.stopped (exBr b) (some (exWl w)) = false := by
    unfold RV.Oracle.Executor.stopped
    rw [sync_quiet b w R.sync hbrok R.part hlt hgen (Or.inr R.init)]
  cases ho : Executor.reconcile (exBr b) (some (exWl w)) with
  | panic => exact absurd ho (exec_total _ _ k2)
  | val o =>
    obtain ⟨h1, h2⟩ := RV.Props.Executor.ready_is_fixed_point _ _ o ho hns hph R.ready R.now R.le
    exact ⟨o, rfl, h1, h2⟩

/-- `w1` is the workload the Rollout reconcile left (it may have taken the annotation off `w`) -/
theorem stepBr_ready {s : CS} {ro : Rollout} (w w1 : CWl) (b : CBr) (hex : exWl w1 = exWl w) (R : FinReady b w)
    (hbok : brOK b = true) (hR : 0 < w.replicas) (hgen : w.generation = w.observedGeneration) :
    stepBr (mid s ro w1 (some b)) = some (mid s ro w1 (some { b with st := stOf b })) := by
  obtain ⟨_, C⟩ := (brSync_iff b w).1 R.sync
  obtain ⟨o, ho, ho1, ho2⟩ := exec_ready b w R hbok hR hgen
  rw [stepBr_eq _ b w1 o rfl rfl (by rw [hex]; exact ho)]
  unfold landBr
  rw [ho1, ho2, ← hex]
  have e : stLand b (Executor.withFinalizer (exBr b)) = { b with st := stOf b } := by
    unfold stLand
    have h1 : (Executor.withFinalizer (exBr b)).hasFinalizer = b.hasFinalizer := by rw [C.fin]; rfl
    have h2 : (Executor.withFinalizer (exBr b)).status = stOf b := rfl
    rw [h1, h2]
    show ({ b with st := stOf b, observedGeneration := b.generation,
                   observedRolloutID := if decide (b.observedRolloutID = b.rolloutID) = true then b.rolloutID else b.observedRolloutID } : CBr) = _
    rw [if_pos (decide_eq_true C.oid), ← C.oid, C.gen]
  rw [Option.map_some, e]
  show some ({ mid s ro w1 (some b) with br := _, wl := wlLand (some w1) (some (exWl w1)) } : CS) = _
  rw [wlLand_id]
  rfl

end RV.Lemmas.ClosedLoop
