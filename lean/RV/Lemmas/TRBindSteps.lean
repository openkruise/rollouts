/-
  Rollouts bound to a TrafficRouting custom resource: one reconcile of either controller.

  Model: `RV.TRBind` (`roReconcile` = `RV.RolloutSM.reconcile` + `handleTrafficRouting` / `finalizeTrafficRouting`;
  `trReconcile` = the TrafficRouting controller over named progressing finalizers; `step` / `run` = their closed loop
  with any number of rollouts sharing one TrafficRouting).  Oracles: `RV.Oracle.TRBind` — the same Bool functions the
  driver evaluates on every transition of the real reconcilers.

  `TRMove` is the one relation that says what a label does to the TrafficRouting object (`join` / `leave`: the two binding functions;
  `reconcile`: `CoreCase`, in `RV/Lemmas/TRSM.lean`, summarised by `core_frame` / `core_phase`); every Bool oracle about the object
  (not the network: those read `core_net`) and every history invariant of `Props/TRBindThms` is a case analysis of it; `RoCase` is the
  inversion of `roReconcile`.

  The property theorems about a single reconcile are stated here, in the namespace of `RV/Props/TRBindThms.lean`, because the step
  lemmas of this file are these theorems or are proved from them: about `trCore`, `core_net`, `core_finalizer`, `trReconcile_eq_TRSM`;
  about the two binding functions, `handle_spec`, `finalize_spec`; about one bound Rollout reconcile, `ro_panic_only_plain`,
  `rolling_origin`; about one TrafficRouting reconcile inside the loop, `routes_only_while_held`, `held_not_restored`,
  `tr_finalizer_guard`, `finalizing_entry_unheld`, `tr_keeps_holders`.  `RV/Props/TRBindThms.lean` has the Rollout reconcile inside the
  closed loop and the histories.
-/
import RV.Lemmas.TRBind
import RV.Props.TRSMThms
import RV.Lemmas.ReconcileFrame
namespace RV.Props.TRBind
open RV.Traffic RV.TRBind RV.Oracle.TRBind RV.Lemmas.TRBind

theorem core_net (t : TRO) (n : Net) (m : Mem) :
    ((trCore t n m).net = n ∧ (trCore t n m).mem = m) ∨
    ((trCore t n m).net = (doTrafficRouting (tctx t) n m).net ∧ (trCore t n m).mem = (doTrafficRouting (tctx t) n m).mem ∧
      t.deleting = false ∧ t.phase = .progressing ∧ t.holders ≠ []) ∨
    ((trCore t n m).net = (finalisingTrafficRouting (tctx t) n m).net ∧ (trCore t n m).mem = (finalisingTrafficRouting (tctx t) n m).mem ∧
      (t.deleting = true ∨ t.phase = .finalizing ∨ t.phase = .terminating)) := by
  have h := core_cases t n m
  generalize trCore t n m = c at h ⊢
  cases h
  case route hd hp hh => exact .inr (.inl ⟨rfl, rfl, hd, hp, hh⟩)
  case restore hp => exact .inr (.inr ⟨rfl, rfl, .inr (.inl hp)⟩)
  case liveTerm hp => exact .inr (.inr ⟨rfl, rfl, .inr (.inr hp)⟩)
  case delWait hd _ | delGone hd _ _ _ | delKept hd _ _ _ => exact .inr (.inr ⟨rfl, rfl, .inl hd⟩)
  all_goals exact .inl ⟨rfl, rfl⟩

theorem core_finalizer {t : TRO} {n : Net} {m : Mem} (h1 : t.hasFinalizer = true) (h2 : (trCore t n m).t.hasFinalizer = false) :
    t.deleting = true ∧ (trCore t n m).finalised = true ∧ (finalisingTrafficRouting (tctx t) n m).done = true ∧
    (trCore t n m).net = (finalisingTrafficRouting (tctx t) n m).net ∧ (trCore t n m).requeue = false := by
  have h := core_cases t n m
  generalize trCore t n m = c at h h2 ⊢
  cases h
  case delWait => rw [h1] at h2; cases h2
  case delGone hd _ hdn _ | delKept hd _ hdn _ => exact ⟨hd, rfl, hdn, rfl, rfl⟩
  all_goals cases h2

private theorem ite_ne {α} {c : Prop} [Decidable c] {a b x : α} (ha : a ≠ x) (hb : b ≠ x) : (if c then a else b) ≠ x := by
  split <;> assumption

theorem core_phase (t : TRO) (n : Net) (m : Mem) :
    ((trCore t n m).t.phase = .finalizing → t.phase = .finalizing ∨ (t.deleting = false ∧ t.holders = [])) ∧
    ((trCore t n m).t.phase = .terminating → t.phase = .terminating ∨ t.deleting = true) := by
  have h := core_cases t n m
  generalize trCore t n m = c at h ⊢
  cases h
  case initOk => exact ⟨nofun, nofun⟩
  case healthy => exact ⟨fun h => absurd h (ite_ne nofun nofun), fun h => absurd h (ite_ne nofun nofun)⟩
  case unheld hd _ hh => exact ⟨fun _ => .inr ⟨hd, hh⟩, nofun⟩
  case restore hp => exact ⟨fun _ => .inl hp, fun h => absurd h (ite_ne nofun nofun)⟩
  case delKept hd _ _ _ => exact ⟨nofun, fun _ => .inr hd⟩
  all_goals exact ⟨.inl, .inl⟩

theorem core_unheld (t : TRO) (n : Net) (m : Mem) (hd : t.deleting = false) (hp : t.phase = .progressing) (hh : t.holders = []) :
    trCore t n m = ⟨{ t with hasFinalizer := true, phase := .finalizing }, n, m, false, false, false, []⟩ := by
  obtain ⟨del, hf, hs, ph, wt, gr, hr⟩ := t
  cases hd; cases hp; cases hh
  rw [core_register _ n m rfl]; rfl

theorem core_restore (t : TRO) (n : Net) (m : Mem) (hd : t.deleting = false) (hp : t.phase = .finalizing) (o : TOut)
    (ho : o = finalisingTrafficRouting (tctx t) n m) :
    trCore t n m = ⟨{ t with hasFinalizer := true, phase := if !o.err && o.done then .healthy else .finalizing },
      o.net, o.mem, !o.err && !o.done, o.err, !o.err && o.done, o.writes⟩ := by
  obtain ⟨del, hf, hs, ph, wt, gr, hr⟩ := t
  cases hd; cases hp
  rw [core_register _ n m rfl]
  simp only [trCore, tctx, Bool.false_eq_true, not_false_eq_true, not_true_eq_false, and_false, if_false, reduceCtorEq] at ho ⊢
  subst ho
  generalize finalisingTrafficRouting _ n m = o
  obtain ⟨dn, er, n', m', tc, ws⟩ := o
  cases er <;> cases dn <;> rfl

/-- **no re-modelling drift** — for a TrafficRouting with an `objectRef`, `trReconcile` is `RV.TRSM.reconcile` on
    the counted view: same object afterwards (the names of the progressing finalizers are carried along untouched),
    same network, memory, requeue / error / finalised verdicts -/
theorem trReconcile_eq_TRSM (t : TRO) (n : Net) (m : Mem) (h : t.hasRef = true) :
    view (trReconcile t n m) = viewTRSM t (TRSM.reconcile ⟨toTR t, n, m⟩) := by
  rw [reconcile_toTR t n m h]
  unfold view viewTRSM trReconcile counted stored
  dsimp only
  rw [← isGone_eq, core_frame t n m]
  rfl

theorem holdersOf_some (t : TRO) : holdersOf (some t) = t.holders := rfl
theorem holdersOf_none : holdersOf none = [] := rfl

/-- rollout `i`'s reconcile left the object as it was up to the progressing finalizers, and those up to its own -/
theorem othersKept_holders (i : Nat) (t : TRO) (hs : List Nat) (h1 : ∀ j ∈ t.holders, j = i ∨ j ∈ hs)
    (h2 : ∀ j ∈ hs, j = i ∨ j ∈ t.holders) : othersKept i (some t) (some { t with holders := hs }) = true := by
  simp only [othersKept, beq_self_eq_true, Bool.and_true, Bool.true_and, List.all_eq_true, Bool.or_eq_true, beq_iff_eq,
    List.contains_iff_mem, Bool.and_eq_true]
  exact ⟨h1, h2⟩

theorem othersKept_refl (i : Nat) (tr : Option TRO) : othersKept i tr tr = true := by
  cases tr with
  | none => rfl
  | some t => exact othersKept_holders i t t.holders (fun _ => .inr) (fun _ => .inr)

theorem stored_cases (t : TRO) :
    stored t = some t ∨ (stored t = none ∧ t.deleting = true ∧ t.hasFinalizer = false ∧ t.holders = []) := by
  unfold stored isGone
  split
  · rename_i h
    simp only [Bool.and_eq_true, Bool.not_eq_true', List.isEmpty_iff] at h
    exact .inr ⟨rfl, h.1.1, h.1.2, h.2⟩
  · exact .inl rfl

theorem stored_some {t t' : TRO} (h : stored t = some t') : t' = t := by
  rcases stored_cases t with h' | ⟨h', _⟩ <;> rw [h'] at h <;> cases h
  rfl

theorem stored_live (t : TRO) (h : t.deleting = false) : stored t = some t := by
  rcases stored_cases t with h' | ⟨_, h', _⟩
  · exact h'
  · rw [h] at h'; cases h'

theorem holdersOf_stored (t : TRO) : holdersOf (stored t) = t.holders := by
  rcases stored_cases t with h | ⟨h, _, _, hh⟩ <;> rw [h]
  · rfl
  · exact hh.symm

theorem addedOnlyWhenOpen_refl (i : Nat) (tr : Option TRO) : addedOnlyWhenOpen i tr tr = true := by
  unfold addedOnlyWhenOpen; simp

/-- What one label of the closed loop does to the TrafficRouting object. `join` / `leave`: rollout `i`'s `handleTrafficRouting`
    adds its progressing finalizer (only to a live object whose phase is neither Finalizing nor Terminating), its
    `finalizeTrafficRouting` takes it off (`UpdateFinalizer`). `reconcile`: the TrafficRouting reconciler's `handleFinalizer` and
    status update write its own finalizer and the phase and nothing else; Finalizing is entered only unheld, Terminating only in
    deletion. `delete` / `create` / `edit`: the user. `stored` is the API server dropping an object in deletion with its last
    finalizer. -/
inductive TRMove : Label → Option TRO → Option TRO → Prop
  | same (l : Label) (tr : Option TRO) : TRMove l tr tr
  | join (i : Nat) (f : TFault) (t : TRO) (hi : i ∉ t.holders) (hd : t.deleting = false) (h1 : t.phase ≠ .finalizing)
      (h2 : t.phase ≠ .terminating) : TRMove (.ro i f) (some t) (some { t with holders := insertSorted i t.holders })
  | leave (i : Nat) (f : TFault) (t : TRO) (hi : i ∈ t.holders) :
      TRMove (.ro i f) (some t) (stored { t with holders := t.holders.filter (· ≠ i) })
  | reconcile (t : TRO) (hf : Bool) (ph : TRSM.Phase)
      (hfin : ph = .finalizing → t.phase = .finalizing ∨ (t.deleting = false ∧ t.holders = []))
      (hterm : ph = .terminating → t.phase = .terminating ∨ t.deleting = true) :
      TRMove .tr (some t) (stored { t with hasFinalizer := hf, phase := ph })
  | delete (t : TRO) : TRMove .deleteTR (some t) (stored { t with deleting := true })
  | create (w : Option Nat) (g : Nat) (hr : Bool) : TRMove (.createTR w g hr) none (some ⟨false, false, [], .empty, w, g, hr⟩)
  | edit (w : Option Nat) (t : TRO) : TRMove (.editStrategy w) (some t) (some { t with weight := w })

theorem handle_move (i : Nat) (tr : Option TRO) (f : TFault) :
    TRMove (.ro i f) tr (handleTrafficRouting i tr f).2 ∧
    ((handleTrafficRouting i tr f).1 = .done → (handleTrafficRouting i tr f).2 = tr ∧ i ∈ holdersOf tr) ∧
    ((handleTrafficRouting i tr f).1 = .err → (handleTrafficRouting i tr f).2 = tr) := by
  unfold handleTrafficRouting
  split
  · exact ⟨.same _ _, nofun, fun _ => rfl⟩
  cases tr with
  | none => exact ⟨.same _ _, nofun, nofun⟩
  | some t =>
    dsimp only
    split
    · exact ⟨.same _ _, fun _ => ⟨rfl, ‹_›⟩, nofun⟩
    split
    · exact ⟨.same _ _, nofun, nofun⟩
    rename_i hi hph
    split
    · exact ⟨.same _ _, nofun, fun _ => rfl⟩
    split
    · exact ⟨.same _ _, nofun, fun _ => rfl⟩
    rename_i hdel
    exact ⟨.join i f t hi (Bool.eq_false_iff.mpr hdel) (fun h => hph (.inl h)) (fun h => hph (.inr h)), nofun, nofun⟩

theorem finalize_move (i : Nat) (tr : Option TRO) (f : TFault) :
    TRMove (.ro i f) tr (finalizeTrafficRouting i tr f).2 ∧
    ((finalizeTrafficRouting i tr f).1 = false → i ∉ holdersOf (finalizeTrafficRouting i tr f).2) ∧
    ((finalizeTrafficRouting i tr f).1 = true → (finalizeTrafficRouting i tr f).2 = tr) := by
  unfold finalizeTrafficRouting
  split
  · exact ⟨.same _ _, nofun, fun _ => rfl⟩
  cases tr with
  | none => exact ⟨.same _ _, fun _ => nofun, nofun⟩
  | some t =>
    dsimp only
    split
    · split
      · exact ⟨.same _ _, nofun, fun _ => rfl⟩
      · exact ⟨.leave i f t ‹_›, fun _ => by simp [holdersOf_stored], nofun⟩
    · exact ⟨.same _ _, fun _ => ‹_›, nofun⟩

theorem TRMove.others {i : Nat} {f : TFault} {tr tr' : Option TRO} (h : TRMove (.ro i f) tr tr') : othersKept i tr tr' = true := by
  cases h with
  | same => exact othersKept_refl i _
  | join _ _ t =>
    exact othersKept_holders i t _ (fun j hj => .inr ((mem_insertSorted i j _).mpr (.inr hj))) (fun j hj => (mem_insertSorted i j _).mp hj)
  | leave _ _ t =>
    rcases stored_cases { t with holders := t.holders.filter (· ≠ i) } with hst | ⟨hst, h1, h2, h3⟩ <;> rw [hst]
    · exact othersKept_holders i t _ (fun j hj => (Classical.em (j = i)).imp_right fun hji => (mem_remove i j _).mpr ⟨hj, hji⟩)
        (fun j hj => .inr ((mem_remove i j _).mp hj).1)
    · -- the object went with `i`'s finalizer: it was in deletion, without the controller's finalizer, and nobody else held it
      simp only at h1 h2 h3
      simp only [othersKept, h1, h2, Bool.not_false, Bool.and_true, Bool.true_and, List.all_eq_true, beq_iff_eq]
      intro j hj
      exact Classical.byContradiction fun hji => by
        have : j ∈ t.holders.filter (· ≠ i) := (mem_remove i j _).mpr ⟨hj, hji⟩
        rw [h3] at this; cases this

theorem TRMove.added {i : Nat} {f : TFault} {tr tr' : Option TRO} (h : TRMove (.ro i f) tr tr') : addedOnlyWhenOpen i tr tr' = true := by
  cases h with
  | same => exact addedOnlyWhenOpen_refl i _
  | join _ _ t hi hd h1 h2 => simp [addedOnlyWhenOpen, holdersOf, hd, h1, h2]
  | leave _ _ t => simp [addedOnlyWhenOpen, holdersOf_stored]

theorem handle_spec (i : Nat) (tr : Option TRO) (f : TFault) :
    ((handleTrafficRouting i tr f).1 = .done → (handleTrafficRouting i tr f).2 = tr ∧ i ∈ holdersOf tr) ∧
    ((handleTrafficRouting i tr f).1 = .err → (handleTrafficRouting i tr f).2 = tr) ∧
    addedOnlyWhenOpen i tr (handleTrafficRouting i tr f).2 = true ∧
    othersKept i tr (handleTrafficRouting i tr f).2 = true :=
  ⟨(handle_move i tr f).2.1, (handle_move i tr f).2.2, (handle_move i tr f).1.added, (handle_move i tr f).1.others⟩

theorem finalize_spec (i : Nat) (tr : Option TRO) (f : TFault) :
    ((finalizeTrafficRouting i tr f).1 = false → i ∉ holdersOf (finalizeTrafficRouting i tr f).2) ∧
    ((finalizeTrafficRouting i tr f).1 = true → (finalizeTrafficRouting i tr f).2 = tr) ∧
    addedOnlyWhenOpen i tr (finalizeTrafficRouting i tr f).2 = true ∧
    othersKept i tr (finalizeTrafficRouting i tr f).2 = true :=
  ⟨(finalize_move i tr f).2.1, (finalize_move i tr f).2.2, (finalize_move i tr f).1.added, (finalize_move i tr f).1.others⟩

open RV.RolloutSM in
/-- The branches of `roReconcile`: the plain reconcile alone (`pass`: not bound, or `position` elsewhere, or Initializing not left); the
    binding call of `doProgressingInitializing` deciding (`init`); `finalizeTrafficRouting` before the clean-up (`finErr`, `finOk`). -/
inductive RoCase (i : Nat) (b : Bool) (w : World) (tr : Option TRO) (f : TFault) (r : StepResult) (tr' : Option TRO) : Prop
  | pass (h : reconcile w = .val r) (ht : tr' = tr)
      (hc : b = false ∨ position w = .other ∨ (position w = .init ∧ r.w.ro.reason ≠ .inRolling))
  /-- the reconcile got as far as the binding call of `doProgressingInitializing`, whose outcome `o` decides -/
  | init (hp : position w = .init) (hb : b = true) (r0 : StepResult) (h : reconcile w = .val r0) (hr : r0.w.ro.reason = .inRolling)
      (o : HOut) (hh : handleTrafficRouting i tr f = (o, tr'))
      (he : r = match o with
        | .done => r0
        | .wait => { r0 with w := { r0.w with ro := { r0.w.ro with reason := .initializing } }, requeue := true }
        | .err => { r0 with w := { w with ro := (handleFinalizer w.ro).1 }, requeue := false, err := true })
  | finErr (hp : position w = .fin) (hb : b = true) (hh : finalizeTrafficRouting i tr f = (true, tr'))
      (he : r = { w := { w with ro := (handleFinalizer w.ro).1 }, roGone := (handleFinalizer w.ro).2.1, requeue := false, err := true,
                  writes := (handleFinalizer w.ro).2.2 })
  | finOk (hp : position w = .fin) (hb : b = true) (hh : finalizeTrafficRouting i tr f = (false, tr')) (h : reconcile w = .val r)

theorem ro_cases {i : Nat} {b : Bool} {w : RolloutSM.World} {tr : Option TRO} {f : TFault} {r : RolloutSM.StepResult} {tr' : Option TRO}
    (h : roReconcile i b w tr f = .val r tr') : RoCase i b w tr f r tr' := by
  unfold roReconcile at h
  split at h
  · rename_i hb
    split at h
    · cases h
    · rename_i r0 hr0
      cases h
      exact .pass hr0 rfl (Or.inl (by simpa using hb))
  · rename_i hb
    have hb' : b = true := by simpa using hb
    split at h
    · rename_i hpos
      split at h
      · cases h
      · rename_i r0 hr0
        split at h
        · rename_i hin
          split at h <;> rename_i tr1 hh <;> cases h <;> exact .init hpos hb' _ hr0 hin _ hh rfl
        · rename_i hin
          cases h
          exact .pass hr0 rfl (Or.inr (Or.inr ⟨hpos, hin⟩))
    · rename_i hpos
      split at h
      · rename_i tr1 hh
        cases h
        exact .finErr hpos hb' hh rfl
      · rename_i tr1 hh
        split at h
        · cases h
        · rename_i r0 hr0
          cases h
          exact .finOk hpos hb' hh hr0
    · rename_i hpos
      split at h
      · cases h
      · rename_i r0 hr0
        cases h
        exact .pass hr0 rfl (Or.inr (Or.inl hpos))

theorem ro_panic_only_plain {i : Nat} {b : Bool} {w : RolloutSM.World} {tr : Option TRO} {f : TFault}
    (h : roReconcile i b w tr f = .panic) : RolloutSM.reconcile w = .panic := by
  -- `roReconcile` answers `.panic` only where it has matched `reconcile w` with `.panic`: the binding calls have no such answer
  unfold roReconcile at h
  repeat' split at h
  all_goals first | (cases h; done) | assumption

theorem ro_move {i : Nat} {b : Bool} {w : RolloutSM.World} {tr : Option TRO} {f : TFault} {r : RolloutSM.StepResult} {tr' : Option TRO}
    (h : roReconcile i b w tr f = .val r tr') : TRMove (.ro i f) tr tr' := by
  cases ro_cases h with
  | pass _ ht _ => exact ht ▸ .same _ _
  | init _ _ _ _ _ _ hh _ => have := (handle_move i tr f).1; rw [hh] at this; exact this
  | finErr _ _ hh _ | finOk _ _ hh _ => have := (finalize_move i tr f).1; rw [hh] at this; exact this

section Transitions
open RV.RolloutSM RV.Props.Reconcile

theorem rolling_iff (ro : Rollout) : rolling ro = true ↔ ro.phase = .progressing ∧ (ro.reason = .inRolling ∨ ro.reason = .paused) := by
  unfold rolling; simp

theorem rolling_congr (a b : Rollout) (h1 : a.phase = b.phase) (h2 : a.reason = b.reason) : rolling a = rolling b := by
  unfold rolling; rw [h1, h2]

theorem rolling_ro1 (ro : Rollout) : rolling (handleFinalizer ro).1 = rolling ro := by
  rw [hf_frame ro]; rfl

/-- "rolling" is never the status calculation's doing: it makes a rollout Progressing only with reason Initializing -/
theorem cs_rolling (ro ns : Rollout) (wl : Option WL) (h : calculateStatus ro wl = some ns) (hr : rolling ns = true) :
    rolling ro = true := by
  have key : ∀ (d dis : Bool) (a : Option Bool) (p : Phase), phaseAfter d dis a p = .progressing →
      reasonAfter d dis a p = some .initializing ∨ (p = .progressing ∧ reasonAfter d dis a p = none) := by decide
  obtain ⟨c1, c2, -⟩ := cs_ctl h
  obtain ⟨h1, h2⟩ := (rolling_iff ns).mp hr
  rw [c1] at h1
  rw [c2] at h2
  rcases key _ _ _ _ h1 with k | ⟨k1, k2⟩
  · rw [k] at h2; rcases h2 with h2 | h2 <;> cases h2
  · rw [k2] at h2; exact (rolling_iff ro).mpr ⟨k1, h2⟩

theorem position_init {w : World} (h : position w = .init) : w.ro.phase = .progressing ∧ w.ro.reason = .initializing := by
  -- `position` answers `.init` on one path, whose tests are then in the context
  unfold position at h
  repeat' split at h
  all_goals first | (cases h; done) | (constructor <;> assumption)

theorem position_fin {w : World} (h : position w = .fin) :
    (w.ro.phase = .progressing ∧ (w.ro.reason = .finalising ∨ w.ro.reason = .cancelling)) ∨ w.ro.phase = .terminating ∨ w.ro.phase = .disabling := by
  -- `position` answers `.fin` on four paths (Finalising, Cancelling, Terminating, Disabling), whose tests are then in the context
  unfold position at h
  repeat' split at h
  all_goals first
    | (cases h; done)
    | (left; refine ⟨by assumption, Or.inl (by assumption)⟩; done)
    | (left; refine ⟨by assumption, Or.inr (by assumption)⟩; done)
    | (right; left; assumption)
    | (right; right; assumption)

theorem not_rolling_of_fin {w : World} (h : position w = .fin) : rolling w.ro = false := by
  rcases position_fin h with ⟨h1, h2 | h2⟩ | h1 | h1 <;> simp [rolling, h1, *]

/-- **where "rolling" comes from** — for every world: a reconcile leaves the rollout in Progressing/InRolling (or
    Paused) only if it was there already, or if it was Progressing/Initializing and this reconcile went through
    `doProgressingInitializing` all the way (the place where the binding is checked) -/
theorem rolling_origin_core (w : World) (r : StepResult) (h : reconcileCore w = .val r) (hr : rolling r.w.ro = true) :
    rolling w.ro = true ∨ (position w = .init ∧ r.w.ro.reason = .inRolling) := by
  have live : ∀ wl, Live w wl → w.ro.reason = .inRolling ∨ w.ro.reason = .paused → rolling w.ro = true :=
    fun wl hl hx => (rolling_iff _).mpr ⟨hl.progressing, hx⟩
  have ofNs : ∀ ns ro', calculateStatus (handleFinalizer w.ro).1 w.wl = some ns → ro' = { ns with sub := ro'.sub } →
      rolling ro' = true → rolling w.ro = true := fun ns ro' hcs e h3 =>
    rolling_ro1 w.ro ▸ cs_rolling _ ns _ hcs (by rw [e] at h3; exact h3)
  cases reconcileCore_inv h with
  | wait | initErr | rollingErr | finErr => exact .inl (rolling_ro1 w.ro ▸ hr)
  | idle ns hcs | initFresh ns hcs => exact .inl (ofNs ns _ hcs rfl hr)
  | initDone ns hcs wl hl hi =>
    refine .inr ⟨?_, rfl⟩
    unfold position
    rw [hcs]; dsimp only
    rw [hl.progressing]; dsimp only
    rw [hl.readable]; dsimp only
    rw [if_neg (not_not_intro hl.consistent), hi]
  | pausedNoSub _ _ wl hl hi | rolling _ _ wl hl hi => exact .inl (live wl hl (.inl hi))
  | resumed _ _ wl hl hi => exact .inl (live wl hl (.inr hi))
  | completed => cases hr
  | finWait ns hcs _ w' _ hf =>
    have hw := (finalise_frame hf).1
    exact .inl (ofNs ns w'.ro hcs hw hr)
  | finDone ns hcs hc w' _ hf =>
    have hw := (finalise_frame hf).1
    cases hc with
    | success | rollback => simp [rolling, result] at hr
    | disabling => cases hr
    | terminating => exact .inl (ofNs ns w'.ro hcs hw hr)

/-- the same of the whole reconcile (body + cursor reset: the reset touches neither phase nor reason) -/
theorem rolling_origin (w : World) (r : StepResult) (h : reconcile w = .val r) (hr : rolling r.w.ro = true) :
    rolling w.ro = true ∨ (position w = .init ∧ r.w.ro.reason = .inRolling) := by
  obtain ⟨r0, h0, rfl⟩ := reconcile_val h
  have e : rolling (resetOnExit w r0).w.ro = rolling r0.w.ro := by
    unfold rolling; rw [resetOnExit_phase, resetOnExit_reason]
  rw [e] at hr
  rw [resetOnExit_reason]
  exact rolling_origin_core w r0 h0 hr

end Transitions

theorem step_tr {s : JS} {t : TRO} (h : s.tr = some t) :
    step s .tr = some { s with tr := stored (trCore t s.net s.mem).t, net := (trCore t s.net s.mem).net, mem := (trCore t s.net s.mem).mem } := by
  unfold step; rw [h]; rfl

theorem step_tr_none {s : JS} (h : s.tr = none) : step s .tr = some s := by
  unfold step; rw [h]

theorem routed_self (n : Net) : routed n n = false := by unfold routed; simp
theorem withdrawn_self (n : Net) : withdrawn n n = false := by
  unfold withdrawn; cases n.canaryIng <;> simp

/-- what the TrafficRouting's own reconcile does to the object, inside the closed loop -/
theorem tr_move {s s' : JS} (h : step s .tr = some s') : TRMove .tr s.tr s'.tr := by
  cases hs : s.tr with
  | none => rw [step_tr_none hs] at h; cases h; exact hs ▸ .same _ _
  | some t =>
    rw [step_tr hs] at h; cases h
    dsimp only
    rw [core_frame]
    exact .reconcile t _ _ (core_phase t s.net s.mem).1 (core_phase t s.net s.mem).2

theorem TRMove.holders {l : Label} {tr tr' : Option TRO} (h : TRMove l tr tr') (hro : ∀ i f, l ≠ .ro i f) :
    holdersOf tr' = holdersOf tr := by
  cases h with
  | join i f | leave i f => exact absurd rfl (hro i f)
  | reconcile | delete => exact holdersOf_stored _
  | _ => rfl

/-- **C03.bind_routes_only_while_held** — for every joint state: a TrafficRouting reconcile writes the gateway
    towards the canary only while the object is live, Progressing and at least one progressing finalizer is present. -/
theorem routes_only_while_held (s s' : JS) (h : step s .tr = some s') : routesOnlyWhileHeld s s' = true := by
  unfold routesOnlyWhileHeld
  cases htr : s.tr with
  | none =>
    rw [step_tr_none htr] at h; cases h
    simp [routed_self]
  | some t =>
    rw [step_tr htr] at h; cases h
    dsimp only
    rcases core_net t s.net s.mem with ⟨h1, _⟩ | ⟨h1, _, hd, hp, hh⟩ | ⟨h1, _⟩
    · rw [h1, routed_self]; rfl
    · have : held (some t) = true := by
        unfold held
        simp [hd, hp, hh]
      rw [this]; simp
    · rw [h1, fin_not_routed]; rfl

theorem core_not_withdrawn (t : TRO) (n : Net) (m : Mem) (hd : t.deleting = false) (h1 : t.phase ≠ .finalizing)
    (h2 : t.phase ≠ .terminating) : withdrawn n (trCore t n m).net = false := by
  rcases core_net t n m with ⟨h, _⟩ | ⟨h, _⟩ | ⟨_, _, h | h | h⟩
  · rw [h, withdrawn_self]
  · rw [h, doTR_not_withdrawn]
  · rw [hd] at h; cases h
  · exact absurd h h1
  · exact absurd h h2

/-- **C05.bind_held_not_restored** — for every joint state: a TrafficRouting reconcile withdraws the canary route
    only in deletion or in phase Finalizing / Terminating -/
theorem held_not_restored (s s' : JS) (h : step s .tr = some s') : heldNotRestored s s' = true := by
  unfold heldNotRestored
  cases htr : s.tr with
  | none => rfl
  | some t =>
    rw [step_tr htr] at h; cases h
    dsimp only
    cases hd : t.deleting with
    | true => simp
    | false =>
      by_cases h1 : t.phase = .finalizing
      · simp [h1]
      by_cases h2 : t.phase = .terminating
      · simp [h2]
      rw [core_not_withdrawn t _ _ hd h1 h2]; rfl

/-- **C18.bind_tr_finalizer_guard** — for every joint state: the TrafficRouting controller removes its own
    finalizer only from an object in deletion and only in a reconcile in which `FinalisingTrafficRouting` reported done,
    so that no canary route is left.  The code's condition says nothing about progressing finalizers: with holders left
    the object stays visible (`held_stays_visible`) until the last of them lets go. -/
theorem tr_finalizer_guard (s s' : JS) (h : step s .tr = some s') :
    trFinalizerGuard s s' (match s.tr with | some t => (trReconcile t s.net s.mem).requeue | none => false) = true := by
  unfold trFinalizerGuard
  cases htr : s.tr with
  | none => rfl
  | some t =>
    rw [step_tr htr] at h; cases h
    dsimp only
    cases hf : t.hasFinalizer with
    | false => simp
    | true =>
      have key : (trCore t s.net s.mem).t.hasFinalizer = false →
          (t.deleting && ((trCore t s.net s.mem).net.canaryIng.isNone || !t.hasRef) && !(trReconcile t s.net s.mem).requeue) = true := by
        intro hf'
        obtain ⟨hd, _, hdone, hnet, hrq⟩ := core_finalizer hf hf'
        show (_ && _ && !(trCore t s.net s.mem).requeue) = true
        rw [hd, hnet, hrq]
        cases href : t.hasRef with
        | false => simp
        | true => simp [RV.Props.TRSM.finalising_done_clean (tctx t) s.net s.mem href hdone]
      rcases stored_cases (trCore t s.net s.mem).t with hst | ⟨hst, _, hf', _⟩ <;> rw [hst]
      · cases hf' : (trCore t s.net s.mem).t.hasFinalizer with
        | true => simp [hf']
        | false => simpa [hf'] using key hf'
      · simpa using key hf'

/-- **C05.bind_finalizing_unheld** — a TrafficRouting reconcile enters phase Finalizing only when no progressing finalizer is left
    (every joint state) -/
theorem finalizing_entry_unheld (s s' : JS) (h : step s .tr = some s') : finalizingEntryUnheld s.tr s'.tr = true := by
  have hm := tr_move h
  generalize s.tr = a at hm
  generalize s'.tr = b at hm
  cases hm with
  | same =>
    cases a with
    | none => rfl
    | some t =>
      show (!((t.phase == .finalizing) && !(t.phase == .finalizing)) || _) = true
      cases t.phase == TRSM.Phase.finalizing <;> rfl
  | reconcile t hf ph hfin =>
    rcases stored_cases { t with hasFinalizer := hf, phase := ph } with hst | ⟨hst, _⟩ <;> rw [hst]
    · cases hph : (ph == TRSM.Phase.finalizing && t.phase != TRSM.Phase.finalizing) with
      | false => simp [finalizingEntryUnheld, hph]
      | true =>
        simp only [Bool.and_eq_true, beq_iff_eq, bne_iff_ne, ne_eq] at hph
        rcases hfin hph.1 with h1 | ⟨h1, h2⟩
        · exact absurd h1 hph.2
        · simp [finalizingEntryUnheld, h1, h2]
    · rfl

/-- **C18.bind_tr_keeps_holders** — a TrafficRouting reconcile never touches the progressing finalizers -/
theorem tr_keeps_holders (s s' : JS) (h : step s .tr = some s') : trKeepsHolders s.tr s'.tr = true := by
  have e := (tr_move h).holders nofun
  cases hs : s.tr with
  | none => rfl
  | some t =>
    rw [hs] at e
    cases hs' : s'.tr with
    | none => rw [hs'] at e; exact List.isEmpty_iff.mpr e.symm
    | some t' => rw [hs'] at e; exact beq_iff_eq.mpr e

/-- the induction over histories: an invariant of the steps whose labels are allowed -/
theorem run_invariant_on (ok : Label → Prop) (P : JS → Prop) (hstep : ∀ s l s', ok l → P s → step s l = some s' → P s') :
    ∀ (ls : List Label) (s s' : JS), (∀ l ∈ ls, ok l) → P s → run s ls = some s' → P s' := by
  intro ls
  induction ls with
  | nil => intro s s' _ hp h; cases h; exact hp
  | cons l ls ih =>
    intro s s' hall hp h
    unfold run at h
    split at h
    · cases h
    · rename_i s1 h1
      exact ih s1 s' (fun x hx => hall x (List.mem_cons_of_mem _ hx)) (hstep s l s1 (hall l List.mem_cons_self) hp h1) h

theorem run_invariant (P : JS → Prop) (hstep : ∀ s l s', P s → step s l = some s' → P s') (ls : List Label) (s s' : JS) :
    P s → run s ls = some s' → P s' :=
  run_invariant_on (fun _ => True) P (fun s l s' _ => hstep s l s') ls s s' (fun _ _ => trivial)

end RV.Props.TRBind
