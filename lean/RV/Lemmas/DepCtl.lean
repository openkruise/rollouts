import RV.Lemmas.DepSync
import RV.Oracle.DepCtl
/-!
  The advanced Deployment controller around `syncDeployment` (`RV/Model/DepCtl.lean`): one description of each part of
  `reconcile`.  The gate (`newController_iff`), the input predicates of
  `RV.Oracle.DepCtl` in the fields they read (`*_iff`) and the six branches (`Reconciled`, `reconcile_cases`); the
  protection branch by the fate of its patch (`protectOut_cases`); `syncF`: either no fault is hit and it is `syncOk`,
  or write number `k` fails and it is `syncFail` (`syncF_cases`); `syncPart` by the selector (`syncPart_normal`,
  `syncPart_other`); `normalOut` field by field, and the world after it (`post_normal`).
-/
namespace RV.Lemmas.DepCtl
open RV.Arith RV.DepSync RV.DepCtl RV.Oracle.DepCtl RV.Oracle.C17

/-! ### the gate and the branches of `reconcile` -/

theorem newController_iff (w : World) :
    newController w = true ↔
      w.ctrl = true ∧ w.stype = .recreate ∧ w.specPaused = true ∧ w.anno = .ok ∧ w.style ≠ .canary := by
  simp [newController, underControl, and_assoc]

theorem stype_of_newController {w : World} (h : newController w = true) : w.stype = .recreate :=
  ((newController_iff w).mp h).2.1

theorem ignoredW_iff (w : World) :
    ignoredW w = true ↔ w.fault.getD = false ∧ w.present = true ∧ newController w = false := by
  simp [ignoredW, reachesGate, and_assoc]

theorem reachesHook_iff (w : World) :
    reachesHook w = true ↔ w.fault.getD = false ∧ w.present = true ∧ newController w = true := by
  simp [reachesHook, reachesGate, and_assoc]

theorem normalW_iff (w : World) :
    normalW w = true ↔
      w.fault.getD = false ∧ w.present = true ∧ newController w = true ∧ w.fault.getW = false ∧ w.hook = .present := by
  simp only [normalW, Bool.and_eq_true, Bool.not_eq_true', beq_iff_eq, reachesHook_iff, and_assoc]

theorem protectionW_iff (w : World) :
    protectionW w = true ↔
      w.fault.getD = false ∧ w.present = true ∧ newController w = true ∧ w.fault.getW = false ∧ w.hook ≠ .present := by
  simp only [protectionW, Bool.and_eq_true, Bool.not_eq_true', bne_iff_ne, reachesHook_iff, and_assoc]

theorem reconcile_notFound (w : World) (h1 : w.fault.getD = false) (h2 : w.present = false) :
    reconcile w = quiet w .notFound .ok [] false := by
  simp [reconcile, h1, h2]

theorem reconcile_ignored (w : World) (h1 : w.fault.getD = false) (h2 : w.present = true)
    (h3 : newController w = false) : reconcile w = quiet w .ignored .ok [] false := by
  simp [reconcile, h1, h2, h3]

theorem reconcile_of_normalW (w : World) (h : normalW w = true) : reconcile w = normalOut w := by
  obtain ⟨a, b, c, d, e⟩ := (normalW_iff w).mp h
  simp [reconcile, a, b, c, d, e]

theorem reconcile_of_protectionW (w : World) (h : protectionW w = true) : reconcile w = protectOut w := by
  obtain ⟨a, b, c, d, e⟩ := (protectionW_iff w).mp h
  simp [reconcile, a, b, c, d, e]

/-- The six ways out of `ReconcileDeployment.Reconcile`, each with the test that leads there and the outcome: the Get of
    the Deployment fails; it does not exist; it is not ours; the Get of the webhook configuration fails; that configuration
    is absent or terminating (the protection branch); `syncDeployment` and `patchExtraStatus` run. -/
inductive Reconciled (w : World) : Out → Prop
  | getErr : w.fault.getD = true → Reconciled w (quiet w .getErr .err [.get] true)
  | notFound : w.fault.getD = false → w.present = false → Reconciled w (quiet w .notFound .ok [] false)
  | ignored : ignoredW w = true → Reconciled w (quiet w .ignored .ok [] false)
  | hookErr : reachesHook w = true → w.fault.getW = true → Reconciled w (quiet w .hookErr .err [.hook] true)
  | protect : protectionW w = true → Reconciled w (protectOut w)
  | normal : normalW w = true → Reconciled w (normalOut w)

theorem reconcile_cases (w : World) : Reconciled w (reconcile w) := by
  cases h1 : w.fault.getD
  case true => rw [show reconcile w = quiet w .getErr .err [.get] true by simp [reconcile, h1]]; exact .getErr h1
  cases h2 : w.present
  case false => rw [reconcile_notFound w h1 h2]; exact .notFound h1 h2
  cases h3 : newController w
  case false => rw [reconcile_ignored w h1 h2 h3]; exact .ignored ((ignoredW_iff w).mpr ⟨h1, h2, h3⟩)
  have hh : reachesHook w = true := (reachesHook_iff w).mpr ⟨h1, h2, h3⟩
  cases h4 : w.fault.getW
  case true =>
    rw [show reconcile w = quiet w .hookErr .err [.hook] true by simp [reconcile, h1, h2, h3, h4]]
    exact .hookErr hh h4
  by_cases h5 : w.hook = .present
  · have hn : normalW w = true := (normalW_iff w).mpr ⟨h1, h2, h3, h4, h5⟩
    rw [reconcile_of_normalW w hn]; exact .normal hn
  · have hp : protectionW w = true := (protectionW_iff w).mpr ⟨h1, h2, h3, h4, h5⟩
    rw [reconcile_of_protectionW w hp]; exact .protect hp

/-- the protection branch of a Deployment that is ours (so its strategy type is `Recreate`): one strategy patch, which
    the injected fault makes fail -/
theorem protectOut_cases (w : World) (hc : newController w = true) :
    (w.fault.protect = true ∧
      protectOut w = { quiet w .protect .err [.protect] true with calls := [.protect false], untouched := false }) ∨
    (w.fault.protect = false ∧
      protectOut w = { quiet w .protect .ok [] false with
                       calls := [.protect true], untouched := false, stype := .rollingUpdate,
                       ru := mergeRU w.ru (savedRU w) }) := by
  unfold protectOut
  rw [stype_of_newController hc]
  cases w.fault.protect
  · exact .inr ⟨rfl, rfl⟩
  · exact .inl ⟨rfl, rfl⟩

/-! ### `syncF`: no fault is hit, or one write fails -/

/-- `syncDeployment` when no injected fault is hit: the writes of `sync`, all of them successful -/
def syncOk (s : State) : SyncOut :=
  { err := (sync s).err, undef := (sync s).undef, calls := (sync s).writes.map fun wr => .scale wr.idx wr.to true,
    fired := false, swallowed := false, new := (sync s).new, olds := (sync s).olds, synced := !(sync s).err,
    statusReplicas := (sync s).statusReplicas }

/-- the ReplicaSets the failing write number `k` starts from: what `getNewReplicaSet` returned — on the rolling path
    it creates, and a failing creation leaves no new ReplicaSet — and the old ones as read -/
def faultBase (s : State) (k : Nat) : Option RS × List RS :=
  match pathOf s with
  | .rolling => (if s.new.isNone && k == 0 then none else (getNewRS s true).1, s.olds)
  | _ => ((getNewRS s false).1, s.olds)

/-- `syncDeployment` when write number `k` of its log, `f`, is the first to fail: the `k` writes before it took
    effect, `f` is attempted, and the code returns — with the error, unless `reconcileOldReplicaSets` drops it -/
def syncFail (s : State) (k : Nat) (f : Write) : SyncOut :=
  let st := applyWrites s ((sync s).writes.take k) (faultBase s k)
  let dropped := pathOf s == .rolling && dropsError s k
  { err := !dropped, undef := (sync s).undef,
    calls := ((sync s).writes.take k).map (fun wr => .scale wr.idx wr.to true) ++ [.scale f.idx f.to false],
    fired := true, swallowed := dropped, new := st.1, olds := st.2, synced := dropped,
    statusReplicas := if dropped then (sync s).statusReplicas else s.statusReplicas }

theorem syncF_cases (s : State) (k : Option Nat) :
    syncF s k = syncOk s ∨
    ∃ k' f rest, k = some k' ∧ (sync s).writes.drop k' = f :: rest ∧ syncF s k = syncFail s k' f := by
  unfold syncF
  cases k with
  | none => exact .inl rfl
  | some k =>
    simp only
    split
    · exact .inl rfl
    · rename_i f rest hd
      exact .inr ⟨k, f, rest, rfl, hd, rfl⟩

theorem syncF_calls_scale (s : State) (k : Option Nat) : ∀ c ∈ (syncF s k).calls, c.isScale = true := by
  rcases syncF_cases s k with e | ⟨k', f, _, _, _, e⟩ <;> rw [e] <;> intro c hc
  · obtain ⟨wr, _, rfl⟩ := List.mem_map.mp hc; rfl
  · simp only [syncFail, List.mem_append, List.mem_map, List.mem_singleton] at hc
    rcases hc with ⟨wr, _, rfl⟩ | rfl <;> rfl

/-- a sync that has nothing to write hits no write fault -/
theorem syncF_of_nowrites (s : State) (k : Option Nat) (h : (sync s).writes = []) : syncF s k = syncOk s := by
  rcases syncF_cases s k with e | ⟨k', _, _, _, hd, _⟩
  · exact e
  · simp [h] at hd

theorem applyWrites_fst_none (s : State) : ∀ (ws : List Write) (olds : List RS),
    (applyWrites s ws (none, olds)).1 = none := by
  intro ws
  induction ws with
  | nil => intro olds; rfl
  | cons wr t ih =>
    intro olds
    simp only [applyWrites, applyWrite]
    split <;> exact ih _

theorem applyWrites_fst_isSome (s : State) : ∀ (ws : List Write) (st : Option RS × List RS),
    st.1.isSome = true → (applyWrites s ws st).1.isSome = true := by
  intro ws
  induction ws with
  | nil => intro st h; exact h
  | cons wr t ih =>
    intro st h
    simp only [applyWrites]
    apply ih
    unfold applyWrite
    split
    · simpa using h
    · exact h

theorem pathOf_paused (s : State) (hd : s.deleting = false) (hp : s.paused = true) : pathOf s = .scale := by
  simp [pathOf, hd, hp]

/-- the paused path creates no ReplicaSet, whichever write fails -/
theorem syncF_new_none_of_paused (s : State) (k : Option Nat) (hd : s.deleting = false) (hp : s.paused = true)
    (hn : s.new = none) (ho : ∀ r ∈ s.olds, NotNew r) : (syncF s k).new = none := by
  rcases syncF_cases s k with e | ⟨k', f, _, _, _, e⟩ <;> rw [e]
  · exact (congrArg (·.new) (sync_paused s hd hp)).trans (syncScale_new_none s hn ho)
  · simp only [syncFail, faultBase, pathOf_paused s hd hp, getNewRS_false, hn]
    exact applyWrites_fst_none ..

theorem syncF_new_isSome (s : State) (k : Option Nat) (h : s.new.isSome = true) : (syncF s k).new.isSome = true := by
  rcases syncF_cases s k with e | ⟨k', f, _, _, _, e⟩ <;> rw [e]
  · exact sync_new_isSome s h
  · apply applyWrites_fst_isSome
    unfold faultBase
    split
    · have h' : s.new.isNone = false := by cases hn : s.new <;> simp_all
      simp only [h', Bool.false_and, Bool.false_eq_true, if_false]
      exact getNewRS_isSome s true h
    · exact getNewRS_isSome s false h

/-! ### `syncPart`: `syncF` behind the selector check -/

theorem syncPart_normal {w : World} (h : w.sel = .normal) : syncPart w = syncF w.s w.fault.scaleAt := by
  simp [syncPart, h]

/-- an invalid selector is an error, one that selects everything is not; neither gets as far as the ReplicaSets -/
theorem syncPart_other {w : World} (h : w.sel ≠ .normal) :
    syncPart w = { err := w.sel == .bad, undef := false, calls := [], fired := false, swallowed := false,
                   new := w.s.new, olds := w.s.olds, synced := false, statusReplicas := w.s.statusReplicas } := by
  unfold syncPart
  cases hs : w.sel with
  | normal => exact absurd hs h
  | bad => rfl
  | all => rfl

theorem syncPart_calls_scale (w : World) : ∀ c ∈ (syncPart w).calls, c.isScale = true := by
  by_cases h : w.sel = .normal
  · rw [syncPart_normal h]; exact syncF_calls_scale _ _
  · rw [syncPart_other h]; nofun

/-- either no write fault is hit, or the error of the failing write is returned unless it is dropped -/
theorem syncPart_fault (w : World) :
    ((syncPart w).fired = false ∧ (syncPart w).swallowed = false ∧ (∀ c ∈ (syncPart w).calls, c.failed = false)) ∨
    ((syncPart w).fired = true ∧ (syncPart w).err = !(syncPart w).swallowed ∧ w.sel = .normal) := by
  by_cases h : w.sel = .normal
  · rw [syncPart_normal h]
    rcases syncF_cases w.s w.fault.scaleAt with e | ⟨_, _, _, _, _, e⟩ <;> rw [e]
    · exact .inl ⟨rfl, rfl, fun c hc => by obtain ⟨wr, _, rfl⟩ := List.mem_map.mp hc; rfl⟩
    · exact .inr ⟨rfl, rfl, h⟩
  · rw [syncPart_other h]; exact .inl ⟨rfl, rfl, nofun⟩

theorem syncPart_calls_nil (w : World) (h : (sync w.s).writes = []) : (syncPart w).calls = [] := by
  by_cases hs : w.sel = .normal
  · rw [syncPart_normal hs, syncF_of_nowrites _ _ h, syncOk, h]; rfl
  · rw [syncPart_other hs]

theorem syncPart_new_isSome (w : World) (h : w.s.new.isSome = true) : (syncPart w).new.isSome = true := by
  by_cases hs : w.sel = .normal
  · rw [syncPart_normal hs]; exact syncF_new_isSome _ _ h
  · rw [syncPart_other hs]; exact h

/-! ### `normalOut` field by field -/

theorem isExtra_of_isScale (c : Call) (h : c.isScale = true) : c.isExtra = false := by
  cases c <;> simp_all [Call.isScale, Call.isExtra]

theorem isProtect_of_isScale (c : Call) (h : c.isScale = true) : c.isProtect = false := by
  cases c <;> simp_all [Call.isScale, Call.isProtect]

theorem normalOut_calls (w : World) :
    (normalOut w).calls = (syncPart w).calls ++ (if needPatch w then [.extra (wantExtra w) (!w.fault.extra)] else []) := rfl

/-- the extra-status writes, in the form the oracles ask for them: one patch exactly when the text differs -/
theorem normalOut_extraCalls (w : World) (hs : w.sel ≠ .bad) :
    (normalOut w).calls.filter (·.isExtra) =
      if w.extra == wantExtra w then [] else [.extra (wantExtra w) (!w.fault.extra)] := by
  have hsync : (syncPart w).calls.filter (·.isExtra) = [] :=
    List.filter_eq_nil_iff.mpr fun c hc => by simp [isExtra_of_isScale c (syncPart_calls_scale w c hc)]
  have hs' : (w.sel != .bad) = true := by simpa using hs
  simp only [normalOut_calls, List.filter_append, hsync, List.nil_append, needPatch, hs', Bool.true_and]
  by_cases he : w.extra = wantExtra w <;> simp [he, List.filter, Call.isExtra]

theorem normalOut_scaleCalls (w : World) : (normalOut w).calls.filter (·.isScale) = (syncPart w).calls := by
  simp only [normalOut_calls, List.filter_append, List.filter_eq_self.mpr (syncPart_calls_scale w)]
  split <;> simp [List.filter, Call.isScale]

/-- the annotation afterwards: what `patchExtraStatus` wants, unless its patch fails -/
theorem normalOut_extra (w : World) (hs : w.sel ≠ .bad) : (normalOut w).extra = extraAfter w := by
  have hs' : (w.sel != .bad) = true := by simpa using hs
  simp only [normalOut, needPatch, hs', Bool.true_and, extraAfter]
  by_cases he : w.extra = wantExtra w <;> cases w.fault.extra <;> simp [he]

/-- on the sync path only the sync part writes ReplicaSet sizes: none there, none in the Reconcile -/
theorem noScale_normal (w : World) (hn : normalW w = true) (h : (syncPart w).calls = []) :
    noScale (reconcile w) = true := by
  simp only [reconcile_of_normalW w hn, noScale, normalOut_calls, h, List.nil_append]
  split <;> simp [Call.isScale]

theorem normalOut_res (w : World) :
    (normalOut w).res = if !(normalOut w).errs.isEmpty then .err else if satisfied w then .ok else .requeue := rfl

theorem normalOut_errs (w : World) :
    (normalOut w).errs = (if (syncPart w).err then [ErrKind.sync] else []) ++
      (if w.sel == .bad || (needPatch w && w.fault.extra) then [ErrKind.extra] else []) := rfl

theorem normalOut_fired (w : World) :
    (normalOut w).fired = ((syncPart w).fired || (needPatch w && w.fault.extra)) := rfl

theorem normalOut_err_of_sync (w : World) (h : (syncPart w).err = true) :
    (normalOut w).res = .err ∧ (normalOut w).errs.contains .sync = true := by
  rw [normalOut_res, normalOut_errs]
  simp [h]

theorem normalOut_err_of_extra (w : World) (h1 : needPatch w = true) (h2 : w.fault.extra = true) :
    (normalOut w).res = .err ∧ (normalOut w).errs.contains .extra = true := by
  rw [normalOut_res, normalOut_errs]
  simp [h1, h2]

/-- the world the next Reconcile reads after one on the sync path -/
theorem post_normal (w : World) (hn : normalW w = true) :
    post w =
      { w with
        extra := (normalOut w).extra, fault := {}, newReady := (if w.s.new.isNone then 0 else w.newReady)
        statusUpdated := (normalOut w).statusUpdated, obsGen := (normalOut w).obsGen
        s := { w.s with
               new := (syncPart w).new, olds := (syncPart w).olds, statusReplicas := (normalOut w).statusReplicas
               now := (if w.s.new.isNone && (syncPart w).new.isSome then w.s.now + 1 else w.s.now) } } := by
  simp only [DepCtl.post, reconcile_of_normalW w hn]
  rfl

theorem scaleAllTo_nil (s : State) (n : Int) : (scaleAllTo s n []).2 = [] := rfl

end RV.Lemmas.DepCtl
