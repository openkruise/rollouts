import RV.Oracle.Executor
import RV.Lemmas.BatchCtx
/-! The BatchRelease executor's status-level functions.  The special-case chain `syncDecide` is plane-independent and is
    taken apart once: its branches as equations (`syncDecide_completed` … `syncDecide_event_stop`), then the relation
    `SyncDecided` of its outcomes (for a `Steady` release, `EventDecided`) with `syncDecide_spec`; every fact about the
    chain after that is a `cases` on the relation.  `refreshStatus`, `normPhase`, `normState` are framed field by field.
    For the CloneSet plane of `RV.Executor`: the event it reports (`syncInfo`), the sync step as an equation
    (`syncStatus_eq`), and what its calls do.  `RV.Lemmas.ExecutorX` builds on the plane-independent part for every plane. -/
namespace RV.Executor
open RV.Arith RV.BatchCtx RV.Oracle.Executor

theorem initialized_id (s : Status) (h : s.phase ≠ .empty) : initializedStatus s = s := if_neg h

theorem initialized_not_completed (s : Status) (h : s.phase ≠ .completed) : (initializedStatus s).phase ≠ .completed := by
  unfold initializedStatus
  split
  · exact Phase.noConfusion
  · exact h

theorem initialized_cases (s : Status) :
    (s.phase = .empty ∧ initializedStatus s = resetStatus s) ∨ (s.phase ≠ .empty ∧ initializedStatus s = s) := by
  by_cases h : s.phase = .empty
  · exact .inl ⟨h, if_pos h⟩
  · exact .inr ⟨h, if_neg h⟩

theorem refresh_some (ns : Status) (w : Workload) :
    refreshStatus ns (some w) =
      { ns with updated := w.updated, updatedReady := w.updatedReady, hash := if ns.hash = .empty then .same else ns.hash,
                rolloutIDSame := true } := rfl

theorem refresh_phase (ns : Status) (info : Option Workload) : (refreshStatus ns info).phase = ns.phase := by
  cases info <;> rfl

theorem refresh_currentBatch (ns : Status) (info : Option Workload) :
    (refreshStatus ns info).currentBatch = ns.currentBatch := by
  cases info <;> rfl

theorem refresh_batchState (ns : Status) (info : Option Workload) :
    (refreshStatus ns info).batchState = ns.batchState := by
  unfold refreshStatus; cases info <;> rfl

theorem refresh_noNeedUpdate (ns : Status) (info : Option Workload) : (refreshStatus ns info).noNeedUpdate = ns.noNeedUpdate := by
  cases info <;> rfl

theorem refresh_hash_same (ns : Status) (info : Option Workload) (h : ns.hash = .same) :
    (refreshStatus ns info).hash = .same := by
  unfold refreshStatus; cases info <;> simp [h]

theorem refresh_updateRevision (ns : Status) (info : Option Workload) :
    (refreshStatus ns info).updateRevision = ns.updateRevision := by
  unfold refreshStatus; cases info <;> rfl

theorem refresh_observedReplicas (ns : Status) (info : Option Workload) :
    (refreshStatus ns info).observedReplicas = ns.observedReplicas := by
  unfold refreshStatus; cases info <;> rfl

theorem refresh_id (ns : Status) (w : Workload) (h1 : ns.updated = w.updated) (h2 : ns.updatedReady = w.updatedReady)
    (h3 : ns.hash = .same) (h4 : ns.rolloutIDSame = true) : refreshStatus ns (some w) = ns := by
  cases ns
  simp only at h1 h2 h3 h4
  subst h1 h2 h3 h4
  rfl

theorem syncInfo_some (br : BR) (ns : Status) (w : Workload) (hd : br.deleting = false) :
    ∃ ev, ev ≠ .gone ∧ syncInfo br ns (some w) = (ev, some w) := by
  -- every branch of the chain answers `(ev, some w)` with an event other than `gone`
  have step : ∀ (c : Prop) [Decidable c] (a b : Event × Option Workload),
      (∃ ev, ev ≠ .gone ∧ a = (ev, some w)) → (∃ ev, ev ≠ .gone ∧ b = (ev, some w)) →
      ∃ ev, ev ≠ .gone ∧ (if c then a else b) = (ev, some w) := by
    intro c _ a b ha hb
    by_cases hc : c
    · rw [if_pos hc]; exact ha
    · rw [if_neg hc]; exact hb
  unfold syncInfo
  rw [if_neg (by rw [hd]; exact Bool.false_ne_true)]
  exact step _ _ _ ⟨_, Event.noConfusion, rfl⟩ (step _ _ _ ⟨_, Event.noConfusion, rfl⟩
    (step _ _ _ ⟨_, Event.noConfusion, rfl⟩ (step _ _ _ ⟨_, Event.noConfusion, rfl⟩
      (step _ _ _ ⟨_, Event.noConfusion, rfl⟩ ⟨_, Event.noConfusion, rfl⟩))))

theorem syncInfo_info (br : BR) (ns : Status) (w : Workload) (hd : br.deleting = false) :
    (syncInfo br ns (some w)).2 = some w := by
  obtain ⟨ev, _, h⟩ := syncInfo_some br ns w hd
  rw [h]

theorem syncInfo_not_gone (br : BR) (ns : Status) (w : Workload) : (syncInfo br ns (some w)).1 ≠ .gone := by
  cases hd : br.deleting
  · obtain ⟨ev, hev, h⟩ := syncInfo_some br ns w hd
    rw [h]; exact hev
  · unfold syncInfo
    rw [if_pos hd]
    exact Event.noConfusion

/-- in `h`, `observedReplicas = -1` and `updateRevision = ""` stand for "nothing recorded yet" (`resetStatus`) -/
theorem syncInfo_normal (br : BR) (ns : Status) (w : Workload) (hd : br.deleting = false)
    (hgen : w.generation ≤ w.observedGeneration)
    (h : w.statusReplicas = w.updated ∨
      ((ns.observedReplicas = -1 ∨ w.replicas = ns.observedReplicas) ∧
       (ns.updateRevision = "" ∨ w.updateRevision = ns.updateRevision))) :
    syncInfo br ns (some w) = (.normal, some w) := by
  unfold syncInfo
  rw [if_neg (by rw [hd]; exact Bool.false_ne_true)]
  dsimp only
  rw [if_neg (fun hn => hn hgen)]
  by_cases hs : w.statusReplicas = w.updated
  · rw [if_pos hs]
  · obtain ⟨hrep, hrev⟩ := h.resolve_left hs
    rw [if_neg hs, if_neg (fun hx => hrep.elim hx.1 hx.2),
      -- a rollback in batch needs a stable revision that differs from the recorded update revision, yet equals the workload's
      if_neg (fun hx => hrev.elim hx.1 (fun e => hx.2.2.2 (by rw [hx.2.2.1, e]))),
      if_neg (fun hx => hrev.elim hx.1 hx.2)]

theorem isPlanFinalizing_false (br : BR) (hd : br.deleting = false) (hph : br.status.phase ≠ .finalizing)
    (hp : br.partition.isSome = true) : isPlanFinalizing br = false := by
  cases hpp : br.partition with
  | none => rw [hpp] at hp; cases hp
  | some p => simp only [isPlanFinalizing, hd, hph, hpp, Option.isNone_some, decide_false, Bool.or_self]

theorem isPlanChanged_false (br : BR) (hh : br.status.hash = .same) : isPlanChanged br = false := by
  simp only [isPlanChanged, hh, ne_eq, not_true_eq_false, decide_false, Bool.false_and]

theorem isPlanUnhealthy_false (br : BR) (h : br.status.currentBatch < br.batches.length) : isPlanUnhealthy br = false := by
  simp only [isPlanUnhealthy, Bool.and_eq_false_imp, decide_eq_true_eq]
  intro hx; omega

/-- the causes for which `syncStatusBeforeExecuting` stops the round of a plan that is not completed: the pod template is no
    longer the revision being released, the workload controller has not caught up, a rollback in batches awaits its signal -/
def StopCause (br : BR) (ev : Event) : Prop :=
  (ev = .podTemplateChanged ∧ br.status.phase = .progressing) ∨ ev = .stillReconciling ∨
  ((ev = .rollbackInBatch ∨ br.rollbackAnno = true) ∧ br.status.noNeedUpdate.isNone = true ∧ br.status.phase = .progressing)

theorem syncDecide_completed (br : BR) (ns : Status) (ev : Event) (info : Option Workload)
    (hc : br.status.phase = .completed) : syncDecide br ns ev info = (ns, true) := by
  unfold syncDecide; exact if_pos hc

theorem syncDecide_finalizing (br : BR) (ns : Status) (ev : Event) (info : Option Workload)
    (hc : br.status.phase ≠ .completed) (hf : isPlanFinalizing br = true) :
    syncDecide br ns ev info = ({ ns with phase := .finalizing }, false) := by
  unfold syncDecide; dsimp only; rw [if_neg hc, if_pos hf]

theorem syncDecide_changed (br : BR) (ns : Status) (ev : Event) (info : Option Workload)
    (hc : br.status.phase ≠ .completed) (hf : isPlanFinalizing br = false) (hch : isPlanChanged br = true) :
    syncDecide br ns ev info = (signalRecalculate br ns, false) := by
  unfold syncDecide; dsimp only; rw [if_neg hc, hf, if_neg Bool.false_ne_true, if_pos hch]

theorem syncDecide_unhealthy (br : BR) (ns : Status) (ev : Event) (info : Option Workload)
    (hc : br.status.phase ≠ .completed) (hf : isPlanFinalizing br = false) (hch : isPlanChanged br = false)
    (hu : isPlanUnhealthy br = true) : syncDecide br ns ev info = (resetStatus ns, false) := by
  unfold syncDecide; dsimp only
  rw [if_neg hc, hf, hch, if_neg Bool.false_ne_true, if_neg Bool.false_ne_true, if_pos hu]

theorem syncDecide_scaled (br : BR) (ns : Status) (w : Workload) (hf : isPlanFinalizing br = false)
    (hch : isPlanChanged br = false) (hu : isPlanUnhealthy br = false) (hp : br.status.phase = .progressing) :
    syncDecide br ns .replicasChanged (some w) =
      ({ ns with hasReadyTime := false, batchState := .upgrading, observedReplicas := w.replicas }, false) := by
  unfold syncDecide; dsimp only
  rw [if_neg (by rw [hp]; exact Phase.noConfusion), hf, hch, hu, if_neg Bool.false_ne_true, if_neg Bool.false_ne_true,
    if_neg Bool.false_ne_true, if_neg (fun h => Event.noConfusion h.1), if_pos ⟨rfl, hp⟩]

theorem syncDecide_event_stop (br : BR) (ns : Status) (ev : Event)
    (info : Option Workload) (hp : br.status.phase = .progressing) (hf : isPlanFinalizing br = false)
    (hch : isPlanChanged br = false) (hu : isPlanUnhealthy br = false)
    (hev : ev = .podTemplateChanged ∨ ev = .stillReconciling) :
    syncDecide br ns ev info = (ns, true) := by
  have hc : br.status.phase ≠ .completed := by rw [hp]; decide
  unfold syncDecide
  dsimp only
  rw [if_neg hc, hf, hch, hu, if_neg Bool.false_ne_true, if_neg Bool.false_ne_true, if_neg Bool.false_ne_true]
  rcases hev with hev | hev
  · subst hev
    rw [if_neg (by intro hx; cases hx.1), if_neg (by intro hx; cases hx.1), if_pos ⟨rfl, hp⟩]
  · subst hev
    rw [if_neg (by intro hx; cases hx.1), if_neg (by intro hx; cases hx.1), if_neg (by intro hx; cases hx.1),
      if_pos rfl]

/-- a release that is neither completed, finalizing, changed nor unhealthy: the four tests the chain of
    `syncStatusBeforeExecuting` makes before it looks at the workload event -/
structure Steady (br : BR) : Prop where
  live : br.status.phase ≠ .completed
  finalizing : isPlanFinalizing br = false
  changed : isPlanChanged br = false
  unhealthy : isPlanUnhealthy br = false

/-- what the chain decides on the workload event, for a `Steady` release, in the order of the code: the workload is gone; it was
    scaled; a `StopCause`; the rollback in batches is signalled; nothing to do.  The constructors carry the guards their readers
    need, not the negations of the earlier ones (`gone` says nothing of the phase): the relation lists the outcomes, it does not
    determine them (no converse, unlike `ProgX.eq`); `pass` also covers a `replicasChanged` without workload information -/
inductive EventDecided (br : BR) (ns : Status) (ev : Event) (info : Option Workload) : Status × Bool → Prop
  | gone : ev = .gone → EventDecided br ns ev info ({ ns with phase := .finalizing }, false)
  | scaled {w} : ev = .replicasChanged → br.status.phase = .progressing → info = some w → EventDecided br ns ev info
      ({ ns with hasReadyTime := false, batchState := .upgrading, observedReplicas := w.replicas }, false)
  | stop : StopCause br ev → EventDecided br ns ev info (ns, true)
  | rollback {w} : br.rollbackAnno = true → br.status.phase = .progressing → info = some w → EventDecided br ns ev info
      ({ ns with phase := .preparing, hasReadyTime := false, batchState := .upgrading, updateRevision := w.updateRevision }, false)
  | pass : EventDecided br ns ev info (ns, false)

/-- the outcomes of the special-case chain of `syncStatusBeforeExecuting`: a completed release stops; a finalizing plan, a changed
    plan (`signalRecalculate`), an unhealthy plan (`resetStatus`); else the workload event decides -/
inductive SyncDecided (br : BR) (ns : Status) (ev : Event) (info : Option Workload) : Status × Bool → Prop
  | completed : br.status.phase = .completed → SyncDecided br ns ev info (ns, true)
  | finalizing : isPlanFinalizing br = true → SyncDecided br ns ev info ({ ns with phase := .finalizing }, false)
  | changed : isPlanFinalizing br = false → isPlanChanged br = true → SyncDecided br ns ev info (signalRecalculate br ns, false)
  | unhealthy : isPlanChanged br = false → isPlanUnhealthy br = true → SyncDecided br ns ev info (resetStatus ns, false)
  | steady {r} : Steady br → EventDecided br ns ev info r → SyncDecided br ns ev info r

theorem syncDecide_spec (br : BR) (ns : Status) (ev : Event) (info : Option Workload) :
    SyncDecided br ns ev info (syncDecide br ns ev info) := by
  by_cases hc : br.status.phase = .completed
  · exact syncDecide_completed br ns ev info hc ▸ .completed hc
  cases hf : isPlanFinalizing br
  case true => exact syncDecide_finalizing br ns ev info hc hf ▸ .finalizing hf
  cases hch : isPlanChanged br
  case true => exact syncDecide_changed br ns ev info hc hf hch ▸ .changed hf hch
  cases hu : isPlanUnhealthy br
  case true => exact syncDecide_unhealthy br ns ev info hc hf hch hu ▸ .unhealthy hch hu
  refine .steady ⟨hc, hf, hch, hu⟩ ?_
  unfold syncDecide
  dsimp only
  rw [if_neg hc, hf, hch, hu, if_neg Bool.false_ne_true, if_neg Bool.false_ne_true, if_neg Bool.false_ne_true]
  by_cases h1 : ev = .gone ∧ br.status.phase ≠ .empty
  · rw [if_pos h1]; exact .gone h1.1
  rw [if_neg h1]
  by_cases h2 : ev = .replicasChanged ∧ br.status.phase = .progressing
  · rw [if_pos h2]
    cases info with
    | some w => exact .scaled h2.1 h2.2 rfl
    | none => exact .pass
  rw [if_neg h2]
  by_cases h3 : ev = .podTemplateChanged ∧ br.status.phase = .progressing
  · rw [if_pos h3]; exact .stop (.inl h3)
  rw [if_neg h3]
  by_cases h4 : ev = .stillReconciling
  · rw [if_pos h4]; exact .stop (.inr (.inl h4))
  rw [if_neg h4]
  by_cases h5 : (ev = .rollbackInBatch ∨ br.rollbackAnno = true) ∧ br.status.noNeedUpdate.isNone = true ∧
      br.status.phase = .progressing
  · rw [if_pos h5]
    cases info with
    | none => exact .stop (.inr (.inr h5))
    | some w =>
      dsimp only
      by_cases h6 : w.currentRevision = w.updateRevision ∧ br.rollbackAnno = true
      · rw [if_pos h6]; exact .rollback h6.2 h5.2.2 rfl
      · rw [if_neg h6]; exact .stop (.inr (.inr h5))
  · rw [if_neg h5]; exact .pass

/-- the same as an inversion that keeps the equation: `generalize hr : syncDecide br ns ev info = r`, then `cases syncDecide_inv hr` -/
theorem syncDecide_inv {br : BR} {ns : Status} {ev : Event} {info : Option Workload} {r : Status × Bool}
    (h : syncDecide br ns ev info = r) : SyncDecided br ns ev info r :=
  h ▸ syncDecide_spec br ns ev info

theorem syncDecide_normal (br : BR) (ns : Status) (info : Option Workload)
    (hc : br.status.phase ≠ .completed) (hf : isPlanFinalizing br = false) (hch : isPlanChanged br = false)
    (hu : isPlanUnhealthy br = false) (hra : br.rollbackAnno = false) :
    syncDecide br ns .normal info = (ns, false) := by
  have hd := syncDecide_spec br ns .normal info
  generalize syncDecide br ns .normal info = r at hd ⊢
  cases hd with
  | completed h => exact absurd h hc
  | finalizing h => rw [hf] at h; cases h
  | changed _ h => rw [hch] at h; cases h
  | unhealthy _ h => rw [hu] at h; cases h
  | steady _ he =>
    cases he with
    | gone h | scaled h => cases h
    | stop h =>
      rcases h with h | h | ⟨h | h, _⟩
      · cases h.1
      · cases h
      · cases h
      · rw [hra] at h; cases h
    | rollback h => rw [hra] at h; cases h
    | pass => rfl

theorem syncDecide_steady (br : BR) (ns : Status) (info : Option Workload) (hd : br.deleting = false)
    (hp : br.partition.isSome = true) (hph : br.status.phase = .preparing ∨ br.status.phase = .progressing)
    (hh : br.status.hash = .same) (hcb : br.status.currentBatch < br.batches.length) (hra : br.rollbackAnno = false) :
    syncDecide br ns .normal info = (ns, false) :=
  syncDecide_normal br ns info (by rcases hph with h | h <;> rw [h] <;> exact Phase.noConfusion)
    (isPlanFinalizing_false br hd (by rcases hph with h | h <;> rw [h] <;> exact Phase.noConfusion) hp)
    (isPlanChanged_false br hh) (isPlanUnhealthy_false br hcb) hra

theorem syncDecide_currentBatch (br : BR) (ns : Status) (ev : Event) (info : Option Workload)
    (h1 : isPlanChanged br = false) (h2 : isPlanUnhealthy br = false) :
    (syncDecide br ns ev info).1.currentBatch = ns.currentBatch := by
  have hd := syncDecide_spec br ns ev info
  generalize syncDecide br ns ev info = r at hd ⊢
  cases hd with
  | changed _ hc => rw [h1] at hc; cases hc
  | unhealthy _ hu => rw [h2] at hu; cases hu
  | completed | finalizing => rfl
  | steady _ he => cases he <;> rfl

theorem signalRecalculate_currentBatch (br : BR) (ns : Status) :
    (signalRecalculate br ns).currentBatch = 0 ∨
    ∃ p, br.partition = some p ∧ (signalRecalculate br ns).currentBatch = min p ((br.batches.length : Int) - 1) := by
  unfold signalRecalculate
  cases br.partition with
  | none => exact .inl rfl
  | some p =>
    dsimp only
    split
    · exact .inr ⟨p, rfl, rfl⟩
    · exact .inl rfl

theorem signalRecalculate_lt (br : BR) (ns : Status) (hne : br.batches ≠ []) :
    (signalRecalculate br ns).currentBatch < br.batches.length := by
  have hlen : 1 ≤ (br.batches.length : Int) := by
    cases hb : br.batches with
    | nil => exact absurd hb hne
    | cons a t => simp only [List.length_cons]; omega
  simp only [signalRecalculate]
  cases hpp : br.partition with
  | none => simp only []; omega
  | some p =>
    simp only []
    split <;> omega

theorem syncDecide_within (br : BR) (ns : Status) (ev : Event) (info : Option Workload) (p : Int)
    (hp : br.partition = some p) (h0 : 0 ≤ p) (hle : ns.currentBatch ≤ p) :
    (syncDecide br ns ev info).1.currentBatch ≤ p := by
  have hd := syncDecide_spec br ns ev info
  generalize syncDecide br ns ev info = r at hd ⊢
  cases hd with
  | changed =>
    rcases signalRecalculate_currentBatch br ns with hs | ⟨q, hq, hs⟩
    · rw [hs]; exact h0
    · rw [hs]; rw [hp] at hq; cases hq; omega
  | unhealthy => exact h0
  | completed | finalizing => exact hle
  | steady _ he => cases he <;> exact hle

theorem syncDecide_nonneg (br : BR) (ns : Status) (ev : Event) (info : Option Workload)
    (h0 : 0 ≤ ns.currentBatch) (hp : ∀ p, br.partition = some p → 0 ≤ p) (hne : br.batches ≠ []) :
    0 ≤ (syncDecide br ns ev info).1.currentBatch := by
  have hd := syncDecide_spec br ns ev info
  generalize syncDecide br ns ev info = r at hd ⊢
  cases hd with
  | changed =>
    rcases signalRecalculate_currentBatch br ns with hs | ⟨q, hq, hs⟩
    · rw [hs]; exact Int.le_refl 0
    · have := hp q hq
      have := List.length_pos_iff.mpr hne
      rw [hs]; omega
  | unhealthy => exact Int.le_refl 0
  | completed | finalizing => exact h0
  | steady _ he => cases he <;> exact h0

/-- every outcome keeps the phase of `ns` or sets it to `Finalizing` / `Preparing` -/
theorem syncDecide_not_completed (br : BR) (ns : Status) (ev : Event) (info : Option Workload)
    (hn : ns.phase ≠ .completed) : (syncDecide br ns ev info).1.phase ≠ .completed := by
  have hd := syncDecide_spec br ns ev info
  generalize syncDecide br ns ev info = r at hd ⊢
  cases hd with
  | completed | changed => exact hn
  | finalizing | unhealthy => exact Phase.noConfusion
  | steady _ he => cases he <;> first | exact hn | exact Phase.noConfusion

theorem syncDecide_progressing (br : BR) (ns : Status) (ev : Event) (info : Option Workload)
    (hp : (syncDecide br ns ev info).1.phase = .progressing) : ns.phase = .progressing := by
  have hd := syncDecide_spec br ns ev info
  generalize syncDecide br ns ev info = r at hd hp
  cases hd with
  | completed | changed => exact hp
  | finalizing | unhealthy => cases hp
  | steady _ he => cases he <;> first | exact hp | cases hp

theorem syncDecide_live (br : BR) (ns : Status) (ev : Event) (info : Option Workload)
    (hf : isPlanFinalizing br = false) (hev : ev ≠ .gone)
    (hns : ns.phase = .preparing ∨ ns.phase = .progressing) :
    (syncDecide br ns ev info).1.phase = .preparing ∨ (syncDecide br ns ev info).1.phase = .progressing := by
  have hd := syncDecide_spec br ns ev info
  generalize syncDecide br ns ev info = r at hd ⊢
  cases hd with
  | completed | changed => exact hns
  | finalizing hf' => rw [hf] at hf'; cases hf'
  | unhealthy => exact .inl rfl
  | steady _ he =>
    cases he with
    | gone hg => exact absurd hg hev
    | rollback => exact .inl rfl
    | scaled | stop | pass => exact hns

/-- only `resetStatus` (an unhealthy plan) touches the count, and clears it -/
theorem syncDecide_noNeedUpdate (br : BR) (ns : Status) (ev : Event) (info : Option Workload) :
    (syncDecide br ns ev info).1.noNeedUpdate = ns.noNeedUpdate ∨
    (syncDecide br ns ev info).1.noNeedUpdate = none := by
  have hd := syncDecide_spec br ns ev info
  generalize syncDecide br ns ev info = r at hd ⊢
  cases hd with
  | unhealthy => exact .inr rfl
  | completed | finalizing | changed => exact .inl rfl
  | steady _ he => cases he <;> exact .inl rfl

theorem syncDecide_stop (br : BR) (ns : Status) (ev : Event) (info : Option Workload) (h : (syncDecide br ns ev info).2 = true) :
    br.status.phase = .completed ∨ StopCause br ev := by
  have hd := syncDecide_spec br ns ev info
  generalize syncDecide br ns ev info = r at hd h
  cases hd with
  | completed hc => exact .inl hc
  | finalizing | changed | unhealthy => cases h
  | steady _ he =>
    cases he with
    | stop hs => exact .inr hs
    | gone | scaled | rollback | pass => cases h

theorem sync_nostop_status (br : BR) (ns : Status) (wl : Option Workload)
    (h : (syncStatus br ns wl).stop = false) : (syncStatus br ns wl).status = br.status := by
  unfold syncStatus at h ⊢
  simp only [Bool.or_eq_false_iff, decide_eq_false_iff_not, ne_eq, Decidable.not_not] at h ⊢
  exact h.2

theorem sync_completed_stops (br : BR) (ns : Status) (wl : Option Workload)
    (hp : br.status.phase = .completed) : (syncStatus br ns wl).stop = true := by
  unfold syncStatus
  dsimp only
  rw [syncDecide_completed br ns _ _ hp]
  rfl

theorem syncStatus_normal (br : BR) (ns : Status) (wl info : Option Workload)
    (hi : syncInfo br ns wl = (.normal, info)) (hd : syncDecide br ns .normal info = (ns, false)) :
    syncStatus br ns wl =
      { status := refreshStatus ns info, stop := decide (refreshStatus ns info ≠ br.status) } := by
  unfold syncStatus
  dsimp only
  rw [hi]
  dsimp only
  rw [hd, Bool.false_or]

theorem syncStatus_quiet (br : BR) (wl info : Option Workload)
    (hi : syncInfo br br.status wl = (.normal, info)) (hd : syncDecide br br.status .normal info = (br.status, false))
    (hr : refreshStatus br.status info = br.status) :
    syncStatus br br.status wl = { status := br.status, stop := false } := by
  rw [syncStatus_normal br br.status wl info hi hd, hr, decide_eq_false (fun hn => hn rfl)]

theorem sync_stop_cause (br : BR) (ns : Status) (wl : Option Workload) (hstop : (syncStatus br ns wl).stop = true)
    (hsame : (syncStatus br ns wl).status = br.status) : br.status.phase = .completed ∨ StopCause br (syncInfo br ns wl).1 := by
  apply syncDecide_stop br ns _ (syncInfo br ns wl).2
  unfold syncStatus at hstop hsame
  simp only [Bool.or_eq_true, decide_eq_true_eq] at hstop
  exact hstop.resolve_right (not_not_intro hsame)

/-- `d` is free so that a branch equation (`syncDecide_changed` …) is passed as `hd` and the sync step is rewritten on that
    branch without unfolding -/
theorem syncStatus_eq (br : BR) (ns : Status) (wl : Option Workload) (d : Status × Bool)
    (hd : syncDecide br ns (syncInfo br ns wl).1 (syncInfo br ns wl).2 = d) :
    syncStatus br ns wl =
      { status := refreshStatus d.1 (syncInfo br ns wl).2,
        stop := d.2 || decide (refreshStatus d.1 (syncInfo br ns wl).2 ≠ br.status) } := by
  subst hd
  rfl

/-- what a sync step of a `Progressing`, non-finalizing release leaves when the workload reports `podTemplateChanged` /
    `stillReconciling`: it stops, and the status stays `Progressing` with revision and size kept (cursor kept, or recalculated
    if the plan changed), or an unhealthy plan was reset to `Preparing` -/
theorem syncStatus_event_stop (br : BR) (wl : Option Workload) (hph : br.status.phase = .progressing)
    (hnf : isPlanFinalizing br = false)
    (hev : (syncInfo br br.status wl).1 = .podTemplateChanged ∨
           (syncInfo br br.status wl).1 = .stillReconciling) :
    (syncStatus br br.status wl).stop = true ∧
    (((syncStatus br br.status wl).status.phase = .progressing ∧
      (syncStatus br br.status wl).status.updateRevision = br.status.updateRevision ∧
      (syncStatus br br.status wl).status.observedReplicas = br.status.observedReplicas ∧
      ((syncStatus br br.status wl).status.currentBatch = br.status.currentBatch ∨
       (syncStatus br br.status wl).status.currentBatch = (signalRecalculate br br.status).currentBatch)) ∨
     (isPlanUnhealthy br = true ∧ (syncStatus br br.status wl).status.phase = .preparing)) := by
  have hc : br.status.phase ≠ .completed := by rw [hph]; decide
  cases hch : isPlanChanged br
  case true =>
    rw [syncStatus_eq br br.status wl _ (syncDecide_changed br br.status _ _ hc hnf hch)]
    dsimp only
    have hh : (refreshStatus (signalRecalculate br br.status)
        (syncInfo br br.status wl).2).hash = .same := refresh_hash_same _ _ rfl
    have hne : br.status.hash ≠ .same := by
      simp only [isPlanChanged, Bool.and_eq_true, decide_eq_true_eq] at hch
      exact hch.1
    refine ⟨?_, Or.inl ?_⟩
    · rw [Bool.false_or, decide_eq_true_eq]
      intro heq
      rw [heq] at hh
      exact hne hh
    · refine ⟨?_, ?_, ?_, Or.inr ?_⟩
      · rw [refresh_phase]; exact hph
      · rw [refresh_updateRevision]; rfl
      · rw [refresh_observedReplicas]; rfl
      · rw [refresh_currentBatch]
  case false =>
    cases hu : isPlanUnhealthy br
    case true =>
      rw [syncStatus_eq br br.status wl _ (syncDecide_unhealthy br br.status _ _ hc hnf hch hu)]
      dsimp only
      have hp : (refreshStatus (resetStatus br.status)
          (syncInfo br br.status wl).2).phase = .preparing := by
        rw [refresh_phase]; rfl
      refine ⟨?_, Or.inr ⟨rfl, ?_⟩⟩
      · rw [Bool.false_or, decide_eq_true_eq]
        intro heq
        rw [heq, hph] at hp
        cases hp
      · exact hp
    case false =>
      rw [syncStatus_eq br br.status wl _ (syncDecide_event_stop br br.status _ _ hph hnf hch hu hev)]
      dsimp only
      refine ⟨?_, Or.inl ?_⟩
      · rw [Bool.true_or]
      · refine ⟨?_, ?_, ?_, Or.inl ?_⟩
        · rw [refresh_phase]; exact hph
        · rw [refresh_updateRevision]
        · rw [refresh_observedReplicas]
        · rw [refresh_currentBatch]

theorem normPhase_currentBatch (ns : Status) : (normPhase ns).currentBatch = ns.currentBatch := by
  unfold normPhase; split <;> rfl

theorem normPhase_noNeedUpdate (ns : Status) : (normPhase ns).noNeedUpdate = ns.noNeedUpdate := by
  unfold normPhase; split <;> rfl

theorem normPhase_cases (ns : Status) :
    (normPhase ns = ns ∧ ns.phase ≠ .empty ∧ ns.phase ≠ .other) ∨
    ((ns.phase = .empty ∨ ns.phase = .other) ∧ normPhase ns = { ns with phase := .preparing }) := by
  unfold normPhase
  split
  · rename_i hc; exact .inr ⟨hc, rfl⟩
  · rename_i hc; exact .inl ⟨rfl, fun hx => hc (.inl hx), fun hx => hc (.inr hx)⟩

theorem normPhase_of_ne_preparing (ns : Status) (h : (normPhase ns).phase ≠ .preparing) : normPhase ns = ns := by
  rcases normPhase_cases ns with ⟨hn, _⟩ | ⟨_, hn⟩
  · exact hn
  · rw [hn] at h; exact absurd rfl h

theorem normPhase_preparing (ns : Status) (h : (normPhase ns).phase = .preparing) :
    ns.phase = .preparing ∨ ns.phase = .empty ∨ ns.phase = .other := by
  rcases normPhase_cases ns with ⟨hn, _⟩ | ⟨he, _⟩
  · exact .inl (hn ▸ h)
  · exact .inr he

theorem normPhase_of_known (ns : Status) (h1 : ns.phase ≠ .empty) (h2 : ns.phase ≠ .other) : normPhase ns = ns :=
  if_neg (fun h => h.elim h1 h2)

theorem normPhase_of_progressing (ns : Status) (h : ns.phase = .progressing) : normPhase ns = ns :=
  normPhase_of_known ns (by rw [h]; exact Phase.noConfusion) (by rw [h]; exact Phase.noConfusion)

theorem normState_currentBatch (ns : Status) : (normState ns).currentBatch = ns.currentBatch := by
  unfold normState; split <;> rfl

theorem normState_noNeedUpdate (ns : Status) : (normState ns).noNeedUpdate = ns.noNeedUpdate := by
  unfold normState; split <;> rfl

theorem normState_phase (ns : Status) : (normState ns).phase = ns.phase := by
  unfold normState; split <;> rfl

theorem normState_cases (ns : Status) : normState ns = ns ∨ (normState ns).batchState = .upgrading := by
  unfold normState
  split
  · exact .inr rfl
  · exact .inl rfl

theorem normState_batchState (ns : Status) :
    (normState ns).batchState = .upgrading ∨ (normState ns).batchState = .verifying ∨ (normState ns).batchState = .ready := by
  unfold normState
  split
  · exact .inl rfl
  · rename_i h
    cases hb : ns.batchState
    case empty => exact absurd (.inl hb) h
    case other => exact absurd (.inr hb) h
    case upgrading => exact .inl rfl
    case verifying => exact .inr (.inl rfl)
    case ready => exact .inr (.inr rfl)

theorem normState_of_ne_upgrading (ns : Status) (h : (normState ns).batchState ≠ .upgrading) : normState ns = ns :=
  (normState_cases ns).resolve_right h

theorem normState_of_known (ns : Status) (h1 : ns.batchState ≠ .empty) (h2 : ns.batchState ≠ .other) : normState ns = ns :=
  if_neg (fun h => h.elim h1 h2)

theorem moveToNextBatch_currentBatch (br : BR) (ns : Status) :
    ((moveToNextBatch br ns).currentBatch = ns.currentBatch + 1 ∧ ∀ p, br.partition = some p → ns.currentBatch < p) ∨
    (moveToNextBatch br ns).currentBatch = ns.currentBatch := by
  unfold moveToNextBatch
  cases br.partition with
  | none => exact .inl ⟨rfl, nofun⟩
  | some p =>
    dsimp only
    split
    · rename_i hlt; exact .inl ⟨rfl, fun q hq => by cases hq; exact hlt⟩
    · exact .inr rfl

theorem initializeWl_currentBatch (br : BR) (ns : Status) (wl : Option Workload) :
    (initializeWl br ns wl).2.1.currentBatch = ns.currentBatch := by
  unfold initializeWl
  cases wl with
  | none => rfl
  | some w => dsimp only; split <;> rfl

theorem initializeWl_phase (br : BR) (ns : Status) (wl : Option Workload) :
    (initializeWl br ns wl).2.1.phase = ns.phase := by
  unfold initializeWl
  cases wl with
  | none => rfl
  | some w => dsimp only; split <;> rfl

theorem initializeWl_noNeedUpdate (br : BR) (ns : Status) (wl : Option Workload) (hra : br.rollbackAnno = false) :
    (initializeWl br ns wl).2.1.noNeedUpdate = ns.noNeedUpdate := by
  unfold initializeWl
  cases wl with
  | none => rfl
  | some w => dsimp only; rw [hra, if_neg Bool.false_ne_true]

theorem initializeWl_wl (br : BR) (ns : Status) (w : Workload) :
    (initializeWl br ns (some w)).1 = some w ∨
    (initializeWl br ns (some w)).1 = some { w with owner := .this, paused := false, partition := some (.pct 100) } := by
  unfold initializeWl
  dsimp only
  split
  · exact .inl rfl
  · exact .inr rfl

theorem initializeWl_own (br : BR) (ns : Status) (w : Workload) (hown : w.owner = .this) :
    (initializeWl br ns (some w)).1 = some w := by
  unfold initializeWl
  dsimp only
  rw [if_pos hown]

theorem finalize_ok (br : BR) (wl : Option Workload) : (finalize br wl).2 = .ok := by
  cases wl <;> rfl

theorem upgradeBatch_cases (br : BR) (ns : Status) (wl wl' : Option Workload) (r : CallResult)
    (h : upgradeBatch br ns wl = .val (wl', r)) :
    (wl' = wl ∧ (r = .err → wl = none)) ∨
    ∃ w c, wl = some w ∧ calcCtx (obsOf br br.status w) = .ok c ∧ c.knobCur = w.partition.getD (.int 0) ∧
      c.replicas = w.replicas ∧ scaledV c.knobDes c.replicas true < scaledV c.knobCur c.replicas true ∧
      wl' = some { w with partition := some c.knobDes } ∧ r = .ok := by
  unfold upgradeBatch at h
  cases wl with
  | none => cases h; exact .inl ⟨rfl, fun _ => rfl⟩
  | some w =>
    dsimp only at h
    split at h
    · cases h; exact .inl ⟨rfl, nofun⟩
    · split at h
      · cases h
      · rename_i c hc
        split at h
        · cases h; exact .inl ⟨rfl, nofun⟩
        · rename_i k hk
          cases h
          unfold upgrade at hk
          dsimp only at hk
          split at hk
          · cases hk
          · rename_i hgt
            cases hk
            obtain ⟨_, _, rfl⟩ := calcCtx_ok hc
            exact .inr ⟨w, _, rfl, hc, rfl, rfl, by omega, rfl, rfl⟩

theorem calcCtx_obsOf (br : BR) (ns : Status) (w : Workload) (h0 : 0 ≤ br.status.currentBatch)
    (hlt : br.status.currentBatch < br.batches.length) : ∃ c, calcCtx (obsOf br ns w) = .ok c := by
  have hlt' : br.status.currentBatch.toNat < br.batches.length := by omega
  have hnot : ¬ br.status.currentBatch < 0 := by omega
  unfold calcCtx obsOf
  simp only [hnot, if_false, List.getElem?_eq_getElem hlt']
  exact ⟨_, rfl⟩

theorem upgradeBatch_ne_panic (br : BR) (ns : Status) (wl : Option Workload) (h0 : 0 ≤ br.status.currentBatch)
    (hlt : br.status.currentBatch < br.batches.length) : upgradeBatch br ns wl ≠ .panic := by
  unfold upgradeBatch
  cases wl with
  | none => intro hc; cases hc
  | some w =>
    dsimp only
    obtain ⟨c, hc⟩ := calcCtx_obsOf br ns w h0 hlt
    rw [hc]
    dsimp only
    repeat' split
    all_goals (intro hx; cases hx)

theorem ensureReady_ne_panic (br : BR) (ns : Status) (wl : Option Workload) (h0 : 0 ≤ br.status.currentBatch)
    (hlt : br.status.currentBatch < br.batches.length) : ensureReady br ns wl ≠ .panic := by
  unfold ensureReady
  cases wl with
  | none => intro hc; cases hc
  | some w =>
    dsimp only
    obtain ⟨c, hc⟩ := calcCtx_obsOf br ns w h0 hlt
    rw [hc]
    dsimp only
    repeat' split
    all_goals (intro hx; cases hx)

theorem upgradeBatch_effect (br : BR) (ns : Status) (w : Workload) (wl' : Option Workload) (r : CallResult)
    (h : upgradeBatch br ns (some w) = .val (wl', r)) :
    wl' = some w ∨
    ∃ e, 0 ≤ br.status.currentBatch ∧ br.batches[br.status.currentBatch.toNat]? = some e ∧
      wl' = some { w with partition := some (desKnob .cloneSet w.replicas e br.status.noNeedUpdate) } := by
  rcases upgradeBatch_cases br ns (some w) wl' r h with ⟨hw, _⟩ | ⟨w2, c, hwl, hc, _, _, _, hw, _⟩
  · exact .inl hw
  · cases hwl
    right
    obtain ⟨e, he, rfl⟩ := RV.BatchCtx.calcCtx_ok hc
    simp only [obsOf] at he
    split at he
    · cases he
    · exact ⟨e, by omega, he, hw⟩

/-- the control plane reads the persisted status, never the new one: `ns` does not matter -/
theorem ensureReady_iff (br : BR) (ns : Status) (wl : Option Workload) :
    ensureReady br ns wl = .val .ok ↔ batchReadyNow br wl = true := by
  unfold ensureReady batchReadyNow
  cases wl with
  | none => exact ⟨nofun, nofun⟩
  | some w =>
    dsimp only
    by_cases h0 : w.replicas = 0
    · rw [if_pos h0, if_pos h0]; exact ⟨fun _ => rfl, fun _ => rfl⟩
    · rw [if_neg h0, if_neg h0]
      have hobs : obsOf br ns w = obsOf br br.status w := rfl
      rw [hobs]
      cases calcCtx (obsOf br br.status w) with
      | panic => exact ⟨nofun, nofun⟩
      | ok c =>
        dsimp only
        by_cases hr : isBatchReady c none = .ok
        · rw [if_pos hr]; exact ⟨fun _ => decide_eq_true hr, fun _ => rfl⟩
        · rw [if_neg hr]; exact ⟨nofun, fun h => absurd (of_decide_eq_true h) hr⟩

theorem batchReadyNow_withFinalizer (br : BR) (wl : Option Workload) : batchReadyNow (withFinalizer br) wl = batchReadyNow br wl := by
  cases wl <;> rfl

end RV.Executor
