/-
  Supersession, label `ro`: a Rollout reconcile from the reset invariant leads to the reset invariant or back to the forward one
  (`stepRo_reset`; `stepRo_rst` is the successor written out, as `stepRo_quiet` / `_roll` / `_clean` are for the forward labels).
-/
import RV.Lemmas.ClosedLoopReset
import RV.Lemmas.ClosedLoopRoStep
namespace RV.Lemmas.ClosedLoop
open RV.Arith RV.Traffic RV.RolloutSM RV.ClosedLoop RV.Oracle.ClosedLoop RV.Props.Reconcile

theorem brHolds_deleting (c : CBr) (w : CWl) (h : brHolds c w = true) : brHolds { c with deleting := true } w = true := by
  unfold brHolds at h ⊢
  simp only [Bool.or_eq_true, Bool.and_eq_true, Bool.not_eq_true'] at h ⊢
  rcases h with (h | h) | h
  · exact Or.inl (Or.inl h)
  · exact Or.inl (Or.inr ⟨h.1, Or.inl trivial⟩)
  · exact Or.inl (Or.inr ⟨h.1.1.1.1.1.2, Or.inl trivial⟩)

theorem reset_land (cbr : Option CBr) (nb : Option BR) (w : CWl) (h : BrDel (cbr.map roBr) nb)
    (hbrok : brOKo cbr = true) (hh : brHoldsO cbr w = true) :
    ∃ br', landBR cbr nb (some w) = (br', some w) ∧ brOKo br' = true ∧ brHoldsO br' w = true := by
  generalize hb0 : cbr.map roBr = b0 at h
  cases h with
  | same =>
    subst hb0
    exact ⟨cbr, landBR_id _ _, hbrok, hh⟩
  | deleted b =>
    obtain ⟨c, hc, hcb⟩ := map_roBr_some cbr b hb0
    subst hc
    subst hcb
    refine ⟨updatedBr c { roBr c with deleting := true }, rfl, ?_⟩
    rw [updatedBr_eq, upd2_delete]
    split
    · split
      · exact ⟨hbrok, brHolds_deleting c w hh⟩
      · exact ⟨rfl, rfl⟩
    · exact ⟨hbrok, hh⟩

/-- **one Rollout reconcile of a rolling rollout whose workload moved on to a newer revision**: one round of
    `doProgressingReset`; on an error the status is not written, a round that is done hands the rollout back to Initializing -/
theorem stepRo_rst (s : CS) (w : CWl) (sub : Sub) (hgone : s.gone = false) (hg : RoGood s.ro) (hw : s.wl = some w)
    (hwok : wlOK w = true) (hc : (roWl w).consistent = true) (hph : s.ro.phase = .progressing) (hr : s.ro.reason = .inRolling)
    (hsub : s.ro.sub = some sub) (hrev : sub.canaryRev ≠ "") (hne : w.updateRevision ≠ sub.canaryRev) :
    ∃ c done err, doProgressingReset (toCtx (roWorld s) sub (roWl w)) = some (c, done, err) ∧
      stepRo s = some ⟨false,
        if err then s.ro else if done then { s.ro with sub := none, reason := .initializing } else { s.ro with sub := some c.sub },
        (landBR s.br c.br (some w)).2, (landBR s.br c.br (some w)).1, c.net, c.mem⟩ := by
  obtain ⟨c, done, err, hd, hrec⟩ :=
    reconcile_reset (roWorld s) (roWl w) sub hg hph hr (world_wl s w hw) hc (noRollback w hwok) hsub hrev hne
  have hwl : c.wl = roWl w := (reset_round _ c done err hd).wl
  refine ⟨c, done, err, hd, ?_⟩
  rw [stepRo_eq s hgone _ hrec, landRo_wl s _ w c.wl hw (by cases err <;> cases done <;> rfl), hwl]
  cases err <;> cases done <;> rfl

/-- `resetCursor` cannot be dropped: for a rollout with traffic routing whose clean-up cursor stands at `removeCanaryService` over an
    existing BatchRelease, `doProgressingReset` runs `prStage3` only, reports done without looking at the BatchRelease, and the
    reconcile returns reason `initializing` with the BatchRelease unchanged — not a state of the forward invariant -/
theorem stepRo_reset (s : CS) (h : resetInv s = true) (hcur : resetCursor s = true) :
    ∃ s', stepRo s = some s' ∧ (fwdInv s' = true ∨ (resetInv s' = true ∧ resetCursor s' = true)) := by
  obtain ⟨hro, w, hw, hwok, hmono, hbr, hph, hr, ⟨sub, hs, hrev, hne⟩, hur, hpos, hupd, hheld, hholds⟩ := (resetInv_iff s).1 h
  obtain ⟨hgone, hg⟩ := (roOK_iff s).1 hro
  cases hc : (roWl w).consistent with
  | false =>
    exact ⟨s, stepRo_wait s w hgone hg hw hc, Or.inr ⟨h, hcur⟩⟩
  | true =>
    have hfin : s.ro.hasTraffic = true → sub.finStep = .removeCanaryService → s.br.map roBr = none := by
      intro ht hf
      unfold resetCursor at hcur
      rw [hs] at hcur
      simp only [ht, hf, Bool.true_and, beq_self_eq_true, Bool.not_true, Bool.false_or, Option.isNone_iff_eq_none] at hcur
      rw [hcur]; rfl
    obtain ⟨c, done, err, hd, hst⟩ := stepRo_rst s w sub hgone hg hw hwok hc hph hr hs hrev (fun e => hne e.symm)
    have R := reset_round _ c done err hd
    have r3' : BrDel (s.br.map roBr) c.br := R.br
    refine ⟨_, hst, ?_⟩
    -- the reset goes on: the sub-status `x` that lands keeps the revision, and at the last stage no BatchRelease lands
    have goOn : ∀ ro' x, ro' = s.ro ∨ ro' = { s.ro with sub := some x } → ro'.sub = some x → x.canaryRev = sub.canaryRev →
        (s.ro.hasTraffic = true → x.finStep = .removeCanaryService → c.br = none) →
        resetInv ⟨false, ro', (landBR s.br c.br (some w)).2, (landBR s.br c.br (some w)).1, c.net, c.mem⟩ = true ∧
        resetCursor ⟨false, ro', (landBR s.br c.br (some w)).2, (landBR s.br c.br (some w)).1, c.net, c.mem⟩ = true := by
      intro ro' x hro' hx hcan hcl
      obtain ⟨br', hland, hbrok', hholds'⟩ := reset_land s.br c.br w r3' hbr hholds
      have hf : ro'.phase = s.ro.phase ∧ ro'.reason = s.ro.reason ∧ ro'.hasTraffic = s.ro.hasTraffic ∧ RoGood ro' ∧
          planOf ro' = planOf s.ro := by
        rcases hro' with e | e <;> rw [e]
        · exact ⟨rfl, rfl, rfl, hg, rfl⟩
        · exact ⟨rfl, rfl, rfl, ⟨hg.1, hg.2, hg.3, hg.4, hg.5, hg.6, hg.7⟩, rfl⟩
      rw [hland]
      refine ⟨(resetInv_iff _).2 ⟨(roOK_iff _).2 ⟨rfl, hf.2.2.2.1⟩, w, rfl, hwok, by rw [hf.2.2.2.2]; exact hmono, hbrok',
        hf.1.trans hph, hf.2.1.trans hr, ⟨x, hx, by rw [hcan]; exact hrev, by rw [hcan]; exact hne⟩, hur, hpos, hupd, hheld,
        hholds'⟩, ?_⟩
      unfold resetCursor
      show (match ro'.sub with
        | some sub => !(ro'.hasTraffic && sub.finStep == .removeCanaryService) || br'.isNone
        | none => true) = true
      rw [hx, hf.2.2.1]
      by_cases hxx : s.ro.hasTraffic = true ∧ x.finStep = .removeCanaryService
      · rw [hcl hxx.1 hxx.2, landBR_none] at hland
        rw [← (Prod.mk.inj hland).1]; simp
      · cases ht : s.ro.hasTraffic
        · simp
        · have : x.finStep ≠ .removeCanaryService := fun hf => hxx ⟨ht, hf⟩
          simp [this]
    cases err with
    | true =>
      exact Or.inr (goOn s.ro sub (Or.inl rfl) hs rfl (fun ht hf => by
        rw [hfin ht hf] at r3'; exact reset_brdel_none r3'))
    | false =>
      cases done with
      | false =>
        refine Or.inr (goOn _ c.sub (Or.inr rfl) rfl R.rev (fun ht hf => ?_))
        rcases R.cursor hf ht with a | ⟨t2, t3⟩
        · exact a
        · exact t3.trans (hfin ht t2)
      | true =>
        have hnone : c.br = none := (R.done rfl).elim id (fun ⟨t1, t2, t3⟩ => t3.trans (hfin t1 t2))
        left
        show fwdInv ⟨false, { s.ro with sub := none, reason := .initializing }, (landBR s.br c.br (some w)).2,
          (landBR s.br c.br (some w)).1, c.net, c.mem⟩ = true
        rw [hnone, landBR_none]
        refine fwdInv_mk _ w rfl ⟨hg.1, hg.2, hg.3, hg.4, hg.5, hg.6, hg.7⟩ rfl hwok hmono rfl ?_
        rw [phaseInv_init (⟨false, { s.ro with sub := none, reason := .initializing }, some w, none, c.net, c.mem⟩ : CS) w hph rfl]
        show (true && held w) = true
        rw [hheld]; rfl

end RV.Lemmas.ClosedLoop
