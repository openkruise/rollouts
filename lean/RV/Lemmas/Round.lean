/-
  One round of the release manager (`RV.RolloutSM.runCanary`) in normal form. After `syncBatchRelease` a round makes at most one
  call of the traffic Manager that can do anything (on a step without weight in `StepTrafficRouting` the `DoTrafficRouting` that
  follows `FinalisingTrafficRouting` has nothing to route: `callTM_route_noweight`) — which one is decided by the step (weight or
  not), the sub-state, whether the step replaces every pod and whether it is the first (`stateCall`, `roundCall`) — and, unless
  that call fails or asks to come back (`afterCall`), moves the sub-state (`finish`). `stateStep_eq` says so of the sub-state switch for every context;
  `runCanary_round` of the whole round when no step jump is requested; for a round that did not panic, `RoundOut` /
  `runCanary_out` list its exits with the call made and its answer, `runCanary_cases` is the short reading, `Finish` /
  `finish_inv` the one of `finish`; `initStep_left` is `BeforeStepUpgrade` left with its call due. Before them: the frame of a
  Manager call (`TM`), `ReleasesAll` (Go's `releaseAllStablePods`), and `StepUpgrade`, which never fails, as a function (`upgradeOut`).
-/
import RV.Lemmas.RolloutSM
namespace RV.RolloutSM
open RV.Arith RV.Traffic

/-- what a Manager call leaves of a sub-status: itself, or itself with the last-update time refreshed -/
def Touched (a b : Sub) : Prop := b = a ∨ b = { a with lastUpdate := .fresh }

theorem Touched.facts {a b : Sub} (h : Touched a b) :
    b = { a with lastUpdate := b.lastUpdate } ∧ (b.lastUpdate = a.lastUpdate ∨ b.lastUpdate = .fresh) := by
  rcases h with rfl | rfl
  · exact ⟨rfl, .inl rfl⟩
  · exact ⟨rfl, .inr rfl⟩

/-- the frame of a Manager call made through `callTM`: only network, grace memory, writes and the last-update time may differ -/
structure TM (c c1 : Ctx) : Prop where
  eq : c1 = { c with net := c1.net, mem := c1.mem, writes := c1.writes, sub := c1.sub }
  sub : Touched c.sub c1.sub

theorem TM.refl (c : Ctx) : TM c c := ⟨rfl, .inl rfl⟩
theorem TM.br {c c1 : Ctx} (t : TM c c1) : c1.br = c.br := by rw [t.eq]

theorem landCall_tm (c : Ctx) (o : TOut) (cb : Bool) : TM c (landCall c o cb) := by
  refine ⟨rfl, ?_⟩
  unfold landCall
  dsimp only
  split
  · exact .inr rfl
  · exact .inl rfl

theorem callTM_tm {f : TCtx → Net → Mem → TOut} {c c1 : Ctx} {cb d e : Bool} (h : callTM f c cb = some (c1, d, e)) : TM c c1 := by
  obtain ⟨_, _, _, _, rfl, _, _⟩ := callTM_inv h
  exact landCall_tm c _ cb

/-- `releaseAllStablePods` of rollout_canary.go: in partition style (`IsRealPartition`) the step's replicas cover the whole
    workload, so that the upgrade replaces every stable pod -/
abbrev ReleasesAll (ro : Rollout) (step : Step) (wl : WL) : Prop :=
  scaledV step.replicas wl.replicas true ≥ wl.replicas ∧ ro.realPartition = true

/-- the context `StepUpgrade` leaves: the BatchRelease as `doCanaryUpgrade` wrote it and, when it reports the step's pods
    ready, the sub-state moved on (past traffic routing for a partition-style canary step that replaces every pod) -/
def upgradeOut (ro : Rollout) (step : Step) (c : Ctx) : Ctx :=
  let r := doCanaryUpgrade ro c.sub c.wl c.br
  let c1 : Ctx := { c with br := r.2.1, writes := c.writes ++ r.2.2 }
  if r.1 = true then
    { c1 with sub := { c.sub with
        state := if ro.style = .canary ∧ ReleasesAll ro step c.wl then .metricsAnalysis else .trafficRouting,
        podHash := c.wl.podTemplateHash, lastUpdate := .fresh } }
  else c1

theorem upgradeStep_eq (ro : Rollout) (step : Step) (c : Ctx) : upgradeStep ro step c = .ok (upgradeOut ro step c) false := by
  unfold upgradeStep upgradeOut
  dsimp only
  split <;> rfl

theorem upgradeOut_eq (ro : Rollout) (step : Step) (c : Ctx) :
    upgradeOut ro step c = { c with br := (doCanaryUpgrade ro c.sub c.wl c.br).2.1,
                                    writes := c.writes ++ (doCanaryUpgrade ro c.sub c.wl c.br).2.2,
                                    sub := (upgradeOut ro step c).sub } := by
  unfold upgradeOut
  dsimp only
  split <;> rfl

theorem upgradeOut_sub (ro : Rollout) (step : Step) (c : Ctx) :
    (doCanaryUpgrade ro c.sub c.wl c.br).1 = false ∧ (upgradeOut ro step c).sub = c.sub ∨
    (doCanaryUpgrade ro c.sub c.wl c.br).1 = true ∧ (upgradeOut ro step c).sub = { c.sub with
      state := if ro.style = .canary ∧ ReleasesAll ro step c.wl then .metricsAnalysis else .trafficRouting,
      podHash := c.wl.podTemplateHash, lastUpdate := .fresh } := by
  unfold upgradeOut
  dsimp only
  split
  · rename_i h; exact .inr ⟨h, rfl⟩
  · rename_i h; exact .inl ⟨by simpa using h, rfl⟩

/-- the Manager calls a round can make: `FinalisingTrafficRouting` (before a step without weight), `RestoreStableService`
    and `PatchStableService` (in `BeforeStepUpgrade`), `DoTrafficRouting` (in `StepTrafficRouting`) -/
inductive MCall where
  | fin | unpin | pin | route
  deriving DecidableEq

def MCall.fn : MCall → TCtx → Net → Mem → TOut
  | .fin => finalisingTrafficRouting
  | .unpin => restoreStableService
  | .pin => patchStableService
  | .route => doTrafficRouting

/-- the call site copies `LastUpdateTime` back into the status -/
def MCall.cb : MCall → Bool
  | .fin | .route => true
  | _ => false

/-- the answer asks the round to stop and come back (`TOut.done` is "retry" for the two Service calls) -/
def MCall.waits : MCall → Bool → Bool
  | .fin, d | .route, d => !d
  | _, d => d

/-- the Manager call of the sub-state switch (the cases `CanaryStepStateInit` / `CanaryStepStateTrafficRouting` of
    the `switch` in `runCanary`, rollout_canary.go / rollout_bluegreen.go): a step with a
    weight un-pins the stable Service before a partition-style step that replaces every pod, pins it before the first step,
    and routes in `StepTrafficRouting` -/
def stateCall (ro : Rollout) (step : Step) (wl : WL) (s : Sub) : Option MCall :=
  match s.state with
  | .init =>
    if stepHasTraffic step = false then none
    else if ro.style = .canary then
      if ReleasesAll ro step wl then some .unpin
      else if s.curIdx = 1 ∧ ¬ ro.disableGen = true then some .pin else none
    else if s.curIdx = 1 then some .pin else none
  | .trafficRouting => some .route
  | _ => none

/-- the one Manager call of a round: a step without weight first finalises the routing of earlier steps, whatever the sub-state -/
def roundCall (ro : Rollout) (step : Step) (wl : WL) (s : Sub) : Option MCall :=
  if stepHasTraffic step = false then some .fin else stateCall ro step wl s

/-- the move of the sub-state once the Manager call (if any) went through: what the cases of the `switch` on
    `CanaryStatus.CurrentStepState` in `runCanary` do apart from calling the Manager -/
def finish (ro : Rollout) (step : Step) (c : Ctx) : RunOut :=
  match c.sub.state with
  | .init =>
    if ro.style = .canary ∧ stepHasTraffic step = false then .ok { c with sub := { c.sub with state := .upgrade } } false
    else .ok (upgradeOut ro step { c with sub := { c.sub with state := .upgrade, lastUpdate := .fresh } }) false
  | .upgrade => .ok (upgradeOut ro step c) false
  | .trafficRouting =>
    .ok { c with sub := { c.sub with state := .metricsAnalysis, lastUpdate := .fresh }, requeue := true } false
  | .metricsAnalysis => .ok { c with sub := { c.sub with state := .paused } } false
  | .paused =>
    match doCanaryPaused ro c.sub step with
    | none => .panic
    | some (true, _) => .ok { c with sub := { c.sub with state := .ready, lastUpdate := .fresh } } false
    | some (false, rq) => .ok { c with requeue := c.requeue || rq } false
  | .ready =>
    if c.sub.curIdx < ro.steps.length then
      .ok { c with sub := { c.sub with curIdx := c.sub.curIdx + 1,
                                       nextIdx := nextBatchIndex ro.steps.length (c.sub.curIdx + 1),
                                       state := .init, lastUpdate := .fresh } } false
    else .ok { c with sub := { c.sub with state := .completed, lastUpdate := .fresh } } false
  | _ => .ok c false

def afterCall (ro : Rollout) (step : Step) (k : MCall) : Option (Ctx × Bool × Bool) → RunOut
  | none => .panic
  | some (c1, d, e) => if e then .ok c1 true else if k.waits d then .ok { c1 with requeue := true } false else finish ro step c1

theorem afterCall_inv {ro : Rollout} {step : Step} {k : MCall} {r : Option (Ctx × Bool × Bool)} {c' : Ctx} {err : Bool}
    (h : afterCall ro step k r = .ok c' err) :
    ∃ c1 d e, r = some (c1, d, e) ∧
      ((e = true ∧ c' = c1 ∧ err = true) ∨ (e = false ∧ k.waits d = true ∧ c' = { c1 with requeue := true } ∧ err = false) ∨
       (e = false ∧ k.waits d = false ∧ finish ro step c1 = .ok c' err)) := by
  unfold afterCall at h
  split at h
  · cases h
  · rename_i c1 d e
    refine ⟨c1, d, e, rfl, ?_⟩
    cases e
    · cases hw : k.waits d <;> simp only [hw, Bool.false_eq_true, if_false, if_true] at h
      · exact .inr (.inr ⟨rfl, rfl, h⟩)
      · cases h; exact .inr (.inl ⟨rfl, rfl, rfl, rfl⟩)
    · cases h; exact .inl ⟨rfl, rfl, rfl⟩

theorem afterRetry_eq (ro : Rollout) (step : Step) (k : MCall) (hk : ∀ d, k.waits d = d) (r : Option (Ctx × Bool × Bool))
    (kk : Ctx → RunOut) (hkk : ∀ c1 d e, r = some (c1, d, e) → kk c1 = finish ro step c1) :
    afterRetryCall r kk = afterCall ro step k r := by
  unfold afterRetryCall afterCall
  match r, hkk with
  | none, _ => rfl
  | some (c1, d, e), hkk => dsimp only; rw [hk, hkk c1 d e rfl]

/-- **the sub-state switch**: the Manager call that is due (if any), then `finish` -/
theorem stateStep_eq (ro : Rollout) (step : Step) (c : Ctx) :
    stateStep ro step c =
      match stateCall ro step c.wl c.sub with
      | none => finish ro step c
      | some k => afterCall ro step k (callTM k.fn c k.cb) := by
  -- `finish` after a call made in `BeforeStepUpgrade`
  have hfin : ∀ (f : TCtx → Net → Mem → TOut) c1 d e, c.sub.state = .init → ¬ (ro.style = .canary ∧ stepHasTraffic step = false) →
      callTM f c false = some (c1, d, e) →
      upgradeStep ro step { c1 with sub := { c1.sub with state := .upgrade, lastUpdate := .fresh } } = finish ro step c1 := by
    intro f c1 d e hst hn hc
    have hs1 : c1.sub.state = .init := by rw [(callTM_tm hc).sub.facts.1]; exact hst
    unfold finish
    rw [hs1]
    dsimp only
    rw [if_neg hn, upgradeStep_eq]
  unfold stateStep stateCall
  cases hst : c.sub.state <;> dsimp only
  case init =>
    unfold initStep
    dsimp only
    by_cases hnt : stepHasTraffic step = false
    · rw [if_pos hnt]
      unfold finish
      rw [hst]
      dsimp only
      by_cases hs : ro.style = .canary
      · rw [if_pos hs, if_pos (by simp [hnt]), if_pos ⟨hs, hnt⟩]
      · rw [if_neg hs, if_neg (fun h : stepHasTraffic step = true ∧ c.sub.curIdx = 1 => by simp [hnt] at h),
          if_neg (fun h : ro.style = .canary ∧ stepHasTraffic step = false => hs h.1)]
        exact upgradeStep_eq _ _ _
    · rw [if_neg hnt]
      -- no call is due: `enterUpgrade` at once
      have hnone : upgradeStep ro step { c with sub := { c.sub with state := .upgrade, lastUpdate := .fresh } } = finish ro step c := by
        unfold finish
        rw [hst]
        dsimp only
        rw [if_neg (fun h : ro.style = .canary ∧ stepHasTraffic step = false => hnt h.2), upgradeStep_eq]
      by_cases hs : ro.style = .canary
      · rw [if_pos hs, if_pos hs, if_neg (show ¬ (¬ stepHasTraffic step = true) by simpa using hnt)]
        by_cases hfull : ReleasesAll ro step c.wl
        · rw [if_pos hfull, if_pos hfull]
          refine afterRetry_eq ro step .unpin (fun _ => rfl) _ _ (fun c1 d e hc => ?_)
          rw [if_neg (fun h : c1.sub.curIdx = 1 ∧ ¬ ReleasesAll ro step c.wl ∧ ¬ ro.disableGen = true => h.2.1 hfull)]
          exact hfin _ c1 d e hst (fun h => hnt h.2) hc
        · rw [if_neg hfull, if_neg hfull]
          show afterRetryCall (if c.sub.curIdx = 1 ∧ ¬ ReleasesAll ro step c.wl ∧ ¬ ro.disableGen = true
            then callTM patchStableService c else some (c, false, false)) _ = _
          by_cases hfirst : c.sub.curIdx = 1 ∧ ¬ ro.disableGen = true
          · rw [if_pos hfirst, if_pos ⟨hfirst.1, hfull, hfirst.2⟩]
            exact afterRetry_eq ro step .pin (fun _ => rfl) _ _ (fun c1 d e hc => hfin _ c1 d e hst (fun h => hnt h.2) hc)
          · rw [if_neg hfirst, if_neg (fun h : c.sub.curIdx = 1 ∧ ¬ ReleasesAll ro step c.wl ∧ ¬ ro.disableGen = true =>
              hfirst ⟨h.1, h.2.2⟩)]
            exact hnone
      · rw [if_neg hs, if_neg hs]
        by_cases hfirst : c.sub.curIdx = 1
        · rw [if_pos hfirst, if_pos ⟨by simpa using hnt, hfirst⟩]
          exact afterRetry_eq ro step .pin (fun _ => rfl) _ _ (fun c1 d e hc => hfin _ c1 d e hst (fun h => hs h.1) hc)
        · rw [if_neg hfirst, if_neg (fun h : stepHasTraffic step = true ∧ c.sub.curIdx = 1 => hfirst h.2)]
          exact hnone
  case upgrade => unfold finish; rw [hst]; exact upgradeStep_eq _ _ _
  case trafficRouting =>
    unfold afterCall
    rw [show callTM MCall.route.fn c MCall.route.cb = callTM doTrafficRouting c true from rfl]
    cases hc : callTM doTrafficRouting c true with
    | none => rfl
    | some r =>
      obtain ⟨c1, d, e⟩ := r
      have hs1 : c1.sub.state = .trafficRouting := by rw [(callTM_tm hc).sub.facts.1]; exact hst
      dsimp only
      unfold finish
      rw [hs1]
      cases e <;> cases d <;> rfl
  case paused =>
    unfold finish
    rw [hst]
    dsimp only
    cases doCanaryPaused ro c.sub step with
    | none => rfl
    | some x => obtain ⟨d, rq⟩ := x; cases d <;> rfl
  all_goals (unfold finish; rw [hst])

/-- The moves of the sub-state (`finish`), each with what decided it. -/
inductive Finish (ro : Rollout) (step : Step) (c : Ctx) : Ctx → Prop
  -- a canary step without weight: the sub-state alone moves, `doCanaryUpgrade` runs in the next round
  | toUpgrade (hst : c.sub.state = .init) (hs : ro.style = .canary) (ht : stepHasTraffic step = false) :
      Finish ro step c { c with sub := { c.sub with state := .upgrade } }
  | enterUpgrade (hst : c.sub.state = .init) (hn : ¬ (ro.style = .canary ∧ stepHasTraffic step = false)) :
      Finish ro step c (upgradeOut ro step { c with sub := { c.sub with state := .upgrade, lastUpdate := .fresh } })
  | upgrade (hst : c.sub.state = .upgrade) : Finish ro step c (upgradeOut ro step c)
  | routed (hst : c.sub.state = .trafficRouting) :
      Finish ro step c { c with sub := { c.sub with state := .metricsAnalysis, lastUpdate := .fresh }, requeue := true }
  | analysed (hst : c.sub.state = .metricsAnalysis) : Finish ro step c { c with sub := { c.sub with state := .paused } }
  | pauseDone (hst : c.sub.state = .paused) (rq : Bool) (hp : doCanaryPaused ro c.sub step = some (true, rq)) :
      Finish ro step c { c with sub := { c.sub with state := .ready, lastUpdate := .fresh } }
  | pauseWait (hst : c.sub.state = .paused) (rq : Bool) (hp : doCanaryPaused ro c.sub step = some (false, rq)) :
      Finish ro step c { c with requeue := c.requeue || rq }
  | advance (hst : c.sub.state = .ready) (hlt : c.sub.curIdx < ro.steps.length) :
      Finish ro step c { c with sub := { c.sub with
        curIdx := c.sub.curIdx + 1, nextIdx := nextBatchIndex ro.steps.length (c.sub.curIdx + 1), state := .init,
        lastUpdate := .fresh } }
  | complete (hst : c.sub.state = .ready) (hge : ¬ c.sub.curIdx < ro.steps.length) :
      Finish ro step c { c with sub := { c.sub with state := .completed, lastUpdate := .fresh } }
  | noop (hst : c.sub.state = .completed ∨ c.sub.state = .other) : Finish ro step c c

/-- the move of the sub-state never reports an error (it can panic: `doCanaryPaused` on a nil `LastUpdateTime`) -/
theorem finish_inv {ro : Rollout} {step : Step} {c c' : Ctx} {err : Bool} (h : finish ro step c = .ok c' err) :
    Finish ro step c c' ∧ err = false := by
  unfold finish at h
  cases hst : c.sub.state <;> rw [hst] at h <;> dsimp only at h
  case init =>
    split at h
    · rename_i hc; cases h; exact ⟨.toUpgrade hst hc.1 hc.2, rfl⟩
    · rename_i hn; cases h; exact ⟨.enterUpgrade hst hn, rfl⟩
  case upgrade => cases h; exact ⟨.upgrade hst, rfl⟩
  case trafficRouting => cases h; exact ⟨.routed hst, rfl⟩
  case metricsAnalysis => cases h; exact ⟨.analysed hst, rfl⟩
  case paused =>
    split at h
    · cases h
    · rename_i rq hp; cases h; exact ⟨.pauseDone hst rq hp, rfl⟩
    · rename_i rq hp; cases h; exact ⟨.pauseWait hst rq hp, rfl⟩
  case ready =>
    split at h
    · rename_i hlt; cases h; exact ⟨.advance hst hlt, rfl⟩
    · rename_i hge; cases h; exact ⟨.complete hst hge, rfl⟩
  case completed => cases h; exact ⟨.noop (.inl hst), rfl⟩
  case other => cases h; exact ⟨.noop (.inr hst), rfl⟩

theorem upgradeOut_frame (ro : Rollout) (step : Step) (c : Ctx) :
    (upgradeOut ro step c).sub = { c.sub with state := (upgradeOut ro step c).sub.state, podHash := (upgradeOut ro step c).sub.podHash,
                                              lastUpdate := (upgradeOut ro step c).sub.lastUpdate } := by
  rcases upgradeOut_sub ro step c with ⟨_, hs⟩ | ⟨_, hs⟩ <;> rw [hs]

/-- the move of the sub-state writes neither the network nor the grace memory; of the sub-status it writes the step
    indices, the sub-state, the pod-template hash and the last-update time -/
theorem finish_frame {ro : Rollout} {step : Step} {c c' : Ctx} {err : Bool} (h : finish ro step c = .ok c' err) :
    c'.ro = c.ro ∧ c'.wl = c.wl ∧ c'.net = c.net ∧ c'.mem = c.mem ∧ c'.wlSeen = c.wlSeen ∧
    c'.sub = { c.sub with curIdx := c'.sub.curIdx, nextIdx := c'.sub.nextIdx, state := c'.sub.state, podHash := c'.sub.podHash,
                          lastUpdate := c'.sub.lastUpdate } := by
  cases (finish_inv h).1 with
  | enterUpgrade | upgrade => rw [upgradeOut_frame, upgradeOut_eq]; exact ⟨rfl, rfl, rfl, rfl, rfl, rfl⟩
  | toUpgrade | routed | analysed | pauseDone | pauseWait | advance | complete | noop => exact ⟨rfl, rfl, rfl, rfl, rfl, rfl⟩

theorem stateStep_cases {ro : Rollout} {step : Step} {c c' : Ctx} {err : Bool} (h : stateStep ro step c = .ok c' err) :
    ∃ c1, TM c c1 ∧ ((c' = c1 ∧ err = true) ∨ (c' = { c1 with requeue := true } ∧ err = false) ∨ finish ro step c1 = .ok c' err) := by
  rw [stateStep_eq] at h
  cases hk : stateCall ro step c.wl c.sub with
  | none => rw [hk] at h; exact ⟨c, .refl c, .inr (.inr h)⟩
  | some k =>
    rw [hk] at h
    obtain ⟨c1, d, e, hc, hx⟩ := afterCall_inv h
    exact ⟨c1, callTM_tm hc, hx.imp (fun a => ⟨a.2.1, a.2.2⟩) (Or.imp (fun a => ⟨a.2.2.1, a.2.2.2⟩) (·.2.2))⟩

/-- `BeforeStepUpgrade` with the Manager call `k` due is left only when that call reported neither an error nor a retry; the
    step starts on the network the call wrote (the call is made on the Manager context `t` of the step) -/
theorem initStep_left {ro : Rollout} {step : Step} {c c' : Ctx} {err : Bool} {k : MCall} (hinit : c.sub.state = .init)
    (hk : stateCall ro step c.wl c.sub = some k) (h : initStep ro step c = .ok c' err) (hleft : c'.sub.state ≠ .init) :
    ∃ t, trCtx c.ro c.sub = some t ∧ (k.fn { t with hasRevKey := c.wlSeen } c.net c.mem).err = false ∧
      c'.net = (k.fn { t with hasRevKey := c.wlSeen } c.net c.mem).net ∧ c'.sub.stableRev = c.sub.stableRev := by
  rw [show initStep ro step c = stateStep ro step c by unfold stateStep; rw [hinit], stateStep_eq, hk] at h
  obtain ⟨c1, d, e, hcall, hx⟩ := afterCall_inv h
  have e1 := (callTM_tm hcall).sub.facts.1
  have hs1 : c1.sub.state = .init := by rw [e1]; exact hinit
  rcases hx with ⟨-, rfl, -⟩ | ⟨-, -, rfl, -⟩ | ⟨he, -, hf⟩
  · exact absurd hs1 hleft
  · exact absurd hs1 hleft
  · obtain ⟨-, -, hn, -, -, hs⟩ := finish_frame hf
    obtain ⟨t, o, ht, rfl, rfl, _, rfl⟩ := callTM_inv hcall
    exact ⟨t, ht, he, hn, by rw [hs, e1]⟩

/-- `syncBatchRelease` patches the rollout-id of the BatchRelease and fills an empty pod-template hash -/
theorem syncStep_frame (c : Ctx) :
    syncStep c = { c with br := (syncStep c).br, writes := (syncStep c).writes,
                          sub := if c.sub.podHash = "" then { c.sub with podHash := c.wl.podTemplateHash } else c.sub } := by
  unfold syncStep
  dsimp only
  cases c.br with
  | none => rfl
  | some b => dsimp only; split <;> rfl

theorem syncStep_sub_eq (c : Ctx) : (syncStep c).sub = { c.sub with podHash := (syncStep c).sub.podHash } := by
  rw [syncStep_frame]
  dsimp only
  split <;> rfl

/-- the rollout-id patch of `syncStep` -/
inductive BrSync : Option BR → Option BR → Prop
  | same (br : Option BR) : BrSync br br
  | patched (b : BR) (id : String) : BrSync (some b) (some { b with rolloutID := id, hashSame := false })

theorem syncStep_br (c : Ctx) : BrSync c.br (syncStep c).br := by
  obtain ⟨ro, sub, wl, br, net, mem, rq, ws, seen⟩ := c
  unfold syncStep
  dsimp only
  cases br with
  | none => exact BrSync.same _
  | some b =>
    dsimp only
    split
    · exact BrSync.patched _ _
    · exact BrSync.same _

/-- the Manager context of a status whose step index points at `step` -/
theorem trCtx_step {ro : Rollout} {s : Sub} {step : Step} (hstep : ro.steps[(s.curIdx - 1).toNat]? = some step) :
    trCtx ro s = some { hasRef := ro.hasTraffic, grace := ro.grace, weight := step.weight, disableGen := ro.disableGen,
                        stableRev := s.stableRev, canaryRev := s.podHash, lastUpdate := s.lastUpdate } := by
  unfold trCtx
  cases hst : ro.steps with
  | nil => rw [hst] at hstep; cases hstep
  | cons s0 rest =>
    rw [hst] at hstep
    dsimp only
    by_cases hidx : s.curIdx - 1 < 0 ∨ s.curIdx - 1 ≥ ((s0 :: rest).length : Int)
    · rw [if_pos hidx]
      rcases hidx with h | h
      · rw [show (s.curIdx - 1).toNat = 0 by omega] at hstep; cases hstep; rfl
      · rw [List.getElem?_eq_none (by omega)] at hstep; cases hstep
    · rw [if_neg hidx, hstep]; rfl

/-- no jump is requested by a status inside the plan whose next index is the natural one -/
theorem doCanaryJump_natural (ro : Rollout) (s : Sub) (hlo : 1 ≤ s.curIdx) (hhi : s.curIdx ≤ ro.steps.length)
    (hnext : s.nextIdx = nextBatchIndex ro.steps.length s.curIdx) : doCanaryJump ro s = some (s, false) := by
  unfold doCanaryJump
  dsimp only
  rw [if_neg (by omega), if_neg (by simp [hnext])]

theorem stepHasTraffic_false {step : Step} (h : stepHasTraffic step = false) : step.weight = none := by
  unfold stepHasTraffic at h
  cases hs : step.weight with
  | none => rfl
  | some x => rw [hs] at h; cases h

/-- without a weight to route `DoTrafficRouting` answers "done" and touches nothing -/
theorem doTrafficRouting_noweight (t : TCtx) (n : Net) (m : Mem) (h : t.weight = none) :
    doTrafficRouting t n m = ⟨true, false, n, m, false, []⟩ := by
  unfold doTrafficRouting
  split
  · rfl
  · rw [h]

/-- a step without weight: `DoTrafficRouting` answers "done" and leaves the context as it is -/
theorem callTM_route_noweight {c : Ctx} {step : Step} (hstep : c.ro.steps[(c.sub.curIdx - 1).toNat]? = some step)
    (hw : stepHasTraffic step = false) : callTM doTrafficRouting c true = some (c, true, false) := by
  rw [callTM_eq, trCtx_step hstep, Option.map_some, doTrafficRouting_noweight _ _ _ (stepHasTraffic_false hw)]
  unfold landCall
  simp only [List.append_nil, Bool.false_eq_true, false_and, if_false]

/-- the Manager context of the round's call: what `trCtx` builds on the synchronised status, written on `c0`; `canaryRev` is the
    one field `syncBatchRelease` may have changed (an empty pod-template hash filled) -/
def roundCtx (c0 : Ctx) (step : Step) : TCtx :=
  { hasRef := c0.ro.hasTraffic, grace := c0.ro.grace, weight := step.weight, disableGen := c0.ro.disableGen,
    stableRev := c0.sub.stableRev, canaryRev := (syncStep c0).sub.podHash, lastUpdate := c0.sub.lastUpdate,
    hasRevKey := c0.wlSeen }

/-- **one round of the release manager, in normal form**, when no step jump is taken and the step index points at `step` -/
theorem runCanary_round (c0 : Ctx) (step : Step) (hj : doCanaryJump c0.ro (syncStep c0).sub = some ((syncStep c0).sub, false))
    (hstep : c0.ro.steps[(c0.sub.curIdx - 1).toNat]? = some step) :
    runCanary c0 =
      match roundCall c0.ro step c0.wl c0.sub with
      | none => finish c0.ro step (syncStep c0)
      | some k =>
        afterCall c0.ro step k (some (landCall (syncStep c0) (k.fn (roundCtx c0 step) c0.net c0.mem) k.cb,
          (k.fn (roundCtx c0 step) c0.net c0.mem).done, (k.fn (roundCtx c0 step) c0.net c0.mem).err)) := by
  have y := syncStep_sub_eq c0
  have hro : (syncStep c0).ro = c0.ro := by rw [syncStep_frame]
  have hwl : (syncStep c0).wl = c0.wl := by rw [syncStep_frame]
  have hnet : (syncStep c0).net = c0.net := by rw [syncStep_frame]
  have hmem : (syncStep c0).mem = c0.mem := by rw [syncStep_frame]
  have hseen : (syncStep c0).wlSeen = c0.wlSeen := by rw [syncStep_frame]
  have hsr : (syncStep c0).sub.stableRev = c0.sub.stableRev := by rw [y]
  have hlu : (syncStep c0).sub.lastUpdate = c0.sub.lastUpdate := by rw [y]
  have hstep1 : c0.ro.steps[((syncStep c0).sub.curIdx - 1).toNat]? = some step := by rw [y]; exact hstep
  have hsc : stateCall c0.ro step (syncStep c0).wl (syncStep c0).sub = stateCall c0.ro step c0.wl c0.sub := by
    unfold stateCall; rw [hwl, y]
  -- a Manager call made on the synchronised context
  have hcall : ∀ k : MCall, callTM k.fn (syncStep c0) k.cb =
      some (landCall (syncStep c0) (k.fn (roundCtx c0 step) c0.net c0.mem) k.cb,
        (k.fn (roundCtx c0 step) c0.net c0.mem).done, (k.fn (roundCtx c0 step) c0.net c0.mem).err) := by
    intro k
    rw [callTM_eq, trCtx_step (step := step) (by rw [hro]; exact hstep1), Option.map_some, hro, hnet, hmem, hseen, hsr, hlu]
    rfl
  unfold runCanary roundCall
  dsimp only
  rw [hj]
  dsimp only
  rw [hstep1]
  dsimp only
  unfold preStep
  by_cases hnt : stepHasTraffic step = false
  · -- a step without weight: the pre-step is the call; in `StepTrafficRouting` the routing call that follows does nothing
    rw [if_pos hnt, if_pos (by simp [hnt])]
    have hc := hcall .fin
    change callTM finalisingTrafficRouting (syncStep c0) true = _ at hc
    rw [hc]
    unfold afterCall
    dsimp only
    generalize hc1 : landCall (syncStep c0) (MCall.fin.fn (roundCtx c0 step) c0.net c0.mem) MCall.fin.cb = c1
    have t : TM (syncStep c0) c1 := hc1 ▸ landCall_tm _ _ _
    have hs1 : c1.ro.steps[(c1.sub.curIdx - 1).toNat]? = some step := by
      have e1 : c1.ro = c0.ro := by rw [t.eq]; exact hro
      have e2 : c1.sub.curIdx = (syncStep c0).sub.curIdx := by rw [t.sub.facts.1]
      rw [e1, e2]; exact hstep1
    cases (MCall.fin.fn (roundCtx c0 step) c0.net c0.mem).err
    · cases hd : (MCall.fin.fn (roundCtx c0 step) c0.net c0.mem).done
      · rfl
      · simp only [MCall.waits, Bool.not_true, Bool.false_eq_true, if_false, not_true_eq_false]
        rw [stateStep_eq]
        unfold stateCall
        -- in the six other sub-states the switch makes no Manager call (`stateCall` is `none`): `finish` on both sides
        cases hst : c1.sub.state <;> dsimp only
        case init => rw [if_pos hnt]
        case trafficRouting =>
          rw [show callTM MCall.route.fn c1 MCall.route.cb = callTM doTrafficRouting c1 true from rfl,
            callTM_route_noweight hs1 hnt]
          unfold afterCall finish
          dsimp only
          rw [hst]
          rfl
    · rfl
  · rw [if_neg hnt, if_neg (by simpa using hnt)]
    dsimp only
    rw [if_neg (by simp), if_neg (by simp), stateStep_eq, hsc]
    cases stateCall c0.ro step c0.wl c0.sub with
    | none => rfl
    | some k => dsimp only; rw [hcall k]

/-- the answer of the round's Manager call `k`, made on the synchronised context, and the context it lands in -/
abbrev roundAns (c0 : Ctx) (step : Step) (k : MCall) : TOut := k.fn (roundCtx c0 step) c0.net c0.mem
abbrev roundLand (c0 : Ctx) (step : Step) (k : MCall) : Ctx := landCall (syncStep c0) (roundAns c0 step k) k.cb

/-- The exits of a round that takes no step jump, on the step `step` at the index: no Manager call was due and the sub-state
    moves; or the call `k` was due and failed (`callErr`), asked the round to come back (`callWait`), or went through, and then
    the sub-state moves on the context the call left (`callThen`). -/
inductive RoundOut (c0 : Ctx) (step : Step) (c' : Ctx) (err : Bool) : Prop
  | noCall (hk : roundCall c0.ro step c0.wl c0.sub = none) (hf : finish c0.ro step (syncStep c0) = .ok c' err)
  | callErr (k : MCall) (hk : roundCall c0.ro step c0.wl c0.sub = some k) (he : (roundAns c0 step k).err = true)
      (hc : c' = roundLand c0 step k) (herr : err = true)
  | callWait (k : MCall) (hk : roundCall c0.ro step c0.wl c0.sub = some k) (he : (roundAns c0 step k).err = false)
      (hw : k.waits (roundAns c0 step k).done = true) (hc : c' = { roundLand c0 step k with requeue := true }) (herr : err = false)
  | callThen (k : MCall) (hk : roundCall c0.ro step c0.wl c0.sub = some k) (he : (roundAns c0 step k).err = false)
      (hw : k.waits (roundAns c0 step k).done = false) (hf : finish c0.ro step (roundLand c0 step k) = .ok c' err)

theorem runCanary_out {c0 c' : Ctx} {err : Bool} {step : Step}
    (hj : doCanaryJump c0.ro (syncStep c0).sub = some ((syncStep c0).sub, false))
    (hstep : c0.ro.steps[(c0.sub.curIdx - 1).toNat]? = some step) (h : runCanary c0 = .ok c' err) : RoundOut c0 step c' err := by
  rw [runCanary_round c0 step hj hstep] at h
  cases hk : roundCall c0.ro step c0.wl c0.sub with
  | none => rw [hk] at h; exact .noCall hk h
  | some k =>
    rw [hk] at h
    obtain ⟨c1, d, e, hc, hx⟩ := afterCall_inv h
    cases hc
    rcases hx with ⟨he, hc, herr⟩ | ⟨he, hw, hc, herr⟩ | ⟨he, hw, hf⟩
    · exact .callErr k hk he hc herr
    · exact .callWait k hk he hw hc herr
    · exact .callThen k hk he hw hf

/-- a round that takes a step jump does nothing else -/
theorem runCanary_jump {c0 : Ctx} {s2 : Sub} (hj : doCanaryJump c0.ro (syncStep c0).sub = some (s2, true)) :
    runCanary c0 = .ok { syncStep c0 with sub := s2 } false := by
  unfold runCanary
  dsimp only
  rw [hj]

/-- on a step with weight nothing runs before the `switch` on the sub-state -/
theorem runCanary_traffic (c0 : Ctx) (step : Step) (hj : doCanaryJump c0.ro (syncStep c0).sub = some ((syncStep c0).sub, false))
    (hstep : c0.ro.steps[(c0.sub.curIdx - 1).toNat]? = some step) (ht : stepHasTraffic step = true) :
    runCanary c0 = stateStep c0.ro step (syncStep c0) := by
  have hstep1 : c0.ro.steps[((syncStep c0).sub.curIdx - 1).toNat]? = some step := by rw [syncStep_sub_eq c0]; exact hstep
  unfold runCanary
  dsimp only
  rw [hj]
  dsimp only
  rw [hstep1]
  dsimp only
  unfold preStep
  rw [if_neg (by simp [ht])]
  dsimp only
  rw [if_neg (by simp), if_neg (by simp)]

/-- **a round of the release manager that does not panic**: a step jump and nothing else; or no step jump, a step at the
    index, at most one Manager call on the synchronised context, and then as in `stateStep_cases` -/
theorem runCanary_cases {c0 c' : Ctx} {err : Bool} (h : runCanary c0 = .ok c' err) :
    (∃ s2, doCanaryJump c0.ro (syncStep c0).sub = some (s2, true) ∧ c' = { syncStep c0 with sub := s2 } ∧ err = false) ∨
    ∃ step c1, doCanaryJump c0.ro (syncStep c0).sub = some ((syncStep c0).sub, false) ∧
      c0.ro.steps[(c0.sub.curIdx - 1).toNat]? = some step ∧ TM (syncStep c0) c1 ∧
      ((c' = c1 ∧ err = true) ∨ (c' = { c1 with requeue := true } ∧ err = false) ∨ finish c0.ro step c1 = .ok c' err) := by
  have hjs : (∃ s2, doCanaryJump c0.ro (syncStep c0).sub = some (s2, true)) ∨
      (doCanaryJump c0.ro (syncStep c0).sub = some ((syncStep c0).sub, false) ∧
        ∃ step, c0.ro.steps[(c0.sub.curIdx - 1).toNat]? = some step) := by
    unfold runCanary at h
    dsimp only at h
    split at h
    · cases h
    · rename_i s2 hj; exact .inl ⟨s2, hj⟩
    · rename_i s2 hj
      cases (doCanaryJump_false hj).1
      split at h
      · cases h
      · rename_i step hstep
        rw [syncStep_sub_eq c0] at hstep
        exact .inr ⟨hj, step, hstep⟩
  rcases hjs with ⟨s2, hj⟩ | ⟨hj, step, hstep⟩
  · rw [runCanary_jump hj] at h
    cases h
    exact .inl ⟨s2, hj, rfl, rfl⟩
  · refine .inr ⟨step, ?_⟩
    cases runCanary_out hj hstep h with
    | noCall _ hf => exact ⟨_, hj, hstep, .refl _, .inr (.inr hf)⟩
    | callErr _ _ _ hc he => exact ⟨_, hj, hstep, landCall_tm _ _ _, .inl ⟨hc, he⟩⟩
    | callWait _ _ _ _ hc he => exact ⟨_, hj, hstep, landCall_tm _ _ _, .inr (.inl ⟨hc, he⟩)⟩
    | callThen _ _ _ _ hf => exact ⟨_, hj, hstep, landCall_tm _ _ _, .inr (.inr hf)⟩

theorem roundCall_tr (ro : Rollout) (step : Step) (wl : WL) (s : Sub) (hst : s.state = .trafficRouting) :
    roundCall ro step wl s = if stepHasTraffic step = false then some .fin else some .route := by
  unfold roundCall stateCall
  rw [hst]

theorem roundCall_route {ro : Rollout} {step : Step} {wl : WL} {s : Sub} (h : roundCall ro step wl s = some .route) :
    s.state = .trafficRouting ∧ stepHasTraffic step = true := by
  unfold roundCall at h
  by_cases hnt : stepHasTraffic step = false
  · rw [if_pos hnt] at h; cases h
  rw [if_neg hnt] at h
  refine ⟨?_, by simpa using hnt⟩
  unfold stateCall at h
  cases hst : s.state <;> rw [hst] at h <;> dsimp only at h
  case init =>
    -- `BeforeStepUpgrade` calls for the Services only
    rw [if_neg hnt] at h
    by_cases hs : ro.style = .canary
    · rw [if_pos hs] at h
      by_cases hf : ReleasesAll ro step wl
      · rw [if_pos hf] at h; cases h
      · rw [if_neg hf] at h
        by_cases h1 : s.curIdx = 1 ∧ ¬ ro.disableGen = true
        · rw [if_pos h1] at h; cases h
        · rw [if_neg h1] at h; cases h
    · rw [if_neg hs] at h
      by_cases h1 : s.curIdx = 1
      · rw [if_pos h1] at h; cases h
      · rw [if_neg h1] at h; cases h
  all_goals first | rfl | cases h

end RV.RolloutSM
