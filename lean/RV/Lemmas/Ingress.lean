import RV.Oracle.C14
/-!
The annotation scripts: every script is a straight-line sequence of primitive map
operations (`Op`): the preamble is a fixed list, the match loop appends `set`s.  The value
a script leaves under key `k` is `effect ops k (value before)`, computed key by key.
A key whose first touching op is a `set`/`del` gets a value that does not depend on the
input map (`Op.isConst`, `effect_const`); history independence (`Spec`, `specOf`) follows when every key a script may
write is set or deleted by its preamble (`pre_const`), and the remaining keys are transformed by a fixed idempotent op.

Then the provider: `buildCanaryIngress` in normal form (`build_spec`); the merge patch (`applyPatch_mergePatch`); the
scripts over a list of steps (`runSteps`) and their fixed points (`script_fixed`); what the canary annotations can be along a run (`Derived`) and the invariant
of the store (`Inv`); `EnsureRoutes` / `Finalise` by cases (the relation `Ensured` with `ensure_cases`; `finalise_cases`), what they write, and
the invariant along every run (`inv_run`).  Core Lean only.
-/
namespace RV.Ingress
open RV.Oracle.C14

theorem lookup_adel (a : AnnMap) (k k' : String) :
    lookup (adel k a) k' = if k = k' then none else lookup a k' := by
  induction a with
  | nil => simp [adel, lookup]
  | cons p rest ih =>
    obtain ⟨k0, v0⟩ := p
    simp only [adel, List.filter_cons] at ih ⊢
    by_cases h0 : k0 = k
    · -- the entry is dropped
      subst h0
      simp only [bne_self_eq_false, Bool.false_eq_true, if_false, ih, lookup, beq_iff_eq]
      split <;> rfl
    · -- the entry stays
      simp only [bne_iff_ne, ne_eq, h0, not_false_eq_true, if_true, lookup, ih, beq_iff_eq]
      by_cases h1 : k0 = k'
      · subst h1; simp [Ne.symm h0]
      · simp [h1]

theorem lookup_aset (a : AnnMap) (k v k' : String) :
    lookup (aset k v a) k' = if k = k' then some v else lookup a k' := by
  simp only [aset, lookup, beq_iff_eq, lookup_adel]
  split <;> rfl

theorem Eqv.refl (a : AnnMap) : Eqv a a := fun _ => rfl
theorem Eqv.symm {a b : AnnMap} (h : Eqv a b) : Eqv b a := fun k => (h k).symm
theorem Eqv.trans {a b c : AnnMap} (h1 : Eqv a b) (h2 : Eqv b c) : Eqv a c :=
  fun k => (h1 k).trans (h2 k)

theorem mem_akeys_iff (a : AnnMap) (k : String) : k ∈ akeys a ↔ lookup a k ≠ none := by
  induction a with
  | nil => simp [akeys, lookup]
  | cons p rest ih =>
    simp only [akeys, List.map_cons, List.mem_cons, lookup, beq_iff_eq] at ih ⊢
    by_cases h : p.1 = k <;> simp [h, ih, Ne.symm]

theorem eqvB_iff (a b : AnnMap) : eqvB a b = true ↔ Eqv a b := by
  simp only [eqvB, List.all_eq_true, List.mem_append, mem_akeys_iff, beq_iff_eq]
  refine ⟨fun h k => ?_, fun h k _ => h k⟩
  by_cases hk : lookup a k ≠ none ∨ lookup b k ≠ none
  · exact h k hk
  · simp only [not_or, Decidable.not_not] at hk
    rw [hk.1, hk.2]

theorem eqv_nil {a : AnnMap} (h : Eqv a []) : a = [] := by
  cases a with
  | nil => rfl
  | cons p rest =>
    obtain ⟨k0, v0⟩ := p
    have := h k0
    simp [lookup] at this

theorem isEmpty_congr {a b : AnnMap} (h : Eqv a b) : a.isEmpty = b.isEmpty := by
  cases b with
  | nil => rw [eqv_nil h]
  | cons q rest =>
    cases a with
    | nil => have := eqv_nil h.symm; simp at this
    | cons p r => rfl

inductive Op where
  | set (k v : String)
  | del (k : String)
  /-- `if t[k] then t[k] = v end` -/
  | fix (k v : String)
  deriving Repr, DecidableEq

def Op.key : Op → String
  | .set k _ => k
  | .del k => k
  | .fix k _ => k

def Op.isConst : Op → Bool
  | .set _ _ => true
  | .del _ => true
  | .fix _ _ => false

/-- what the op does to the value stored under its own key -/
def Op.act : Op → Option String → Option String
  | .set _ v, _ => some v
  | .del _, _ => none
  | .fix _ v, x => match x with | some _ => some v | none => none

def Op.run : Op → AnnMap → AnnMap
  | .set k v, a => aset k v a
  | .del k, a => adel k a
  | .fix k v, a => if (lookup a k).isSome then aset k v a else a

def runOps (ops : List Op) (a : AnnMap) : AnnMap := ops.foldl (fun a o => o.run a) a

def effect (ops : List Op) (k : String) (x : Option String) : Option String :=
  ops.foldl (fun x o => if o.key = k then o.act x else x) x

theorem lookup_run (o : Op) (a : AnnMap) (k : String) :
    lookup (o.run a) k = if o.key = k then o.act (lookup a k) else lookup a k := by
  cases o with
  | set k0 v => exact lookup_aset a k0 v k
  | del k0 => exact lookup_adel a k0 k
  | fix k0 v =>
    simp only [Op.run, Op.key, Op.act]
    by_cases h : k0 = k
    · subst h
      cases hl : lookup a k0 <;> simp [hl, lookup_aset]
    · cases (lookup a k0).isSome <;> simp [lookup_aset, h]

theorem runOps_nil (a : AnnMap) : runOps [] a = a := rfl
theorem runOps_cons (o : Op) (ops : List Op) (a : AnnMap) : runOps (o :: ops) a = runOps ops (o.run a) := rfl
theorem runOps_append (xs ys : List Op) (a : AnnMap) : runOps (xs ++ ys) a = runOps ys (runOps xs a) :=
  List.foldl_append ..

theorem effect_nil (k : String) (x : Option String) : effect [] k x = x := rfl
theorem effect_cons (o : Op) (ops : List Op) (k : String) (x : Option String) :
    effect (o :: ops) k x = effect ops k (if o.key = k then o.act x else x) := rfl
theorem effect_append (xs ys : List Op) (k : String) (x : Option String) :
    effect (xs ++ ys) k x = effect ys k (effect xs k x) :=
  List.foldl_append ..

theorem lookup_runOps (ops : List Op) (a : AnnMap) (k : String) :
    lookup (runOps ops a) k = effect ops k (lookup a k) := by
  induction ops generalizing a with
  | nil => rfl
  | cons o ops ih => rw [runOps_cons, ih, lookup_run, effect_cons]

theorem effect_const {ops : List Op} {o : Op} (ho : o ∈ ops) (hc : o.isConst = true) (x y : Option String) :
    effect ops o.key x = effect ops o.key y := by
  obtain ⟨xs, ys, rfl⟩ := List.append_of_mem ho
  have : o.act (effect xs o.key x) = o.act (effect xs o.key y) := by
    cases o with
    | fix => cases hc
    | _ => rfl
  rw [effect_append, effect_append, effect_cons, effect_cons, if_pos rfl, if_pos rfl, this]

theorem effect_fix_idem (k0 v k : String) (x : Option String) :
    effect [.fix k0 v] k (effect [.fix k0 v] k x) = effect [.fix k0 v] k x := by
  simp only [effect_cons, effect_nil, Op.key, Op.act]
  by_cases h : k0 = k
  · simp only [h, if_true]; cases x <;> rfl
  · simp only [h, if_false]

def within (owned : List String) (ops : List Op) : Prop := ∀ o ∈ ops, o.key ∈ owned

theorem within_keys (ops : List Op) : within (ops.map Op.key) ops := fun _ => List.mem_map_of_mem

theorem within_nil {owned : List String} : within owned [] := fun _ h => nomatch h

theorem within_cons {owned : List String} {o : Op} {ops : List Op} (h : o.key ∈ owned) (hs : within owned ops) :
    within owned (o :: ops) :=
  List.forall_mem_cons.mpr ⟨h, hs⟩

theorem within_append {owned : List String} {xs ys : List Op} (hx : within owned xs) (hy : within owned ys) :
    within owned (xs ++ ys) := by
  intro o ho
  rcases List.mem_append.mp ho with h | h
  · exact hx o h
  · exact hy o h

theorem within_flatMap {α} {owned : List String} {f : α → List Op} (h : ∀ x, within owned (f x)) (l : List α) :
    within owned (l.flatMap f) := by
  intro o ho
  obtain ⟨x, _, hx⟩ := List.mem_flatMap.mp ho
  exact h x o hx

theorem effect_within {owned : List String} {ops : List Op} (h : within owned ops) {k : String}
    (hk : k ∉ owned) (x : Option String) : effect ops k x = x := by
  induction ops generalizing x with
  | nil => rfl
  | cons o ops ih =>
    have h0 : ¬ o.key = k := fun e => hk (e ▸ h o (List.mem_cons_self ..))
    rw [effect_cons, if_neg h0]
    exact ih (fun o' ho' => h o' (List.mem_cons_of_mem _ ho')) x

theorem foldl_runOps {α} (f : AnnMap → α → AnnMap) (g : α → List Op)
    (h : ∀ a x, f a x = runOps (g x) a) (l : List α) (a : AnnMap) :
    l.foldl f a = runOps (l.flatMap g) a := by
  induction l generalizing a with
  | nil => rfl
  | cons x l ih => rw [List.foldl_cons, ih, h, List.flatMap_cons, runOps_append]

theorem foldlM_runOps {α} (f : AnnMap → α → Option AnnMap) (g : α → List Op) (ok : α → Bool)
    (h : ∀ a x, f a x = if ok x then some (runOps (g x) a) else none) (l : List α) (a : AnnMap) :
    l.foldlM f a = if l.all ok then some (runOps (l.flatMap g) a) else none := by
  induction l generalizing a with
  | nil => rfl
  | cons x l ih =>
    rw [List.foldlM_cons, h]
    cases hx : ok x <;> simp [hx, ih, runOps_append]

/-! ## the four scripts as op sequences

Each script is a preamble (a fixed table of `set`/`del`) followed by a body that depends on the step: the
weight, and for every match the annotations of its first header (mse.lua: and of its first query parameter). -/

def weightOps (key : String) (s : LuaStep) : List Op :=
  if s.weight != "-1" then [.set key s.weight] else []

theorem runOps_weightOps (key : String) (s : LuaStep) (a : AnnMap) :
    runOps (weightOps key s) a = if s.weight != "-1" then aset key s.weight a else a := by
  unfold weightOps
  split <;> rfl

/-- a loop body on the first header of a match, over the four annotation keys it may set -/
def headerOps (cookie header pattern value : String) (m : HttpMatch) : List Op :=
  match m.headers with
  | [] => []
  | h :: _ =>
    if h.name == "canary-by-cookie" then [.set cookie h.value]
    else if h.kind == some "RegularExpression" then [.set header h.name, .set pattern h.value]
    else [.set header h.name, .set value h.value]

def nginxMatchOps : HttpMatch → List Op :=
  headerOps "nginx.ingress.kubernetes.io/canary-by-cookie" "nginx.ingress.kubernetes.io/canary-by-header"
    "nginx.ingress.kubernetes.io/canary-by-header-pattern" "nginx.ingress.kubernetes.io/canary-by-header-value"

def albMatchOps : HttpMatch → List Op :=
  headerOps "alb.ingress.kubernetes.io/canary-by-cookie" "alb.ingress.kubernetes.io/canary-by-header"
    "alb.ingress.kubernetes.io/canary-by-header-pattern" "alb.ingress.kubernetes.io/canary-by-header-value"

def mseQueryOps (m : HttpMatch) : List Op :=
  match m.queryParams with
  | [] => []
  | q :: _ =>
    if q.kind == some "RegularExpression"
    then [.set "nginx.ingress.kubernetes.io/canary-by-query" q.name,
          .set "nginx.ingress.kubernetes.io/canary-by-query-pattern" q.value]
    else [.set "nginx.ingress.kubernetes.io/canary-by-query" q.name,
          .set "nginx.ingress.kubernetes.io/canary-by-query-value" q.value]

def mseMatchOps (m : HttpMatch) : List Op := nginxMatchOps m ++ mseQueryOps m

theorem nginxMatch_eq (a : AnnMap) (m : HttpMatch) : nginxMatch a m = runOps (nginxMatchOps m) a := by
  unfold nginxMatch nginxMatchOps headerOps
  cases m.headers with
  | nil => rfl
  | cons h t =>
    simp only []
    split
    · rfl
    · split <;> rfl

theorem higressMatch_eq (a : AnnMap) (m : HttpMatch) :
    higressMatch a m = if hasHeaders m then some (runOps (nginxMatchOps m) a) else none := by
  unfold higressMatch nginxMatchOps headerOps hasHeaders
  cases m.headers with
  | nil => rfl
  | cons h t =>
    simp only [List.isEmpty_cons, Bool.not_false, if_true]
    split
    · rfl
    · split <;> rfl

theorem albMatch_eq (a : AnnMap) (m : HttpMatch) :
    albMatch a m = if hasHeaders m then some (runOps (albMatchOps m) a) else none := by
  unfold albMatch albMatchOps headerOps hasHeaders
  cases m.headers with
  | nil => rfl
  | cons h t =>
    simp only [List.isEmpty_cons, Bool.not_false, if_true]
    split
    · rfl
    · split <;> rfl

theorem mseMatch_eq (a : AnnMap) (m : HttpMatch) : mseMatch a m = runOps (mseMatchOps m) a := by
  -- the header part of mse.lua's loop body is nginx.lua's
  have h1 : mseHeaderPart a m = runOps (nginxMatchOps m) a := nginxMatch_eq a m
  have h2 : ∀ b, mseQueryPart b m = runOps (mseQueryOps m) b := by
    intro b
    unfold mseQueryPart mseQueryOps
    cases m.queryParams with
    | nil => rfl
    | cons q t =>
      simp only []
      split <;> rfl
  rw [mseMatch, h1, h2, mseMatchOps, runOps_append]

/-- the loop over `obj.matches` -/
def matchesOps (g : HttpMatch → List Op) (s : LuaStep) : List Op :=
  match s.mts with
  | none => []
  | some ms => ms.flatMap g

/-! ### nginx.lua, higress.lua -/

def nginxPre : List Op :=
  [.set "nginx.ingress.kubernetes.io/canary" "true",
   .del "nginx.ingress.kubernetes.io/canary-by-cookie",
   .del "nginx.ingress.kubernetes.io/canary-by-header",
   .del "nginx.ingress.kubernetes.io/canary-by-header-pattern",
   .del "nginx.ingress.kubernetes.io/canary-by-header-value",
   .del "nginx.ingress.kubernetes.io/canary-weight"]

def nginxBody (s : LuaStep) : List Op :=
  weightOps "nginx.ingress.kubernetes.io/canary-weight" s ++ matchesOps nginxMatchOps s

theorem nginxLua_eq (a : AnnMap) (s : LuaStep) : nginxLua a s = some (runOps (nginxPre ++ nginxBody s) a) := by
  simp only [nginxLua, nginxBody, matchesOps, nginxPre, runOps_append, runOps_weightOps, runOps_cons, runOps_nil,
    Op.run]
  cases s.mts with
  | none => rfl
  | some ms => exact congrArg some (foldl_runOps _ _ nginxMatch_eq ms _)

theorem higressLua_eq (a : AnnMap) (s : LuaStep) :
    higressLua a s = if allHaveHeaders s then some (runOps (nginxPre ++ nginxBody s) a) else none := by
  simp only [higressLua, nginxBody, matchesOps, allHaveHeaders, nginxPre, runOps_append, runOps_weightOps,
    runOps_cons, runOps_nil, Op.run]
  cases s.mts with
  | none => rfl
  | some ms => exact foldlM_runOps _ _ _ higressMatch_eq ms _

/-! ### aliyun-alb.lua -/

def albPre : List Op :=
  [.set "alb.ingress.kubernetes.io/canary" "true",
   .del "alb.ingress.kubernetes.io/canary-by-cookie",
   .del "alb.ingress.kubernetes.io/canary-by-header",
   .del "alb.ingress.kubernetes.io/canary-by-header-pattern",
   .del "alb.ingress.kubernetes.io/canary-by-header-value",
   .del "alb.ingress.kubernetes.io/canary-weight",
   .set "alb.ingress.kubernetes.io/order" "1"]

def albBody (s : LuaStep) : List Op :=
  weightOps "alb.ingress.kubernetes.io/canary-weight" s ++ matchesOps albMatchOps s

theorem albLua_eq (a : AnnMap) (s : LuaStep) :
    albLua a s = if allHaveHeaders s then some (runOps (albPre ++ albBody s) a) else none := by
  simp only [albLua, albBody, matchesOps, allHaveHeaders, albPre, runOps_append, runOps_weightOps,
    runOps_cons, runOps_nil, Op.run]
  cases s.mts with
  | none => rfl
  | some ms => exact foldlM_runOps _ _ _ albMatch_eq ms _

/-! ### mse.lua -/

def msePre : List Op :=
  [.set "nginx.ingress.kubernetes.io/canary" "true",
   .del "nginx.ingress.kubernetes.io/canary-by-cookie",
   .del "nginx.ingress.kubernetes.io/canary-by-header",
   .del "nginx.ingress.kubernetes.io/canary-by-header-pattern",
   .del "nginx.ingress.kubernetes.io/canary-by-header-value",
   .del "nginx.ingress.kubernetes.io/canary-by-query",
   .del "nginx.ingress.kubernetes.io/canary-by-query-pattern",
   .del "nginx.ingress.kubernetes.io/canary-by-query-value",
   .del "mse.ingress.kubernetes.io/canary-by-query",
   .del "mse.ingress.kubernetes.io/canary-by-query-pattern",
   .del "mse.ingress.kubernetes.io/canary-by-query-value",
   .del "mse.ingress.kubernetes.io/request-header-control-update",
   .del "nginx.ingress.kubernetes.io/canary-weight"]

/-- the one op of mse.lua outside the keys it owns: `service-subset`, if present, becomes "gray" -/
def msePassive : List Op := [.fix "mse.ingress.kubernetes.io/service-subset" "gray"]

def mseRhmOps (s : LuaStep) : List Op :=
  match s.rhm with
  | none => []
  | some set => [.set "mse.ingress.kubernetes.io/request-header-control-update" (mseHeaderControl set)]

def mseBody (s : LuaStep) : List Op :=
  weightOps "nginx.ingress.kubernetes.io/canary-weight" s ++ (msePassive ++
    (mseRhmOps s ++ matchesOps mseMatchOps s))

theorem mseLua_eq (a : AnnMap) (s : LuaStep) :
    mseLua a s = if rhmOk s && !a.isEmpty then some (runOps (msePre ++ mseBody s) a) else none := by
  simp only [mseLua, mseBody, matchesOps, mseRhmOps, rhmOk, msePre, msePassive, runOps_append, runOps_weightOps,
    runOps_cons, runOps_nil, Op.run]
  cases a.isEmpty with
  | true => simp only [Bool.not_true, Bool.and_false]; rfl
  | false =>
    rcases s.rhm with _ | ⟨_ | ⟨h, hs⟩⟩
    · cases s.mts with
      | none => rfl
      | some ms => exact congrArg some (foldl_runOps _ _ mseMatch_eq ms _)
    · rfl
    · cases s.mts with
      | none => rfl
      | some ms => exact congrArg some (foldl_runOps _ _ mseMatch_eq ms _)

/-- a script in the shape from which history independence follows (`Spec.hist`): a preamble of constant ops that owns every key the
    body may set, plus a step-independent idempotent `passive` part on the other keys -/
structure Spec (cls : Class) where
  /-- the preamble: it overwrites every key the class owns, whatever the step -/
  pre : List Op
  body : LuaStep → List Op
  /-- what the body does to the keys the class does not own (independent of the step) -/
  passive : List Op
  run_eq : ∀ a s, script cls a s =
    if supported cls s && annOk cls a then some (runOps (pre ++ body s) a) else none
  pre_const : pre.all Op.isConst = true
  other : ∀ s k x, k ∉ pre.map Op.key → effect (body s) k x = effect passive k x
  passive_idem : ∀ k x, effect passive k (effect passive k x) = effect passive k x

def Spec.closed {cls : Class} (pre : List Op) (body : LuaStep → List Op)
    (run_eq : ∀ a s, script cls a s =
      if supported cls s && annOk cls a then some (runOps (pre ++ body s) a) else none)
    (pre_const : pre.all Op.isConst = true) (hbody : ∀ s, within (pre.map Op.key) (body s)) : Spec cls where
  pre := pre
  body := body
  passive := []
  run_eq := run_eq
  pre_const := pre_const
  other s _ x hk := effect_within (hbody s) hk x
  passive_idem _ _ := rfl

theorem annOk_congr (cls : Class) {a b : AnnMap} (h : Eqv a b) : annOk cls a = annOk cls b := by
  cases cls <;> simp [annOk, isEmpty_congr h]

theorem Spec.some_iff {cls : Class} (sp : Spec cls) (a : AnnMap) (s : LuaStep) (b : AnnMap) :
    script cls a s = some b ↔
      (supported cls s = true ∧ annOk cls a = true) ∧ b = runOps (sp.pre ++ sp.body s) a := by
  rw [sp.run_eq, ← Bool.and_eq_true]
  split <;> simp [*, eq_comm]

theorem Spec.effect_owned {cls : Class} (sp : Spec cls) (s : LuaStep) {k : String} (hk : k ∈ sp.pre.map Op.key)
    (x y : Option String) : effect (sp.pre ++ sp.body s) k x = effect (sp.pre ++ sp.body s) k y := by
  obtain ⟨o, ho, rfl⟩ := List.mem_map.mp hk
  exact effect_const (List.mem_append_left _ ho) (List.all_eq_true.mp sp.pre_const o ho) x y

theorem Spec.effect_other {cls : Class} (sp : Spec cls) (s : LuaStep) {k : String} (hk : k ∉ sp.pre.map Op.key)
    (x : Option String) : effect (sp.pre ++ sp.body s) k x = effect sp.passive k x := by
  rw [effect_append, effect_within (within_keys _) hk, sp.other s k x hk]

/-- history independence of one script -/
theorem Spec.hist {cls : Class} (sp : Spec cls) {a b c : AnnMap} {s1 s2 : LuaStep}
    (h1 : script cls a s1 = some b) (h2 : script cls b s2 = some c) :
    ∃ d, script cls a s2 = some d ∧ Eqv c d := by
  obtain ⟨⟨_, ha⟩, hb⟩ := (sp.some_iff a s1 b).mp h1
  obtain ⟨⟨hs2, _⟩, hc⟩ := (sp.some_iff b s2 c).mp h2
  refine ⟨_, (sp.some_iff a s2 _).mpr ⟨⟨hs2, ha⟩, rfl⟩, fun k => ?_⟩
  rw [hc, hb, lookup_runOps, lookup_runOps, lookup_runOps]
  by_cases hk : k ∈ sp.pre.map Op.key
  · exact sp.effect_owned s2 hk _ _
  · rw [sp.effect_other s2 hk, sp.effect_other s1 hk, sp.effect_other s2 hk, sp.passive_idem]

theorem Spec.congr {cls : Class} (sp : Spec cls) {a a' b : AnnMap} {s : LuaStep}
    (he : Eqv a a') (h : script cls a s = some b) :
    ∃ b', script cls a' s = some b' ∧ Eqv b b' := by
  obtain ⟨⟨hs, ha⟩, hb⟩ := (sp.some_iff a s b).mp h
  refine ⟨_, (sp.some_iff a' s _).mpr ⟨⟨hs, annOk_congr cls he ▸ ha⟩, rfl⟩, fun k => ?_⟩
  rw [hb, lookup_runOps, lookup_runOps, he k]

theorem within_weightOps {owned : List String} {key : String} (h : key ∈ owned) (s : LuaStep) :
    within owned (weightOps key s) := by
  unfold weightOps
  split
  · exact within_cons h within_nil
  · exact within_nil

theorem within_headerOps {owned : List String} {c h p v : String}
    (hk : c ∈ owned ∧ h ∈ owned ∧ p ∈ owned ∧ v ∈ owned) (m : HttpMatch) : within owned (headerOps c h p v m) := by
  obtain ⟨hc, hh, hp, hv⟩ := hk
  unfold headerOps
  cases m.headers with
  | nil => exact within_nil
  | cons x _ =>
    simp only []
    split
    · exact within_cons hc within_nil
    · split
      · exact within_cons hh (within_cons hp within_nil)
      · exact within_cons hh (within_cons hv within_nil)

theorem within_matchesOps {owned : List String} {g : HttpMatch → List Op}
    (h : ∀ m, within owned (g m)) (s : LuaStep) : within owned (matchesOps g s) := by
  unfold matchesOps
  cases s.mts with
  | none => exact within_nil
  | some ms => exact within_flatMap h ms

-- `by repeat constructor` finds a key in a literal table by its position (`List.Mem.head` / `.tail`): no two
-- different strings are compared
theorem within_nginxBody (s : LuaStep) : within (nginxPre.map Op.key) (nginxBody s) :=
  within_append (within_weightOps (by repeat constructor) s)
    (within_matchesOps (within_headerOps (by repeat constructor)) s)

theorem within_albBody (s : LuaStep) : within (albPre.map Op.key) (albBody s) :=
  within_append (within_weightOps (by repeat constructor) s)
    (within_matchesOps (within_headerOps (by repeat constructor)) s)

theorem within_mseRhmOps (s : LuaStep) : within (msePre.map Op.key) (mseRhmOps s) := by
  unfold mseRhmOps
  cases s.rhm with
  | none => exact within_nil
  | some _ => exact within_cons (by repeat constructor) within_nil

theorem within_mseMatchOps (m : HttpMatch) : within (msePre.map Op.key) (mseMatchOps m) := by
  refine within_append (within_headerOps (by repeat constructor) m) ?_
  unfold mseQueryOps
  cases m.queryParams with
  | nil => exact within_nil
  | cons q _ =>
    simp only []
    split <;> exact within_cons (by repeat constructor) (within_cons (by repeat constructor) within_nil)

def specOf : (cls : Class) → Spec cls
  | .nginx => .closed nginxPre nginxBody nginxLua_eq rfl within_nginxBody
  | .higress =>
    .closed nginxPre nginxBody (fun a s => by simp [script, supported, annOk, higressLua_eq]) rfl within_nginxBody
  | .alb => .closed albPre albBody (fun a s => by simp [script, supported, annOk, albLua_eq]) rfl within_albBody
  | .mse =>
    { pre := msePre
      body := mseBody
      passive := msePassive
      run_eq := fun a s => by simp [script, supported, annOk, mseLua_eq]
      pre_const := rfl
      other := fun s k x hk => by
        unfold mseBody
        rw [effect_append, effect_within (within_weightOps (by repeat constructor) s) hk, effect_append,
          effect_append, effect_within (within_mseRhmOps s) hk,
          effect_within (within_matchesOps within_mseMatchOps s) hk]
      passive_idem := effect_fix_idem _ _ }

theorem any_eq_not_isEmpty {α β} (l : List α) (q : α → Bool) (f : α → β) :
    l.any q = !((l.filter q).map f).isEmpty := by
  induction l with
  | nil => rfl
  | cons x l ih =>
    by_cases hx : q x = true
    · simp [hx]
    · simp [hx, ih]

theorem retarget_eq (cfg : Cfg) (p : Path) (svc : SvcBackend) (h : p.backend.service = some svc) :
    retarget cfg p svc = retargetPath cfg p := by
  simp [retarget, retargetPath, h]

theorem pathLoop_spec (cfg : Cfg) (ps : List Path) (has : Bool) (out : List Path) :
    pathLoop cfg ps (has, out) =
      .ok (has || ps.any (pointsAtStable cfg), out ++ (ps.filter (pointsAtStable cfg)).map (retargetPath cfg)) := by
  induction ps generalizing has out with
  | nil => simp [pathLoop]
  | cons p ps ih =>
    unfold pathLoop
    cases hs : p.backend.service with
    | none => simp [ih, pointsAtStable, hs]
    | some svc =>
      by_cases hn : (svc.name == cfg.stableSvc) = true <;>
        simp [ih, pointsAtStable, hs, hn, retarget_eq cfg p svc hs]

theorem ruleLoop_spec (cfg : Cfg) (rs : List Rule) (out : List Rule) :
    ruleLoop cfg rs out = .ok (out ++ expectedRules cfg rs) := by
  induction rs generalizing out with
  | nil => simp [ruleLoop, expectedRules]
  | cons r rs ih =>
    unfold ruleLoop
    cases hh : r.http with
    | none => simp only [ih, expectedRules, List.filterMap_cons, hh]
    | some paths =>
      simp only [pathLoop_spec, Bool.false_or, List.nil_append]
      rw [any_eq_not_isEmpty paths (pointsAtStable cfg) (retargetPath cfg)]
      by_cases he : ((paths.filter (pointsAtStable cfg)).map (retargetPath cfg)).isEmpty = true
      · simp only [he, Bool.not_true, Bool.false_eq_true, if_false, ih, expectedRules,
          List.filterMap_cons, hh, if_true]
      · simp only [he, Bool.not_false, if_true, ih, expectedRules, List.filterMap_cons, hh,
          if_false, Bool.false_eq_true, List.append_assoc, List.singleton_append]

theorem build_spec (cfg : Cfg) (st : Ingress) :
    buildCanaryIngress cfg st =
      .ok { ann := st.ann, labels := st.labels, className := st.className, tls := st.tls,
            defaultBackend := false, rules := expectedRules cfg st.rules } := by
  simp [buildCanaryIngress, ruleLoop_spec]

def patchOp (k : String) : Option String → Op
  | some v => .set k v
  | none => .del k

theorem applyPatch_eq (a : AnnMap) (p : List (String × Option String)) :
    applyPatch a p = runOps (p.map fun kv => patchOp kv.1 kv.2) a := by
  rw [runOps, List.foldl_map]
  refine congrArg (fun f => p.foldl f a) (funext fun a => funext fun ⟨k, ov⟩ => ?_)
  cases ov <;> rfl

theorem effect_patch_keys (ks : List String) (val : String → Option String) (k : String) (x : Option String) :
    effect ((ks.map fun k' => (k', val k')).map fun kv => patchOp kv.1 kv.2) k x = if k ∈ ks then val k else x := by
  induction ks generalizing x with
  | nil => rfl
  | cons k0 ks ih =>
    have hkey : (patchOp k0 (val k0)).key = k0 := by cases val k0 <;> rfl
    have hact : (patchOp k0 (val k0)).act x = val k0 := by cases val k0 <;> rfl
    simp only [List.map_cons, effect_cons, ih, List.mem_cons, hkey, hact]
    by_cases h0 : k0 = k
    · subst h0; simp
    · simp [h0, Ne.symm h0]

theorem applyPatch_mergePatch (old new : AnnMap) : Eqv (applyPatch old (mergePatch old new)) new := by
  intro k
  rw [applyPatch_eq, lookup_runOps, mergePatch, List.map_append, effect_append, effect_patch_keys,
    effect_patch_keys]
  simp only [List.mem_filter, mem_akeys_iff, bne_iff_ne, Option.isNone_iff_eq_none]
  generalize lookup old k = x
  generalize lookup new k = y
  cases x <;> cases y <;> simp

/-- the script applied for a list of steps, one after the other (`none` as soon as one fails) -/
def runSteps (cls : Class) (a : AnnMap) (ss : List LuaStep) : Option AnnMap :=
  ss.foldlM (script cls) a

theorem runSteps_nil (cls : Class) (a : AnnMap) : runSteps cls a [] = some a := rfl

theorem runSteps_cons (cls : Class) (a : AnnMap) (s : LuaStep) (ss : List LuaStep) :
    runSteps cls a (s :: ss) = (script cls a s).bind (fun b => runSteps cls b ss) := by
  simp only [runSteps, List.foldlM_cons]; rfl

theorem runSteps_snoc (cls : Class) (a : AnnMap) (ss : List LuaStep) (s : LuaStep) :
    runSteps cls a (ss ++ [s]) = (runSteps cls a ss).bind (fun b => script cls b s) := by
  induction ss generalizing a with
  | nil =>
    simp only [List.nil_append, runSteps_cons, runSteps_nil, Option.bind_some]
    cases script cls a s <;> rfl
  | cons s0 ss ih =>
    simp only [List.cons_append, runSteps_cons]
    cases script cls a s0 with
    | none => rfl
    | some b => simp only [Option.bind_some]; exact ih b

/-- history independence for any number of earlier steps -/
theorem runSteps_hist {cls : Class} {a b c : AnnMap} {ss : List LuaStep} {s : LuaStep}
    (h1 : runSteps cls a ss = some b) (h2 : script cls b s = some c) :
    ∃ d, script cls a s = some d ∧ Eqv c d := by
  induction ss generalizing a with
  | nil => cases h1; exact ⟨c, h2, Eqv.refl c⟩
  | cons s0 ss ih =>
    rw [runSteps_cons] at h1
    obtain ⟨a1, h0, h1⟩ := Option.bind_eq_some_iff.mp h1
    obtain ⟨d1, hd1, hc⟩ := ih h1
    obtain ⟨d, hd, hdd⟩ := (specOf cls).hist h0 hd1
    exact ⟨d, hd, hc.trans hdd⟩

theorem executeLua_eq (cls : Class) (a : AnnMap) (s : Strategy) :
    executeLua cls a (s.traffic.map weightOf) s.mts s.rhm = script cls a (luaStepOf s) := by
  cases h : s.traffic <;> simp [executeLua, luaStepOf, h]

theorem executeLua_init (cls : Class) (a : AnnMap) :
    executeLua cls a (some 0) none none = script cls a initStep := rfl

/-- annotations that equal what the script makes of some map for a step are a fixed point of the script for that step:
    the script run on them again succeeds on them too (`Spec.congr`) and changes nothing (`Spec.hist` with both steps the same) -/
theorem script_fixed {cls : Class} {a new ann' n2 : AnnMap} {ls : LuaStep}
    (hn : script cls a ls = some new) (hv : Eqv ann' new) (h2 : script cls ann' ls = some n2) : Eqv ann' n2 := by
  obtain ⟨b, hb, hbn⟩ := (specOf cls).congr hv h2
  obtain ⟨d, hd, hbd⟩ := (specOf cls).hist hn hb
  cases hn.symm.trans hd
  exact hv.trans (hbd.symm.trans hbn.symm)

/-- the annotations a canary Ingress created from `stableAnn` can carry: those of creation, or
    those of some step entered right after creation -/
def Derived (cls : Class) (stableAnn x : AnnMap) : Prop :=
  ∃ a0, script cls stableAnn initStep = some a0 ∧
    (Eqv x a0 ∨ ∃ s d, script cls a0 s = some d ∧ Eqv x d)

theorem derived_step {cls : Class} {stableAnn x new : AnnMap} {ls : LuaStep}
    (hd : Derived cls stableAnn x) (h : script cls x ls = some new) :
    ∃ d, freshAnn cls stableAnn ls = some d ∧ Eqv new d := by
  obtain ⟨a0, h0, hx⟩ := hd
  simp only [freshAnn, h0]
  rcases hx with hx | ⟨s, d0, hs, hx⟩
  · exact (specOf cls).congr hx h
  · obtain ⟨n', hn', hnn'⟩ := (specOf cls).congr hx h
    obtain ⟨d, hd, hn'd⟩ := (specOf cls).hist hs hn'
    exact ⟨d, hd, hnn'.trans hn'd⟩

theorem derived_of_step {cls : Class} {stableAnn x new y : AnnMap} {ls : LuaStep}
    (hd : Derived cls stableAnn x) (h : script cls x ls = some new) (hy : Eqv y new) :
    Derived cls stableAnn y := by
  obtain ⟨d, hf, hnd⟩ := derived_step hd h
  obtain ⟨a0, h0, _⟩ := hd
  simp only [freshAnn, h0] at hf
  exact ⟨a0, h0, Or.inr ⟨ls, d, hf, hy.trans hnd⟩⟩

/-- what holds of the store along every run that starts without a canary Ingress -/
structure Inv (cfg : Cfg) (st : Ingress) (w : World) : Prop where
  stable : w.stable = some st
  derived : ∀ c, w.canary = some c → Derived cfg.cls st.ann c.ing.ann
  rules : ∀ c, w.canary = some c → c.ing.rules = expectedRules cfg st.rules
  wf : ∀ c, w.canary = some c → c.deleting = true → c.fin = true

theorem Inv.of_none {cfg : Cfg} {st : Ingress} {w : World} (hs : w.stable = some st) (hc : w.canary = none) :
    Inv cfg st w := by
  refine ⟨hs, ?_, ?_, ?_⟩ <;> (intro c h; rw [hc] at h; cases h)

theorem Inv.of_some {cfg : Cfg} {st : Ingress} {w : World} {c : CanaryObj} (hs : w.stable = some st)
    (hc : w.canary = some c) (hd : Derived cfg.cls st.ann c.ing.ann)
    (hr : c.ing.rules = expectedRules cfg st.rules) (hw : c.deleting = true → c.fin = true) : Inv cfg st w := by
  refine ⟨hs, ?_, ?_, ?_⟩ <;> (intro c' h; rw [hc] at h; cases h)
  · exact hd
  · exact hr
  · exact hw

theorem inv_init (cfg : Cfg) (st : Ingress) : Inv cfg st { stable := some st, canary := none } :=
  .of_none rfl rfl

/-- history independence under the invariant: annotations that equal what the script makes of the canary Ingress's own
    are those of entering the step first -/
theorem Inv.fresh {cfg : Cfg} {st : Ingress} {w : World} {c : CanaryObj} {ls : LuaStep} {new x : AnnMap}
    (hi : Inv cfg st w) (hc : w.canary = some c) (hn : script cfg.cls c.ing.ann ls = some new) (hx : Eqv x new) :
    annAsFresh cfg.cls st.ann ls x = true := by
  obtain ⟨d, hf, hnd⟩ := derived_step (hi.derived c hc) hn
  simp only [annAsFresh, hf]
  exact (eqvB_iff _ _).mpr (hx.trans hnd)

/-- the canary Ingress `EnsureRoutes` creates -/
def createdCanary (cfg : Cfg) (st : Ingress) (a0 : AnnMap) : CanaryObj :=
  { ing := { ann := a0, labels := st.labels, className := st.className, tls := st.tls,
             defaultBackend := false, rules := expectedRules cfg st.rules },
    deleting := false, fin := false }

/-- `EnsureRoutes` by cases: the branch the Go code takes, with its guards and the whole result -/
inductive Ensured (cfg : Cfg) (w : World) (s : Strategy) : Outcome → Prop
  /-- no canary Ingress, weight 0 (the finalizer scenario): nothing to do -/
  | zero : w.canary = none → s.traffic.map weightOf = some 0 → Ensured cfg w s (.ret w true .ok [])
  /-- no canary Ingress and no stable Ingress to copy -/
  | noStable : w.canary = none → s.traffic.map weightOf ≠ some 0 → w.stable = none →
      Ensured cfg w s (.ret w false .notFound [])
  /-- the script fails on the annotations of the Ingress to create -/
  | createErr {st} : w.canary = none → s.traffic.map weightOf ≠ some 0 → w.stable = some st →
      script cfg.cls st.ann initStep = none → Ensured cfg w s (.ret w false .err [])
  | created {st a0} : w.canary = none → s.traffic.map weightOf ≠ some 0 → w.stable = some st →
      script cfg.cls st.ann initStep = some a0 →
      Ensured cfg w s (.ret { w with canary := some (createdCanary cfg st a0) } false .ok [.create cfg.canaryName])
  /-- the script fails on the canary Ingress's annotations -/
  | stepErr {c} : w.canary = some c → script cfg.cls c.ing.ann (luaStepOf s) = none →
      Ensured cfg w s (.ret w false .err [])
  /-- the canary Ingress is as the step wants it: done -/
  | same {c new} : w.canary = some c → script cfg.cls c.ing.ann (luaStepOf s) = some new → Eqv c.ing.ann new →
      Ensured cfg w s (.ret w true .ok [])
  /-- otherwise the merge patch is applied (and leaves what the script wanted: `applyPatch_mergePatch`) -/
  | patched {c new} : w.canary = some c → script cfg.cls c.ing.ann (luaStepOf s) = some new → ¬ Eqv c.ing.ann new →
      Ensured cfg w s
        (.ret { w with canary := some { c with ing := { c.ing with ann := applyPatch c.ing.ann (mergePatch c.ing.ann new) } } }
          false .ok [.patch cfg.canaryName])

theorem ensure_cases (cfg : Cfg) (w : World) (s : Strategy) : Ensured cfg w s (ensureRoutes cfg w s) := by
  unfold ensureRoutes
  cases hc : w.canary with
  | none =>
    simp only []
    by_cases hw : s.traffic.map weightOf = some 0
    · rw [if_pos (by simpa using hw)]; exact .zero hc hw
    · rw [if_neg (by simpa using hw)]
      cases hs : w.stable with
      | none => exact .noStable hc hw hs
      | some st =>
        simp only [build_spec, executeLua_init]
        cases h0 : script cfg.cls st.ann initStep with
        | none => exact .createErr hc hw hs h0
        | some a0 => rw [← hs]; exact .created hc hw hs h0
  | some c =>
    simp only [executeLua_eq]
    cases hn : script cfg.cls c.ing.ann (luaStepOf s) with
    | none => exact .stepErr hc hn
    | some new =>
      by_cases he : eqvB c.ing.ann new = true
      · simp only [he, if_true]; exact .same hc hn ((eqvB_iff _ _).mp he)
      · simp only [he, Bool.false_eq_true, if_false]; exact .patched hc hn fun h => he ((eqvB_iff _ _).mpr h)

theorem finalise_cases (cfg : Cfg) (w : World) :
    -- nothing to delete, or deletion already under way
    ((w.canary = none ∨ ∃ c, w.canary = some c ∧ c.deleting = true) ∧ finalise cfg w = .ret w false .ok [])
    -- deleted; a finalizer keeps the object, marked
    ∨ ∃ c, w.canary = some c ∧ c.deleting = false ∧
        finalise cfg w = .ret { w with canary := if c.fin then some { c with deleting := true } else none }
          true .ok [.delete cfg.canaryName] := by
  unfold finalise
  cases w.canary with
  | none => exact .inl ⟨.inl rfl, rfl⟩
  | some c =>
    simp only []
    cases hd : c.deleting
    · exact .inr ⟨c, rfl, hd, rfl⟩
    · exact .inl ⟨.inr ⟨c, rfl, hd⟩, rfl⟩

/-- `Finalise` has nothing to do once the canary Ingress is gone or marked for deletion -/
theorem finalise_idle {cfg : Cfg} {w : World} (h : finalisedOk w.canary = true) : finalise cfg w = .ret w false .ok [] := by
  rcases finalise_cases cfg w with ⟨_, e⟩ | ⟨c, hc, hd, _⟩
  · exact e
  · simp [finalisedOk, hc, hd] at h

/-- under the invariant `Finalise` succeeds and leaves no canary Ingress — or, if somebody put a finalizer on it, one that is
    marked for deletion -/
theorem finalise_post {cfg : Cfg} {st : Ingress} {w : World} (hi : Inv cfg st w) :
    ∃ w' done ws, finalise cfg w = .ret w' done .ok ws ∧ finalisedOk w'.canary = true ∧
      ((∀ c, w.canary = some c → c.fin = false) → w'.canary = none) := by
  rcases finalise_cases cfg w with ⟨hc | ⟨c, hc, hd⟩, h⟩ | ⟨c, hc, _, h⟩
  · exact ⟨_, _, _, h, by simp [hc, finalisedOk], fun _ => hc⟩
  · -- a deletion under way: the object is still there only because a finalizer holds it
    have hf := hi.wf c hc hd
    exact ⟨_, _, _, h, by simp [hc, finalisedOk, hd, hf], fun h0 => by simp [h0 c hc] at hf⟩
  · refine ⟨_, _, _, h, ?_, fun h0 => by simp [h0 c hc]⟩
    cases hf : c.fin <;> simp [finalisedOk]

theorem writesOk_single (cfg : Cfg) (x : Write) (h : x.target = cfg.canaryName) : writesOk cfg [x] = true := by
  simp [writesOk, h]

theorem ensure_frame (cfg : Cfg) (w : World) (s : Strategy) :
    ∃ w' done e ws, ensureRoutes cfg w s = .ret w' done e ws ∧ w'.stable = w.stable ∧
      writesOk cfg ws = true := by
  have H := ensure_cases cfg w s
  generalize ensureRoutes cfg w s = r at H ⊢
  -- the writes are none, or one create / patch of the canary Ingress
  cases H with
  | created | patched => exact ⟨_, _, _, _, rfl, rfl, writesOk_single cfg _ rfl⟩
  | _ => exact ⟨_, _, _, _, rfl, rfl, rfl⟩

theorem finalise_frame (cfg : Cfg) (w : World) :
    ∃ w' done ws, finalise cfg w = .ret w' done .ok ws ∧ w'.stable = w.stable ∧
      writesOk cfg ws = true := by
  rcases finalise_cases cfg w with ⟨_, h⟩ | ⟨_, _, _, h⟩
  · exact ⟨_, _, _, h, rfl, rfl⟩
  · exact ⟨_, _, _, h, rfl, writesOk_single cfg _ rfl⟩

theorem stepCall_frame (cfg : Cfg) (w : World) (call : Call) :
    ∃ w' done e ws, stepCall cfg w call = .ret w' done e ws ∧ w'.stable = w.stable ∧
      writesOk cfg ws = true := by
  cases call with
  | ensure s => exact ensure_frame cfg w s
  | finalise =>
    obtain ⟨w', d, ws, h⟩ := finalise_frame cfg w
    exact ⟨w', d, .ok, ws, h⟩
  | addFinalizer => exact ⟨_, _, _, _, rfl, rfl, rfl⟩

theorem inv_ensure {cfg : Cfg} {st : Ingress} {w w' : World} {s : Strategy} {done : Bool} {e : Err}
    {ws : List Write} (hi : Inv cfg st w) (h : ensureRoutes cfg w s = .ret w' done e ws) :
    Inv cfg st w' := by
  have H := ensure_cases cfg w s
  rw [h] at H
  cases H with
  | created _ _ hs h0 =>
    cases hs.symm.trans hi.stable
    exact .of_some hi.stable rfl ⟨_, h0, .inl (Eqv.refl _)⟩ rfl (fun h => by cases h)
  | @patched c new hc hn _ =>
    exact .of_some hi.stable rfl (derived_of_step (hi.derived c hc) hn (applyPatch_mergePatch _ _)) (hi.rules c hc)
      (hi.wf c hc)
  | _ => exact hi

theorem inv_finalise {cfg : Cfg} {st : Ingress} {w w' : World} {done : Bool} {e : Err}
    {ws : List Write} (hi : Inv cfg st w) (h : finalise cfg w = .ret w' done e ws) :
    Inv cfg st w' := by
  rcases finalise_cases cfg w with ⟨_, h'⟩ | ⟨c, hc, _, h'⟩
  all_goals (rw [h'] at h; injection h with hw; subst hw)
  · exact hi
  · cases hf : c.fin
    · exact .of_none hi.stable rfl
    · exact .of_some hi.stable rfl (hi.derived c hc) (hi.rules c hc) (fun _ => rfl)

theorem inv_step {cfg : Cfg} {st : Ingress} {w w' : World} {call : Call} {done : Bool} {e : Err}
    {ws : List Write} (hi : Inv cfg st w) (h : stepCall cfg w call = .ret w' done e ws) :
    Inv cfg st w' := by
  cases call with
  | ensure s => exact inv_ensure hi h
  | finalise => exact inv_finalise hi h
  | addFinalizer =>
    cases h
    cases hc : w.canary with
    | none => exact .of_none hi.stable rfl
    | some c => exact .of_some hi.stable rfl (hi.derived c hc) (hi.rules c hc) (fun _ => rfl)

theorem runCalls_total (cfg : Cfg) (w : World) (calls : List Call) :
    ∃ w', runCalls cfg w calls = some w' ∧ w'.stable = w.stable := by
  induction calls generalizing w with
  | nil => exact ⟨w, rfl, rfl⟩
  | cons c cs ih =>
    obtain ⟨w1, d, e, ws, h, hs, _⟩ := stepCall_frame cfg w c
    obtain ⟨w', h', hs'⟩ := ih w1
    exact ⟨w', by simp only [runCalls, h, h'], hs'.trans hs⟩

theorem inv_run {cfg : Cfg} {st : Ingress} {w w' : World} {calls : List Call}
    (hi : Inv cfg st w) (h : runCalls cfg w calls = some w') : Inv cfg st w' := by
  induction calls generalizing w with
  | nil => cases h; exact hi
  | cons c cs ih =>
    obtain ⟨w1, d, e, ws, hstep, _, _⟩ := stepCall_frame cfg w c
    simp only [runCalls, hstep] at h
    exact ih (inv_step hi hstep) h

end RV.Ingress
