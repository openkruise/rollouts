/-
  Progress of the closed loop, the classes of round-boundary states.  The measure `mu` by phase and reason of the rollout
  (`mu_healthy` … `mu_completed`); the classifier `cls` read once: `ClsSpec s w k` says, class by class, what class `k` states
  about phase, sub-state, BatchRelease and workload, `cls_spec` and `cls_of_spec` are the two directions.  Then the position of
  a class on the path of a healthy rollout (`clsMu`, `mu_of_spec`: the measure is a function of the class), the carried
  invariants `doneInv` and `polInv` as propositions, the three invariants of a state of class `k` (`Inv`), and what a class
  theorem concludes (`LandsIn`, `lands`).
-/
import RV.Oracle.ClosedLoopLive
namespace RV.Lemmas.ClosedLoop
open RV.Arith RV.Traffic RV.RolloutSM RV.ClosedLoop RV.Oracle.ClosedLoop

theorem mu_healthy (s : CS) (w : CWl) (hw : s.wl = some w) (hph : s.ro.phase = .healthy) :
    mu s = if w.inProgressAnno then
      32 + s.ro.steps.length * stepW + 2 + (if w.generation = w.observedGeneration then 0 else 1) else 0 := by
  unfold mu; rw [hw]; dsimp only; rw [hph]

theorem mu_initializing (s : CS) (w : CWl) (hw : s.wl = some w) (hph : s.ro.phase = .progressing)
    (hr : s.ro.reason = .initializing) : mu s = 32 + s.ro.steps.length * stepW + (if s.ro.condAge = .fresh then 1 else 0) := by
  unfold mu; rw [hw]; dsimp only; rw [hph, hr]

theorem mu_rolling (s : CS) (w : CWl) (sub : Sub) (hw : s.wl = some w) (hph : s.ro.phase = .progressing)
    (hr : s.ro.reason = .inRolling) (hs : s.ro.sub = some sub) :
    mu s = 32 + (s.ro.steps.length - sub.curIdx.toNat) * stepW + subRank s sub w := by
  unfold mu; rw [hw]; dsimp only; rw [hph, hr]; dsimp only; rw [hs]

theorem mu_fin (s : CS) (w : CWl) (sub : Sub) (hw : s.wl = some w) (hph : s.ro.phase = .progressing)
    (hr : s.ro.reason = .finalising) (hs : s.ro.sub = some sub) : mu s = 2 + finRank s sub := by
  unfold mu; rw [hw]; dsimp only; rw [hph, hr]; dsimp only; rw [hs]

theorem mu_completed (s : CS) (w : CWl) (hw : s.wl = some w) (hph : s.ro.phase = .progressing) (hr : s.ro.reason = .completed) :
    mu s = 1 := by
  unfold mu; rw [hw]; dsimp only; rw [hph, hr]

/-- what `brSync` and `brSyncLag` share -/
structure BrCore (b : CBr) (w : CWl) : Prop where
  gen : b.generation = b.observedGeneration
  fin : b.hasFinalizer = true
  del : b.deleting = false
  oid : b.observedRolloutID = b.rolloutID
  rid : b.rolloutID = w.updateRevision
  so : b.specOther = true
  ft : b.failureThreshold = none
  hash : b.st.hash = .same

theorem brSync_iff (b : CBr) (w : CWl) :
    brSync b w = true ↔ (b.st.updated = w.updated ∧ b.st.updatedReady = w.updatedReady) ∧ BrCore b w := by
  unfold brSync
  simp only [Bool.and_eq_true, beq_iff_eq, Bool.not_eq_true', Option.isNone_iff_eq_none]
  constructor
  · rintro ⟨⟨⟨⟨⟨⟨⟨⟨⟨a1, a2⟩, a3⟩, a4⟩, a5⟩, a6⟩, a7⟩, a8⟩, a9⟩, a10⟩
    exact ⟨⟨a1, a2⟩, ⟨a3, a4, a5, a6, a7, a8, a9, a10⟩⟩
  · rintro ⟨⟨a1, a2⟩, ⟨a3, a4, a5, a6, a7, a8, a9, a10⟩⟩
    exact ⟨⟨⟨⟨⟨⟨⟨⟨⟨a1, a2⟩, a3⟩, a4⟩, a5⟩, a6⟩, a7⟩, a8⟩, a9⟩, a10⟩

theorem brSyncLag_iff (b : CBr) (w : CWl) :
    brSyncLag b w = true ↔ (b.st.updated ≠ w.updated ∨ b.st.updatedReady ≠ w.updatedReady) ∧ BrCore b w := by
  unfold brSyncLag
  simp only [Bool.and_eq_true, Bool.or_eq_true, bne_iff_ne, ne_eq, beq_iff_eq, Bool.not_eq_true', Option.isNone_iff_eq_none]
  constructor
  · rintro ⟨⟨⟨⟨⟨⟨⟨⟨a1, a3⟩, a4⟩, a5⟩, a6⟩, a7⟩, a8⟩, a9⟩, a10⟩
    exact ⟨a1, ⟨a3, a4, a5, a6, a7, a8, a9, a10⟩⟩
  · rintro ⟨a1, ⟨a3, a4, a5, a6, a7, a8, a9, a10⟩⟩
    exact ⟨⟨⟨⟨⟨⟨⟨⟨a1, a3⟩, a4⟩, a5⟩, a6⟩, a7⟩, a8⟩, a9⟩, a10⟩

theorem brInit_iff (b : CBr) (w : CWl) :
    brInit b w = true ↔ b.st.updateRevision = "wl-" ++ w.updateRevision ∧ b.st.observedReplicas = w.replicas ∧ w.owner = .this ∧
      b.st.phase = .progressing := by
  unfold brInit
  simp only [Bool.and_eq_true, beq_iff_eq, and_assoc]

theorem brSync_not_lag (b : CBr) (w : CWl) (h : brSync b w = true) : brSyncLag b w = false := by
  cases hl : brSyncLag b w with
  | false => rfl
  | true =>
    obtain ⟨⟨a1, a2⟩, _⟩ := (brSync_iff b w).1 h
    rcases ((brSyncLag_iff b w).1 hl).1 with hne | hne
    · exact absurd a1 hne
    · exact absurd a2 hne

structure Rolling (s : CS) (sub : Sub) : Prop where
  ph : s.ro.phase = .progressing
  re : s.ro.reason = .inRolling
  sub : s.ro.sub = some sub

structure Finalising (s : CS) (sub : Sub) : Prop where
  ph : s.ro.phase = .progressing
  re : s.ro.reason = .finalising
  sub : s.ro.sub = some sub

/-- the executor reports batch `k` ready and is in step with the object -/
structure ReadyAt (b : CBr) (w : CWl) (k : Int) : Prop where
  sync : brSync b w = true
  init : brInit b w = true
  ready : b.st.batchState = .ready
  time : b.st.hasReadyTime = true
  part : b.partition = some k
  cb : b.st.currentBatch = k
  now : RV.Oracle.Executor.batchReadyNow (exBr b) (some (exWl w)) = true

/-- the same seen by the clean-up: some partition, not above the executor's batch -/
structure FinReady (b : CBr) (w : CWl) : Prop where
  sync : brSync b w = true
  init : brInit b w = true
  ready : b.st.batchState = .ready
  part : b.partition.isSome = true
  now : RV.Oracle.Executor.batchReadyNow (exBr b) (some (exWl w)) = true
  le : cls.isPartitioned' b = true

/-- waiting in `StepUpgrade` for a BatchRelease that carries the partition of the step -/
structure Upgrading (s : CS) (sub : Sub) (b : CBr) : Prop where
  roll : Rolling s sub
  st : sub.state = .upgrade
  br : s.br = some b
  part : b.partition = some (sub.curIdx - 1)

/-- in sub-state `st` with batch `curIdx - d` reported ready -/
def ReadySpec (s : CS) (w : CWl) (st : StepState) (d : Int) : Prop :=
  ∃ sub b, Rolling s sub ∧ sub.state = st ∧ s.br = some b ∧ ReadyAt b w (sub.curIdx - d)

/-- cleaning up at cursor `f` while the BatchRelease still holds its partition -/
def FinSpec (s : CS) (w : CWl) (f : FinStep) : Prop :=
  ∃ sub b, Finalising s sub ∧ sub.finStep = f ∧ s.br = some b ∧ FinReady b w

/-- what class `k` says about a state with workload `w` -/
def ClsSpec (s : CS) (w : CWl) : Nat → Prop
  | 1 => s.ro.phase = .healthy ∧ w.inProgressAnno = true ∧ w.updateRevision ≠ w.currentRevision ∧
      w.generation ≠ w.observedGeneration ∧ w.updated < w.replicas
  | 2 => s.ro.phase = .healthy ∧ w.inProgressAnno = true ∧ w.updateRevision ≠ w.currentRevision ∧
      w.generation = w.observedGeneration
  | 4 => s.ro.phase = .progressing ∧ s.ro.reason = .initializing ∧ s.ro.condAge ≠ .fresh ∧
      w.updateRevision ≠ w.currentRevision
  | 5 => (∃ sub, Rolling s sub ∧ sub.state = .init ∧ s.br = none ∧ sub.curIdx = 1 ∧ w.updateRevision ≠ w.currentRevision) ∨
      ReadySpec s w .init 2
  | 6 => ∃ sub, Rolling s sub ∧ sub.state = .upgrade ∧ s.br = none ∧ sub.curIdx = 1 ∧ w.updateRevision ≠ w.currentRevision
  | 7 => ReadySpec s w .upgrade 2
  | 8 => ∃ sub b, Upgrading s sub b ∧ brSync b w = true ∧ b.st.phase = .preparing ∧ b.st.batchState = .empty ∧
      b.st.currentBatch = 0 ∧ b.st.observedReplicas = -1 ∧ b.st.updateRevision = "" ∧ sub.curIdx = 1 ∧
      w.updateRevision ≠ w.currentRevision
  | 9 => ∃ sub b, Upgrading s sub b ∧ brSync b w = true ∧ brInit b w = true ∧ b.st.currentBatch = sub.curIdx - 1 ∧
      (b.st.batchState = .empty ∨ b.st.batchState = .upgrading)
  | 10 => ∃ sub b, Upgrading s sub b ∧ brSyncLag b w = true ∧ brInit b w = true ∧ b.st.currentBatch = sub.curIdx - 1 ∧
      b.st.batchState = .verifying ∧ partLow b w = true
  | 11 => ∃ sub b, Upgrading s sub b ∧ brSync b w = true ∧ brInit b w = true ∧ b.st.currentBatch = sub.curIdx - 1 ∧
      b.st.batchState = .verifying ∧ partLow b w = true
  | 12 => ReadySpec s w .upgrade 1
  | 13 => ReadySpec s w .trafficRouting 1
  | 14 => ReadySpec s w .metricsAnalysis 1
  | 16 => ReadySpec s w .ready 1
  | 17 => ReadySpec s w .completed 1
  | 20 => FinSpec s w .empty
  | 21 => FinSpec s w .restoreStableService
  | 22 => FinSpec s w .routeTrafficToStable
  | 23 => FinSpec s w .removeCanaryService
  | 24 => FinSpec s w .resumeWorkload
  | 25 => ∃ sub b, Finalising s sub ∧ sub.finStep = .resumeWorkload ∧ s.br = some b ∧ b.partition = none ∧
      b.st.phase = .finalizing ∧ b.st.updated = w.updated ∧ b.st.updatedReady = w.updatedReady ∧
      b.generation = b.observedGeneration ∧ b.hasFinalizer = true ∧ b.deleting = false ∧ b.policy = "WaitResume" ∧
      b.st.hash ≠ .empty ∧ b.observedRolloutID = b.rolloutID
  | 26 => ∃ sub b, Finalising s sub ∧ sub.finStep = .resumeWorkload ∧ s.br = some b ∧ b.partition = none ∧
      b.st.phase = .completed ∧ b.deleting = false ∧ b.hasFinalizer = true
  | 27 => ∃ sub b, Finalising s sub ∧ sub.finStep = .releaseWorkloadControl ∧ s.br = some b ∧ b.st.phase = .completed ∧
      b.deleting = false ∧ b.hasFinalizer = true
  | 29 => ∃ sub, Finalising s sub ∧ sub.finStep = .releaseWorkloadControl ∧ s.br = none
  | 30 => s.ro.phase = .progressing ∧ s.ro.reason = .completed ∧ s.br = none ∧ s.ro.sub.isSome = true
  | 40 => s.ro.phase = .healthy ∧ w.inProgressAnno = false ∧ s.br = none ∧
      ∃ sub, s.ro.sub = some sub ∧ sub.state ≠ .paused ∧ csObserve s.ro (roWl w) = s.ro
  | _ => False

theorem readyAt_iff (b : CBr) (w : CWl) (k : Int) :
    (brSync b w && brInit b w && b.st.batchState == .ready && b.st.hasReadyTime && b.partition == some k &&
      b.st.currentBatch == k && RV.Oracle.Executor.batchReadyNow (exBr b) (some (exWl w))) = true ↔ ReadyAt b w k := by
  simp only [Bool.and_eq_true, beq_iff_eq]
  constructor
  · rintro ⟨⟨⟨⟨⟨⟨a1, a2⟩, a3⟩, a4⟩, a5⟩, a6⟩, a7⟩
    exact ⟨a1, a2, a3, a4, a5, a6, a7⟩
  · rintro ⟨a1, a2, a3, a4, a5, a6, a7⟩
    exact ⟨⟨⟨⟨⟨⟨a1, a2⟩, a3⟩, a4⟩, a5⟩, a6⟩, a7⟩

theorem Upgrading.not_prev {s : CS} {sub : Sub} {b : CBr} (h : Upgrading s sub b) :
    (b.partition == some (sub.curIdx - 2)) = false := by
  rw [h.part]
  simp only [beq_eq_false_iff_ne, ne_eq, Option.some.injEq]
  omega

theorem ite_cases {c : Prop} [Decidable c] {a b k : Nat} (h : (if c then a else b) = k) : (c ∧ a = k) ∨ (¬ c ∧ b = k) := by
  by_cases hc : c
  · rw [if_pos hc] at h
    exact Or.inl ⟨hc, h⟩
  · rw [if_neg hc] at h
    exact Or.inr ⟨hc, h⟩

theorem of_ite_zero {c : Prop} [Decidable c] {a k : Nat} (h : (if c then a else 0) = k) (h0 : k ≠ 0) : c ∧ a = k :=
  (ite_cases h).elim id (fun hn => absurd hn.2.symm h0)

theorem of_zero_ite {c : Prop} [Decidable c] {a k : Nat} (h : (if c then 0 else a) = k) (h0 : k ≠ 0) : ¬ c ∧ a = k :=
  (ite_cases h).elim (fun hp => absurd hp.2.symm h0) id

theorem cls_spec (s : CS) (k : Nat) (hk : cls s = k) (h0 : k ≠ 0) : ∃ w, s.wl = some w ∧ ClsSpec s w k := by
  unfold cls at hk
  split at hk
  · omega
  rename_i w hw
  refine ⟨w, hw, ?_⟩
  split at hk
  -- Healthy: annotation set (classes 2, 1), else the terminal class 40
  · rename_i hph
    rcases ite_cases hk with ⟨ha, hk⟩ | ⟨ha, hk⟩
    · obtain ⟨hne, hk⟩ := of_zero_ite hk h0
      rcases ite_cases hk with ⟨hg, hk⟩ | ⟨hg, hk⟩
      · subst hk
        exact ⟨hph, ha, by simpa using hne, hg⟩
      · obtain ⟨hu, hk⟩ := of_ite_zero hk h0
        subst hk
        exact ⟨hph, ha, by simpa using hne, hg, hu⟩
    · cases hs : s.ro.sub with
      | none =>
        rw [hs, Bool.and_false, Bool.false_and, if_neg Bool.false_ne_true] at hk
        omega
      | some sub =>
        rw [hs] at hk
        dsimp only at hk
        obtain ⟨hc, hk⟩ := of_ite_zero hk h0
        subst hk
        simp only [Bool.and_eq_true, Option.isNone_iff_eq_none, beq_iff_eq, bne_iff_ne, ne_eq] at hc
        exact ⟨hph, by simpa using ha, hc.1.1, sub, hs, hc.1.2, hc.2⟩
  -- Initializing: class 4
  · rename_i hph hr
    obtain ⟨hc, hk⟩ := of_zero_ite hk h0
    subst hk
    simp only [Bool.or_eq_true, decide_eq_true_eq, beq_iff_eq, not_or] at hc
    exact ⟨hph, hr, hc.1, hc.2⟩
  -- InRolling, by sub-state
  · rename_i hph hr
    split at hk
    · omega
    rename_i sub hs
    have hroll : Rolling s sub := ⟨hph, hr, hs⟩
    split at hk
    -- `BeforeStepUpgrade`: class 5, without / with a BatchRelease
    · rename_i hst
      split at hk
      · rename_i hb
        obtain ⟨hc, hk⟩ := of_ite_zero hk h0
        subst hk
        simp only [Bool.and_eq_true, decide_eq_true_eq, bne_iff_ne, ne_eq] at hc
        exact Or.inl ⟨sub, hroll, hst, hb, hc.1, hc.2⟩
      · rename_i b hb
        obtain ⟨hc, hk⟩ := of_ite_zero hk h0
        subst hk
        exact Or.inr ⟨sub, b, hroll, hst, hb, (readyAt_iff b w _).1 hc⟩
    -- `StepUpgrade`: class 6 without a BatchRelease, 7 on the previous batch, 10, 8, 9, 11, 12 on the batch of the step
    · rename_i hst
      split at hk
      · rename_i hb
        obtain ⟨hc, hk⟩ := of_ite_zero hk h0
        subst hk
        simp only [Bool.and_eq_true, decide_eq_true_eq, bne_iff_ne, ne_eq] at hc
        exact ⟨sub, hroll, hst, hb, hc.1, hc.2⟩
      · rename_i b hb
        rcases ite_cases hk with ⟨hp2, hk⟩ | ⟨_, hk⟩
        · obtain ⟨hc, hk⟩ := of_ite_zero hk h0
          subst hk
          simp only [Bool.and_eq_true, beq_iff_eq] at hc hp2
          obtain ⟨⟨⟨⟨⟨a1, a2⟩, a3⟩, a4⟩, a6⟩, a7⟩ := hc
          exact ⟨sub, b, hroll, hst, hb, a1, a2, a3, a4, hp2, a6, a7⟩
        · obtain ⟨hp1, hk⟩ := of_ite_zero hk h0
          have hup : Upgrading s sub b := ⟨hroll, hst, hb, by simpa using hp1⟩
          rcases ite_cases hk with ⟨hc, hk⟩ | ⟨_, hk⟩
          · subst hk
            simp only [Bool.and_eq_true, beq_iff_eq] at hc
            obtain ⟨⟨⟨⟨a1, a2⟩, a3⟩, a4⟩, a5⟩ := hc
            exact ⟨sub, b, hup, a1, a2, a3, a4, a5⟩
          · obtain ⟨hsync, hk⟩ := of_zero_ite hk h0
            have hsync' : brSync b w = true := by simpa using hsync
            rcases ite_cases hk with ⟨hprep, hk⟩ | ⟨_, hk⟩
            · obtain ⟨hc, hk⟩ := of_ite_zero hk h0
              subst hk
              simp only [Bool.and_eq_true, beq_iff_eq, bne_iff_ne, ne_eq] at hc hprep
              obtain ⟨⟨⟨⟨⟨a1, a2⟩, a3⟩, a4⟩, a5⟩, a6⟩ := hc
              exact ⟨sub, b, hup, hsync', hprep, a1, a2, a3, a4, a5, a6⟩
            · obtain ⟨hin, hk⟩ := of_zero_ite hk h0
              simp only [Bool.or_eq_true, Bool.not_eq_true', bne_iff_ne, ne_eq, not_or, Bool.not_eq_false,
                Decidable.not_not] at hin
              obtain ⟨a2, a3⟩ := hin
              split at hk
              · rename_i hbs
                subst hk
                exact ⟨sub, b, hup, hsync', a2, a3, Or.inl hbs⟩
              · rename_i hbs
                subst hk
                exact ⟨sub, b, hup, hsync', a2, a3, Or.inr hbs⟩
              · rename_i hbs
                obtain ⟨hpl, hk⟩ := of_ite_zero hk h0
                subst hk
                exact ⟨sub, b, hup, hsync', a2, a3, hbs, hpl⟩
              · rename_i hbs
                obtain ⟨hc, hk⟩ := of_ite_zero hk h0
                subst hk
                simp only [Bool.and_eq_true] at hc
                exact ⟨sub, b, hroll, hst, hb, hsync', a2, hbs, hc.1, hup.part, a3, hc.2⟩
              · omega
    -- the later sub-states over a ready batch: classes 13, 14, 16, 17
    iterate 4
      · rename_i hst
        split at hk
        · rename_i b hb
          obtain ⟨hc, hk⟩ := of_ite_zero hk h0
          rw [hst] at hk
          subst hk
          exact ⟨sub, b, hroll, hst, hb, (readyAt_iff b w _).1 hc⟩
        · omega
    · omega
  -- Finalising, by cursor
  · rename_i hph hr
    split at hk
    · omega
    rename_i sub hs
    have hfin : Finalising s sub := ⟨hph, hr, hs⟩
    split at hk
    -- the four Manager cursors: classes 20 – 23
    iterate 4
      · rename_i b hf hb
        obtain ⟨hc, hk⟩ := of_ite_zero hk h0
        rw [hf] at hk
        subst hk
        simp only [Bool.and_eq_true, beq_iff_eq] at hc
        obtain ⟨⟨⟨⟨⟨a1, a2⟩, a3⟩, a4⟩, a5⟩, a6⟩ := hc
        exact ⟨sub, b, hfin, hf, hb, a1, a2, a3, a4, a5, a6⟩
    -- `resumeWorkload`: classes 24, 25, 26
    · rename_i b hf hb
      rcases ite_cases hk with ⟨hp, hk⟩ | ⟨hp, hk⟩
      · obtain ⟨hc, hk⟩ := of_ite_zero hk h0
        subst hk
        simp only [Bool.and_eq_true, beq_iff_eq] at hc
        obtain ⟨⟨⟨⟨a1, a2⟩, a3⟩, a5⟩, a6⟩ := hc
        exact ⟨sub, b, hfin, hf, hb, a1, a2, a3, hp, a5, a6⟩
      · have hp' : b.partition = none := by simpa using hp
        rcases ite_cases hk with ⟨hfz, hk⟩ | ⟨_, hk⟩
        · obtain ⟨hc, hk⟩ := of_ite_zero hk h0
          subst hk
          simp only [Bool.and_eq_true, beq_iff_eq, bne_iff_ne, ne_eq, Bool.not_eq_true'] at hc hfz
          obtain ⟨⟨⟨⟨⟨⟨⟨a1, a2⟩, a3⟩, a4⟩, a5⟩, a6⟩, a7⟩, a8⟩ := hc
          exact ⟨sub, b, hfin, hf, hb, hp', hfz, a1, a2, a3, a4, a5, a6, a7, a8⟩
        · obtain ⟨hcp, hk⟩ := of_ite_zero hk h0
          obtain ⟨hc, hk⟩ := of_ite_zero hk h0
          subst hk
          simp only [Bool.and_eq_true, beq_iff_eq, Bool.not_eq_true'] at hc hcp
          exact ⟨sub, b, hfin, hf, hb, hp', hcp, hc.1, hc.2⟩
    -- `releaseWorkloadControl`: class 27 with the BatchRelease, 29 without
    · rename_i b hf hb
      obtain ⟨hc, hk⟩ := of_ite_zero hk h0
      subst hk
      simp only [Bool.and_eq_true, beq_iff_eq, Bool.not_eq_true'] at hc
      exact ⟨sub, b, hfin, hf, hb, hc.1.1, hc.1.2, hc.2⟩
    · rename_i hf hb
      subst hk
      exact ⟨sub, hfin, hf, hb⟩
    · omega
  -- Completed: class 30
  · rename_i hph hr
    obtain ⟨hc, hk⟩ := of_ite_zero hk h0
    subst hk
    simp only [Bool.and_eq_true, Option.isNone_iff_eq_none] at hc
    exact ⟨hph, hr, hc.1, hc.2⟩
  · omega

theorem cls_of_spec (s : CS) (w : CWl) (k : Nat) (hw : s.wl = some w) (h : ClsSpec s w k) : cls s = k := by
  unfold cls
  rw [hw]
  dsimp only
  unfold ClsSpec at h
  split at h
  -- one bullet per class, in the order of `ClsSpec`: 1, 2, 4, 5, 6, 7, 8, 9, 10, 11, 12
  · obtain ⟨hph, ha, hne, hg, hu⟩ := h
    rw [hph]
    dsimp only
    rw [if_pos ha, if_neg (by simpa using hne), if_neg hg, if_pos hu]
  · obtain ⟨hph, ha, hne, hg⟩ := h
    rw [hph]
    dsimp only
    rw [if_pos ha, if_neg (by simpa using hne), if_pos hg]
  · obtain ⟨hph, hr, hage, hne⟩ := h
    rw [hph, hr]
    dsimp only
    rw [if_neg (by simp [hage, hne])]
  · rcases h with ⟨sub, hroll, hst, hb, hi, hne⟩ | ⟨sub, b, hroll, hst, hb, R⟩
    · simp only [hroll.ph, hroll.re, hroll.sub, hst, hb]
      rw [if_pos (by simp [hi, hne])]
    · simp only [hroll.ph, hroll.re, hroll.sub, hst, hb]
      rw [if_pos ((readyAt_iff b w _).2 R)]
  · obtain ⟨sub, hroll, hst, hb, hi, hne⟩ := h
    simp only [hroll.ph, hroll.re, hroll.sub, hst, hb]
    rw [if_pos (by simp [hi, hne])]
  · obtain ⟨sub, b, hroll, hst, hb, R⟩ := h
    simp only [hroll.ph, hroll.re, hroll.sub, hst, hb]
    rw [if_pos (by rw [R.part]; exact beq_self_eq_true _),
      if_pos (by simp [R.sync, R.init, R.ready, R.time, R.cb, R.now])]
  · obtain ⟨sub, b, hup, hsync, hprep, a1, a2, a3, a4, a5, a6⟩ := h
    simp only [hup.roll.ph, hup.roll.re, hup.roll.sub, hup.st, hup.br]
    rw [hup.not_prev, if_neg Bool.false_ne_true, if_pos (by rw [hup.part]; exact beq_self_eq_true _),
      brSync_not_lag b w hsync, hsync]
    simp [hprep, a1, a2, a3, a4, a5, a6]
  · obtain ⟨sub, b, hup, hsync, hinit, hcb, hbs⟩ := h
    simp only [hup.roll.ph, hup.roll.re, hup.roll.sub, hup.st, hup.br]
    rw [hup.not_prev, if_neg Bool.false_ne_true, if_pos (by rw [hup.part]; exact beq_self_eq_true _),
      brSync_not_lag b w hsync, hsync, hinit, hcb, ((brInit_iff b w).1 hinit).2.2.2]
    rcases hbs with hbs | hbs <;> rw [hbs] <;> simp
  · obtain ⟨sub, b, hup, hlag, hinit, hcb, hbs, hlow⟩ := h
    simp only [hup.roll.ph, hup.roll.re, hup.roll.sub, hup.st, hup.br]
    rw [hup.not_prev, if_neg Bool.false_ne_true, if_pos (by rw [hup.part]; exact beq_self_eq_true _),
      if_pos (by simp [hlag, hinit, hcb, hbs, hlow])]
  · obtain ⟨sub, b, hup, hsync, hinit, hcb, hbs, hlow⟩ := h
    simp only [hup.roll.ph, hup.roll.re, hup.roll.sub, hup.st, hup.br]
    rw [hup.not_prev, if_neg Bool.false_ne_true, if_pos (by rw [hup.part]; exact beq_self_eq_true _),
      brSync_not_lag b w hsync, hsync, hinit, hcb, ((brInit_iff b w).1 hinit).2.2.2, hbs, hlow]
    simp
  · obtain ⟨sub, b, hroll, hst, hb, R⟩ := h
    have hup : Upgrading s sub b := ⟨hroll, hst, hb, R.part⟩
    simp only [hroll.ph, hroll.re, hroll.sub, hst, hb]
    rw [hup.not_prev, if_neg Bool.false_ne_true, if_pos (by rw [R.part]; exact beq_self_eq_true _),
      brSync_not_lag b w R.sync, R.sync, R.init, R.cb, ((brInit_iff b w).1 R.init).2.2.2, R.ready, R.time, R.now]
    simp
  -- 13, 14, 16, 17
  iterate 4
    · obtain ⟨sub, b, hroll, hst, hb, R⟩ := h
      simp only [hroll.ph, hroll.re, hroll.sub, hst, hb]
      rw [if_pos ((readyAt_iff b w _).2 R)]
  -- 20 – 23
  iterate 4
    · obtain ⟨sub, b, hfin, hf, hb, F⟩ := h
      simp only [hfin.ph, hfin.re, hfin.sub, hf, hb]
      rw [if_pos (by simp [F.sync, F.init, F.ready, F.part, F.now, F.le])]
  -- 24, 25, 26, 27, 29, 30, 40
  · obtain ⟨sub, b, hfin, hf, hb, F⟩ := h
    simp only [hfin.ph, hfin.re, hfin.sub, hf, hb]
    rw [if_pos F.part, if_pos (by simp [F.sync, F.init, F.ready, F.now, F.le])]
  · obtain ⟨sub, b, hfin, hf, hb, hp, hfz, a1, a2, a3, a4, a5, a6, a7, a8⟩ := h
    simp only [hfin.ph, hfin.re, hfin.sub, hf, hb]
    rw [if_neg (by rw [hp]; decide), if_pos (by rw [hfz]; rfl), if_pos (by simp [a1, a2, a3, a4, a5, a6, a7, a8])]
  · obtain ⟨sub, b, hfin, hf, hb, hp, hcp, hd, hfz⟩ := h
    simp only [hfin.ph, hfin.re, hfin.sub, hf, hb]
    rw [if_neg (by rw [hp]; decide), if_neg (by rw [hcp]; decide), if_pos (by rw [hcp]; rfl), if_pos (by simp [hd, hfz])]
  · obtain ⟨sub, b, hfin, hf, hb, hcp, hd, hfz⟩ := h
    simp only [hfin.ph, hfin.re, hfin.sub, hf, hb]
    rw [if_pos (by simp [hcp, hd, hfz])]
  · obtain ⟨sub, hfin, hf, hb⟩ := h
    simp only [hfin.ph, hfin.re, hfin.sub, hf, hb]
  · obtain ⟨hph, hr, hb, hs⟩ := h
    simp only [hph, hr]
    rw [if_pos (by simp [hb, hs])]
  · obtain ⟨hph, ha, hb, sub, hs, hst, hobs⟩ := h
    simp only [hph]
    rw [if_neg (by simp [ha]), hb, hs, hobs]
    simp [hst]
  · exact h.elim

theorem cls_spec_of_ne (s : CS) (h : cls s ≠ 0) : ∃ w, s.wl = some w ∧ ClsSpec s w (cls s) := cls_spec s (cls s) rfl h

theorem mu_upgrading (t : CS) (w : CWl) (sub : Sub) (b : CBr) (hw : t.wl = some w) (hup : Upgrading t sub b) :
    mu t = 32 + (t.ro.steps.length - sub.curIdx.toNat) * stepW +
      (match b.st.phase with
       | .empty => 27
       | .preparing => 26
       | .progressing =>
         if b.st.hash ≠ .same then 25
         else match b.st.batchState with
           | .verifying => if b.st.updated ≠ w.updated ∨ b.st.updatedReady ≠ w.updatedReady then 20 else 18
           | .ready => 16
           | _ => 22
       | _ => 29) := by
  rw [mu_rolling t w sub hw hup.roll.ph hup.roll.re hup.roll.sub]
  unfold subRank
  rw [hup.st]
  dsimp only
  unfold brRank
  rw [hup.br]
  dsimp only
  rw [if_neg (fun h => h hup.part)]
  rfl

theorem mu_upgrading_same (t : CS) (w : CWl) (sub : Sub) (b : CBr) (hw : t.wl = some w) (hup : Upgrading t sub b)
    (hph : b.st.phase = .progressing) (hh : b.st.hash = .same) :
    mu t = 32 + (t.ro.steps.length - sub.curIdx.toNat) * stepW +
      (match b.st.batchState with
       | .verifying => if b.st.updated ≠ w.updated ∨ b.st.updatedReady ≠ w.updatedReady then 20 else 18
       | .ready => 16
       | _ => 22) := by
  rw [mu_upgrading t w sub b hw hup, hph]
  dsimp only
  rw [if_neg (fun h => h hh)]

theorem mu_fin_resume (t : CS) (w : CWl) (sub : Sub) (b : CBr) (hw : t.wl = some w) (hfin : Finalising t sub)
    (hf : sub.finStep = .resumeWorkload) (hb : t.br = some b) :
    mu t = 2 + (if b.partition.isSome then 12 else if b.st.phase ≠ .completed then 11 else 10) := by
  rw [mu_fin t w sub hw hfin.ph hfin.re hfin.sub]
  unfold finRank
  rw [hf, hb]

theorem mu_fin_release (t : CS) (w : CWl) (sub : Sub) (hw : t.wl = some w) (hfin : Finalising t sub)
    (hf : sub.finStep = .releaseWorkloadControl) :
    mu t = 2 + (match t.br with | none => 6 | some b => if b.deleting then 7 else 8) := by
  rw [mu_fin t w sub hw hfin.ph hfin.re hfin.sub]
  unfold finRank
  rw [hf]
  rfl

/-- **the position of a class on the path of a healthy rollout.**  The classes of a run without traffic routing are visited
    in a fixed order: 1, 2, 4 before the first step; 5 … 17 on every step (`stepW` for each step still to do); 20 … 30 in the
    clean-up; 40 at rest.  `clsRank` is the place of a class inside its stratum, `clsBase` what the stratum contributes, and the
    measure is a function of the class: `mu s = clsMu n cur (cls s)` (`mu_of_spec`). -/
def clsRank : Nat → Nat
  | 1 => 3 | 2 => 2 | 4 => 0
  | 5 => 40 | 6 => 30 | 7 => 28 | 8 => 26 | 9 => 22 | 10 => 20 | 11 => 18 | 12 => 16 | 13 => 8 | 14 => 6 | 16 => 2 | 17 => 1
  | 20 => 22 | 21 => 20 | 22 => 18 | 23 => 16 | 24 => 14 | 25 => 13 | 26 => 12 | 27 => 10 | 29 => 8 | 30 => 1
  | _ => 0

def clsBase (n : Nat) (cur : Int) (k : Nat) : Nat :=
  if k < 5 then 32 + n * stepW else if k < 20 then 32 + (n - cur.toNat) * stepW else 0

/-- the measure of a state of class `k` with `n` steps, on step `cur` -/
def clsMu (n : Nat) (cur : Int) (k : Nat) : Nat := clsBase n cur k + clsRank k

/-- the step the rollout is on; 0 without a sub-status -/
def curOf (s : CS) : Int := match s.ro.sub with | some sub => sub.curIdx | none => 0

theorem curOf_eq {s : CS} {sub : Sub} (h : s.ro.sub = some sub) : curOf s = sub.curIdx := by
  unfold curOf; rw [h]

theorem clsMu_lt {n : Nat} {cur cur' : Int} {k k' : Nat} (hb : clsBase n cur' k' = clsBase n cur k) (hr : clsRank k' < clsRank k) :
    clsMu n cur' k' < clsMu n cur k := by
  unfold clsMu; omega

theorem clsBase_step {n : Nat} {cur : Int} {k : Nat} (h : k < 20) : 32 ≤ clsBase n cur k := by
  unfold clsBase
  split <;> omega

theorem clsBase_fin {n : Nat} {cur : Int} {k : Nat} (h : 20 ≤ k) : clsBase n cur k = 0 := by
  unfold clsBase
  rw [if_neg (by omega), if_neg (by omega)]

theorem clsMu_lt_step {n : Nat} {cur : Int} {k k' : Nat} (h' : 5 ≤ k' ∧ k' < 20) (h : 5 ≤ k ∧ k < 20)
    (hr : clsRank k' < clsRank k) : clsMu n cur k' < clsMu n cur k := by
  refine clsMu_lt ?_ hr
  unfold clsBase
  rw [if_neg (by omega), if_pos h'.2, if_neg (by omega), if_pos h.2]

theorem clsMu_lt_fin {n : Nat} {cur cur' : Int} {k k' : Nat} (h' : 20 ≤ k') (h : 20 ≤ k) (hr : clsRank k' < clsRank k) :
    clsMu n cur' k' < clsMu n cur k := by
  unfold clsMu
  rw [clsBase_fin h', clsBase_fin h]
  omega

/-! the three edges that change stratum: into step 1, into the next step, into the clean-up -/

theorem clsMu_first_step {n : Nat} {cur : Int} (hn : 0 < n) : clsMu n 1 5 < clsMu n cur 4 := by
  show 32 + (n - (1 : Int).toNat) * 64 + 40 < 32 + n * 64 + 0
  omega

theorem clsMu_to_cleanup {n : Nat} {cur cur' : Int} : clsMu n cur' 20 < clsMu n cur 17 := by
  show 0 + 22 < 32 + (n - cur.toNat) * 64 + 1
  omega

theorem clsMu_next_step {n : Nat} {cur : Int} (h1 : 1 ≤ cur) (h2 : cur < n) : clsMu n (cur + 1) 5 < clsMu n cur 16 := by
  show 32 + (n - (cur + 1).toNat) * 64 + 40 < 32 + (n - cur.toNat) * 64 + 2
  omega

/-! where the marks of `polInv` (32) and `doneInv` (12, 1) fall on the path -/

theorem clsMu_le_of_fin {n : Nat} {cur : Int} {k : Nat} (h : 20 ≤ k) : clsMu n cur k ≤ 22 := by
  have hr : clsRank k ≤ 22 := by
    unfold clsRank
    split <;> omega
  unfold clsMu
  rw [clsBase_fin h]
  omega

theorem clsMu_gt_twelve {n : Nat} {cur : Int} {k : Nat} (h : k < 26) : 12 < clsMu n cur k := by
  by_cases h20 : k < 20
  · have := clsBase_step (n := n) (cur := cur) h20
    unfold clsMu
    omega
  · have : k = 20 ∨ k = 21 ∨ k = 22 ∨ k = 23 ∨ k = 24 ∨ k = 25 := by omega
    rcases this with rfl | rfl | rfl | rfl | rfl | rfl <;> exact Nat.lt_add_left _ (by decide)

-- 28 is no class (`ClsSpec _ _ 28 = False`) and `clsRank 28 = 0`
theorem clsMu_gt_one {n : Nat} {cur : Int} {k : Nat} (h : k < 30) (h28 : k ≠ 28) : 1 < clsMu n cur k := by
  by_cases h26 : k < 26
  · have := clsMu_gt_twelve (n := n) (cur := cur) h26
    omega
  · have : k = 26 ∨ k = 27 ∨ k = 29 := by omega
    rcases this with rfl | rfl | rfl <;> exact Nat.lt_add_left _ (by decide)

theorem mu_sub (s : CS) (w : CWl) (sub : Sub) (hw : s.wl = some w) (h : Rolling s sub) :
    mu s = 32 + (s.ro.steps.length - (curOf s).toNat) * stepW + subRank s sub w := by
  rw [mu_rolling s w sub hw h.ph h.re h.sub, curOf_eq h.sub]

theorem mu_ready (s : CS) (w : CWl) (st : StepState) (r : Nat) (hw : s.wl = some w) (h : ReadySpec s w st 1)
    (hr : ∀ sub, sub.state = st → subRank s sub w = r) :
    mu s = 32 + (s.ro.steps.length - (curOf s).toNat) * stepW + r := by
  obtain ⟨sub, b, hroll, hst, hb, R⟩ := h
  rw [mu_sub s w sub hw hroll, hr sub hst]

theorem mu_of_spec (s : CS) (w : CWl) (k : Nat) (hw : s.wl = some w) (h : ClsSpec s w k) :
    mu s = clsMu s.ro.steps.length (curOf s) k := by
  unfold ClsSpec at h
  split at h
  · obtain ⟨hph, ha, _, hg, _⟩ := h
    rw [mu_healthy s w hw hph, if_pos ha, if_neg hg]; rfl
  · obtain ⟨hph, ha, _, hg⟩ := h
    rw [mu_healthy s w hw hph, if_pos ha, if_pos hg]; rfl
  · obtain ⟨hph, hr, hage, _⟩ := h
    rw [mu_initializing s w hw hph hr, if_neg hage]; rfl
  · rcases h with ⟨sub, hroll, hst, _⟩ | ⟨sub, b, hroll, hst, _⟩
    · rw [mu_sub s w sub hw hroll]; unfold subRank; rw [hst]; rfl
    · rw [mu_sub s w sub hw hroll]; unfold subRank; rw [hst]; rfl
  · obtain ⟨sub, hroll, hst, hb, _⟩ := h
    rw [mu_sub s w sub hw hroll]; unfold subRank brRank; rw [hst, hb]; rfl
  · obtain ⟨sub, b, hroll, hst, hb, R⟩ := h
    rw [mu_sub s w sub hw hroll]; unfold subRank brRank; rw [hst, hb]
    dsimp only
    rw [if_pos (by rw [R.part]; intro hx; have := Option.some.inj hx; omega)]; rfl
  · obtain ⟨sub, b, hup, _, hprep, _⟩ := h
    rw [mu_upgrading s w sub b hw hup, hprep, curOf_eq hup.roll.sub]; rfl
  · obtain ⟨sub, b, hup, hsync, hinit, _, hbs⟩ := h
    rw [mu_upgrading_same s w sub b hw hup ((brInit_iff b w).1 hinit).2.2.2 ((brSync_iff b w).1 hsync).2.hash,
      curOf_eq hup.roll.sub]
    rcases hbs with e | e <;> rw [e] <;> rfl
  · obtain ⟨sub, b, hup, hlag, hinit, _, hbs, _⟩ := h
    rw [mu_upgrading_same s w sub b hw hup ((brInit_iff b w).1 hinit).2.2.2 ((brSyncLag_iff b w).1 hlag).2.hash,
      curOf_eq hup.roll.sub, hbs]
    dsimp only
    rw [if_pos ((brSyncLag_iff b w).1 hlag).1]; rfl
  · obtain ⟨sub, b, hup, hsync, hinit, _, hbs, _⟩ := h
    obtain ⟨⟨u1, u2⟩, hc⟩ := (brSync_iff b w).1 hsync
    rw [mu_upgrading_same s w sub b hw hup ((brInit_iff b w).1 hinit).2.2.2 hc.hash, curOf_eq hup.roll.sub, hbs]
    dsimp only
    rw [if_neg (fun hh => hh.elim (fun hh => hh u1) (fun hh => hh u2))]; rfl
  · obtain ⟨sub, b, hroll, hst, hb, R⟩ := h
    rw [mu_upgrading_same s w sub b hw ⟨hroll, hst, hb, R.part⟩ ((brInit_iff b w).1 R.init).2.2.2
      ((brSync_iff b w).1 R.sync).2.hash, curOf_eq hroll.sub, R.ready]; rfl
  · exact mu_ready s w _ 8 hw h (fun sub hst => by unfold subRank; rw [hst])
  · exact mu_ready s w _ 6 hw h (fun sub hst => by unfold subRank; rw [hst])
  · exact mu_ready s w _ 2 hw h (fun sub hst => by unfold subRank; rw [hst])
  · exact mu_ready s w _ 1 hw h (fun sub hst => by unfold subRank; rw [hst])
  iterate 4
    · obtain ⟨sub, b, hfin, hf, _⟩ := h
      rw [mu_fin s w sub hw hfin.ph hfin.re hfin.sub]; unfold finRank; rw [hf]; rfl
  · obtain ⟨sub, b, hfin, hf, hb, F⟩ := h
    rw [mu_fin_resume s w sub b hw hfin hf hb, if_pos F.part]; rfl
  · obtain ⟨sub, b, hfin, hf, hb, hp, hfz, _⟩ := h
    rw [mu_fin_resume s w sub b hw hfin hf hb, hp, hfz]; rfl
  · obtain ⟨sub, b, hfin, hf, hb, hp, hcp, _⟩ := h
    rw [mu_fin_resume s w sub b hw hfin hf hb, hp, hcp]; rfl
  · obtain ⟨sub, b, hfin, hf, hb, _, hd, _⟩ := h
    rw [mu_fin_release s w sub hw hfin hf, hb]; dsimp only; rw [hd]; rfl
  · obtain ⟨sub, hfin, hf, hb⟩ := h
    rw [mu_fin_release s w sub hw hfin hf, hb]; rfl
  · obtain ⟨hph, hr, _⟩ := h
    rw [mu_completed s w hw hph hr]; rfl
  · obtain ⟨hph, ha, _⟩ := h
    rw [mu_healthy s w hw hph, ha]; rfl
  · exact h.elim

/-- the executor has let go of the CloneSet -/
structure Released (w : CWl) : Prop where
  part : w.partition = none
  unp : w.paused = false
  own : w.owner = .none

theorem doneInv_iff (s : CS) (w : CWl) (hw : s.wl = some w) :
    doneInv s = true ↔ (mu s ≤ 12 → Released w) ∧ (mu s ≤ 1 → s.ro.succeeded = some true) := by
  unfold doneInv
  rw [hw]
  simp only [Bool.and_eq_true, Bool.or_eq_true, decide_eq_true_eq, Option.isNone_iff_eq_none, Bool.not_eq_true', beq_iff_eq]
  constructor
  · rintro ⟨h1, h2⟩
    exact ⟨fun h => (h1.resolve_left (by omega)).elim fun a c => ⟨a.1, a.2, c⟩, fun h => h2.resolve_left (by omega)⟩
  · rintro ⟨h1, h2⟩
    refine ⟨?_, ?_⟩
    · by_cases h : 12 < mu s
      · exact Or.inl h
      · exact Or.inr ⟨⟨(h1 (by omega)).part, (h1 (by omega)).unp⟩, (h1 (by omega)).own⟩
    · by_cases h : 1 < mu s
      · exact Or.inl h
      · exact Or.inr (h2 (by omega))

theorem polInv_iff (s : CS) : polInv s = true ↔ ∀ b, s.br = some b → 32 < mu s → b.policy = "" := by
  unfold polInv
  cases s.br with
  | none => exact ⟨fun _ b hb => (by cases hb), fun _ => rfl⟩
  | some b =>
    simp only [Bool.or_eq_true, decide_eq_true_eq, beq_iff_eq, Option.some.injEq, forall_eq']
    exact ⟨fun h hmu => h.resolve_left (by omega), fun h => (Nat.lt_or_ge 32 (mu s)).elim (fun hmu => Or.inr (h hmu)) Or.inl⟩

/-- a state of class `k`: the three carried invariants, its workload, and what the class says -/
structure Inv (s : CS) (w : CWl) (k : Nat) : Prop where
  live : liveInv s = true
  done : doneInv s = true
  pol : polInv s = true
  wl : s.wl = some w
  spec : ClsSpec s w k

/-- before the BatchRelease has completed `doneInv` says nothing -/
theorem Inv.of_step {s : CS} {w : CWl} {k : Nat} (h : liveInv s = true) (hp : polInv s = true) (hw : s.wl = some w)
    (hs : ClsSpec s w k) (hk : k < 26) : Inv s w k := by
  refine ⟨h, ?_, hp, hw, hs⟩
  have := clsMu_gt_twelve (n := s.ro.steps.length) (cur := curOf s) hk
  rw [doneInv_iff s w hw, mu_of_spec s w k hw hs]
  exact ⟨fun h => absurd h (by omega), fun h => absurd h (by omega)⟩

/-- before the clean-up and above the bottom of its stratum (all classes below 20 but 4) `32 < mu`, so `polInv` gives the policy
    `createBatchRelease` writes -/
theorem Inv.policy {s : CS} {w : CWl} {k : Nat} {b : CBr} (I : Inv s w k) (hb : s.br = some b) (hk : k < 20)
    (hr : 0 < clsRank k) : b.policy = "" := by
  refine (polInv_iff s).1 I.pol b hb ?_
  rw [mu_of_spec s w k I.wl I.spec]
  have := clsBase_step (n := s.ro.steps.length) (cur := curOf s) hk
  unfold clsMu
  omega

/-- once the BatchRelease has completed (classes 26 –) the CloneSet is released -/
theorem Inv.released {s : CS} {w : CWl} {k : Nat} (I : Inv s w k) (hk : 20 ≤ k) (hr : clsRank k ≤ 12) : Released w := by
  refine ((doneInv_iff s w I.wl).1 I.done).1 ?_
  rw [mu_of_spec s w k I.wl I.spec]
  unfold clsMu
  rw [clsBase_fin hk]
  omega

/-- after the clean-up (classes 30, 40) the release is recorded as succeeded -/
theorem Inv.succeeded {s : CS} {w : CWl} {k : Nat} (I : Inv s w k) (hk : 20 ≤ k) (hr : clsRank k ≤ 1) :
    s.ro.succeeded = some true := by
  refine ((doneInv_iff s w I.wl).1 I.done).2 ?_
  rw [mu_of_spec s w k I.wl I.spec]
  unfold clsMu
  rw [clsBase_fin hk]
  omega

/-- what a class theorem concludes: the round from `s` is defined (no reconciler panics), leads to a state of the three
    invariants in class `k'`, and has decreased the measure -/
def LandsIn (s : CS) (k' : Nat) : Prop :=
  ∃ s', round s = some s' ∧ liveInv s' = true ∧ doneInv s' = true ∧ polInv s' = true ∧ mu s' < mu s ∧ cls s' = k'

/-- a round from class `k` that ends in class `k'`, further along the path, on the same plan, re-establishes the three
    invariants and has decreased the measure.  `hpol`: on a step the policy is still the empty one; `hdone`: from the completion
    of the BatchRelease on the CloneSet is released, and after the clean-up (classes 30, 40) the release is recorded as
    succeeded. -/
theorem lands {s t : CS} {w w' : CWl} {k k' : Nat} (I : Inv s w k) (hround : round s = some t) (hw' : t.wl = some w')
    (hs' : ClsSpec t w' k') (hk' : k' ≠ 0) (hlive : cls t ≠ 0 → liveInv t = true) (hn : t.ro.steps = s.ro.steps)
    (hlt : clsMu s.ro.steps.length (curOf t) k' < clsMu s.ro.steps.length (curOf s) k)
    (hpol : k' < 20 → ∀ b, t.br = some b → b.policy = "")
    (hdone : 26 ≤ k' → Released w' ∧ (30 ≤ k' → t.ro.succeeded = some true)) : LandsIn s k' := by
  have hmu' := mu_of_spec t w' k' hw' hs'
  rw [hn] at hmu'
  have hc := cls_of_spec t w' k' hw' hs'
  have h26 : mu t ≤ 12 → 26 ≤ k' := fun h =>
    Nat.le_of_not_lt fun hlt => absurd (clsMu_gt_twelve (n := s.ro.steps.length) (cur := curOf t) hlt) (by omega)
  refine ⟨t, hround, hlive (by rw [hc]; exact hk'), ?_, ?_, by rw [hmu', mu_of_spec s w k I.wl I.spec]; exact hlt, hc⟩
  · rw [doneInv_iff t w' hw']
    refine ⟨fun h => (hdone (h26 h)).1, fun h => (hdone (h26 (by omega))).2 (Nat.le_of_not_lt fun hlt => ?_)⟩
    have := clsMu_gt_one (n := s.ro.steps.length) (cur := curOf t) hlt (fun e => by subst e; exact hs')
    omega
  · rw [polInv_iff t]
    intro b hb hmu
    refine hpol (Nat.lt_of_not_le fun h20 => ?_) b hb
    have := clsMu_le_of_fin (n := s.ro.steps.length) (cur := curOf t) h20
    omega

end RV.Lemmas.ClosedLoop
