/-
  Shared vocabulary of the closed-loop lemmas: what is assumed about a rollout / its sub-status when a reconcile
  starts, and how one reconcile may change the BatchRelease.
-/
import RV.Lemmas.ReconcileFrame
namespace RV.Lemmas.ClosedLoop
open RV.Arith RV.Traffic RV.RolloutSM RV.Props.Reconcile

/-- the rollouts the forward theorems speak about: live, enabled, un-paused canary rollout in partition style with a
    non-empty plan, carrying the controller's finalizer -/
structure RoGood (ro : Rollout) : Prop where
  notDeleting : ro.deleting = false
  fin : ro.hasFinalizer = true
  enabled : ro.disabled = false
  unpaused : ro.paused = false
  canary : ro.style = .canary
  partitionStyle : ro.realPartition = true
  steps : ro.steps ≠ []

/-- a reconcile leaves the user's configuration (and the finalizer) alone -/
def SpecKept (a b : Rollout) : Prop := Same a b ∧ b.hasFinalizer = a.hasFinalizer

theorem SpecKept.good {a b : Rollout} (h : SpecKept a b) (g : RoGood a) : RoGood b :=
  ⟨h.1.deleting.trans g.notDeleting, h.2.trans g.fin, h.1.disabled.trans g.enabled, h.1.paused.trans g.unpaused,
    h.1.style.trans g.canary, h.1.realPartition.trans g.partitionStyle, by rw [h.1.steps]; exact g.steps⟩

/-- the sub-status of a rolling rollout: inside the plan, no jump request, a recorded last-update time, the plan hash
    observed, the revision being released is the workload's, the clean-up cursor unset -/
structure SubGood (ro : Rollout) (s : Sub) (rev : String) : Prop where
  lo : 1 ≤ s.curIdx
  hi : s.curIdx ≤ ro.steps.length
  next : s.nextIdx = nextBatchIndex ro.steps.length s.curIdx
  lu : s.lastUpdate ≠ .none
  hash : s.hash = .same
  rev : s.canaryRev = rev
  fin : s.finStep = .empty

/-- what one round of the release manager may do to the BatchRelease (as the Rollout controller sees it) while the
    rollout is on step `cur`: nothing; create it for this step; patch its rollout-id; rewrite its plan for this step -/
inductive BrRoll (ro : Rollout) (cur : Int) (id : String) : Option BR → Option BR → Prop
  | same (br : Option BR) : BrRoll ro cur id br br
  | created : BrRoll ro cur id none (some (desiredBR ro id (cur - 1) false))
  | kept (b b' : BR) : b'.deleting = b.deleting → b'.batches = b.batches → b'.partition = b.partition →
      b'.rollbackAnno = b.rollbackAnno → BrRoll ro cur id (some b) (some b')
  | updated (b b' : BR) : b'.deleting = b.deleting → b'.batches = ro.steps.map (·.replicas) → b'.partition = some (cur - 1) →
      b'.rollbackAnno = false → BrRoll ro cur id (some b) (some b')

/-- what one clean-up round may do to the BatchRelease: nothing; resume it (batch partition removed); mark it for deletion -/
inductive BrFin : Option BR → Option BR → Prop
  | same (br : Option BR) : BrFin br br
  | changed (b b' : BR) : b'.batches = b.batches → b'.rollbackAnno = b.rollbackAnno → b'.phaseCompleted = b.phaseCompleted →
      (b'.partition = b.partition ∨ b'.partition = none) → (b'.deleting = b.deleting ∨ b'.deleting = true) →
      BrFin (some b) (some b')

end RV.Lemmas.ClosedLoop
