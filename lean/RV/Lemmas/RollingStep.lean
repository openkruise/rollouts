/-
  How the sub-state of a rolling rollout moves in one reconcile (`rolling_moves`): by the rollback-in-batch restart (to
  `BeforeStepUpgrade`), by the plan-changed branch (to `StepReady`, or wherever `doCanaryJump` lands), or by the release manager's
  `runCanary` on a context that is the world's own up to the status fields a reconcile refreshes first: finalizer, phase,
  Terminating reason, observed rollout-id and generation, corrected next index (`newStatus`, explicit in the statement). Theorems about
  one kind of move exclude the first two and are left with that `runCanary` round (`reconcile_progress`: the moves out of
  `BeforeStepUpgrade` / `StepUpgrade`).
-/
import RV.Lemmas.ReconcileFrame
namespace RV.Props.Rollout
open RV.Arith RV.Traffic RV.RolloutSM RV.Oracle.RolloutSM RV.Props.Reconcile

theorem rolling_moves {w : World} {r : StepResult} {os s' : Sub} (h : reconcile w = .val r)
    (hnow : inRollingNow w.ro = true) (hos : w.ro.sub = some os) (hs' : r.w.ro.sub = some s') (hne : s'.state ≠ os.state) :
    s'.state = .init ∨
    (os.hash = .differs ∧ (s'.state = .ready ∨ s'.state = .trafficRouting ∧ Upgraded os.state)) ∨
    ∃ (wl : WL) (nx : Int) (c' : Ctx) (err : Bool) (f : FinStep),
      w.wl = some wl ∧ wl.consistent = true ∧
      runCanary (toCtx { w with ro := newStatus w.ro (liveSub w.ro wl os) } { liveSub w.ro wl os with nextIdx := nx } wl) =
        .ok c' err ∧
      s' = { c'.sub with finStep := f } ∧ r.w.net = c'.net := by
  rcases reconcile_rolling h hnow hos with e | ⟨f, e⟩ | ⟨wl, r0, hw, hcons, he0, hir, rfl⟩
  · cases e.symm.trans hs'
  · cases e.symm.trans hs'; exact (hne rfl).elim
  · obtain ⟨s0, h0, rfl⟩ := land_sub he0 hs'
    have hdiff : PlanChanged os → os.hash = .differs := fun hh => by
      cases hd : os.hash
      · exact (hh.1 hd).elim
      · exact (hh.2 hd).elim
      · rfl
    cases inRolling_move hir rfl h0 with
    | keep _ _ _ hst => exact (hne hst).elim
    | rollbackInBatch => exact Or.inl rfl
    | planSame os' ho hh => cases hos.symm.trans ho; exact Or.inr (Or.inl ⟨hdiff hh, Or.inl rfl⟩)
    | planJump os' ho hh _ _ j hj =>
      cases hos.symm.trans ho
      cases j with
      | false => cases (doCanaryJump_false hj).1; exact (hne rfl).elim
      | true => exact (jump_lands hj).elim Or.inl fun hl => Or.inr (Or.inl ⟨hdiff hh, Or.inr hl⟩)
    | run _ _ _ _ _ c err hrun hw' =>
      rw [fixNext_frame] at hrun
      refine Or.inr (Or.inr ⟨wl, _, c, err, _, hw, hcons, hrun, rfl, ?_⟩)
      rw [land_net, hw']; rfl

/-- a reconcile that takes a rolling rollout from `BeforeStepUpgrade` / `StepUpgrade` to a later sub-state of the upgrade is a round of
    the release manager on the context `rolling_moves` names: the world's own up to the status fields a reconcile refreshes first -/
theorem reconcile_progress {w : World} {r : StepResult} {os s' : Sub} {wl : WL} (h : reconcile w = .val r)
    (hos : w.ro.sub = some os) (hs' : r.w.ro.sub = some s') (hw : w.wl = some wl) (hnow : inRollingNow w.ro = true)
    (hfrom : os.state = .init ∨ os.state = .upgrade)
    (hleft : s'.state = .upgrade ∨ s'.state = .trafficRouting ∨ s'.state = .metricsAnalysis) (hne : s'.state ≠ os.state) :
    ∃ (nx : Int) (c' : Ctx) (err : Bool) (f : FinStep),
      runCanary (toCtx { w with ro := newStatus w.ro (liveSub w.ro wl os) } { liveSub w.ro wl os with nextIdx := nx } wl) =
        .ok c' err ∧
      s' = { c'.sub with finStep := f } ∧ r.w.net = c'.net := by
  rcases rolling_moves h hnow hos hs' hne with
    h1 | ⟨_, h1 | ⟨_, hup⟩⟩ | ⟨wl', nx, c', err, f, hw', _, hrun, hsub, hnet⟩
  · rw [h1] at hleft; simp at hleft
  · rw [h1] at hleft; simp at hleft
  · -- a plan-change jump reaches `StepTrafficRouting` only from a step whose pods were ready
    unfold Upgraded at hup
    rcases hfrom with hf | hf <;> rw [hf] at hup <;> simp at hup
  · cases hw.symm.trans hw'
    exact ⟨nx, c', err, f, hrun, hsub, hnet⟩

end RV.Props.Rollout
