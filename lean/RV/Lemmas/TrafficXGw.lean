import RV.Lemmas.TrafficXAtomic
import RV.Props.C13
/-!
The Gateway API provider (`RV.TrafficX.gwProvider`, over `RV/Model/Gateway.lean`) satisfies the provider
laws: its two calls are atomic around the route builders (`gwRun_atomic`), whose laws are the C13 lemmas
`step_preserves`, `step_idem`, `canaryFree_finaliseRules`, `finaliseRules_idem`.
-/
namespace RV.TrafficX
open RV.Gateway RV.Oracle.C13 RV.Oracle.TrafficX

theorem gwStep_weight (s : Strat) : (gwStep s).weight = s.weight := by
  unfold gwStep Step.weight Strat.weight
  cases s.traffic <;> rfl

/-- what `EnsureRoutes` and `Finalise` of the Gateway provider share: `Get` the route and run the builder (`r` is
    its verdict); when the route has to change (`update`), `Get` it again inside `RetryOnConflict` and `Update` it.
    `idle` is the flag of a call that finds nothing to change (`EnsureRoutes`: verified, `Finalise`: not modified). -/
def gwRun (a : Api) (st : Option (List Rule)) (r : CallRes) (update idle : Bool) : PRes (Option (List Rule)) :=
  if a.read.1 then ⟨st, false, true, a.read.2, [], false⟩
  else if r.err = "panic" then ⟨st, false, false, a.read.2, [], true⟩
  else if r.err ≠ "ok" then ⟨st, false, true, a.read.2, [], false⟩
  else if !update then ⟨st, idle, false, a.read.2, [], false⟩
  else if a.read.2.read.1 then ⟨st, false, true, a.read.2.read.2, [], false⟩
  else
    match a.read.2.read.2.spend with
    | none => ⟨st, false, true, a.read.2.read.2, [], false⟩
    | some a1 => ⟨r.store, !idle, false, a1, ["updateRoute"], false⟩

theorem gw_ensure_eq (c : Conf) (a : Api) (st : Option (List Rule)) (s : Strat) :
    (gwProvider c).ensure a st s =
      gwRun a st (ensureRoutes c st (gwStep s)) (!(ensureRoutes c st (gwStep s)).ret) true := by
  simp only [gwRun, Bool.not_not, Bool.not_true]
  rfl

theorem gw_finalise_eq (c : Conf) (a : Api) (st : Option (List Rule)) :
    (gwProvider c).finalise a st = gwRun a st (finalise c st) (finalise c st).ret false := by
  simp only [gwRun, Bool.not_false]
  rfl

/-- the plan behind `gwRun` -/
def gwPlan (st : Option (List Rule)) (r : CallRes) (update idle : Bool) : Plan (Option (List Rule)) :=
  if r.err = "panic" then ⟨st, false, false, true, true⟩
  else if r.err ≠ "ok" then ⟨st, false, true, false, true⟩
  else if update then ⟨r.store, !idle, false, false, false⟩
  else ⟨st, idle, false, false, true⟩

theorem gwRun_atomic (a : Api) (st : Option (List Rule)) (r : CallRes) (update idle : Bool) :
    Atomic a st (gwPlan st r update idle) (gwRun a st r update idle) := by
  by_cases hp : r.err = "panic"
  · simp only [gwRun, gwPlan, hp, if_true]
    exact .read_ite (.idle ..)
  by_cases hok : r.err = "ok"
  · cases update
    · simp only [gwRun, gwPlan, hok, ne_eq, not_true_eq_false, if_false, Bool.not_false, if_true, Bool.false_eq_true]
      exact .read_ite (.idle ..)
    · simp only [gwRun, gwPlan, hok, ne_eq, not_true_eq_false, if_false, Bool.not_true, if_true, Bool.false_eq_true]
      exact .read_ite (.read_ite (.write _ st rfl (.cons (by decide) .nil)))
  · simp only [gwRun, gwPlan, hp, hok, ne_eq, not_false_eq_true, if_false, if_true]
    exact .read_ite (.idle ..)

/-- invariant of the stored route: two different Service names, and a route of reachable shape -/
def gwInv (c : Conf) (st : Option (List Rule)) : Prop :=
  confOk c = true ∧ ∀ r, st = some r → inv c r = true

/-- rounds still needed: 1 while the stored route is not what the builder wants -/
def gwMu (c : Conf) (st : Option (List Rule)) (s : Strat) : Nat :=
  match st with
  | none => 0
  | some r => if buildDesired c r s.weight s.mts = .ok r then 0 else 1

theorem gwClause_of_fixed {c : Conf} (hc : confOk c = true) {r : List Rule} (hi : inv c r = true) (s : Strat)
    (hb : buildDesired c r s.weight s.mts = .ok r) : gwClauseB c s r = true := by
  unfold gwClauseB
  rcases step_cases s.weight s.mts with hw | ⟨hw, hm⟩ | ⟨hw, hm⟩ | ⟨v, hw, hv, hm⟩
  · obtain ⟨out, h1, h2⟩ := RV.Props.C13.finalise_step c hc r hi s.mts
    rw [hw, h1] at hb
    cases hb
    simp [hw, h2]
  · obtain ⟨out, h1, h2⟩ := RV.Props.C13.match_step c hc r s.weight hw s.mts hm
    rw [h1] at hb
    cases hb
    simp [hw, hm, h2]
  · simp [hw, hm]
  · obtain ⟨out, h1, h2⟩ := RV.Props.C13.weight_step c hc r v hv
    rw [hw, hm, h1] at hb
    cases hb
    have : ¬ v = -1 := hv
    simp [hw, hm, this, h2]

theorem gwClean_finalised {c : Conf} (hc : confOk c = true) {r : List Rule} (hi : inv c r = true) :
    gwCleanB c (some (finaliseRules c r)) = true := by
  have hne := RV.Gateway.ne_of_confOk hc
  simp [gwCleanB, canaryFree_finaliseRules hne hi, step_idem hne hi (buildDesired_finalise c r [])]

/-- the plan of `EnsureRoutes`: a builder error or panic; the stored route is what the builder wants; or it is not -/
theorem gwEnsurePlan_cases (c : Conf) (st : Option (List Rule)) (s : Strat) :
    let p := gwPlan st (ensureRoutes c st (gwStep s)) (!(ensureRoutes c st (gwStep s)).ret) true
    (p.g = st ∧ p.flag = false ∧ (p.err = true ∨ p.panic = true)) ∨
    (∃ r, st = some r ∧ buildDesired c r s.weight s.mts = .ok r ∧ p = ⟨st, true, false, false, true⟩) ∨
    (∃ r d, st = some r ∧ buildDesired c r s.weight s.mts = .ok d ∧ r ≠ d ∧ p = ⟨some d, false, false, false, false⟩) := by
  intro p
  by_cases hok : (ensureRoutes c st (gwStep s)).err = "ok"
  · obtain ⟨r, d, rfl, hb, hret, hs⟩ := ensureRoutes_ok_inv hok
    replace hb : buildDesired c r s.weight s.mts = .ok d := gwStep_weight s ▸ hb
    by_cases hrd : r = d
    · subst hrd
      exact .inr (.inl ⟨r, rfl, hb, by simp [p, gwPlan, hok, hret]⟩)
    · exact .inr (.inr ⟨r, d, rfl, hb, hrd, by simp [p, gwPlan, hok, hret, hrd, hs]⟩)
  · left
    by_cases hp : (ensureRoutes c st (gwStep s)).err = "panic" <;> simp [p, gwPlan, hok, hp]

/-- the plan of `Finalise`: nothing to remove, or the finalised rules -/
theorem gwFinalisePlan_cases (c : Conf) (st : Option (List Rule)) :
    (gwPlan st (finalise c st) (finalise c st).ret false = ⟨st, false, false, false, true⟩ ∧
      ∀ r, st = some r → r = finaliseRules c r) ∨
    ∃ r, st = some r ∧ gwPlan st (finalise c st) (finalise c st).ret false =
      ⟨some (finaliseRules c r), true, false, false, false⟩ := by
  obtain ⟨hok, hfin⟩ := finalise_cases c st
  rcases hfin with ⟨h, hfix⟩ | ⟨r, rfl, h, hs⟩
  · exact .inl ⟨by simp [gwPlan, hok, h], hfix⟩
  · exact .inr ⟨r, rfl, by simp [gwPlan, hok, h, hs]⟩

/-- **the Gateway API provider is lawful** (C13: `step_preserves`, `step_idem`, `weight_step`, `match_step`,
    `finalise_step`): on routes of reachable shape, with two different Service names. -/
theorem gw_lawful (c : Conf) :
    LawfulProvider (gwProvider c) (gwInv c) (fun st s => gwSpecB c s st = true) (fun st => gwCleanB c st = true)
      (gwMu c) 1 := by
  refine .of_atomic
    (fun st s => gwPlan st (ensureRoutes c st (gwStep s)) (!(ensureRoutes c st (gwStep s)).ret) true)
    (fun st => gwPlan st (finalise c st) (finalise c st).ret false)
    (fun a st s => gw_ensure_eq c a st s ▸ gwRun_atomic ..) (fun a st => gw_finalise_eq c a st ▸ gwRun_atomic ..)
    ?inv_e ?inv_f ?strict ?fin ?progress ?μ_le
  case inv_e =>
    intro st s ⟨hc, hi⟩
    refine ⟨hc, ?_⟩
    rcases gwEnsurePlan_cases c st s with ⟨e, _⟩ | ⟨_, _, _, e⟩ | ⟨r, d, rfl, hb, _, e⟩ <;> rw [e]
    · exact hi
    · exact hi
    · intro r' hr'; cases hr'
      exact (step_preserves (RV.Gateway.ne_of_confOk hc) (hi r rfl) hb).1
  case inv_f =>
    intro st ⟨hc, hi⟩
    refine ⟨hc, ?_⟩
    rcases gwFinalisePlan_cases c st with ⟨e, _⟩ | ⟨r, rfl, e⟩ <;> rw [e]
    · exact hi
    · intro r' hr'; cases hr'
      exact (step_preserves (RV.Gateway.ne_of_confOk hc) (hi r rfl) (buildDesired_finalise c r [])).1
  case strict =>
    intro st s ⟨hc, hi⟩ hf _ _
    rcases gwEnsurePlan_cases c st s with ⟨_, e, _⟩ | ⟨r, rfl, hb, e⟩ | ⟨_, _, _, _, _, e⟩ <;> rw [e] at hf
    · cases hf
    · rw [e]
      refine ⟨?_, rfl, rfl⟩
      simp only [gwSpecB, hb, beq_self_eq_true, Bool.true_and]
      exact gwClause_of_fixed hc (hi r rfl) s hb
    · cases hf
  case fin =>
    intro st ⟨hc, hi⟩
    have hne := RV.Gateway.ne_of_confOk hc
    -- a route that `Finalise` leaves alone
    have still : ∀ r, r = finaliseRules c r → gwPlan (some r) (finalise c (some r)) (finalise c (some r)).ret false =
        ⟨some r, false, false, false, true⟩ := fun r h => by
      simp [gwPlan, finalise_some, ← h]
    rcases gwFinalisePlan_cases c st with ⟨e, hfix⟩ | ⟨r, rfl, e⟩ <;> rw [e]
    · refine ⟨rfl, rfl, ?_, e⟩
      cases st with
      | none => rfl
      | some r => rw [hfix r rfl]; exact gwClean_finalised hc (hi r rfl)
    · exact ⟨rfl, rfl, gwClean_finalised hc (hi r rfl), still _ (finaliseRules_idem hne (hi r rfl)).symm⟩
  case progress =>
    intro st s ⟨hc, hi⟩ he hp
    have hne := RV.Gateway.ne_of_confOk hc
    rcases gwEnsurePlan_cases c st s with ⟨_, _, e | e⟩ | ⟨_, _, _, e⟩ | ⟨r, d, rfl, hb, hrd, e⟩
    · rw [he] at e; cases e
    · rw [hp] at e; cases e
    · rw [e]; exact ⟨nofun, Nat.le_refl _⟩
    · have h1 : gwMu c (some d) s = 0 := by simp [gwMu, step_idem hne (hi r rfl) hb]
      have h2 : gwMu c (some r) s = 1 := by
        have : buildDesired c r s.weight s.mts ≠ .ok r := by
          rw [hb]; intro h; injection h with h; exact hrd h.symm
        simp [gwMu, this]
      rw [e, h1, h2]
      exact ⟨fun _ => Nat.zero_lt_one, Nat.zero_le _⟩
  case μ_le =>
    intro st s
    unfold gwMu
    split
    · exact Nat.zero_le _
    · split <;> omega

end RV.TrafficX
