/-
  Lemmas about the model of the Lua value conversion (`RV/Model/LuaJson.lean`), for C16.
  In order: `J.beq` is reflexive; the insertion sort; `decode` allocates fresh table identities (`AllocOK`); `norm` keeps keys and
  identities; the encoder `encVal` against the identity-free `encPure` (equal when no identity is met twice,
  `encVal_eq_pure`, and conversely `fresh_of_encVal`); the round trip `encPure ∘ norm ∘ decode = canon`;
  `canon` on clean values; `encPure` never reports "nested".  At the end, `pre` of the capability oracle
  read off UTF-8 bytes.  Core Lean only.
-/
import RV.Lemmas.InsertSort
import RV.Oracle.C16
namespace RV.LuaJson

mutual
theorem J.beq_refl : (a : J) → J.beq a a = true
  | .null => rfl
  | .bool b => by simp [J.beq]
  | .num b => by simp [J.beq]
  | .str b => by simp [J.beq]
  | .arr xs => by simp only [J.beq]; exact J.beqList_refl xs
  | .obj xs => by simp only [J.beq]; exact J.beqFields_refl xs
theorem J.beqList_refl : (a : List J) → J.beqList a a = true
  | [] => rfl
  | x :: xs => by simp only [J.beqList, J.beq_refl x, J.beqList_refl xs]; rfl
theorem J.beqFields_refl : (a : List (String × J)) → J.beqFields a a = true
  | [] => rfl
  | (k, x) :: xs => by simp only [J.beqFields, J.beq_refl x, J.beqFields_refl xs]; simp
end

section sort
variable {α β : Type} (key : α → String)

theorem insertBy_perm (a : α) (l : List α) : (insertBy key a l).Perm (a :: l) :=
  InsertSort.perm_insert (insertBy key) (fun _ => rfl) (fun x y ys => by rw [insertBy]; split <;> simp) a l

theorem isort_perm (l : List α) : (isort key l).Perm l :=
  InsertSort.perm_sort (insertBy_perm key) (isort key) rfl (fun _ _ => rfl) l

theorem isort_eq_nil (l : List α) : isort key l = [] ↔ l = [] := by
  constructor
  · intro h
    have := isort_perm key l
    rw [h] at this
    exact this.symm.eq_nil
  · rintro rfl; rfl

theorem insertBy_map (keyB : β → String) (f : α → β) (h : ∀ a, keyB (f a) = key a) (a : α) (l : List α) :
    insertBy keyB (f a) (l.map f) = (insertBy key a l).map f := by
  induction l with
  | nil => rfl
  | cons b l ih =>
    simp only [List.map, insertBy, h]
    split
    · rfl
    · simp only [List.map, ih]

theorem isort_map (keyB : β → String) (f : α → β) (h : ∀ a, keyB (f a) = key a) (l : List α) :
    isort keyB (l.map f) = (isort key l).map f := by
  induction l with
  | nil => rfl
  | cons a l ih => simp only [List.map, isort, ih, insertBy_map key keyB f h]

end sort

theorem isort_ascending : ∀ (prev : Option String) (l : List (String × J)),
    ascendingFrom prev l = true → isort Prod.fst l = l
  | _, [] => fun _ => rfl
  | prev, [(k, x)] => fun _ => by simp [isort, insertBy]
  | prev, (k, x) :: (k2, x2) :: r => fun h => by
    simp only [ascendingFrom, Bool.and_eq_true] at h
    have ih := isort_ascending (some k) ((k2, x2) :: r) (by
      simp only [ascendingFrom, Bool.and_eq_true]; exact h.2)
    simp only [isort] at ih ⊢
    rw [ih]
    have hk : k < k2 := by simpa using h.2.1
    simp [insertBy, hk]

theorem decode_isNil (n : Nat) (v : J) : (decode n v).1.isNil = v.isNull := by
  cases v <;> simp [decode, LVal.isNil, J.isNull]

/-- allocation facts of `decodeValue`: the counter grows, every table identity of the
    result lies in `[n, n')`, and no identity occurs twice. -/
def AllocOK (n n' : Nat) (is : List Nat) : Prop :=
  n ≤ n' ∧ (∀ i ∈ is, n ≤ i ∧ i < n') ∧ is.Nodup

theorem allocOK_nil (n : Nat) : AllocOK n n [] := ⟨Nat.le_refl n, nofun, List.nodup_nil⟩

/-- a value that allocates nothing itself. -/
theorem allocOK_skip {n m k : Nat} {is : List Nat} (hnm : n ≤ m) (h : AllocOK m k is) : AllocOK n k is :=
  ⟨by have := h.1; omega, fun i hi => by have := h.2.1 i hi; omega, h.2.2⟩

/-- `CreateTable` took the identity `n`, the members took the identities from `n + 1` on. -/
theorem allocOK_cons {n k : Nat} {is : List Nat} (h : AllocOK (n + 1) k is) : AllocOK n k (n :: is) := by
  obtain ⟨h1, h2, h3⟩ := h
  refine ⟨by omega, fun i hi => ?_, List.nodup_cons.2 ⟨fun hn => by have := h2 n hn; omega, h3⟩⟩
  rcases List.mem_cons.1 hi with rfl | hi
  · omega
  · have := h2 i hi; omega

theorem allocOK_append {n m k : Nat} {a b : List Nat} (ha : AllocOK n m a) (hb : AllocOK m k b) :
    AllocOK n k (a ++ b) := by
  obtain ⟨h1, h2, h3⟩ := ha
  obtain ⟨g1, g2, g3⟩ := hb
  refine ⟨by omega, fun i hi => ?_, List.nodup_append.2 ⟨h3, g3, fun x hx y hy hxy => ?_⟩⟩
  · rcases List.mem_append.1 hi with h | h
    · have := h2 i h; omega
    · have := g2 i h; omega
  · have := h2 x hx; have := g2 y hy; omega

mutual
theorem decode_alloc : (v : J) → (n : Nat) → AllocOK n (decode n v).2 (ids (decode n v).1)
  | .null, n => allocOK_nil n
  | .bool _, n => allocOK_nil n
  | .num _, n => allocOK_nil n
  | .str _, n => allocOK_nil n
  | .arr xs, n => allocOK_cons (decodeArr_alloc xs (n + 1) 1)
  | .obj kvs, n => allocOK_cons (decodeObj_alloc kvs (n + 1))
theorem decodeArr_alloc : (xs : List J) → (n : Nat) → (idx : Int) →
    AllocOK n (decodeArr n idx xs).2 (idsKvs (decodeArr n idx xs).1)
  | [], n, idx => allocOK_nil n
  | x :: xs, n, idx => by
    have hx := decode_alloc x n
    simp only [decodeArr]
    split
    · exact allocOK_skip hx.1 (decodeArr_alloc xs (decode n x).2 idx)
    · exact allocOK_append hx (decodeArr_alloc xs (decode n x).2 (idx + 1))
theorem decodeObj_alloc : (kvs : List (String × J)) → (n : Nat) →
    AllocOK n (decodeObj n kvs).2 (idsKvs (decodeObj n kvs).1)
  | [], n => allocOK_nil n
  | (k, x) :: rest, n => by
    have hx := decode_alloc x n
    simp only [decodeObj]
    split
    · exact allocOK_skip hx.1 (decodeObj_alloc rest (decode n x).2)
    · exact allocOK_append hx (decodeObj_alloc rest (decode n x).2)
end

theorem allStrKeys_normKvs : ∀ l, allStrKeys (normKvs l) = allStrKeys l
  | [] => rfl
  | (k, v) :: r => by simp only [normKvs, allStrKeys, allStrKeys_normKvs r]

theorem checkArrKeys_normKvs : ∀ l e, checkArrKeys e (normKvs l) = checkArrKeys e l
  | [], _ => rfl
  | (.int n, v) :: r, e => by
    simp only [normKvs, checkArrKeys, checkArrKeys_normKvs r]
  | (.str _, v) :: r, e => by simp only [normKvs, checkArrKeys]
  | (.other, v) :: r, e => by simp only [normKvs, checkArrKeys]

theorem idsKvs_cons (x : Key × LVal) (l : List (Key × LVal)) : idsKvs (x :: l) = ids x.2 ++ idsKvs l := by
  cases x; simp only [idsKvs]

theorem idsKvs_perm {l₁ l₂ : List (Key × LVal)} (h : l₁.Perm l₂) : (idsKvs l₁).Perm (idsKvs l₂) := by
  induction h with
  | nil => exact List.Perm.refl _
  | cons x _ ih => simp only [idsKvs_cons]; exact List.Perm.append_left _ ih
  | swap x y l => simp only [idsKvs_cons]; exact List.perm_append_comm_assoc _ _ _
  | trans _ _ ih1 ih2 => exact ih1.trans ih2

mutual
theorem ids_norm : (l : LVal) → (ids (norm l)).Perm (ids l)
  | .nil => List.Perm.refl _
  | .bool _ => List.Perm.refl _
  | .num _ => List.Perm.refl _
  | .str _ => List.Perm.refl _
  | .func => List.Perm.refl _
  | .tbl id kvs => by
    simp only [norm, ids]
    refine List.Perm.cons id ?_
    split
    · exact (idsKvs_perm (isort_perm entryName _)).trans (idsKvs_normKvs kvs)
    · exact idsKvs_normKvs kvs
theorem idsKvs_normKvs : (kvs : List (Key × LVal)) → (idsKvs (normKvs kvs)).Perm (idsKvs kvs)
  | [] => List.Perm.refl _
  | (k, v) :: r => by
    simp only [normKvs, idsKvs]
    exact List.Perm.append (ids_norm v) (idsKvs_normKvs r)
end

theorem encArrPure_cons_ok {k : Key} {v : LVal} {r : List (Key × LVal)} {js : List J}
    (h : encArrPure ((k, v) :: r) = .ok js) :
    ∃ j js', encPure v = .ok j ∧ encArrPure r = .ok js' ∧ js = j :: js' := by
  simp only [encArrPure] at h
  split at h
  · cases h
  · split at h <;> cases h
    exact ⟨_, _, ‹_›, ‹_›, rfl⟩

theorem encObjPure_cons_ok {k : Key} {v : LVal} {r : List (Key × LVal)} {ms : List (String × J)}
    (h : encObjPure ((k, v) :: r) = .ok ms) :
    ∃ j ms', encPure v = .ok j ∧ encObjPure r = .ok ms' ∧ ms = (k.name, j) :: ms' := by
  simp only [encObjPure] at h
  split at h
  · cases h
  · split at h <;> cases h
    exact ⟨_, _, ‹_›, ‹_›, rfl⟩

theorem encArrPure_cons_err {k : Key} {v : LVal} {r : List (Key × LVal)} {e : EncErr}
    (h : encArrPure ((k, v) :: r) = .error e) :
    encPure v = .error e ∨ ∃ j, encPure v = .ok j ∧ encArrPure r = .error e := by
  simp only [encArrPure] at h
  split at h
  · cases h; exact .inl ‹_›
  · split at h <;> cases h
    exact .inr ⟨_, ‹_›, ‹_›⟩

theorem encObjPure_cons_err {k : Key} {v : LVal} {r : List (Key × LVal)} {e : EncErr}
    (h : encObjPure ((k, v) :: r) = .error e) :
    encPure v = .error e ∨ ∃ j, encPure v = .ok j ∧ encObjPure r = .error e := by
  simp only [encObjPure] at h
  split at h
  · cases h; exact .inl ‹_›
  · split at h <;> cases h
    exact .inr ⟨_, ‹_›, ‹_›⟩

/-- what an encoder run that succeeds on tables with identities `is`, from the visited list `vis` to `vis'`,
    guarantees (`pure_of_encArr`, `pure_of_encObj`) -/
def Visited (is vis vis' : List Nat) : Prop :=
  is.Nodup ∧ (∀ i ∈ is, i ∉ vis) ∧ (∀ i, i ∈ vis' ↔ (i ∈ is ∨ i ∈ vis))

/-- the identities `is` are pairwise distinct and none has been visited: exactly when the encoder's `visited` check does not fire
    (`encVal_ok_iff`) -/
def Fresh (is vis : List Nat) : Prop := is.Nodup ∧ ∀ i ∈ is, i ∉ vis

theorem fresh_nil (vis : List Nat) : Fresh [] vis := ⟨List.nodup_nil, nofun⟩

theorem fresh_cons {id : Nat} {is vis : List Nat} : Fresh (id :: is) vis ↔ id ∉ vis ∧ Fresh is (id :: vis) := by
  simp only [Fresh, List.nodup_cons, List.mem_cons, not_or, forall_eq_or_imp]
  constructor
  · rintro ⟨⟨h1, h2⟩, h3, h4⟩
    exact ⟨h3, h2, fun i hi => ⟨fun e => h1 (e ▸ hi), h4 i hi⟩⟩
  · rintro ⟨h3, h2, h4⟩
    exact ⟨⟨fun hi => (h4 id hi).1 rfl, h2⟩, h3, fun i hi => (h4 i hi).2⟩

theorem fresh_append {a b vis : List Nat} : Fresh (a ++ b) vis ↔ Fresh a vis ∧ Fresh b (a.reverse ++ vis) := by
  simp only [Fresh, List.nodup_append, List.mem_append, List.mem_reverse, not_or]
  constructor
  · rintro ⟨⟨ha, hb, hab⟩, h⟩
    exact ⟨⟨ha, fun i hi => h i (.inl hi)⟩, hb, fun i hi => ⟨fun hia => hab i hia i hi rfl, h i (.inr hi)⟩⟩
  · rintro ⟨⟨ha, h1⟩, hb, h2⟩
    exact ⟨⟨ha, hb, fun x hx y hy e => (h2 y hy).1 (e ▸ hx)⟩, fun i hi => hi.elim (h1 i) fun hi => (h2 i hi).2⟩

theorem visited_of_fresh {is vis : List Nat} (h : Fresh is vis) : Visited is vis (is.reverse ++ vis) :=
  ⟨h.1, h.2, fun i => by simp⟩

theorem map_pair_ok {α} {x : Except EncErr α} {V vis' : List Nat} {a : α}
    (h : (x.map fun j => (j, V)) = .ok (a, vis')) : x = .ok a ∧ vis' = V := by
  cases x with
  | error e => cases h
  | ok j => cases h; exact ⟨rfl, rfl⟩

/-! ## with pairwise distinct, unvisited identities the `visited` map never fires

The encoder then answers as `encPure` does and has visited exactly the identities of the value. -/

mutual
theorem encVal_eq_pure : (l : LVal) → ∀ vis, Fresh (ids l) vis →
    encVal vis l = (encPure l).map fun j => (j, (ids l).reverse ++ vis)
  | .nil, _, _ => rfl
  | .bool _, _, _ => rfl
  | .num _, _, _ => rfl
  | .str _, _, _ => rfl
  | .func, _, _ => rfl
  | .tbl id kvs, vis, h => by
    obtain ⟨hid, hk⟩ := fresh_cons.1 h
    have hc : vis.contains id = false := by simpa using hid
    have ha := encArr_eq_pure kvs (id :: vis) hk
    have ho := encObj_eq_pure kvs (id :: vis) hk
    have hrev : (idsKvs kvs).reverse ++ id :: vis = (ids (.tbl id kvs)).reverse ++ vis := by simp [ids]
    rw [hrev] at ha ho
    -- the encoder looks at the first key only: no entry (`{}`), a string (object), an integer (array), anything else
    -- (an error); the four bullets here and at every later split of this shape follow that order
    rcases kvs with _ | ⟨⟨_ | _ | _, v⟩, r⟩
    · simp only [encVal, hc, Bool.false_eq_true, if_false]; rfl
    · simp only [encVal, encPure, hc, Bool.false_eq_true, if_false, ho]
      split
      · cases encObjPure _ <;> rfl
      · rfl
    · simp only [encVal, encPure, hc, Bool.false_eq_true, if_false, ha]
      split
      · rfl
      · cases encArrPure _ <;> rfl
    · simp only [encVal, hc, Bool.false_eq_true, if_false]; rfl
theorem encArr_eq_pure : (kvs : List (Key × LVal)) → ∀ vis, Fresh (idsKvs kvs) vis →
    encArr vis kvs = (encArrPure kvs).map fun js => (js, (idsKvs kvs).reverse ++ vis)
  | [], _, _ => rfl
  | (k, v) :: r, vis, h => by
    obtain ⟨hv, hr⟩ := fresh_append.1 h
    simp only [encArr, encArrPure, encVal_eq_pure v vis hv]
    cases encPure v with
    | error e => rfl
    | ok j =>
      simp only [Except.map, encArr_eq_pure r _ hr]
      cases encArrPure r <;> simp [idsKvs]
theorem encObj_eq_pure : (kvs : List (Key × LVal)) → ∀ vis, Fresh (idsKvs kvs) vis →
    encObj vis kvs = (encObjPure kvs).map fun ms => (ms, (idsKvs kvs).reverse ++ vis)
  | [], _, _ => rfl
  | (k, v) :: r, vis, h => by
    obtain ⟨hv, hr⟩ := fresh_append.1 h
    simp only [encObj, encObjPure, encVal_eq_pure v vis hv]
    cases encPure v with
    | error e => rfl
    | ok j =>
      simp only [Except.map, encObj_eq_pure r _ hr]
      cases encObjPure r <;> simp [idsKvs]
end

theorem encArr_cons_ok {vis : List Nat} {k : Key} {v : LVal} {r : List (Key × LVal)} {js : List J} {vis' : List Nat}
    (h : encArr vis ((k, v) :: r) = .ok (js, vis')) :
    ∃ j vis1 js', encVal vis v = .ok (j, vis1) ∧ encArr vis1 r = .ok (js', vis') ∧ js = j :: js' := by
  simp only [encArr] at h
  split at h
  · cases h
  · split at h <;> cases h
    exact ⟨_, _, _, ‹_›, ‹_›, rfl⟩

theorem encObj_cons_ok {vis : List Nat} {k : Key} {v : LVal} {r : List (Key × LVal)} {ms : List (String × J)} {vis' : List Nat}
    (h : encObj vis ((k, v) :: r) = .ok (ms, vis')) :
    ∃ j vis1 ms', encVal vis v = .ok (j, vis1) ∧ encObj vis1 r = .ok (ms', vis') ∧ ms = (k.name, j) :: ms' := by
  simp only [encObj] at h
  split at h
  · cases h
  · split at h <;> cases h
    exact ⟨_, _, _, ‹_›, ‹_›, rfl⟩

mutual
theorem fresh_of_encVal : (l : LVal) → ∀ vis j vis', encVal vis l = .ok (j, vis') → Fresh (ids l) vis
  | .nil, _, _, _, _ => fresh_nil _
  | .bool _, _, _, _, _ => fresh_nil _
  | .num _, _, _, _, _ => fresh_nil _
  | .str _, _, _, _, _ => fresh_nil _
  | .func, _, _, _, h => nomatch h
  | .tbl id kvs, vis, j, vis', h => by
    have ha := fresh_of_encArr kvs (id :: vis)
    have ho := fresh_of_encObj kvs (id :: vis)
    unfold encVal at h
    split at h
    · cases h
    · rename_i hc
      refine fresh_cons.2 ⟨by simpa using hc, ?_⟩
      rcases kvs with _ | ⟨⟨_ | _ | _, v⟩, r⟩
      · exact fresh_nil _
      · simp only [] at h
        split at h
        · cases he : encObj (id :: vis) _ with
          | error e => rw [he] at h; cases h
          | ok p => exact ho _ _ he
        · cases h
      · simp only [] at h
        split at h
        · cases h
        · cases he : encArr (id :: vis) _ with
          | error e => rw [he] at h; cases h
          | ok p => exact ha _ _ he
      · cases h
theorem fresh_of_encArr : (kvs : List (Key × LVal)) → ∀ vis js vis', encArr vis kvs = .ok (js, vis') →
    Fresh (idsKvs kvs) vis
  | [], _, _, _, _ => fresh_nil _
  | (k, v) :: r, vis, js, vis', h => by
    obtain ⟨j, vis1, js', hj, hjs, _⟩ := encArr_cons_ok h
    have hv := fresh_of_encVal v vis j vis1 hj
    rw [encVal_eq_pure v vis hv] at hj
    obtain ⟨_, rfl⟩ := map_pair_ok hj
    exact fresh_append.2 ⟨hv, fresh_of_encArr r _ js' vis' hjs⟩
theorem fresh_of_encObj : (kvs : List (Key × LVal)) → ∀ vis ms vis', encObj vis kvs = .ok (ms, vis') →
    Fresh (idsKvs kvs) vis
  | [], _, _, _, _ => fresh_nil _
  | (k, v) :: r, vis, ms, vis', h => by
    obtain ⟨j, vis1, ms', hj, hms, _⟩ := encObj_cons_ok h
    have hv := fresh_of_encVal v vis j vis1 hj
    rw [encVal_eq_pure v vis hv] at hj
    obtain ⟨_, rfl⟩ := map_pair_ok hj
    exact fresh_append.2 ⟨hv, fresh_of_encObj r _ ms' vis' hms⟩
end

theorem encVal_ok_iff (l : LVal) (vis : List Nat) (j : J) (vis' : List Nat) :
    encVal vis l = .ok (j, vis') ↔ Fresh (ids l) vis ∧ encPure l = .ok j ∧ vis' = (ids l).reverse ++ vis := by
  constructor
  · intro h
    have hf := fresh_of_encVal l vis j vis' h
    rw [encVal_eq_pure l vis hf] at h
    exact ⟨hf, map_pair_ok h⟩
  · rintro ⟨hf, hp, rfl⟩
    rw [encVal_eq_pure l vis hf, hp]; rfl

theorem encObj_of_pure : (kvs : List (Key × LVal)) → ∀ (vis : List Nat) (ms : List (String × J)), encObjPure kvs = .ok ms →
    (idsKvs kvs).Nodup → (∀ i ∈ idsKvs kvs, i ∉ vis) →
    ∃ vis', encObj vis kvs = .ok (ms, vis') ∧ ∀ i, i ∈ vis' ↔ (i ∈ idsKvs kvs ∨ i ∈ vis)
  | kvs, vis, ms, hp, hnd, hfresh =>
    ⟨_, by rw [encObj_eq_pure kvs vis ⟨hnd, hfresh⟩, hp]; rfl, fun i => by simp⟩

theorem pure_of_encArr : (kvs : List (Key × LVal)) → ∀ (vis : List Nat) (js : List J) (vis' : List Nat),
    encArr vis kvs = .ok (js, vis') → encArrPure kvs = .ok js ∧ Visited (idsKvs kvs) vis vis'
  | kvs, vis, js, vis', h => by
    have hf := fresh_of_encArr kvs vis js vis' h
    rw [encArr_eq_pure kvs vis hf] at h
    obtain ⟨hp, rfl⟩ := map_pair_ok h
    exact ⟨hp, visited_of_fresh hf⟩

theorem pure_of_encObj : (kvs : List (Key × LVal)) → ∀ (vis : List Nat) (ms : List (String × J)) (vis' : List Nat),
    encObj vis kvs = .ok (ms, vis') → encObjPure kvs = .ok ms ∧ Visited (idsKvs kvs) vis vis'
  | kvs, vis, ms, vis', h => by
    have hf := fresh_of_encObj kvs vis ms vis' h
    rw [encObj_eq_pure kvs vis hf] at h
    obtain ⟨hp, rfl⟩ := map_pair_ok h
    exact ⟨hp, visited_of_fresh hf⟩

theorem encArr_err_of_pure : (kvs : List (Key × LVal)) → ∀ (vis : List Nat) (e : EncErr), encArrPure kvs = .error e →
    (idsKvs kvs).Nodup → (∀ i ∈ idsKvs kvs, i ∉ vis) → encArr vis kvs = .error e
  | kvs, vis, e, hp, hnd, hfresh => by rw [encArr_eq_pure kvs vis ⟨hnd, hfresh⟩, hp]; rfl

theorem encObj_err_of_pure : (kvs : List (Key × LVal)) → ∀ (vis : List Nat) (e : EncErr), encObjPure kvs = .error e →
    (idsKvs kvs).Nodup → (∀ i ∈ idsKvs kvs, i ∉ vis) → encObj vis kvs = .error e
  | kvs, vis, e, hp, hnd, hfresh => by rw [encObj_eq_pure kvs vis ⟨hnd, hfresh⟩, hp]; rfl

theorem encObjPure_insert {k : Key} {v : LVal} {j : J} (hv : encPure v = .ok j) :
    ∀ (L : List (Key × LVal)) (M : List (String × J)), encObjPure L = .ok M →
      encObjPure (insertBy entryName (k, v) L) = .ok (insertBy Prod.fst (k.name, j) M)
  | [], M, h => by
    simp only [encObjPure] at h; cases h
    simp only [insertBy, encObjPure, hv]
  | (k', v') :: r, M, h => by
    obtain ⟨j', M', hj', hM', rfl⟩ := encObjPure_cons_ok h
    by_cases hlt : entryName (k, v) < entryName (k', v')
    · have h2 : (k.name, j).fst < (k'.name, j').fst := hlt
      simp only [insertBy, if_pos hlt, if_pos h2, encObjPure, hv, hj', hM']
    · have h2 : ¬ (k.name, j).fst < (k'.name, j').fst := hlt
      simp only [insertBy, if_neg hlt, if_neg h2, encObjPure, hj', encObjPure_insert hv r M' hM']

theorem encObjPure_isort : ∀ (L : List (Key × LVal)) (M : List (String × J)), encObjPure L = .ok M →
    encObjPure (isort entryName L) = .ok (isort Prod.fst M)
  | [], M, h => by
    simp only [encObjPure] at h; cases h; simp only [isort, encObjPure]
  | (k, v) :: r, M, h => by
    obtain ⟨j, M', hj, hM', rfl⟩ := encObjPure_cons_ok h
    simp only [isort]
    exact encObjPure_insert hj _ _ (encObjPure_isort r M' hM')

theorem allStrKeys_isort (L : List (Key × LVal)) : allStrKeys (isort entryName L) = allStrKeys L := by
  have hall : ∀ l : List (Key × LVal), allStrKeys l = l.all (·.1.isStr) := by
    intro l; induction l with
    | nil => rfl
    | cons e r ih => simp [allStrKeys, ih]
  rw [hall, hall, (isort_perm entryName L).all_eq]

theorem allStrKeys_decodeObj : ∀ (kvs : List (String × J)) (n : Nat), allStrKeys (decodeObj n kvs).1 = true
  | [], n => rfl
  | (k, x) :: r, n => by
    simp only [decodeObj]
    split
    · exact allStrKeys_decodeObj r _
    · simp only [allStrKeys, Key.isStr, allStrKeys_decodeObj r, Bool.and_self]

theorem checkArrKeys_decodeArr : ∀ (xs : List J) (n : Nat) (idx : Int), checkArrKeys idx (decodeArr n idx xs).1 = none
  | [], n, idx => rfl
  | x :: xs, n, idx => by
    simp only [decodeArr]
    split
    · exact checkArrKeys_decodeArr xs _ idx
    · simp only [checkArrKeys, if_true, checkArrKeys_decodeArr xs]

theorem encPure_tbl_arr {id : Nat} {kvs : List (Key × LVal)} (hc : checkArrKeys 1 kvs = none) :
    ∀ {js}, encArrPure kvs = .ok js →
      encPure (.tbl id kvs) = .ok (match js with | [] => .null | y :: ys => .arr (y :: ys)) := by
  intro js h
  rcases kvs with _ | ⟨⟨_ | _ | _, v⟩, r⟩
  · cases h; rfl
  · cases hc
  · obtain ⟨_, _, _, _, rfl⟩ := encArrPure_cons_ok h
    simp only [encPure, hc, h]
  · cases hc

theorem encPure_tbl_obj {id : Nat} {kvs : List (Key × LVal)} (hs : allStrKeys kvs = true) :
    ∀ {ms}, encObjPure kvs = .ok ms →
      encPure (.tbl id kvs) = .ok (match ms with | [] => .null | m :: ms => .obj (m :: ms)) := by
  intro ms h
  rcases kvs with _ | ⟨⟨_ | _ | _, v⟩, r⟩
  · cases h; rfl
  · obtain ⟨_, _, _, _, rfl⟩ := encObjPure_cons_ok h
    simp only [encPure, hs, h, if_true]
  · cases hs
  · cases hs

/-- the keys of an array are not strings (unless there are none): `norm` does not reorder it. -/
theorem norm_order_of_checkArrKeys {idx : Int} {l : List (Key × LVal)} (h : checkArrKeys idx l = none) :
    (if allStrKeys l then isort entryName l else l) = l := by
  rcases l with _ | ⟨⟨_ | _ | _, v⟩, r⟩
  · rfl
  · cases h
  · rfl
  · cases h

mutual
theorem encPure_decode : (v : J) → ∀ n, encPure (norm (decode n v).1) = .ok (canon v)
  | .null, n => rfl
  | .bool _, n => rfl
  | .num _, n => rfl
  | .str _, n => rfl
  | .arr xs, n => by
    have hchk := checkArrKeys_decodeArr xs (n + 1) 1
    rw [← checkArrKeys_normKvs] at hchk
    simp only [decode, norm, canon, norm_order_of_checkArrKeys hchk]
    exact encPure_tbl_arr hchk (encArrPure_decode xs (n + 1) 1)
  | .obj kvs, n => by
    have hall := allStrKeys_decodeObj kvs (n + 1)
    rw [← allStrKeys_normKvs] at hall
    simp only [decode, norm, canon, hall, if_true]
    exact encPure_tbl_obj (by rw [allStrKeys_isort]; exact hall)
      (encObjPure_isort _ _ (encObjPure_decode kvs (n + 1)))
theorem encArrPure_decode : (xs : List J) → ∀ n idx, encArrPure (normKvs (decodeArr n idx xs).1) = .ok (canonList xs)
  | [], n, idx => by simp only [decodeArr, normKvs, encArrPure, canonList]
  | x :: xs, n, idx => by
    simp only [decodeArr, canonList, decode_isNil]
    split
    · exact encArrPure_decode xs _ idx
    · simp only [normKvs, encArrPure, encPure_decode x n, encArrPure_decode xs]
theorem encObjPure_decode : (kvs : List (String × J)) → ∀ n, encObjPure (normKvs (decodeObj n kvs).1) = .ok (canonFields kvs)
  | [], n => by simp only [decodeObj, normKvs, encObjPure, canonFields]
  | (k, x) :: r, n => by
    simp only [decodeObj, canonFields, decode_isNil]
    split
    · exact encObjPure_decode r _
    · simp only [normKvs, encObjPure, encPure_decode x n, encObjPure_decode r, Key.name]
end


mutual
theorem canon_clean : (v : J) → clean v = true → canon v = v
  | .null, _ => rfl
  | .bool _, _ => rfl
  | .num _, _ => rfl
  | .str _, _ => rfl
  | .arr xs, h => by
    simp only [clean, Bool.and_eq_true] at h
    have hl := canonList_clean xs h.2
    simp only [canon, hl]
    cases xs with
    | nil => simp at h
    | cons y ys => rfl
  | .obj kvs, h => by
    simp only [clean, Bool.and_eq_true] at h
    have hl := canonFields_clean kvs h.2
    have hs := isort_ascending none kvs h.1.2
    simp only [canon, hl, hs]
    cases kvs with
    | nil => simp at h
    | cons y ys => rfl
theorem canonList_clean : (xs : List J) → cleanList xs = true → canonList xs = xs
  | [], _ => rfl
  | x :: xs, h => by
    simp only [cleanList, Bool.and_eq_true, Bool.not_eq_true'] at h
    simp only [canonList, h.1.1, Bool.false_eq_true, if_false, canon_clean x h.1.2, canonList_clean xs h.2]
theorem canonFields_clean : (kvs : List (String × J)) → cleanFields kvs = true → canonFields kvs = kvs
  | [], _ => rfl
  | (k, x) :: r, h => by
    simp only [cleanFields, Bool.and_eq_true, Bool.not_eq_true'] at h
    simp only [canonFields, h.1.1, Bool.false_eq_true, if_false, canon_clean x h.1.2, canonFields_clean r h.2]
end


theorem checkArrKeys_ne_nested : ∀ (l : List (Key × LVal)) (e : Int), checkArrKeys e l ≠ some .nested
  | [], _ => by simp [checkArrKeys]
  | (.int n, _) :: r, e => by
    simp only [checkArrKeys]
    split
    · exact checkArrKeys_ne_nested r _
    · simp
  | (.str _, _) :: _, _ => by simp [checkArrKeys]
  | (.other, _) :: _, _ => by simp [checkArrKeys]

mutual
theorem encPure_ne_nested : (l : LVal) → encPure l ≠ .error .nested
  | .nil => by simp [encPure]
  | .bool _ => by simp [encPure]
  | .num _ => by simp [encPure]
  | .str _ => by simp [encPure]
  | .func => by simp [encPure]
  | .tbl id [] => by simp [encPure]
  | .tbl id ((.int m, v) :: r) => by
    intro h
    simp only [encPure] at h
    split at h
    · rename_i e hchk
      cases h
      exact checkArrKeys_ne_nested _ _ hchk
    · split at h
      · cases h
      · rename_i e he; cases h
        exact encArrPure_ne_nested _ he
  | .tbl id ((.str s, v) :: r) => by
    intro h
    simp only [encPure] at h
    split at h
    · split at h
      · cases h
      · rename_i e he; cases h
        exact encObjPure_ne_nested _ he
    · cases h
  | .tbl id ((.other, v) :: r) => by simp [encPure]
theorem encArrPure_ne_nested : (kvs : List (Key × LVal)) → encArrPure kvs ≠ .error .nested
  | [] => by simp [encArrPure]
  | (k, v) :: r => by
    intro h
    rcases encArrPure_cons_err h with he | ⟨_, _, he⟩
    · exact encPure_ne_nested v he
    · exact encArrPure_ne_nested r he
theorem encObjPure_ne_nested : (kvs : List (Key × LVal)) → encObjPure kvs ≠ .error .nested
  | [] => by simp [encObjPure]
  | (k, v) :: r => by
    intro h
    rcases encObjPure_cons_err h with he | ⟨_, _, he⟩
    · exact encPure_ne_nested v he
    · exact encObjPure_ne_nested r he
end

theorem utf8Encode_prefix {p s : List Char} {r : ByteArray} (h : p.utf8Encode ++ r = s.utf8Encode) :
    p <+: s := by
  induction p generalizing s with
  | nil => exact List.nil_prefix
  | cons c p ih =>
    -- both sides decode to the same first character; drop its bytes
    rw [List.utf8Encode_cons, ByteArray.append_assoc] at h
    have h1 := List.utf8DecodeChar?_utf8Encode_singleton_append (b := p.utf8Encode ++ r) (c := c)
    rw [h] at h1
    cases s with
    | nil => rw [show ByteArray.utf8DecodeChar? ([] : List Char).utf8Encode 0 = none by decide] at h1; cases h1
    | cons d s =>
      rw [List.utf8DecodeChar?_utf8Encode_cons] at h1
      obtain rfl : d = c := Option.some.inj h1
      rw [List.utf8Encode_cons (l := s), ByteArray.append_right_inj] at h
      exact List.cons_prefix_cons.2 ⟨rfl, ih h⟩

/-- `pre` read off the UTF-8 bytes (UTF-8 is a prefix code).  `String.toList` decodes by well-founded
    recursion, which the kernel evaluates very slowly; comparing bytes it evaluates fast. -/
theorem pre_eq_bytes (p s : String) :
    RV.Oracle.C16.pre p s = p.toByteArray.data.toList.isPrefixOf s.toByteArray.data.toList := by
  rw [RV.Oracle.C16.pre, Bool.eq_iff_iff, List.isPrefixOf_iff_prefix, List.isPrefixOf_iff_prefix,
    ← String.utf8Encode_toList (b := p), ← String.utf8Encode_toList (b := s)]
  constructor
  · rintro ⟨t, ht⟩
    rw [← ht, List.utf8Encode_append, ByteArray.data_append, Array.toList_append]
    exact List.prefix_append _ _
  · rintro ⟨t, ht⟩
    exact utf8Encode_prefix (r := ⟨⟨t⟩⟩) (ByteArray.ext (Array.ext' (by simpa using ht)))

end RV.LuaJson
