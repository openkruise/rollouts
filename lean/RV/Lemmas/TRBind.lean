/-
  Helper lemmas for `RV.Props.TRBind`: the finalizer set, what the Manager calls of a TrafficRouting do to the canary
  route, histories of the closed loop, the TrafficRouting context.
-/
import RV.Oracle.TRBind
import RV.Lemmas.Traffic
namespace RV.Lemmas.TRBind
open RV.Traffic RV.TRBind RV.Oracle.TRBind

theorem mem_insertSorted (i j : Nat) (l : List Nat) : j ∈ insertSorted i l ↔ j = i ∨ j ∈ l := by
  induction l with
  | nil => simp [insertSorted]
  | cons x xs ih =>
    unfold insertSorted
    by_cases h1 : i < x
    · simp [h1]
    · by_cases h2 : i = x
      · subst h2; simp
      · simp only [h1, h2, if_false, List.mem_cons, ih]
        exact or_left_comm

theorem mem_remove (i j : Nat) (l : List Nat) : j ∈ l.filter (· ≠ i) ↔ j ∈ l ∧ j ≠ i := by
  simp [List.mem_filter]

theorem contains_iff (l : List Nat) (i : Nat) : l.contains i = true ↔ i ∈ l := by simp

theorem fin_canaryIng (c : TCtx) (n : Net) (m : Mem) :
    (finalisingTrafficRouting c n m).net.canaryIng = n.canaryIng ∨ (finalisingTrafficRouting c n m).net.canaryIng = none := by
  cases href : c.hasRef
  · left; unfold finalisingTrafficRouting; simp [href]
  have h1 := (RV.Props.Traffic.rs_spec c n m).kept (·.canaryIng) rfl
  have h2 : (restoreGateway c (restoreStableService c n m).net (restoreStableService c n m).mem).net.canaryIng = none :=
    (RV.Props.Traffic.rg_spec c _ _).post href
  have h3 := fun n1 m1 => (RV.Props.Traffic.rc_spec c n1 m1).kept (·.canaryIng) rfl
  obtain ⟨-, ⟨_, _, e, _⟩ | ⟨_, _, _, e, _⟩ | ⟨_, _, _, e, _⟩⟩ := RV.Props.Traffic.finalising_cases c n m href <;> rw [e]
  · exact .inl h1
  · exact .inr h2
  · exact .inr ((h3 _ _).symm ▸ h2)

theorem doTR_keeps_route (c : TCtx) (n : Net) (m : Mem) (h : n.canaryIng.isSome = true) :
    (doTrafficRouting c n m).net.canaryIng.isSome = true := by
  rcases RV.Props.Traffic.doTR_cases c n m with ⟨_, e⟩ | ⟨w, _, _, ⟨_, e⟩ | ⟨n2, ws, hs, _, _, _, e⟩ | ⟨_, _, _, e⟩⟩ <;> rw [e]
  · exact h
  · exact h
  · show n2.canaryIng.isSome = true
    rw [(RV.Props.Traffic.svcStep_frame c n n2 ws hs).1]; exact h
  · obtain ⟨x, hx, e', -⟩ := RV.Props.Traffic.routeStep_net n m w
    rw [e']
    rcases hx with rfl | rfl | rfl
    · exact h
    · rfl
    · rfl

theorem doTR_not_withdrawn (c : TCtx) (n : Net) (m : Mem) : withdrawn n (doTrafficRouting c n m).net = false := by
  unfold withdrawn
  cases h : n.canaryIng.isSome
  · rfl
  · rw [← Option.not_isSome, doTR_keeps_route c n m h]; rfl

theorem fin_not_routed (c : TCtx) (n : Net) (m : Mem) : routed n (finalisingTrafficRouting c n m).net = false := by
  unfold routed
  rcases fin_canaryIng c n m with h | h
  · rw [h]; simp
  · rw [h]; simp

theorem get_set_self {α} {l : List α} {i : Nat} {x : α} (y : α) (h : l[i]? = some x) : (l.set i y)[i]? = some y :=
  List.getElem?_set_self (List.getElem?_eq_some_iff.mp h).1

theorem run_append (l1 l2 : List Label) : ∀ (s s1 s' : JS), run s l1 = some s1 → run s1 l2 = some s' → run s (l1 ++ l2) = some s' := by
  induction l1 with
  | nil => intro s s1 s' h1 h2; cases h1; exact h2
  | cons l ls ih =>
    intro s s1 s' h1 h2
    show run s (l :: (ls ++ l2)) = some s'
    unfold run at h1
    split at h1
    · cases h1
    · rename_i sa ha
      unfold run
      rw [ha]; dsimp only
      exact ih sa s1 s' h1 h2

theorem tctx_hasRef (t : TRO) : (tctx t).hasRef = t.hasRef := rfl
theorem tctx_grace (t : TRO) : (tctx t).grace = t.grace := rfl

end RV.Lemmas.TRBind
