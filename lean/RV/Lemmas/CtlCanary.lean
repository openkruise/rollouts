import RV.Lemmas.InsertSort
import RV.Oracle.CtlCanary
/-!
Lemmas for the canary-style Deployment control plane.  Every operation the four calls `Initialize` / `UpgradeBatch` /
`EnsureBatchPodsReadyAndLabeled` / `Finalize` are made of has one theorem (`…_spec`, `…_cases`, `planeInitialize_created`),
about a named result `h : op … = (s', r)` (`planeEnsureReady_spec`, which only reads: about the call itself), that says what it
did to the world, the caches and the expectation, and that a failed API call is reported (`Reports`); `call_shape` sums the four
calls up as one write, finalizer removals, or one creation, and `object_after` / `origin_after` read that off Deployment by
Deployment.  Before them: `World.find` / `modify` / `add` under unique names, and `dropAll` (finalizer removals as one list).
After `origin_after`: `matchCount` and unique names under events and calls, for the run theorems.  Then: what a successful `Initialize` leaves behind (`planeInitialize_ok`), the plane's exposure figure `canaryExpo`
under the calls, and why `Initialize` finds the canary it created again (`eqIgnore_patched`).  `planeSyncInfo`
(`SyncWorkloadInformation`, read by the executor's adapter only) has no lemma here: no law of the
executor speaks of it.
-/
namespace RV.CtlCanary
open RV.Arith RV.Oracle.CtlCanary

theorem filter_filterMap_length_le {α : Type} (l : List α) (g : α → Option α) (p q : α → Bool)
    (h : ∀ d ∈ l, ∀ d', g d = some d' → p d' = true → q d = true) :
    ((l.filterMap g).filter p).length ≤ (l.filter q).length := by
  induction l with
  | nil => simp
  | cons x l ih =>
    have ih' := ih (fun d hd => h d (List.mem_cons_of_mem _ hd))
    have hq : (l.filter q).length ≤ ((x :: l).filter q).length := by
      simp only [List.filter_cons]; split <;> simp
    simp only [List.filterMap_cons]
    cases hg : g x with
    | none => exact Nat.le_trans ih' hq
    | some x' =>
      by_cases hp : p x' = true
      · have hqx := h x List.mem_cons_self x' hg hp
        rw [List.filter_cons_of_pos hp, List.filter_cons_of_pos hqx]
        simp only [List.length_cons]
        omega
      · have hp' : p x' = false := by simpa using hp
        rw [List.filter_cons_of_neg (by simp [hp'])]
        exact Nat.le_trans ih' hq

def names (w : World) : List Nat := w.deps.map (·.name)

theorem find_some {w : World} {n : Nat} {d : Dep} (h : w.find n = some d) : d ∈ w.deps ∧ d.name = n := by
  unfold World.find at h
  have h1 := List.mem_of_find?_eq_some h
  have h2 := List.find?_some h
  exact ⟨h1, by simpa using h2⟩

theorem find_none {w : World} {n : Nat} (h : w.find n = none) : ∀ d ∈ w.deps, d.name ≠ n := by
  unfold World.find at h
  intro d hd
  have := List.find?_eq_none.mp h d hd
  simpa using this

theorem find_of_mem {w : World} {d : Dep} (hnd : (names w).Nodup) (h : d ∈ w.deps) : w.find d.name = some d := by
  obtain ⟨l⟩ := w
  unfold World.find
  unfold names at hnd
  dsimp only at hnd h ⊢
  induction l with
  | nil => cases h
  | cons x l ih =>
    rw [List.map_cons, List.nodup_cons] at hnd
    rcases List.mem_cons.mp h with rfl | h
    · simp
    · have hne : x.name ≠ d.name := fun he => hnd.1 (he ▸ List.mem_map_of_mem h)
      rw [List.find?_cons_of_neg (by simpa using hne)]
      exact ih hnd.2 h

theorem eq_of_name_eq {w : World} {d d' : Dep} (hnd : (names w).Nodup) (hd : d ∈ w.deps) (hd' : d' ∈ w.deps)
    (h : d.name = d'.name) : d = d' :=
  Option.some.inj ((find_of_mem hnd hd).symm.trans (h ▸ find_of_mem hnd hd'))

theorem namesNodup_iff (w : World) : namesNodup w = true ↔ (names w).Nodup := by
  simp [namesNodup, names]

theorem names_modify (w : World) (id : Nat) (f : Dep → Dep) (hf : ∀ d, (f d).name = d.name) :
    names (w.modify id f) = names w := by
  unfold names World.modify
  simp only [List.map_map]
  apply List.map_congr_left
  intro d _
  simp only [Function.comp]
  split <;> simp [hf]

theorem find_map_aux (l : List Dep) (g : Dep → Dep) (n : Nat) (hg : ∀ d, (g d).name = d.name) :
    (l.map g).find? (fun x => x.name == n) = (l.find? (fun x => x.name == n)).map g := by
  induction l with
  | nil => rfl
  | cons x l ih =>
    by_cases hn : x.name = n
    · subst hn
      simp [hg]
    · simp only [List.map_cons, List.find?_cons, hg]
      have : (x.name == n) = false := by simpa using hn
      simp only [this]
      exact ih

theorem find_modify (w : World) (id n : Nat) (f : Dep → Dep) (hf : ∀ d, (f d).name = d.name) :
    (w.modify id f).find n = (w.find n).map (fun d => if d.name = id then f d else d) :=
  find_map_aux w.deps _ n fun d => by split <;> simp [hf]

theorem find_add (w : World) (cd : Dep) (n : Nat) :
    (w.add cd).find n = match w.find n with
      | some d => some d
      | none => if cd.name = n then some cd else none := by
  unfold World.add World.find
  simp only [List.find?_append]
  cases h : List.find? (fun d => d.name == n) w.deps with
  | some d => simp
  | none =>
    simp only [Option.none_or, List.find?_cons, List.find?_nil]
    by_cases hc : cd.name = n
    · simp [hc]
    · have : (cd.name == n) = false := by simpa using hc
      simp [hc, this]

theorem le_foldl_max_name (l : List Dep) (m : Nat) :
    m ≤ l.foldl (fun m d => max m d.name) m ∧ ∀ d ∈ l, d.name ≤ l.foldl (fun m d => max m d.name) m := by
  induction l generalizing m with
  | nil => simp
  | cons x l ih =>
    simp only [List.foldl_cons]
    have h := ih (max m x.name)
    refine ⟨by omega, ?_⟩
    intro d hd
    rcases List.mem_cons.mp hd with rfl | hd
    · omega
    · exact h.2 d hd

theorem name_le_maxName {w : World} {d : Dep} (h : d ∈ w.deps) : d.name ≤ w.maxName :=
  (le_foldl_max_name w.deps 0).2 d h

theorem find_fresh (w : World) : w.find (w.maxName + 1) = none := by
  unfold World.find
  apply List.find?_eq_none.mpr
  intro d hd
  have := name_le_maxName hd
  simp; omega

theorem maxName_eq (w : World) : w.maxName = (names w).foldl max 0 := by
  unfold World.maxName names
  rw [List.foldl_map]

theorem maxName_modify (w : World) (id : Nat) (f : Dep → Dep) (hf : ∀ d, (f d).name = d.name) :
    (w.modify id f).maxName = w.maxName := by
  rw [maxName_eq, maxName_eq, names_modify _ _ _ hf]

theorem names_add (w : World) (cd : Dep) : names (w.add cd) = names w ++ [cd.name] := by
  simp [names, World.add]

theorem nodup_add_fresh {w : World} {cd : Dep} (hnd : (names w).Nodup) (hc : cd.name = w.maxName + 1) :
    (names (w.add cd)).Nodup := by
  rw [names_add]
  apply List.nodup_append.mpr
  refine ⟨hnd, by simp, ?_⟩
  intro a ha b hb
  simp only [List.mem_singleton] at hb
  subst hb
  unfold names at ha
  obtain ⟨d, hd, rfl⟩ := List.mem_map.mp ha
  have := name_le_maxName hd
  omega

/-- `World.dropFinalizer` for a list of names at once (`dropFinalizer_eq`, `dropAll_dropAll`): the removals of the
    `canary.Delete` loop become one `ids` -/
def dropFn (ids : List Nat) (d : Dep) : Option Dep :=
  if d.name ∈ ids then
    (if d.deleting ∧ ¬ d.otherFinalizer then none else some { d with finalizer := false })
  else some d

def dropAll (w : World) (ids : List Nat) : World := { deps := w.deps.filterMap (dropFn ids) }

theorem dropFinalizer_eq (w : World) (id : Nat) : w.dropFinalizer id = dropAll w [id] := by
  unfold World.dropFinalizer dropAll dropFn
  simp

theorem dropFn_name {ids : List Nat} {d d' : Dep} (h : dropFn ids d = some d') : d'.name = d.name := by
  unfold dropFn at h
  split at h
  · split at h
    · cases h
    · cases h; rfl
  · cases h; rfl

theorem dropFn_some {ids : List Nat} {d d' : Dep} (h : dropFn ids d = some d') :
    (d.name ∉ ids ∧ d' = d) ∨ (d.name ∈ ids ∧ d' = { d with finalizer := false }) := by
  unfold dropFn at h
  split at h
  · rename_i hin
    split at h
    · cases h
    · cases h; exact Or.inr ⟨hin, rfl⟩
  · rename_i hin
    cases h; exact Or.inl ⟨hin, rfl⟩

theorem dropAll_dropAll (w : World) (a b : List Nat) :
    dropAll (dropAll w a) b = dropAll w (a ++ b) := by
  unfold dropAll
  simp only [List.filterMap_filterMap]
  congr 2
  funext d
  unfold dropFn
  by_cases hc : d.deleting = true ∧ d.otherFinalizer = false <;> by_cases h1 : d.name ∈ a <;>
    by_cases h3 : d.name ∈ b <;> simp [h1, h3, hc]

theorem dropAll_nil (w : World) : dropAll w [] = w := by
  unfold dropAll dropFn
  simp

theorem names_dropAll_sublist (w : World) (ids : List Nat) : (names (dropAll w ids)).Sublist (names w) := by
  unfold names dropAll
  induction w.deps with
  | nil => simp
  | cons x l ih =>
    simp only [List.filterMap_cons]
    cases h : dropFn ids x with
    | none => exact (List.Sublist.cons _ ih)
    | some x' =>
      simp only [List.map_cons, dropFn_name h]
      exact List.Sublist.cons_cons _ ih

theorem nodup_dropAll {w : World} (ids : List Nat) (h : (names w).Nodup) : (names (dropAll w ids)).Nodup :=
  List.Nodup.sublist (names_dropAll_sublist w ids) h

theorem mem_dropAll {w : World} {ids : List Nat} {x : Dep} :
    x ∈ (dropAll w ids).deps ↔ ∃ d ∈ w.deps, dropFn ids d = some x := by
  unfold dropAll
  simp [List.mem_filterMap]

theorem mem_dropAll_fin {w : World} {ids : List Nat} {x : Dep} (hx : x ∈ (dropAll w ids).deps)
    (hf : x.finalizer = true) : x ∈ w.deps ∧ x.name ∉ ids := by
  obtain ⟨d, hd, hdx⟩ := mem_dropAll.mp hx
  rcases dropFn_some hdx with ⟨hn, rfl⟩ | ⟨-, rfl⟩
  · exact ⟨hd, hn⟩
  · cases hf

theorem find_dropAll_aux (l : List Dep) (ids : List Nat) (n : Nat) (hnd : (l.map (·.name)).Nodup) :
    (l.filterMap (dropFn ids)).find? (fun x => x.name == n) =
      (l.find? (fun x => x.name == n)).bind (dropFn ids) := by
  induction l with
  | nil => rfl
  | cons x l ih =>
    rw [List.map_cons, List.nodup_cons] at hnd
    by_cases hn : x.name = n
    · -- x is the only object with this name
      have hrest : (l.filterMap (dropFn ids)).find? (fun y => y.name == n) = none := by
        apply List.find?_eq_none.mpr
        intro y hy
        obtain ⟨d, hd, hdy⟩ := List.mem_filterMap.mp hy
        have : y.name = d.name := dropFn_name hdy
        have hdn : d.name ≠ x.name := by
          intro he
          exact hnd.1 (he ▸ List.mem_map_of_mem hd)
        simp; omega
      simp only [List.filterMap_cons, List.find?_cons, hn, beq_self_eq_true, Option.bind_some]
      cases h : dropFn ids x with
      | none => simpa using hrest
      | some x' =>
        have : x'.name = n := by rw [dropFn_name h, hn]
        simp [List.find?_cons, this]
    · have hb : (x.name == n) = false := by simpa using hn
      simp only [List.filterMap_cons, List.find?_cons, hb]
      cases h : dropFn ids x with
      | none => simpa using ih hnd.2
      | some x' =>
        have : (x'.name == n) = false := by rw [dropFn_name h]; exact hb
        simp only [List.find?_cons, this]
        exact ih hnd.2

theorem find_dropAll {w : World} (ids : List Nat) (n : Nat) (hnd : (names w).Nodup) :
    (dropAll w ids).find n = (w.find n).bind (dropFn ids) :=
  find_dropAll_aux w.deps ids n hnd

/-- some call of index ≥ the fault index has been made, i.e. some call has failed -/
def faulted (c : Cfg) (n : Nat) : Prop := ∃ k, c.failAt = some k ∧ k < n

theorem tick_fail {c : Cfg} {b : Bool} {n : Nat} (h : (c.tick b n).1 = false) :
    faulted c (c.tick b n).2 → faulted c n := by
  unfold Cfg.tick at h ⊢
  by_cases hb : (b || c.reads) = true
  · simp only [hb, if_true] at h ⊢
    rintro ⟨k, hk, hlt⟩
    simp only [hk] at h
    refine ⟨k, hk, ?_⟩
    have : ¬ k ≤ n := by simpa using h
    omega
  · simp only [hb] at h ⊢
    exact id

theorem tick_le (c : Cfg) (b : Bool) (n : Nat) : n ≤ (c.tick b n).2 := by
  unfold Cfg.tick; split <;> simp

/-- between call counter `n` and call counter `n'` no API call failed, or `err` holds: a failed call is reported -/
def Reports (c : Cfg) (n n' : Nat) (err : Prop) : Prop := ¬ faulted c n → faulted c n' → err

theorem Reports.refl {c : Cfg} {n : Nat} {p : Prop} : Reports c n n p := fun h0 h => absurd h h0

theorem Reports.tick {c : Cfg} {b : Bool} {n n' : Nat} {p : Prop} (ht : ¬ (c.tick b n).1 = true)
    (h : Reports c (c.tick b n).2 n' p) : Reports c n n' p :=
  fun h0 => h fun hf => h0 (tick_fail (by simpa using ht) hf)

theorem Reports.trans {c : Cfg} {n n1 n2 : Nat} {p q : Prop} (h1 : Reports c n n1 p) (hp : ¬ p)
    (h2 : Reports c n1 n2 q) : Reports c n n2 q :=
  fun h0 => h2 fun hf => hp (h1 h0 hf)

/-- `BuildStableController` only reads: it answers from the cache `rc.stableObject` or fills it from the world -/
structure StableBuilt (c : Cfg) (br : BR) (s s' : S) (o : Out Dep) : Prop where
  world : s'.w = s.w
  exp : s'.exp = s.exp
  canary : s'.canary = s.canary
  notOk : o ≠ .fail .ok
  reports : Reports c s.n s'.n (o = .fail .err)
  found : ∀ d, o = .ok d → s'.stable = some d ∧
    (s.stable = some d ∨ (s.stable = none ∧ s.w.find br.key = some d ∧ d.replicas ≠ none))
  failed : ∀ x, o = .fail x → s'.stable = none
  absent : o = .fail .notFound → s.w.find br.key = none

theorem buildStable_spec {c : Cfg} {br : BR} {s s' : S} {o : Out Dep} (h : buildStable c br s = (s', o)) :
    StableBuilt c br s s' o := by
  unfold buildStable at h
  split at h
  · rename_i d hd
    cases h
    exact ⟨rfl, rfl, rfl, nofun, .refl, fun _ h => by cases h; exact ⟨hd, .inl hd⟩, (fun _ h => nomatch h), nofun⟩
  · rename_i hs
    dsimp only at h
    split at h
    · cases h
      exact ⟨rfl, rfl, rfl, nofun, fun _ _ => rfl, (fun _ h => nomatch h), fun _ _ => hs, nofun⟩
    · rename_i ht
      have hrep : ∀ {p : Prop}, Reports c s.n (c.tick false s.n).2 p := .tick ht .refl
      split at h
      · rename_i hf
        cases h
        exact ⟨rfl, rfl, rfl, nofun, hrep, (fun _ h => nomatch h), fun _ _ => hs, fun _ => hf⟩
      · rename_i d hf
        split at h
        · cases h
          exact ⟨rfl, rfl, rfl, nofun, hrep, (fun _ h => nomatch h), fun _ _ => hs, nofun⟩
        · rename_i r hr
          cases h
          exact ⟨rfl, rfl, rfl, nofun, hrep,
            fun _ h => by cases h; exact ⟨rfl, .inr ⟨hs, hf, by rw [hr]; nofun⟩⟩, (fun _ h => nomatch h), nofun⟩

theorem buildStable_cached (c : Cfg) (br : BR) (s : S) (d : Dep) (h : s.stable = some d) :
    buildStable c br s = (s, .ok d) := by
  unfold buildStable; simp [h]

/-- the write of `realStableController.Initialize` -/
def setCtrl (x : Dep) : Dep := { x with ctrl := .this }

theorem stableInitialize_spec {c : Cfg} {br : BR} {s s' : S} {st : Dep} {r : Res} (h : stableInitialize c br s st = (s', r)) :
    s'.exp = s.exp ∧ s'.stable = s.stable ∧ s'.canary = s.canary ∧ Reports c s.n s'.n (r = .err) ∧
    ((s'.w = s.w ∧ (r = .ok → isControlledBy st = true)) ∨ (r = .ok ∧ s'.w = s.w.modify br.key setCtrl)) := by
  unfold stableInitialize at h
  split at h
  · rename_i hc
    cases h; exact ⟨rfl, rfl, rfl, .refl, .inl ⟨rfl, fun _ => hc⟩⟩
  · dsimp only at h
    split at h
    · cases h; exact ⟨rfl, rfl, rfl, fun _ _ => rfl, .inl ⟨rfl, nofun⟩⟩
    · rename_i ht
      cases h; exact ⟨rfl, rfl, rfl, .tick ht .refl, .inr ⟨rfl, rfl⟩⟩

/-- what `listDeployment` returns -/
def ownedDeps (w : World) : List Dep := w.deps.filter (fun d => d.owner = .this)

theorem listOwned_eq (c : Cfg) (s : S) : listOwned c s =
    ({ s with n := (c.tick false s.n).2 }, if (c.tick false s.n).1 then none else some (ownedDeps s.w)) := by
  unfold listOwned
  dsimp only
  split <;> rfl

theorem perm_insertNewest (d : Dep) (l : List Dep) : (insertNewest d l).Perm (d :: l) :=
  InsertSort.perm_insert insertNewest (fun _ => rfl) (fun x y ys => by rw [insertNewest]; split <;> simp) d l

theorem mem_insertNewest {x d : Dep} {l : List Dep} : x ∈ insertNewest d l ↔ x = d ∨ x ∈ l :=
  (perm_insertNewest d l).mem_iff.trans List.mem_cons

theorem mem_newestFirst {x : Dep} {l : List Dep} : x ∈ newestFirst l ↔ x ∈ l :=
  (InsertSort.perm_sort perm_insertNewest newestFirst rfl (fun _ _ => rfl) l).mem_iff

theorem filterCanary_mem {br : BR} {ds : List Dep} {tpl : Option Template} {d : Dep}
    (h : filterCanary br ds tpl = some d) : d ∈ ds := by
  unfold filterCanary at h
  have hm : ∀ x, x ∈ newestFirst ds → x ∈ ds := fun x hx => mem_newestFirst.mp hx
  split at h
  · cases h
  · rename_i d0 rest heq
    split at h
    · cases h; exact hm _ (by rw [heq]; exact List.mem_cons_self)
    · exact hm _ (by rw [heq]; exact List.mem_of_find?_eq_some h)

theorem filterCanary_none {br : BR} {ds : List Dep} {t : Template}
    (h : filterCanary br ds (some t) = none) : ∀ d ∈ ds, eqIgnore br t d.template = false := by
  unfold filterCanary at h
  intro d hd
  have hd' : d ∈ newestFirst ds := mem_newestFirst.mpr hd
  split at h
  · rename_i heq; rw [heq] at hd'; cases hd'
  · rename_i d0 rest heq
    dsimp only at h
    rw [← heq] at h
    have := List.find?_eq_none.mp h d hd'
    simpa using this

theorem filterCanary_active_owned {br : BR} {w : World} {tpl : Option Template} {cd : Dep}
    (h : filterCanary br (filterActive (ownedDeps w)) tpl = some cd) :
    cd ∈ w.deps ∧ cd.owner = .this ∧ cd.deleting = false := by
  obtain ⟨h2, h3⟩ := List.mem_filter.mp (filterCanary_mem h)
  obtain ⟨h4, h5⟩ := List.mem_filter.mp h2
  exact ⟨h4, by simpa using h5, by simpa using h3⟩

theorem selectCanary_eq (br : BR) (w : World) :
    selectCanary br w = filterCanary br (filterActive (ownedDeps w)) ((w.find br.key).map (·.template)) := rfl

theorem selectCanary_mem {br : BR} {w : World} {cd : Dep} (h : selectCanary br w = some cd) :
    cd ∈ w.deps ∧ cd.owner = .this ∧ cd.deleting = false :=
  filterCanary_active_owned h

theorem pickCanary_spec {br : BR} {s s' : S} {ds : List Dep} {tpl : Option Template} {o : Out Dep}
    (h : pickCanary br s ds tpl = (s', o)) :
    s'.w = s.w ∧ s'.n = s.n ∧ s'.exp = s.exp ∧ s'.stable = s.stable ∧ o ≠ .fail .ok ∧
    (∀ d, o = .ok d → s'.canary = some d ∧ d.replicas ≠ none ∧ filterCanary br ds tpl = some d) ∧
    (o = .fail .notFound → filterCanary br ds tpl = none) ∧ (∀ x, o = .fail x → s'.canary = s.canary) := by
  unfold pickCanary at h
  split at h
  · rename_i hfc
    cases h; exact ⟨rfl, rfl, rfl, rfl, nofun, (fun _ h => nomatch h), fun _ => hfc, fun _ _ => rfl⟩
  · rename_i d hfc
    split at h
    · cases h; exact ⟨rfl, rfl, rfl, rfl, nofun, (fun _ h => nomatch h), nofun, fun _ _ => rfl⟩
    · rename_i r hr
      cases h
      exact ⟨rfl, rfl, rfl, rfl, nofun, fun _ h => by cases h; exact ⟨rfl, by rw [hr]; nofun, hfc⟩, nofun, nofun⟩

/-- `BuildCanaryController` only reads: it fills the two caches, picking the canary by the template of the stable Deployment
    it has (by no template if that is gone) -/
structure CanaryBuilt (c : Cfg) (br : BR) (s s' : S) (o : Out Dep) : Prop where
  world : s'.w = s.w
  exp : s'.exp = s.exp
  stable : ∀ d0, s.stable = some d0 → s'.stable = some d0
  notOk : o ≠ .fail .ok
  reports : Reports c s.n s'.n (o = .fail .err)
  picked : s.canary = none → ∀ d, o = .ok d → s'.canary = some d ∧ d.replicas ≠ none ∧
    filterCanary br (filterActive (ownedDeps s.w)) (s'.stable.map (·.template)) = some d
  notFound : o = .fail .notFound → s'.canary = none ∧
    filterCanary br (filterActive (ownedDeps s.w)) (s'.stable.map (·.template)) = none
  failed : ∀ x, o = .fail x → s'.canary = none

theorem buildCanary_cases {c : Cfg} {br : BR} {s s' : S} {o : Out Dep} (h : buildCanary c br s = (s', o)) :
    CanaryBuilt c br s s' o := by
  unfold buildCanary at h
  split at h
  · rename_i d hd
    cases h
    exact ⟨rfl, rfl, fun _ h => h, nofun, .refl, (fun hc => by rw [hc] at hd; cases hd), nofun, nofun⟩
  · rename_i hc
    rw [listOwned_eq] at h
    by_cases ht : (c.tick false s.n).1 = true
    · rw [if_pos ht] at h
      cases h
      exact ⟨rfl, rfl, fun _ h => h, nofun, fun _ _ => rfl, (fun _ _ h => nomatch h), nofun, fun _ _ => hc⟩
    · rw [if_neg ht] at h
      dsimp only at h
      -- carried through the `generalize`: all that is needed of `buildStable` beyond its spec is that a filled cache is
      -- returned as it is
      have hcached := buildStable_cached c br { s with n := (c.tick false s.n).2 }
      generalize h2 : buildStable c br { s with n := (c.tick false s.n).2 } = bs at hcached h
      obtain ⟨s2, o2⟩ := bs
      have hb := buildStable_spec h2
      have hst : ∀ d0, s.stable = some d0 → s2.stable = some d0 := fun d0 h0 => by cases hcached d0 h0; exact h0
      have hlive : Reports c s.n s2.n (o2 = .fail .err) := .tick ht hb.reports
      have hca : s2.canary = none := hb.canary.trans hc
      -- found, or NotFound: the rest is `pickCanary` with the template of the stable Deployment in the cache, if any
      have rest : ∀ {tpl : Option Template}, o2 ≠ .fail .err → tpl = s2.stable.map (·.template) →
          pickCanary br s2 (filterActive (ownedDeps s.w)) tpl = (s', o) → CanaryBuilt c br s s' o := by
        rintro _ hne rfl hp
        obtain ⟨pw, pn, pe, pst, pno, pok, pnf, pfail⟩ := pickCanary_spec hp
        refine ⟨pw.trans hb.world, pe.trans hb.exp, fun d0 h0 => pst.trans (hst d0 h0), pno,
          fun h0 hf => absurd (hlive h0 (pn ▸ hf)) hne, ?_, ?_, fun x h => (pfail x h).trans hca⟩ <;> rw [pst]
        · exact fun _ => pok
        · exact fun h => ⟨(pfail _ h).trans hca, pnf h⟩
      cases o2 with
      | ok st => exact rest nofun (by rw [(hb.found st rfl).1]; rfl) h
      | fail x =>
        cases x
        case err =>
          cases h
          exact ⟨hb.world, hb.exp, hst, nofun, fun _ _ => rfl, (fun _ _ h => nomatch h), nofun, fun _ _ => hca⟩
        case panic =>
          cases h
          exact ⟨hb.world, hb.exp, hst, nofun, (fun h0 hf => nomatch hlive h0 hf), (fun _ _ h => nomatch h), nofun,
            fun _ _ => hca⟩
        case ok => exact absurd rfl hb.notOk
        case notFound => exact rest nofun (by rw [hb.failed _ rfl]; rfl) h

/-- `canary.Create` went through, from world `w` and expectation `exp`: the canary `cd`, built from the stable Deployment `st`, is
    added; the call answers err (wait for the informer) and leaves the expectation pending, which it was not, or had timed out -/
structure Created (c : Cfg) (br : BR) (w : World) (exp : Exp) (s' : S) (r : Res) (st cd : Dep) : Prop where
  found : w.find br.key = some st
  built : newCanary br st w = some cd
  world : s'.w = w.add cd
  err : r = .err
  expired : ¬ (exp = .pending ∧ c.timedOut = false)
  pending : s'.exp = .pending

theorem canaryCreate_cases {c : Cfg} {br : BR} {s s' : S} {r : Res} (h : canaryCreate c br s = (s', r)) :
    (r = .ok → s.canary ≠ none ∧ s' = s) ∧
    (s'.w = s.w ∨ ∃ st cd, s.canary = none ∧ Created c br s.w s.exp s' r st cd) ∧
    Reports c s.n s'.n (r = .err) := by
  unfold canaryCreate at h
  split at h
  · rename_i d hd
    cases h; exact ⟨fun _ => ⟨by rw [hd]; nofun, rfl⟩, .inl rfl, .refl⟩
  · rename_i hd
    by_cases hp : s.exp = .pending ∧ ¬ c.timedOut = true
    · rw [if_pos hp] at h
      cases h; exact ⟨nofun, .inl rfl, .refl⟩
    · rw [if_neg hp] at h
      dsimp only at h
      split at h
      · cases h; exact ⟨nofun, .inl rfl, fun _ _ => rfl⟩
      · rename_i ht
        split at h
        · cases h; exact ⟨nofun, .inl rfl, .tick ht .refl⟩
        · rename_i st hst
          split at h
          · cases h; exact ⟨nofun, .inl rfl, .tick ht .refl⟩
          · rename_i cd hcd
            split at h
            · cases h; exact ⟨nofun, .inl rfl, fun _ _ => rfl⟩
            · cases h
              exact ⟨nofun, .inr ⟨st, cd, hd, hst, hcd, rfl, rfl, by simpa using hp, rfl⟩, fun _ _ => rfl⟩

/-- the write of `realCanaryController.UpgradeBatch` -/
def setReplicas (t : Int) (x : Dep) : Dep := { x with replicas := some t, generation := x.generation + 1 }

theorem canaryUpgrade_spec {c : Cfg} {s s' : S} {cd : Dep} {cur desired : Int} {r : Res}
    (h : canaryUpgrade c s cd cur desired = (s', r)) :
    s'.exp = s.exp ∧ Reports c s.n s'.n (r = .err) ∧
    ((s'.w = s.w ∧ (r = .ok → desired ≤ cur)) ∨
      (cur < desired ∧ r = .ok ∧ s'.w = s.w.modify cd.name (setReplicas desired))) := by
  unfold canaryUpgrade at h
  split at h
  · cases h; exact ⟨rfl, .refl, .inl ⟨rfl, fun _ => by omega⟩⟩
  · dsimp only at h
    split at h
    · cases h; exact ⟨rfl, fun _ _ => rfl, .inl ⟨rfl, nofun⟩⟩
    · rename_i ht
      cases h; exact ⟨rfl, .tick ht .refl, .inr ⟨by omega, rfl, rfl⟩⟩

theorem removeFinalizer_spec {c : Cfg} {s s' : S} {id : Nat} {r : Res} (h : removeFinalizer c s id = (s', r)) :
    ((s'.w = s.w ∧ ((r = .ok ∨ r = .notFound) → ∀ d, s.w.find id = some d → d.finalizer = false)) ∨
      (r = .ok ∧ s'.w = dropAll s.w [id])) ∧
    Reports c s.n s'.n (r = .err) := by
  unfold removeFinalizer at h
  dsimp only at h
  split at h
  · cases h; exact ⟨.inl ⟨rfl, fun h => by cases h <;> contradiction⟩, fun _ _ => rfl⟩
  · rename_i ht
    split at h
    · rename_i hf
      cases h; exact ⟨.inl ⟨rfl, fun _ d hd => by rw [hf] at hd; cases hd⟩, .tick ht .refl⟩
    · rename_i d hf
      split at h
      · rename_i hfin
        cases h
        exact ⟨.inl ⟨rfl, fun _ d' hd' => by rw [hf] at hd'; cases hd'; simpa using hfin⟩, .tick ht .refl⟩
      · split at h
        · cases h; exact ⟨.inl ⟨rfl, fun h => by cases h <;> contradiction⟩, fun _ _ => rfl⟩
        · rename_i ht2
          cases h; exact ⟨.inr ⟨rfl, dropFinalizer_eq _ _⟩, .tick ht (.tick ht2 .refl)⟩

/-- `ds` is the list read before the loop, and the world moves under it: the removals are of listed objects that were listed
    with the finalizer; on nil, whatever still carries the finalizer is an object `ds` does not list with it
    (`removeFinalizer` re-reads, so a listed one found without it is skipped) -/
theorem deleteLoop_spec {c : Cfg} {ds : List Dep} {s s' : S} {r : Res} (h : deleteLoop c ds s = (s', r)) :
    (∃ ids, s'.w = dropAll s.w ids ∧ ∀ id ∈ ids, ∃ d ∈ ds, d.finalizer = true ∧ d.name = id) ∧
    Reports c s.n s'.n (r = .err) ∧
    (r = .ok → (names s.w).Nodup → ∀ x ∈ s'.w.deps, x.finalizer = true →
      x ∈ s.w.deps ∧ ∀ d ∈ ds, d.finalizer = true → d.name ≠ x.name) := by
  induction ds generalizing s with
  | nil =>
    cases h
    exact ⟨⟨[], (dropAll_nil _).symm, fun _ hid => nomatch hid⟩, .refl, fun _ _ x hx _ => ⟨hx, fun _ hd => nomatch hd⟩⟩
  | cons d ds ih =>
    unfold deleteLoop at h
    have rest : ∀ {s1 : S} {p : Prop}, Reports c s.n s1.n p → ¬ p → deleteLoop c ds s1 = (s', r) →
        (∃ ids, s'.w = dropAll s1.w ids ∧ ∀ id ∈ ids, ∃ d' ∈ d :: ds, d'.finalizer = true ∧ d'.name = id) ∧
        Reports c s.n s'.n (r = .err) ∧
        (r = .ok → (names s1.w).Nodup → ∀ x ∈ s'.w.deps, x.finalizer = true →
          x ∈ s1.w.deps ∧ ∀ d' ∈ ds, d'.finalizer = true → d'.name ≠ x.name) := fun hr hp h1 => by
      obtain ⟨⟨ids, hw, hids⟩, hrep, hgone⟩ := ih h1
      exact ⟨⟨ids, hw, fun id hid => (hids id hid).imp fun d' h' => ⟨List.mem_cons_of_mem _ h'.1, h'.2⟩⟩,
        hr.trans hp hrep, hgone⟩
    -- an object that still carries the finalizer at the end is none of `ds` (the rest of the loop) and not `d`
    have ext : ∀ {x : Dep}, x ∈ s.w.deps → (d.finalizer = true → d.name ≠ x.name) →
        (∀ d' ∈ ds, d'.finalizer = true → d'.name ≠ x.name) →
        x ∈ s.w.deps ∧ ∀ d' ∈ d :: ds, d'.finalizer = true → d'.name ≠ x.name := fun hx h1 h2 =>
      ⟨hx, fun d' hd' hf' => (List.mem_cons.mp hd').elim (fun e => e ▸ h1 (e ▸ hf')) (fun hd' => h2 d' hd' hf')⟩
    split at h
    · rename_i hfin
      obtain ⟨hids, hrep, hgone⟩ := rest (p := False) .refl id h
      refine ⟨hids, hrep, fun hok hnd x hx hxf => ?_⟩
      obtain ⟨h1, h2⟩ := hgone hok hnd x hx hxf
      exact ext h1 (fun hf' => by simp [hf'] at hfin) h2
    · rename_i hfin
      generalize h1 : removeFinalizer c s d.name = rf at h
      obtain ⟨s1, r1⟩ := rf
      obtain ⟨hcase, hrep1⟩ := removeFinalizer_spec h1
      rcases hcase with ⟨hw, hfin0⟩ | ⟨rfl, hw⟩
      · -- nothing written: `d` carried no finalizer in the world (or is gone), or the loop ends here
        have hcont : ((r1 = .ok ∨ r1 = .notFound) ∧ deleteLoop c ds s1 = (s', r)) ∨ (r1 ≠ .ok ∧ (s1, r1) = (s', r)) := by
          cases r1
          case ok => exact .inl ⟨.inl rfl, h⟩
          case notFound => exact .inl ⟨.inr rfl, h⟩
          all_goals exact .inr ⟨nofun, h⟩
        rcases hcont with ⟨hr1, h⟩ | ⟨hne, h⟩
        · obtain ⟨hids, hrep, hgone⟩ := rest hrep1 (by rcases hr1 with rfl | rfl <;> nofun) h
          rw [hw] at hids hgone
          refine ⟨hids, hrep, fun hok hnd x hx hxf => ?_⟩
          obtain ⟨hx1, h2⟩ := hgone hok hnd x hx hxf
          refine ext hx1 (fun _ hne => ?_) h2
          rw [hfin0 hr1 x (hne ▸ find_of_mem hnd hx1)] at hxf
          cases hxf
        · cases h
          exact ⟨⟨[], by rw [dropAll_nil, hw], fun _ hid => nomatch hid⟩, hrep1, fun hok => absurd hok hne⟩
      · obtain ⟨⟨ids, hw', hids⟩, hrep, hgone⟩ := rest hrep1 nofun h
        refine ⟨⟨d.name :: ids, by rw [hw', hw, dropAll_dropAll]; rfl, fun id hid => ?_⟩, hrep, fun hok hnd x hx hxf => ?_⟩
        · rcases List.mem_cons.mp hid with rfl | hid
          · exact ⟨d, List.mem_cons_self, by simpa using hfin, rfl⟩
          · exact hids id hid
        · obtain ⟨hx1, h2⟩ := hgone hok (hw ▸ nodup_dropAll _ hnd) x hx hxf
          rw [hw] at hx1
          obtain ⟨hx2, hnin⟩ := mem_dropAll_fin hx1 hxf
          exact ext hx2 (fun _ he => hnin (by simp [he])) h2

/-- what `stable.Finalize` did: nothing (and then nil only if the stable Deployment is gone), or the release patch (and then,
    under WaitResume, nil only for a promoted object) -/
def Released (br : BR) (w w1 : World) (r : Res) : Prop :=
  (w1 = w ∧ (r = .ok → w.find br.key = none)) ∨
  (w1 = w.modify br.key (releaseStable br.partition.isSome) ∧
    (r = .ok → br.waitResume = true → ∃ d, w1.find br.key = some d ∧ waitAllUpdatedAndReady d = .ok))

theorem Released.mono {br : BR} {w w1 : World} {r r' : Res} (h : Released br w w1 r) (hr : r' = .ok → r = .ok) :
    Released br w w1 r' :=
  h.imp (fun h => ⟨h.1, fun h' => h.2 (hr h')⟩) (fun h => ⟨h.1, fun h' => h.2 (hr h')⟩)

theorem Released.nodup {br : BR} {w w1 : World} {r : Res} (h : Released br w w1 r) (hnd : (names w).Nodup) :
    (names w1).Nodup := by
  rcases h with ⟨rfl, -⟩ | ⟨rfl, -⟩
  · exact hnd
  · rw [names_modify _ _ _ (by intro d; rfl)]; exact hnd

theorem stableFinalize_spec {c : Cfg} {br : BR} {s s' : S} {r : Res} (hst : s.stable = none → s.w.find br.key = none)
    (h : stableFinalize c br s = (s', r)) : Released br s.w s'.w r ∧ Reports c s.n s'.n (r = .err) := by
  unfold stableFinalize at h
  split at h
  · rename_i hs
    cases h; exact ⟨.inl ⟨rfl, fun _ => hst hs⟩, .refl⟩
  · dsimp only at h
    split at h
    · cases h; exact ⟨.inl ⟨rfl, nofun⟩, fun _ _ => rfl⟩
    · rename_i ht
      split at h
      · split at h
        · cases h; exact ⟨.inr ⟨rfl, nofun⟩, .tick ht .refl⟩
        · rename_i d hd
          cases h; exact ⟨.inr ⟨rfl, fun hok _ => ⟨d, hd, hok⟩⟩, .tick ht .refl⟩
      · rename_i hwr
        cases h; exact ⟨.inr ⟨rfl, fun _ hwr' => absurd hwr' hwr⟩, .tick ht .refl⟩

/-- the plane object at the start of a call (caches empty, counter 0): what `call` starts from, and `canaryS` of the executor's
    adapter -/
def S0 (w : World) (exp : Exp) : S := { w := w, n := 0, exp := exp, stable := none, canary := none }

/-- what `canary.Delete` made of world `w`: the finalizer is removed from some owned Deployments that carried it; on nil no owned
    Deployment carries it any more (holds also when nothing was done) -/
def Deleted (w : World) (s' : S) (r : Res) : Prop :=
  ∃ ids, s'.w = dropAll w ids ∧ (∀ id ∈ ids, ∃ d ∈ ownedDeps w, d.finalizer = true ∧ d.name = id) ∧
    (r = .ok → (names w).Nodup → ∀ x ∈ s'.w.deps, x.owner = .this → x.finalizer = false)

theorem Deleted.stop {w : World} {s' : S} {r : Res} (hw : s'.w = w) (hr : r ≠ .ok) : Deleted w s' r :=
  ⟨[], by rw [dropAll_nil, hw], (fun _ hid => nomatch hid), fun h => absurd h hr⟩

theorem canaryDelete_spec {c : Cfg} {s s' : S} {r : Res} (h : canaryDelete c s = (s', r)) :
    Deleted s.w s' r ∧ Reports c s.n s'.n (r = .err) := by
  unfold canaryDelete at h
  rw [listOwned_eq] at h
  by_cases ht : (c.tick false s.n).1 = true
  · rw [if_pos ht] at h
    cases h; exact ⟨.stop rfl nofun, fun _ _ => rfl⟩
  · rw [if_neg ht] at h
    dsimp only at h
    obtain ⟨⟨ids, hw, hids⟩, hrep, hgone⟩ := deleteLoop_spec h
    refine ⟨⟨ids, hw, hids, ?_⟩, .tick ht hrep⟩
    intro hok hnd x hx ho
    -- an owned Deployment that still carried the finalizer would have been listed
    refine Bool.eq_false_iff.mpr fun hxf => ?_
    obtain ⟨hx1, hx2⟩ := hgone hok hnd x hx hxf
    exact hx2 x (List.mem_filter.mpr ⟨hx1, by simpa using ho⟩) hxf rfl

theorem finTail_spec {c : Cfg} {br : BR} {s s' : S} {r : Res}
    (hst : s.stable = none → s.w.find br.key = none) (h : finTail c br s = (s', r)) :
    ∃ w1, Released br s.w w1 r ∧ Deleted w1 s' r ∧ Reports c s.n s'.n (r = .err) := by
  unfold finTail at h
  generalize h2 : stableFinalize c br s = r2 at h
  obtain ⟨s2, o2⟩ := r2
  obtain ⟨hrel, hrep2⟩ := stableFinalize_spec hst h2
  cases o2
  case ok =>
    dsimp only at h
    generalize h3 : buildCanary c br s2 = r3 at h
    obtain ⟨s3, o3⟩ := r3
    have hw3 := (buildCanary_cases h3).world
    have hrep3 := hrep2.trans nofun (buildCanary_cases h3).reports
    have del : o3 ≠ .fail .err → canaryDelete c s3 = (s', r) → Deleted s2.w s' r ∧ Reports c s.n s'.n (r = .err) :=
      fun hne h => ⟨hw3 ▸ (canaryDelete_spec h).1, hrep3.trans hne (canaryDelete_spec h).2⟩
    refine ⟨s2.w, hrel.mono fun _ => rfl, ?_⟩
    cases o3 with
    | ok cd => exact del nofun h
    | fail x =>
      cases x
      case err => cases h; exact ⟨.stop hw3 nofun, fun _ _ => rfl⟩
      case panic => cases h; exact ⟨.stop hw3 nofun, fun h0 hf => nomatch hrep3 h0 hf⟩
      all_goals exact del nofun h
  all_goals cases h; exact ⟨_, hrel, .stop rfl nofun, hrep2⟩

theorem planeFinalize_spec {c : Cfg} {br : BR} {w : World} {exp : Exp} {s' : S} {r : Res}
    (h : planeFinalize c br (S0 w exp) = (s', r)) :
    ∃ w1, Released br w w1 r ∧ Deleted w1 s' r ∧ Reports c (S0 w exp).n s'.n (r = .err) := by
  unfold planeFinalize at h
  generalize h1 : buildStable c br (S0 w exp) = r1 at h
  obtain ⟨s1, o1⟩ := r1
  have hb := buildStable_spec h1
  have hw1 : s1.w = w := hb.world
  have hrep1 := hb.reports
  have go : o1 ≠ .fail .err → (s1.stable = none → w.find br.key = none) → finTail c br s1 = (s', r) →
      ∃ w1, Released br w w1 r ∧ Deleted w1 s' r ∧ Reports c (S0 w exp).n s'.n (r = .err) := by
    intro hne hst h
    rw [← hw1] at hst ⊢
    obtain ⟨w1, hrel, hdel, hrep⟩ := finTail_spec hst h
    exact ⟨w1, hrel, hdel, hrep1.trans hne hrep⟩
  cases o1 with
  | ok st => exact go nofun (fun h' => by rw [(hb.found st rfl).1] at h'; cases h') h
  | fail x =>
    cases x
    case err => cases h; exact ⟨w, .inl ⟨rfl, nofun⟩, .stop hw1 nofun, fun _ _ => rfl⟩
    case panic => cases h; exact ⟨w, .inl ⟨rfl, nofun⟩, .stop hw1 nofun, fun h0 hf => nomatch hrep1 h0 hf⟩
    case ok => exact absurd rfl hb.notOk
    case notFound => exact go nofun (fun _ => hb.absent rfl) h

theorem batchPrefix_spec {c : Cfg} {br : BR} {w : World} {exp : Exp} {s' : S} {o : Out (Dep × Int × Int)}
    (h : batchPrefix c br (S0 w exp) = (s', o)) :
    s'.w = w ∧ s'.exp = exp ∧ Reports c (S0 w exp).n s'.n (o = .fail .err) ∧
    (∀ cd R t, o = .ok (cd, R, t) →
        ∃ st, w.find br.key = some st ∧ st.replicas = some R ∧ R ≠ 0 ∧
          selectCanary br w = some cd ∧ cd.replicas ≠ none ∧ target br w = some t) ∧
    (o = .fail .ok → ∃ st, w.find br.key = some st ∧ st.replicas = some 0) := by
  unfold batchPrefix at h
  generalize h1 : buildStable c br (S0 w exp) = r1 at h
  obtain ⟨s1, o1⟩ := r1
  have hb := buildStable_spec h1
  have hw1 : s1.w = w := hb.world
  have he1 : s1.exp = exp := hb.exp
  have hrep1 := hb.reports
  cases o1 with
  | fail x =>
    cases h
    exact ⟨hw1, he1, fun h0 hf => congrArg _ (Out.fail.inj (hrep1 h0 hf)), (fun _ _ _ h => nomatch h),
      fun h => absurd (Out.fail.inj h ▸ rfl) hb.notOk⟩
  | ok st =>
    obtain ⟨hs1, h2⟩ := hb.found st rfl
    have hfind : w.find br.key = some st := h2.elim (nomatch ·) (·.2.1)
    have stop1 : Reports c (S0 w exp).n s1.n (o = .fail .err) := fun h0 hf => nomatch hrep1 h0 hf
    dsimp only at h
    split at h
    · cases h; exact ⟨hw1, he1, stop1, (fun _ _ _ h => nomatch h), nofun⟩
    · rename_i R hR
      by_cases h0 : R = 0
      · rw [if_pos h0] at h
        cases h; exact ⟨hw1, he1, stop1, (fun _ _ _ h => nomatch h), fun _ => ⟨st, hfind, by rw [hR, h0]⟩⟩
      · rw [if_neg h0] at h
        generalize h3 : buildCanary c br s1 = r3 at h
        obtain ⟨s3, o3⟩ := r3
        have hc := buildCanary_cases h3
        have hrep3 := hrep1.trans nofun hc.reports
        have hw : s3.w = w := hc.world.trans hw1
        have he : s3.exp = exp := hc.exp.trans he1
        cases o3 with
        | fail r =>
          cases h
          exact ⟨hw, he, fun h0 hf => congrArg _ (Out.fail.inj (hrep3 h0 hf)), (fun _ _ _ h => nomatch h),
            fun h => absurd (Out.fail.inj h ▸ rfl) hc.notOk⟩
        | ok cd =>
          dsimp only at h
          -- `ListOwnedPods`, if it is called at all, only moves the counter
          have hrep4 : ∀ {p : Prop}, ¬ (if br.rolloutID = true then c.tick false s3.n else (false, s3.n)).1 = true →
              Reports c s3.n (if br.rolloutID = true then c.tick false s3.n else (false, s3.n)).2 p := by
            split
            · exact fun ht => .tick ht .refl
            · exact fun _ => .refl
          generalize (if br.rolloutID = true then c.tick false s3.n else (false, s3.n)) = t at h hrep4
          split at h
          · cases h; exact ⟨hw, he, fun _ _ => rfl, (fun _ _ _ h => nomatch h), nofun⟩
          · split at h
            · cases h; exact ⟨hw, he, fun _ _ => rfl, (fun _ _ _ h => nomatch h), nofun⟩
            · rename_i ht
              have hrep := hrep3.trans nofun (hrep4 (p := o = .fail .err) ht)
              split at h
              · cases h; exact ⟨hw, he, hrep, (fun _ _ _ h => nomatch h), nofun⟩
              · rename_i e hent
                cases h
                refine ⟨hw, he, hrep, ?_, nofun⟩
                rintro _ _ _ ⟨⟩
                obtain ⟨-, hrepl, hsel⟩ := hc.picked hb.canary cd rfl
                rw [hc.stable st hs1, hw1] at hsel
                refine ⟨st, hfind, hR, h0, ?_, hrepl, by simp only [target, hfind, hR, hent]⟩
                rw [selectCanary_eq, hfind]; exact hsel

theorem planeEnsureReady_spec (c : Cfg) (br : BR) (w : World) (exp : Exp) :
    (planeEnsureReady c br (S0 w exp)).1.w = w ∧
    Reports c (S0 w exp).n (planeEnsureReady c br (S0 w exp)).1.n ((planeEnsureReady c br (S0 w exp)).2 = .err) := by
  unfold planeEnsureReady
  generalize h1 : batchPrefix c br (S0 w exp) = r1
  obtain ⟨s1, o1⟩ := r1
  obtain ⟨hw, -, hrep, -⟩ := batchPrefix_spec h1
  cases o1 with
  | fail r => exact ⟨hw, fun h0 hf => Out.fail.inj (hrep h0 hf)⟩
  | ok x => exact ⟨hw, fun h0 hf => nomatch hrep h0 hf⟩

theorem planeUpgradeBatch_spec {c : Cfg} {br : BR} {w : World} {exp : Exp} {s' : S} {r : Res}
    (h : planeUpgradeBatch c br (S0 w exp) = (s', r)) :
    s'.exp = exp ∧ Reports c (S0 w exp).n s'.n (r = .err) ∧
    ((s'.w = w ∧
        (r = .ok → ∃ st, w.find br.key = some st ∧
          (st.replicas = some 0 ∨ ∃ cd t cur, selectCanary br w = some cd ∧ target br w = some t ∧
              cd.replicas = some cur ∧ t ≤ cur))) ∨
      (∃ cd t cur st, w.find br.key = some st ∧ st.replicas ≠ some 0 ∧ selectCanary br w = some cd ∧
          target br w = some t ∧ cd.replicas = some cur ∧ cur < t ∧ r = .ok ∧ s'.w = w.modify cd.name (setReplicas t))) := by
  unfold planeUpgradeBatch at h
  generalize h1 : batchPrefix c br (S0 w exp) = r1 at h
  obtain ⟨s1, o1⟩ := r1
  obtain ⟨hw, he, hrep, hok, hfo⟩ := batchPrefix_spec h1
  cases o1 with
  | fail x =>
    cases h
    refine ⟨he, fun h0 hf => Out.fail.inj (hrep h0 hf), .inl ⟨hw, ?_⟩⟩
    rintro rfl
    obtain ⟨st, hst, hrep⟩ := hfo rfl
    exact ⟨st, hst, .inl hrep⟩
  | ok x =>
    obtain ⟨cd, R, t⟩ := x
    obtain ⟨st, hst, hR, hR0, hsel, hrepl, htgt⟩ := hok cd R t rfl
    dsimp only at h
    split at h
    · rename_i hnone; exact absurd hnone hrepl
    · rename_i cur hcur
      obtain ⟨he2, hrep2, hcase⟩ := canaryUpgrade_spec h
      refine ⟨he2.trans he, hrep.trans nofun hrep2, ?_⟩
      rcases hcase with ⟨hw2, hle⟩ | ⟨hlt, hok2, hw2⟩
      · exact .inl ⟨hw2.trans hw, fun hr => ⟨st, hst, .inr ⟨cd, t, cur, hsel, htgt, hcur, hle hr⟩⟩⟩
      · refine .inr ⟨cd, t, cur, st, hst, ?_, hsel, htgt, hcur, hlt, hok2, by rw [hw2, hw]⟩
        rw [hR]; intro h; cases h; exact hR0 rfl

theorem initTail_spec {c : Cfg} {br : BR} {s s' : S} {st : Dep} {r : Res × Option InitStatus}
    (h : initTail c br s st = (s', r)) :
    (s'.w = s.w ∨ ∃ st' cd, s.canary = none ∧ Created c br s.w s.exp s' r.1 st' cd) ∧
    Reports c s.n s'.n (r.1 = .err) ∧ (r.1 = .ok → s.canary ≠ none) := by
  unfold initTail at h
  generalize h4 : canaryCreate c br s = r4 at h
  obtain ⟨s4, o4⟩ := r4
  obtain ⟨hok, hw, hrep⟩ := canaryCreate_cases h4
  have hs : s' = s4 ∧ (o4 = .err → r.1 = .err) ∧ (r.1 = .ok → o4 = .ok) := by
    cases o4 <;> dsimp only at h
    · split at h <;> cases h <;> exact ⟨rfl, nofun, fun _ => rfl⟩
    all_goals cases h; exact ⟨rfl, id, id⟩
  obtain ⟨rfl, hr, hr'⟩ := hs
  exact ⟨hw.imp id fun ⟨st', cd, a, p⟩ => ⟨st', cd, a, { p with err := hr p.err }⟩, fun h0 hf => hr (hrep h0 hf),
    fun h => (hok (hr' h)).1⟩

theorem planeInitialize_created {c : Cfg} {br : BR} {w : World} {exp : Exp} {s' : S} {r : Res × Option InitStatus}
    (h : planeInitialize c br (S0 w exp) = (s', r)) :
    ∃ w1, (w1 = w ∨ ((w.find br.key).isSome ∧ w1 = w.modify br.key setCtrl)) ∧
      (s'.w = w1 ∨ ∃ st cd, filterCanary br (filterActive (ownedDeps w1)) (some st.template) = none ∧
        Created c br w1 exp s' r.1 st cd) ∧
      Reports c (S0 w exp).n s'.n (r.1 = .err) ∧
      (r.1 = .ok → ∃ st cd, w1.find br.key = some st ∧ isControlledBy st = true ∧
        cd ∈ w1.deps ∧ cd.owner = .this ∧ cd.deleting = false) := by
  unfold planeInitialize at h
  generalize h1 : buildStable c br (S0 w exp) = r1 at h
  obtain ⟨s1, o1⟩ := r1
  have hb := buildStable_spec h1
  have hw1 : s1.w = w := hb.world
  have he1 : s1.exp = exp := hb.exp
  have hrep1 := hb.reports
  cases o1 with
  | fail x =>
    cases h
    exact ⟨w, .inl rfl, .inl hw1, fun h0 hf => Out.fail.inj (hrep1 h0 hf), fun h => absurd (congrArg Out.fail h) hb.notOk⟩
  | ok st0 =>
    dsimp only at h
    obtain ⟨hs1, h2⟩ := hb.found st0 rfl
    have hfind : w.find br.key = some st0 := h2.elim (nomatch ·) (·.2.1)
    generalize h2 : stableInitialize c br s1 st0 = r2 at h
    obtain ⟨s2, o2⟩ := r2
    obtain ⟨he2, hst2, hca2, hrep2, hw2⟩ := stableInitialize_spec h2
    replace hrep2 := hrep1.trans nofun hrep2
    -- the world after `stable.Initialize`, and its stable Deployment: the one read, possibly with the control-info
    have hw2' : (s2.w = w ∨ ((w.find br.key).isSome ∧ s2.w = w.modify br.key setCtrl)) ∧
        ∃ st, s2.w.find br.key = some st ∧ st.template = st0.template ∧ (o2 = .ok → isControlledBy st = true) := by
      rcases hw2 with ⟨h, hc⟩ | ⟨-, h⟩
      · exact ⟨.inl (h.trans hw1), st0, by rw [h, hw1]; exact hfind, rfl, hc⟩
      · refine ⟨.inr ⟨by rw [hfind]; rfl, by rw [h, hw1]⟩, setCtrl st0, ?_, rfl, fun _ => by simp [isControlledBy, setCtrl]⟩
        rw [h, hw1, find_modify w br.key br.key setCtrl (fun _ => rfl), hfind]
        simp [(find_some hfind).2]
    obtain ⟨hw2', st2, hst2f, htpl, hctl⟩ := hw2'
    refine ⟨s2.w, hw2', ?_⟩
    cases o2
    case ok =>
      dsimp only at h
      generalize h3 : buildCanary c br s2 = r3 at h
      obtain ⟨s3, o3⟩ := r3
      have hc := buildCanary_cases h3
      have hw3 := hc.world
      have hokc := hc.picked (hca2.trans hb.canary)
      have hrep3 := hrep2.trans nofun hc.reports
      cases o3 with
      | ok cd =>
        -- the canary is in the cache: `Create` does nothing
        obtain ⟨hcase, hrep, -⟩ := initTail_spec h
        refine ⟨.inl ?_, hrep3.trans nofun hrep, fun _ => ⟨st2, cd, hst2f, hctl rfl, filterCanary_active_owned (hokc cd rfl).2.2⟩⟩
        rcases hcase with hw | ⟨_, _, hcan, -⟩
        · exact hw.trans hw3
        · rw [(hokc cd rfl).1] at hcan; cases hcan
      | fail x =>
        cases x
        case err => cases h; exact ⟨.inl hw3, fun _ _ => rfl, nofun⟩
        case panic => cases h; exact ⟨.inl hw3, (fun h0 hf => nomatch hrep3 h0 hf), nofun⟩
        case ok => exact absurd rfl hc.notOk
        case notFound =>
          obtain ⟨hcase, hrep, hok'⟩ := initTail_spec h
          refine ⟨?_, hrep3.trans nofun hrep, fun h => absurd (hc.failed _ rfl) (hok' h)⟩
          rcases hcase with hw | ⟨st, cd, -, p⟩
          · exact .inl (hw.trans hw3)
          · rw [hw3, show s3.exp = exp from hc.exp.trans (he2.trans he1)] at p
            have hnone := (hc.notFound rfl).2
            obtain rfl : st = st2 := Option.some.inj (p.found.symm.trans hst2f)
            rw [hc.stable st0 (hst2.trans hs1), Option.map_some, ← htpl] at hnone
            exact .inr ⟨st, cd, hnone, p⟩
    all_goals cases h; exact ⟨.inl rfl, hrep2, nofun⟩

/-- what becomes of the Deployment `d` under the write `f` to the object `id` followed by the finalizer removals `ids`
    (`none`: it was in deletion and lost its last finalizer); `effW`: the world after both -/
def eff (id : Nat) (f : Dep → Dep) (ids : List Nat) (d : Dep) : Option Dep :=
  dropFn ids (if d.name = id then f d else d)

def effW (w : World) (id : Nat) (f : Dep → Dep) (ids : List Nat) : World := dropAll (w.modify id f) ids

theorem eff_name {id : Nat} {f : Dep → Dep} {ids : List Nat} {d d' : Dep} (hf : ∀ d, (f d).name = d.name)
    (h : eff id f ids d = some d') : d'.name = d.name := by
  unfold eff at h
  rw [dropFn_name h]
  split <;> simp [hf]

theorem effW_find {w : World} {id : Nat} {f : Dep → Dep} {ids : List Nat} {d : Dep}
    (hf : ∀ d, (f d).name = d.name) (hnd : (names w).Nodup) (hd : d ∈ w.deps) :
    (effW w id f ids).find d.name = eff id f ids d := by
  unfold effW eff
  rw [find_dropAll ids d.name (by rw [names_modify _ _ _ hf]; exact hnd), find_modify _ _ _ _ hf,
    find_of_mem hnd hd]
  rfl

theorem effW_find_none {w : World} {id : Nat} {f : Dep → Dep} {ids : List Nat} {n : Nat}
    (hf : ∀ d, (f d).name = d.name) (hnd : (names w).Nodup) (h : w.find n = none) :
    (effW w id f ids).find n = none := by
  unfold effW
  rw [find_dropAll ids n (by rw [names_modify _ _ _ hf]; exact hnd), find_modify _ _ _ _ hf, h]
  rfl

theorem effW_mem {w : World} {id : Nat} {f : Dep → Dep} {ids : List Nat} {d' : Dep}
    (h : d' ∈ (effW w id f ids).deps) : ∃ d ∈ w.deps, eff id f ids d = some d' := by
  unfold effW at h
  obtain ⟨x, hx, hxd⟩ := mem_dropAll.mp h
  unfold World.modify at hx
  obtain ⟨d, hd, rfl⟩ := List.mem_map.mp hx
  exact ⟨d, hd, hxd⟩

theorem modify_id (w : World) (id : Nat) : w.modify id (fun d => d) = w := by
  unfold World.modify; simp

theorem effW_nil (w : World) (id : Nat) (f : Dep → Dep) : effW w id f [] = w.modify id f := by
  unfold effW; rw [dropAll_nil]

theorem effW_id_nil (w : World) (id : Nat) : effW w id (fun d => d) [] = w := by
  rw [effW_nil, modify_id]

theorem eff_nil (id : Nat) (f : Dep → Dep) (d : Dep) : eff id f [] d = some (if d.name = id then f d else d) := by
  unfold eff dropFn; simp

theorem eff_some {id : Nat} {f : Dep → Dep} {ids : List Nat} {d d' : Dep} (h : eff id f ids d = some d') :
    ((if d.name = id then f d else d).name ∉ ids ∧ d' = (if d.name = id then f d else d)) ∨
    ((if d.name = id then f d else d).name ∈ ids ∧ d' = { (if d.name = id then f d else d) with finalizer := false }) :=
  dropFn_some h

/-- `w'` is `w` after the write `f` to the object `id` and then either the finalizer removals `ids`, or (no removal) the
    creation of one object with a fresh name that satisfies `P` -/
def After (w : World) (id : Nat) (f : Dep → Dep) (ids : List Nat) (P : Dep → Prop) (w' : World) : Prop :=
  w' = effW w id f ids ∨ (ids = [] ∧ ∃ cd, P cd ∧ cd.name = w.maxName + 1 ∧ w' = (w.modify id f).add cd)

theorem find_after {w w' : World} {id : Nat} {f : Dep → Dep} {ids : List Nat} {P : Dep → Prop}
    (hf : ∀ d : Dep, (f d).name = d.name) (hnd : (names w).Nodup) (h : After w id f ids P w')
    {d : Dep} (hd : d ∈ w.deps) : w'.find d.name = eff id f ids d := by
  rcases h with h | ⟨hids, cd, _, _, h⟩
  · rw [h, effW_find hf hnd hd]
  · subst hids
    rw [h, find_add, find_modify _ _ _ _ hf, find_of_mem hnd hd, eff_nil]; rfl

theorem mem_after {w w' : World} {id : Nat} {f : Dep → Dep} {ids : List Nat} {P : Dep → Prop}
    (hf : ∀ d : Dep, (f d).name = d.name) (hnd : (names w).Nodup) (h : After w id f ids P w')
    {d' : Dep} (hd' : d' ∈ w'.deps) :
    (∃ d ∈ w.deps, eff id f ids d = some d' ∧ w.find d'.name = some d) ∨
    (ids = [] ∧ P d' ∧ d'.name = w.maxName + 1 ∧ w.find d'.name = none ∧ w' = (w.modify id f).add d') := by
  have old : ∀ ids', d' ∈ (effW w id f ids').deps →
      ∃ d ∈ w.deps, eff id f ids' d = some d' ∧ w.find d'.name = some d := fun ids' hm => by
    obtain ⟨d, hd, he⟩ := effW_mem hm
    exact ⟨d, hd, he, by rw [eff_name hf he]; exact find_of_mem hnd hd⟩
  rcases h with rfl | ⟨rfl, cd, hP, hcd, rfl⟩
  · exact .inl (old ids hd')
  · rcases List.mem_append.mp hd' with hm | hm
    · exact .inl (old [] (by rw [effW_nil]; exact hm))
    · cases List.mem_singleton.mp hm
      exact .inr ⟨rfl, hP, hcd, by rw [hcd]; exact find_fresh w, rfl⟩

theorem ids_owned {op : Op} {w : World} {id : Nat} {f : Dep → Dep} {ids : List Nat}
    (hf : ∀ d : Dep, (f d).name = d.name) (hnd : (names w).Nodup)
    (hids : ids = [] ∨ (op = .fin ∧ ∀ i ∈ ids, ∃ x ∈ ownedDeps (w.modify id f), x.finalizer = true ∧ x.name = i))
    {d : Dep} (hd : d ∈ w.deps) (hin : d.name ∈ ids) :
    (if d.name = id then f d else d).owner = .this ∧ (if d.name = id then f d else d).finalizer = true := by
  rcases hids with rfl | ⟨-, hids⟩
  · cases hin
  obtain ⟨x, hx, hxf, hxn⟩ := hids _ hin
  obtain ⟨hx1, hx2⟩ := List.mem_filter.mp hx
  obtain ⟨y, hy, rfl⟩ := List.mem_map.mp hx1
  have hyn : y.name = d.name := by
    rw [← hxn]; split <;> simp [hf]
  cases eq_of_name_eq hnd hy hd hyn
  exact ⟨by simpa using hx2, hxf⟩

theorem newCanary_some {br : BR} {st cd : Dep} {w : World} (h : newCanary br st w = some cd) :
    ∃ tp, patchedTemplate br st.template = some tp ∧
      cd = { name := w.maxName + 1, owner := .this, ctrl := .this, canaryOf := some st.name, template := tp,
             replicas := some 0, paused := false, finalizer := true, otherFinalizer := false, deleting := false,
             created := w.maxCreated + 1, generation := 1, observedGeneration := 0,
             statusReplicas := 0, updatedReplicas := 0, availableReplicas := 0, strategy := st.strategy } := by
  unfold newCanary at h
  cases hp : patchedTemplate br st.template with
  | none => rw [hp] at h; cases h
  | some tp => rw [hp] at h; simp only [Option.map_some, Option.some.injEq] at h; exact ⟨tp, rfl, h.symm⟩

/-- `d'` is `d` in its name and in what the choice of the canary reads: owner, deletion, pod template -/
structure SameFor (d d' : Dep) : Prop where
  name : d'.name = d.name
  owner : d'.owner = d.owner
  deleting : d'.deleting = d.deleting
  template : d'.template = d.template

def Pres (f : Dep → Dep) : Prop := ∀ d, SameFor d (f d)

theorem Pres.name {f : Dep → Dep} (hp : Pres f) (d : Dep) : (f d).name = d.name := (hp d).name

theorem pres_modify {f : Dep → Dep} (hp : Pres f) (id : Nat) : Pres (fun d => if d.name = id then f d else d) := by
  intro d
  dsimp only
  split
  · exact hp d
  · exact ⟨rfl, rfl, rfl, rfl⟩

theorem pres_id : Pres (fun d => d) := fun _ => ⟨rfl, rfl, rfl, rfl⟩
theorem pres_setCtrl : Pres setCtrl := fun _ => ⟨rfl, rfl, rfl, rfl⟩
theorem pres_release (p : Bool) : Pres (releaseStable p) := fun _ => ⟨rfl, rfl, rfl, rfl⟩
theorem pres_setReplicas (t : Int) : Pres (setReplicas t) := fun _ => ⟨rfl, rfl, rfl, rfl⟩

/-- **Everything a call can do to the world**: at most one write `f` to one object `id` (control-info in
    `Initialize`, replicas of the selected canary in `UpgradeBatch`, the release patch in `Finalize`),
    then finalizer removals `ids` from owned Deployments (`Finalize` only), or one creation (`Initialize` only, and only
    when no active owned Deployment has the stable Deployment's template). -/
theorem call_shape (br : BR) (op : Op) (c : Cfg) (w : World) (exp : Exp) :
    ∃ id f ids, Pres f ∧
      ((f = fun d => d) ∨ (op = .init ∧ id = br.key ∧ f = setCtrl) ∨
        (op = .fin ∧ id = br.key ∧ f = releaseStable br.partition.isSome) ∨
        (op = .upgrade ∧ ∃ cd t cur, id = cd.name ∧ f = setReplicas t ∧ selectCanary br w = some cd ∧
            target br w = some t ∧ cd.replicas = some cur ∧ cur < t)) ∧
      (ids = [] ∨ (op = .fin ∧ ∀ i ∈ ids, ∃ d ∈ ownedDeps (w.modify id f), d.finalizer = true ∧ d.name = i)) ∧
      After w id f ids (fun cd => op = .init ∧ ∃ st, (w.modify id f).find br.key = some st ∧
          newCanary br st (w.modify id f) = some cd ∧
          filterCanary br (filterActive (ownedDeps (w.modify id f))) (some st.template) = none)
        (call br op c w exp).w := by
  cases op
  case init =>
    obtain ⟨w1, hw1, hres, -⟩ := planeInitialize_created (rfl : planeInitialize c br (S0 w exp) = (_, _))
    have after : ∀ id f, (∀ d : Dep, (f d).name = d.name) → w1 = w.modify id f →
        After w id f [] (fun cd => Op.init = .init ∧ ∃ st, (w.modify id f).find br.key = some st ∧
          newCanary br st (w.modify id f) = some cd ∧
          filterCanary br (filterActive (ownedDeps (w.modify id f))) (some st.template) = none)
        (call br .init c w exp).w := by
      rintro id f hf rfl
      rcases hres with h | ⟨st, cd, h3, p⟩
      · exact .inl (by rw [effW_nil]; exact h)
      · refine .inr ⟨rfl, cd, ⟨rfl, st, p.found, p.built, h3⟩, ?_, p.world⟩
        obtain ⟨tp, -, rfl⟩ := newCanary_some p.built
        exact congrArg (· + 1) (maxName_modify _ _ _ hf)
    rcases hw1 with rfl | ⟨-, rfl⟩
    · exact ⟨br.key, fun d => d, [], pres_id, .inl rfl, .inl rfl,
        after _ _ (fun _ => rfl) (modify_id _ _).symm⟩
    · exact ⟨br.key, setCtrl, [], pres_setCtrl, .inr (.inl ⟨rfl, rfl, rfl⟩), .inl rfl,
        after _ _ (fun _ => rfl) rfl⟩
  case upgrade =>
    obtain ⟨-, -, hres⟩ := planeUpgradeBatch_spec (Prod.eta (planeUpgradeBatch c br (S0 w exp))).symm
    rcases hres with ⟨h, -⟩ | ⟨cd, t, cur, st, -, -, h3, h4, h5, h6, -, h8⟩
    · exact ⟨0, fun d => d, [], pres_id, .inl rfl, .inl rfl, .inl (by rw [effW_id_nil]; exact h)⟩
    · exact ⟨cd.name, setReplicas t, [], pres_setReplicas t,
        .inr (.inr (.inr ⟨rfl, cd, t, cur, rfl, rfl, h3, h4, h5, h6⟩)), .inl rfl, .inl (by rw [effW_nil]; exact h8)⟩
  case ensure =>
    exact ⟨0, fun d => d, [], pres_id, .inl rfl, .inl rfl,
      .inl (by rw [effW_id_nil]; exact (planeEnsureReady_spec c br w exp).1)⟩
  case fin =>
    obtain ⟨w1, hrel, ⟨ids, hw, hids, -⟩, -⟩ := planeFinalize_spec (rfl : planeFinalize c br (S0 w exp) = (_, _))
    rcases hrel with ⟨rfl, -⟩ | ⟨rfl, -⟩
    · refine ⟨br.key, fun d => d, ids, pres_id, .inl rfl, .inr ⟨rfl, ?_⟩, .inl ?_⟩
      · rw [modify_id]; exact hids
      · unfold effW; rw [modify_id]; exact hw
    · exact ⟨br.key, releaseStable br.partition.isSome, ids, pres_release _,
        .inr (.inr (.inl ⟨rfl, rfl, rfl⟩)), .inr ⟨rfl, hids⟩, .inl hw⟩

theorem eff_pres {id : Nat} {f : Dep → Dep} {ids : List Nat} {d d' : Dep} (hp : Pres f)
    (h : eff id f ids d = some d') : SameFor d d' := by
  have hx := pres_modify hp id d
  rcases eff_some h with ⟨_, h⟩ | ⟨_, h⟩ <;> rw [h] <;> exact ⟨hx.name, hx.owner, hx.deleting, hx.template⟩

theorem stable_template_after {br : BR} {w w' : World} {id : Nat} {f : Dep → Dep} {ids : List Nat} {P : Dep → Prop}
    (hp : Pres f) (hnd : (names w).Nodup) (h : After w id f ids P w')
    (hstable : ∀ cd, P cd → (w.find br.key).isSome) :
    ∀ st', w'.find br.key = some st' → ∃ st, w.find br.key = some st ∧ st'.template = st.template := by
  intro st' hst'
  cases hst : w.find br.key with
  | some st =>
    obtain ⟨hmem, hname⟩ := find_some hst
    have := find_after hp.name hnd h hmem
    rw [hname, hst'] at this
    exact ⟨st, rfl, (eff_pres hp this.symm).template⟩
  | none =>
    exfalso
    rcases h with h | ⟨_, cd, hP, _, _⟩
    · rw [h, effW_find_none hp.name hnd hst] at hst'; cases hst'
    · have := hstable cd hP
      rw [hst] at this; cases this

theorem matching_after {br : BR} {w w' : World} {id : Nat} {f : Dep → Dep} {ids : List Nat} {P : Dep → Prop}
    (hp : Pres f) (hnd : (names w).Nodup) (h : After w id f ids P w')
    (hstable : ∀ cd, P cd → (w.find br.key).isSome)
    {d d' : Dep} (he : eff id f ids d = some d') (hm : matching br w' d' = true) : matching br w d = true := by
  obtain ⟨-, h1, h2, h3⟩ := eff_pres hp he
  unfold matching at hm ⊢
  cases hst' : w'.find br.key with
  | none => rw [hst'] at hm; simp at hm
  | some st' =>
    obtain ⟨st, hst, ht⟩ := stable_template_after hp hnd h hstable st' hst'
    rw [hst'] at hm
    rw [hst]
    simp only [owned, h1, h2, h3, ht] at hm ⊢
    exact hm

theorem effW_deps (w : World) (id : Nat) (f : Dep → Dep) (ids : List Nat) :
    (effW w id f ids).deps = w.deps.filterMap (eff id f ids) := by
  unfold effW dropAll World.modify
  simp only [List.filterMap_map]
  rfl

theorem modify_deps_eff (w : World) (id : Nat) (f : Dep → Dep) :
    (w.modify id f).deps = w.deps.filterMap (eff id f []) := by
  rw [← effW_deps, effW_nil]

theorem call_nodup (br : BR) (op : Op) (c : Cfg) (w : World) (exp : Exp) (hnd : (names w).Nodup) :
    (names (call br op c w exp).w).Nodup := by
  obtain ⟨id, f, ids, hp, -, -, hafter⟩ := call_shape br op c w exp
  have hndm : (names (w.modify id f)).Nodup := by rw [names_modify _ _ _ hp.name]; exact hnd
  rcases hafter with h | ⟨-, cd, -, hcd, h⟩
  · rw [h]; exact nodup_dropAll _ hndm
  · rw [h]; exact nodup_add_fresh hndm (by rw [hcd, maxName_modify _ _ _ hp.name])

/-- The write a call makes to the Deployment `d`, if any: `claim` is the control-info patch of `realStableController.Initialize`
    (stable.go), `release` the patch of `realStableController.Finalize` (control-info removed, `paused` set from
    `batchPartition`), `scale` the `spec.replicas` patch of `realCanaryController.UpgradeBatch` (canary.go) on the selected canary,
    to the step's target and only upwards. -/
inductive Written (br : BR) (op : Op) (w : World) (d : Dep) : Dep → Prop
  | same : Written br op w d d
  | claim : op = .init → d.name = br.key → Written br op w d (setCtrl d)
  | release : op = .fin → d.name = br.key → Written br op w d (releaseStable br.partition.isSome d)
  | scale {t cur : Int} : op = .upgrade → selectCanary br w = some d → target br w = some t → d.replicas = some cur →
      cur < t → Written br op w d (setReplicas t d)

/-- **The fate of a Deployment under a call**: it is written at most once (`Written`) and then is still there, or —
    in `Finalize`, if it is owned and carries the finalizer — loses the finalizer (and disappears if it was in deletion
    and that finalizer was its last). -/
theorem object_after (br : BR) (op : Op) (c : Cfg) (w : World) (exp : Exp) (hnd : (names w).Nodup)
    {d : Dep} (hd : d ∈ w.deps) :
    ∃ d1, Written br op w d d1 ∧
      ((call br op c w exp).w.find d.name = some d1 ∨
       (op = .fin ∧ d1.owner = .this ∧ d1.finalizer = true ∧
        (call br op c w exp).w.find d.name =
          if d1.deleting ∧ ¬ d1.otherFinalizer then none else some { d1 with finalizer := false })) := by
  obtain ⟨id, f, ids, hp, hwhich, hids, hafter⟩ := call_shape br op c w exp
  have hf := hp.name
  refine ⟨if d.name = id then f d else d, ?_, ?_⟩
  · by_cases hn : d.name = id
    · rw [if_pos hn]
      rcases hwhich with rfl | ⟨hop, rfl, rfl⟩ | ⟨hop, rfl, rfl⟩ | ⟨hop, cd, t, cur, rfl, rfl, hsel, htgt, hcur, hlt⟩
      · exact .same
      · exact .claim hop hn
      · exact .release hop hn
      · cases eq_of_name_eq hnd hd (selectCanary_mem hsel).1 hn
        exact .scale hop hsel htgt hcur hlt
    · rw [if_neg hn]; exact .same
  · rw [find_after hf hnd hafter hd]
    unfold eff dropFn
    have hname : (if d.name = id then f d else d).name = d.name := by split <;> simp [hf]
    by_cases hin : d.name ∈ ids
    · obtain ⟨ho, hfin⟩ := ids_owned hf hnd hids hd hin
      have hop : op = .fin := hids.elim (fun h => by subst h; cases hin) (·.1)
      exact .inr ⟨hop, ho, hfin, by rw [if_pos (by rw [hname]; exact hin)]⟩
    · exact .inl (by rw [if_neg (by rw [hname]; exact hin)])

/-- `object_after`, read from the result -/
theorem object_found (br : BR) (op : Op) (c : Cfg) (w : World) (exp : Exp) (hnd : (names w).Nodup)
    {d d' : Dep} (hd : d ∈ w.deps) (h' : (call br op c w exp).w.find d.name = some d') :
    ∃ d1, Written br op w d d1 ∧ (d' = d1 ∨ d' = { d1 with finalizer := false }) := by
  obtain ⟨d1, hw, h | ⟨-, -, -, h⟩⟩ := object_after br op c w exp hnd hd <;> rw [h'] at h
  · exact ⟨d1, hw, .inl (Option.some.inj h)⟩
  · split at h
    · cases h
    · exact ⟨d1, hw, .inr (Option.some.inj h)⟩

/-- where a Deployment of the world after a call comes from: it is what became of a Deployment of the world before, or
    the canary `Initialize` created -/
theorem origin_after (br : BR) (op : Op) (c : Cfg) (w : World) (exp : Exp) (hnd : (names w).Nodup)
    {d' : Dep} (hd' : d' ∈ (call br op c w exp).w.deps) :
    (∃ d ∈ w.deps, w.find d'.name = some d ∧ (call br op c w exp).w.find d.name = some d') ∨
    (w.find d'.name = none ∧ d'.replicas = some 0) := by
  obtain ⟨id, f, ids, hp, -, -, hafter⟩ := call_shape br op c w exp
  rcases mem_after hp.name hnd hafter hd' with ⟨d, hd, -, hfind⟩ | ⟨-, ⟨-, st, -, hnew, -⟩, -, hnone, -⟩
  · refine .inl ⟨d, hd, hfind, ?_⟩
    rw [(find_some hfind).2]
    exact find_of_mem (call_nodup br op c w exp hnd) hd'
  · obtain ⟨tp, -, rfl⟩ := newCanary_some hnew
    exact .inr ⟨hnone, rfl⟩

theorem matchCount_map (br : BR) (w : World) (g : Dep → Dep) (hp : Pres g) :
    matchCount br { deps := w.deps.map g } = matchCount br w := by
  unfold matchCount
  have hfind : ({ deps := w.deps.map g } : World).find br.key = (w.find br.key).map g :=
    find_map_aux w.deps g br.key hp.name
  rw [List.filter_map, List.length_map]
  congr 1
  apply List.filter_congr
  intro d _
  simp only [Function.comp]
  unfold matching
  rw [hfind]
  cases hst : w.find br.key with
  | none => simp [owned, (hp d).owner, (hp d).deleting]
  | some st => simp [owned, (hp d).owner, (hp d).deleting, (hp d).template, (hp st).template]

theorem matchCount_zero {br : BR} {w : World} {st : Dep} (hst : w.find br.key = some st)
    (hnone : filterCanary br (filterActive (ownedDeps w)) (some st.template) = none) : matchCount br w = 0 := by
  unfold matchCount
  rw [List.length_eq_zero_iff, List.filter_eq_nil_iff]
  intro d hd
  unfold matching
  rw [hst]
  simp only [owned, Bool.and_eq_true, decide_eq_true_eq, Bool.not_eq_true', not_and, Bool.not_eq_true]
  intro ⟨ho, hdel⟩
  exact filterCanary_none hnone d
    (List.mem_filter.mpr ⟨List.mem_filter.mpr ⟨hd, by simpa using ho⟩, by simpa using hdel⟩)

theorem matchCount_zero_of_none {br : BR} {w : World} {id : Nat} {f : Dep → Dep} {st : Dep}
    (hp : Pres f) (hst : (w.modify id f).find br.key = some st)
    (hnone : filterCanary br (filterActive (ownedDeps (w.modify id f))) (some st.template) = none) :
    matchCount br w = 0 :=
  (matchCount_map br w _ (pres_modify hp id)).symm.trans
    (matchCount_zero hst hnone)

theorem pres_observed : Pres observed := fun d => by
  unfold observed; exact ⟨rfl, rfl, rfl, rfl⟩

theorem applyEvent_map (br : BR) (ev : Event) (w : World) (exp : Exp) :
    ∃ g : Dep → Dep, (∀ d, (g d).name = d.name ∧ (g d).owner = d.owner ∧ (g d).replicas = d.replicas) ∧
      (applyEvent br ev w exp).1 = { deps := w.deps.map g } := by
  cases ev
  · exact ⟨id, fun _ => ⟨rfl, rfl, rfl⟩, by simp [applyEvent]⟩
  · exact ⟨id, fun _ => ⟨rfl, rfl, rfl⟩, by simp [applyEvent]⟩
  · exact ⟨observed, fun _ => ⟨rfl, rfl, rfl⟩, rfl⟩
  · exact ⟨_, fun d => by split <;> exact ⟨rfl, rfl, rfl⟩, rfl⟩

theorem applyEvent_nodup (br : BR) (ev : Event) (w : World) (exp : Exp) (hnd : (names w).Nodup) :
    (names (applyEvent br ev w exp).1).Nodup := by
  obtain ⟨g, hg, h⟩ := applyEvent_map br ev w exp
  rw [h]
  have : names { deps := w.deps.map g } = names w := by
    unfold names
    rw [List.map_map]
    exact List.map_congr_left fun d _ => (hg d).1
  rwa [this]

theorem applyEvent_namesNodup (br : BR) (ev : Event) (w : World) (exp : Exp) (h : namesNodup w = true) :
    namesNodup (applyEvent br ev w exp).1 = true :=
  (namesNodup_iff _).mpr (applyEvent_nodup br ev w exp ((namesNodup_iff w).mp h))

theorem step_namesNodup (br : BR) (w : World) (exp : Exp) (st : Step) (h : namesNodup w = true) :
    namesNodup (step br w exp st).w = true :=
  (namesNodup_iff _).mpr (call_nodup _ _ _ _ _ ((namesNodup_iff _).mp (applyEvent_namesNodup br st.ev w exp h)))

theorem applyEvent_matchCount (br : BR) (ev : Event) (w : World) (exp : Exp) (hev : ev ≠ .newTemplate) :
    matchCount br (applyEvent br ev w exp).1 = matchCount br w := by
  cases ev
  · rfl
  · rfl
  · exact matchCount_map br w observed pres_observed
  · exact absurd rfl hev

theorem modify_length (w : World) (id : Nat) (f : Dep → Dep) : (w.modify id f).deps.length = w.deps.length := by
  unfold World.modify; simp

theorem matchCount_batch (br : BR) (b : Int) (w : World) :
    matchCount { br with currentBatch := b } w = matchCount br w := rfl

/-- one call keeps a bound `B` on owned `spec.replicas` if `B` bounds the step's target: the only write to replicas is
    `Written.scale`, and a created canary starts at 0 -/
theorem call_replicas_bound (br : BR) (op : Op) (c : Cfg) (w : World) (exp : Exp) (B : Int)
    (hnd : namesNodup w = true) (hB0 : 0 ≤ B)
    (htgt : op = .upgrade → ∀ t, target br w = some t → t ≤ B)
    (h0 : ∀ d ∈ w.deps, d.owner = .this → ∀ r, d.replicas = some r → r ≤ B) :
    ∀ d ∈ (call br op c w exp).w.deps, d.owner = .this → ∀ r, d.replicas = some r → r ≤ B := by
  have hndw := (namesNodup_iff w).mp hnd
  intro d' hd' hown r hr
  rcases origin_after br op c w exp hndw hd' with ⟨d, hd, -, h'⟩ | ⟨-, h0'⟩
  · obtain ⟨d1, hw, hd1⟩ := object_found br op c w exp hndw hd h'
    have hown : d1.owner = .this := by rcases hd1 with rfl | rfl <;> exact hown
    have hr : d1.replicas = some r := by rcases hd1 with rfl | rfl <;> exact hr
    cases hw with
    | same | claim | release => exact h0 d hd hown r hr
    | scale hop _ ht => cases hr; exact htgt hop _ ht
  · rw [h0'] at hr; cases hr; exact hB0

theorem planeInitialize_ok (c : Cfg) (br : BR) (w : World) (exp : Exp)
    (h : (planeInitialize c br (S0 w exp)).2.1 = .ok) :
    ∃ st cd, (planeInitialize c br (S0 w exp)).1.w.find br.key = some st ∧ isControlledBy st = true ∧
      cd ∈ (planeInitialize c br (S0 w exp)).1.w.deps ∧ cd.owner = .this ∧ cd.deleting = false := by
  generalize hr : planeInitialize c br (S0 w exp) = r at h ⊢
  obtain ⟨w1, -, hres, -, hok⟩ := planeInitialize_created hr
  rcases hres with hw | ⟨_, _, -, p⟩
  · rw [hw]; exact hok h
  · cases h.symm.trans p.err

theorem foldl_max_le (l : List Int) (a b : Int) : l.foldl max a ≤ b ↔ a ≤ b ∧ ∀ x ∈ l, x ≤ b := by
  induction l generalizing a with
  | nil => simp
  | cons y ys ih =>
    simp only [List.foldl_cons, ih, List.mem_cons, forall_eq_or_imp]
    constructor
    · rintro ⟨h1, h2⟩; exact ⟨by omega, by omega, h2⟩
    · rintro ⟨h1, h2, h3⟩; exact ⟨by omega, h3⟩

/-- the exposure figure of the plane: the largest `spec.replicas` among the Deployments this BatchRelease owns (0 without any).
    Definitionally `canaryPreds.exposure` of `Oracle/ExecutorXPlanes.lean`, which this file does not import; the two meet by
    unfolding only, in `Props/ExecutorXCanary.lean` (the `show` of `canary_upgrade_exposure`) -/
def canaryExpo (w : World) : Int := ((w.deps.filter owned).map fun d => d.replicas.getD 0).foldl max 0

theorem canaryExpo_le (w : World) (b : Int) :
    canaryExpo w ≤ b ↔ 0 ≤ b ∧ ∀ d ∈ w.deps, d.owner = .this → d.replicas.getD 0 ≤ b := by
  unfold canaryExpo
  rw [foldl_max_le]
  simp only [List.mem_map, List.mem_filter, owned, decide_eq_true_eq]
  constructor
  · rintro ⟨h0, h⟩
    exact ⟨h0, fun d hd ho => h _ ⟨d, ⟨hd, ho⟩, rfl⟩⟩
  · rintro ⟨h0, h⟩
    refine ⟨h0, ?_⟩
    rintro x ⟨d, ⟨hd, ho⟩, rfl⟩
    exact h d hd ho

theorem canaryExpo_nonneg (w : World) : 0 ≤ canaryExpo w := ((canaryExpo_le w _).mp (Int.le_refl _)).1

theorem le_canaryExpo {w : World} {d : Dep} (hd : d ∈ w.deps) (ho : d.owner = .this) : d.replicas.getD 0 ≤ canaryExpo w :=
  ((canaryExpo_le w _).mp (Int.le_refl _)).2 d hd ho

/-- `call_replicas_bound` with the right-hand side as the bound -/
theorem canaryExpo_call (br : BR) (op : Op) (c : Cfg) (w : World) (exp : Exp) (hnd : namesNodup w = true) :
    canaryExpo (call br op c w exp).w ≤ max (canaryExpo w) (if op = .upgrade then (target br w).getD 0 else 0) := by
  have h0 := canaryExpo_nonneg w
  rw [canaryExpo_le]
  refine ⟨by omega, fun d hd ho => ?_⟩
  cases hr : d.replicas with
  | none => simp only [Option.getD_none]; omega
  | some r =>
    refine call_replicas_bound br op c w exp _ hnd (by omega) (fun hop t ht => ?_) (fun d hd ho r hr => ?_) d hd ho r hr
    · rw [if_pos hop, ht]; exact Int.le_max_right _ _
    · have := le_canaryExpo hd ho
      rw [hr] at this
      exact Int.le_trans this (Int.le_max_left _ _)

theorem planeInitialize_expo (c : Cfg) (br : BR) (w : World) (exp : Exp) (hnd : namesNodup w = true) :
    canaryExpo (planeInitialize c br (S0 w exp)).1.w ≤ canaryExpo w := by
  have := canaryExpo_call br .init c w exp hnd
  have h0 := canaryExpo_nonneg w
  simp only [reduceCtorEq, if_false] at this
  exact Int.le_trans this (by omega)

/-- `UpgradeBatch` lowers the replicas of no owned Deployment and removes none -/
theorem planeUpgradeBatch_expo_mono (c : Cfg) (br : BR) (w : World) (exp : Exp) (hnd : namesNodup w = true) :
    canaryExpo w ≤ canaryExpo (planeUpgradeBatch c br (S0 w exp)).1.w := by
  show _ ≤ canaryExpo (call br .upgrade c w exp).w
  rw [canaryExpo_le]
  refine ⟨canaryExpo_nonneg _, fun d hd ho => ?_⟩
  obtain ⟨d1, hw, h | ⟨hop, -⟩⟩ := object_after br .upgrade c w exp ((namesNodup_iff w).mp hnd) hd
  · have hle := le_canaryExpo (find_some h).1 (show d1.owner = .this by cases hw <;> exact ho)
    cases hw with
    | same | claim | release => exact hle
    | scale _ _ _ hcur hlt =>
      rw [hcur]; simp only [setReplicas, Option.getD_some] at hle ⊢; omega
  · cases hop

theorem wait_dropFn {ids : List Nat} {d d' : Dep} (h : dropFn ids d = some d') :
    waitAllUpdatedAndReady d' = waitAllUpdatedAndReady d := by
  rcases dropFn_some h with ⟨_, h⟩ | ⟨_, h⟩ <;> subst h <;> rfl

theorem kvEq_refl (a : KV) : kvEq a a = true := by
  unfold kvEq; simp

theorem kvEraseAll_kvSet (m : KV) (k v : String) (ks : List String) (hk : k ∈ ks) :
    kvEraseAll (kvSet m k v) ks = kvEraseAll m ks := by
  unfold kvEraseAll kvSet
  rw [List.filter_append, List.filter_filter]
  have h1 : List.filter (fun e => !ks.contains e.1) [(k, v)] = [] := by simp [hk]
  rw [h1, List.append_nil]
  apply List.filter_congr
  intro e _
  by_cases he : e.1 = k
  · simp [he, hk]
  · simp [he]

theorem kvEraseAll_kvSetAll (m p : KV) (ks : List String) (hp : ∀ e ∈ p, e.1 ∈ ks) :
    kvEraseAll (kvSetAll m p) ks = kvEraseAll m ks := by
  unfold kvSetAll
  induction p generalizing m with
  | nil => rfl
  | cons e p ih =>
    simp only [List.foldl_cons]
    rw [ih (kvSet m e.1 e.2) (fun x hx => hp x (List.mem_cons_of_mem _ hx))]
    exact kvEraseAll_kvSet m e.1 e.2 ks (hp e List.mem_cons_self)

theorem eqIgnore_refl (br : BR) (t : Template) : eqIgnore br t t = true := by
  unfold eqIgnore; simp [kvEq_refl]

/-- the pod template `create` gives the canary equals the stable template modulo the ignored metadata:
    this is why `Initialize` finds its own canary again -/
theorem eqIgnore_patched {br : BR} {t tp : Template} (h : patchedTemplate br t = some tp) :
    eqIgnore br t tp = true := by
  unfold patchedTemplate at h
  cases hp : br.patch with
  | none => rw [hp] at h; cases h; exact eqIgnore_refl br t
  | some p =>
    rw [hp] at h
    dsimp only at h
    split at h
    · cases h
    · cases h
      unfold eqIgnore
      have hl : kvEraseAll (kvSetAll t.labels p.1) (ignoreLabels br) = kvEraseAll t.labels (ignoreLabels br) := by
        apply kvEraseAll_kvSetAll
        intro e he
        unfold ignoreLabels; rw [hp]
        simp only [List.mem_append]
        left; unfold kvKeys; exact List.mem_map_of_mem he
      have ha : kvEraseAll (kvSetAll t.annos p.2) (ignoreAnnos br) = kvEraseAll t.annos (ignoreAnnos br) := by
        apply kvEraseAll_kvSetAll
        intro e he
        unfold ignoreAnnos; rw [hp]
        unfold kvKeys; exact List.mem_map_of_mem he
      simp [hl, ha, kvEq_refl]

end RV.CtlCanary
