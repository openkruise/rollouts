import RV.Lemmas.TrafficX
/-!
The Manager model function by function: the Service part (`svcStepX`: `svcStepX_eq`,
`SvcSpec`); `DoTrafficRouting` branch by branch, each guard of the Go code with the whole result (`doTRX_skip`, `doTRX_readFail`,
`doTRX_wait`, `doTRX_toSvc`, `doTRX_svcRound`) and its provider part (`routeStepX_cases`, `routeStepX_done`); the retry-style
calls by cases (`rsX_cases`, `rcX_cases`, `rgX_cases`) with the specs of the two that do not call the provider (`rs_specX`,
`rc_specX`; `rg_specX` stands with the clean-up theorems it serves, in `RV/Props/TrafficXThms.lean`); and the order of the
writes of the clean-up (`phasesOrdered_fin`).
-/
namespace RV.TrafficX
open RV.Traffic RV.Oracle.TrafficX

variable {S G : Type}

theorem isStep_false_iff (ops : StratOps S) (s : S) :
    isStep ops s = false ↔ (ops.noTraffic s && ops.noMatches s) = true := by
  unfold isStep; cases (ops.noTraffic s && ops.noMatches s) <;> simp

theorem isStep_true_iff (ops : StratOps S) (s : S) :
    isStep ops s = true ↔ (ops.noTraffic s && ops.noMatches s) = false := by
  unfold isStep; cases (ops.noTraffic s && ops.noMatches s) <;> simp

theorem memSame_refl (x : Mem) : memSame x x = true := by simp [memSame]

/-- only the Manager's own Service writes -/
def SvcWritesOnly (ws : List String) : Prop :=
  ∀ w, w ∈ ws → w = "createCanarySvc" ∨ w = "patchCanarySvc" ∨ w = "patchStable"
theorem SvcWritesOnly.not_provider {ws : List String} (h : SvcWritesOnly ws) : providerTouched ws = false := by
  unfold providerTouched
  rw [List.any_eq_false]
  intro w hw
  rcases h w hw with e | e | e <;> subst e <;> decide

theorem SvcWritesOnly.nil : SvcWritesOnly [] := fun _ h => by cases h
theorem SvcWritesOnly.of_mem {ws : List String}
    (h : ∀ w, w ∈ ws → w ∈ ["createCanarySvc", "patchCanarySvc", "patchStable"]) : SvcWritesOnly ws := by
  intro w hw
  have := h w hw
  simp only [List.mem_cons, List.not_mem_nil, or_false] at this
  exact this
theorem SvcWritesOnly.append {a b : List String} (ha : SvcWritesOnly a) (hb : SvcWritesOnly b) : SvcWritesOnly (a ++ b) :=
  fun w hw => (List.mem_append.mp hw).elim (ha w) (hb w)

theorem sel_of_getD {x : Option String} {r : String} (h : x.getD "" = r) (hr : r ≠ "") : x = some r :=
  (Option.getD_eq_iff.mp h).resolve_right fun h' => hr h'.2.symm

/-- the revisions are known, or no canary Service is generated and they are not needed -/
abbrev XCtx.RevsKnown (c : XCtx S) : Prop := c.noGen = true ∨ (c.stableRev ≠ "" ∧ c.canaryRev ≠ "")

/-- `DoTrafficRouting` is waiting for its grace period after the last change of a Service -/
abbrev XCtx.InGrace (c : XCtx S) : Prop := c.lastUpdate = .fresh ∧ c.doGrace > 0

theorem servicesInPlace_noGen {c : XCtx S} {n : XNet G} (h : c.noGen = true) : servicesInPlace c n = true := by
  simp [servicesInPlace, h]

/-- the second half of the Service part, after the canary Service has been seen to (`n`, `ws`, `a`: the state,
    the writes and the API value it left): pin the stable Service to the stable revision -/
def svcPin (c : XCtx S) (n : XNet G) (ws : List String) (a : Api) : SvcRes G :=
  if n.stableSel.getD "" ≠ c.stableRev then
    match a.spend with
    | none => .fail n ws a
    | some a2 => .ok { n with stableSel := some c.stableRev } (ws ++ ["patchStable"]) a2
  else .ok n ws a

theorem svcPin_cases (c : XCtx S) (n : XNet G) (ws : List String) (a : Api) (hr : c.stableRev ≠ "") :
    (a.spend = none ∧ svcPin c n ws a = .fail n ws a) ∨
    (∃ a2, a.spend = some a2 ∧
      svcPin c n ws a = .ok { n with stableSel := some c.stableRev } (ws ++ ["patchStable"]) a2) ∨
    (n.stableSel = some c.stableRev ∧ svcPin c n ws a = .ok n ws a) := by
  unfold svcPin
  by_cases hs : n.stableSel.getD "" = c.stableRev
  · exact .inr (.inr ⟨sel_of_getD hs hr, by simp [hs]⟩)
  · cases hsp : a.spend
    · exact .inl ⟨rfl, by simp [hs]⟩
    · exact .inr (.inl ⟨_, rfl, by simp [hs]⟩)

theorem svcStepX_eq (c : XCtx S) (a : Api) (n : XNet G) (hng : c.noGen = false)
    (hrev : ¬ (c.stableRev = "" ∨ c.canaryRev = "")) (hr : a.read.1 = false) :
    svcStepX c a n =
      if n.canarySvc = some c.canaryRev then svcPin c n [] a.read.2
      else
        match a.read.2.spend with
        | none => .fail n [] a.read.2
        | some a1 => svcPin c { n with canarySvc := some c.canaryRev }
            [if n.canarySvc.isNone then "createCanarySvc" else "patchCanarySvc"] a1 := by
  unfold svcStepX svcPin
  rw [show a.read = (a.read.1, a.read.2) from rfl, hr]
  simp only [hng, hrev, Bool.false_eq_true, if_false]
  obtain ⟨se, ss, cs, g⟩ := n
  cases cs with
  | none => cases a.read.2.spend <;> simp <;> rfl
  | some r =>
    by_cases h : r = c.canaryRev
    · subst h; simp <;> rfl
    · cases a.read.2.spend <;> simp [h] <;> rfl

/-- the three answers of the Service part of `DoTrafficRouting`: `wait` (a canary Service is generated and a revision is
    unknown); `fail` (a `Get` or a write failed: the provider's objects and the stable Service's existence are as before, only
    Service writes were issued, the API was not healthy); `ok` (the same frame, both Services in place, nothing written only
    if nothing changed, no read failed, a healthy API stays healthy) -/
inductive SvcSpec (c : XCtx S) (a : Api) (n : XNet G) : SvcRes G → Prop
  | wait : c.noGen = false → c.stableRev = "" ∨ c.canaryRev = "" → SvcSpec c a n .wait
  | fail {n2 : XNet G} {ws : List String} {a2 : Api} : c.noGen = false → n2.g = n.g → n2.stableExists = n.stableExists →
      SvcWritesOnly ws → ReadLaw a a2 true → a ≠ Api.ok → SvcSpec c a n (.fail n2 ws a2)
  | ok {n2 : XNet G} {ws : List String} {a2 : Api} : n2.g = n.g → n2.stableExists = n.stableExists →
      servicesInPlace c n2 = true → SvcWritesOnly ws → (ws = [] → n2 = n) → ReadLaw a a2 false → (a = Api.ok → a2 = Api.ok) →
      c.RevsKnown → SvcSpec c a n (.ok n2 ws a2)

theorem svcPin_spec {c : XCtx S} {a a1 : Api} {n n1 : XNet G} {ws1 : List String} (hng : c.noGen = false)
    (hr : c.stableRev ≠ "") (hcr : c.canaryRev ≠ "") (hg : n1.g = n.g) (hse : n1.stableExists = n.stableExists)
    (hcs : n1.canarySvc = some c.canaryRev) (hws : SvcWritesOnly ws1) (ha : a1.armed = a.armed)
    (hok : a = Api.ok → a1 = Api.ok) (hnil : ws1 = [] → n1 = n) : SvcSpec c a n (svcPin c n1 ws1 a1) := by
  rcases svcPin_cases c n1 ws1 a1 hr with ⟨hsp, e⟩ | ⟨a2, hsp, e⟩ | ⟨hs, e⟩ <;> rw [e]
  · refine .fail hng hg hse hws ⟨fun _ => rfl, fun h => ha ▸ h⟩ fun h => ?_
    rw [hok h] at hsp; cases hsp
  · refine .ok hg hse (by simp [servicesInPlace, hcs]) (hws.append (.of_mem (by simp))) (fun h => (by simp at h))
      (.of_armed_eq ((Api.spend_armed hsp).trans ha) _) (fun h => ?_) (.inr ⟨hr, hcr⟩)
    rw [hok h] at hsp; cases hsp; rfl
  · exact .ok hg hse (by simp [servicesInPlace, hcs, hs]) hws hnil (.of_armed_eq ha _) hok (.inr ⟨hr, hcr⟩)

theorem svcStepX_spec (c : XCtx S) (a : Api) (n : XNet G) : SvcSpec c a n (svcStepX c a n) := by
  cases hng : c.noGen
  · by_cases hrev : c.stableRev = "" ∨ c.canaryRev = ""
    · exact (by simp [svcStepX, hng, hrev] : svcStepX c a n = .wait) ▸ .wait hng hrev
    · have hsr : c.stableRev ≠ "" := fun h => hrev (.inl h)
      have hcr : c.canaryRev ≠ "" := fun h => hrev (.inr h)
      cases hr : a.read.1
      · have e1 := Api.read_pass hr
        have ok1 : a = Api.ok → a.read.2 = Api.ok := fun h => by subst h; rfl
        rw [svcStepX_eq c a n hng hrev hr]
        split
        · rename_i hcs
          exact svcPin_spec hng hsr hcr rfl rfl hcs .nil e1 ok1 fun _ => rfl
        · cases hsp : a.read.2.spend with
          | none =>
            refine .fail hng rfl rfl .nil (.of_armed_eq e1 _) fun h => ?_
            rw [ok1 h] at hsp; cases hsp
          | some a1 =>
            refine svcPin_spec hng hsr hcr rfl rfl rfl (.of_mem ?_) ((Api.spend_armed hsp).trans e1) (fun h => ?_)
              fun h => (by cases h)
            · intro w hw; rw [List.mem_singleton.mp hw]; split <;> simp
            · rw [ok1 h] at hsp; cases hsp; rfl
      · exact (by simp [svcStepX, hng, hrev, hr] : svcStepX c a n = .fail n [] a.read.2) ▸
          .fail hng rfl rfl .nil (.of_spent (Api.read_fail hr)) fun h => by subst h; cases hr
  · exact (by simp [svcStepX, hng] : svcStepX c a n = .ok n [] a) ▸
      .ok rfl rfl (servicesInPlace_noGen hng) .nil (fun _ => rfl) (.of_armed_eq rfl _) id (.inl hng)

theorem svcStepX_inPlace (c : XCtx S) (a : Api) (n : XNet G) (ha : a.armed = false)
    (hin : servicesInPlace c n = true) (hrev : c.RevsKnown) :
    svcStepX c a n = .ok n [] a := by
  unfold svcStepX
  by_cases hng : c.noGen = true
  · simp [hng]
  · have hng' : c.noGen = false := by simpa using hng
    rcases hrev with h | ⟨h1, h2⟩
    · exact absurd h hng
    · simp only [servicesInPlace, hng', Bool.false_or, Bool.and_eq_true, beq_iff_eq] at hin
      obtain ⟨hc, hs⟩ := hin
      simp [hng', h1, h2, Api.read_of_not_armed ha, hc, hs]

theorem svcStepX_healthy (c : XCtx S) (n : XNet G)
    (hrev : c.RevsKnown) :
    ∃ n2 ws, svcStepX c Api.ok n = .ok n2 ws Api.ok ∧ servicesInPlace c n2 = true ∧ n2.g = n.g ∧
      n2.stableExists = n.stableExists ∧ (ws = [] → n2 = n) := by
  have H := svcStepX_spec c Api.ok n
  generalize svcStepX c Api.ok n = T at H ⊢
  cases H with
  | wait hng hr =>
    rcases hrev with h | ⟨h1, h2⟩
    · rw [hng] at h; cases h
    · exact (hr.elim h1 h2).elim
  | fail _ _ _ _ _ h => exact absurd rfl h
  | ok hg hse hin _ hnil _ hok => exact ⟨_, _, by rw [hok rfl], hin, hg, hse, hnil⟩

theorem doTRX_skip (ops : StratOps S) (P : Option (Provider S G)) (c : XCtx S) (a : Api) (n : XNet G) (m : Mem)
    (h : c.hasRef = false ∨ isStep ops c.strategy = false) :
    doTrafficRoutingX ops P c a n m = .same true false n m a := by
  unfold doTrafficRoutingX
  rcases h with h | h
  · simp [h]
  · have := (isStep_false_iff ops c.strategy).mp h
    by_cases href : c.hasRef = true <;> simp [href, this]

section past_skip
variable {ops : StratOps S} {c : XCtx S} (P : Option (Provider S G)) {a : Api} (n : XNet G) (m : Mem)
  (href : c.hasRef = true) (hstep : isStep ops c.strategy = true)
include href hstep

theorem doTRX_readFail (hr : a.read.1 = true) : doTrafficRoutingX ops P c a n m = .same false true n m a.read.2 := by
  unfold doTrafficRoutingX
  rw [show a.read = (a.read.1, a.read.2) from rfl, hr]
  simp [href, (isStep_true_iff ops c.strategy).mp hstep]

/-- the stable Service is missing, or the grace period after the last change is running: come back later -/
theorem doTRX_wait (hr : a.read.1 = false) (h : n.stableExists = false ∨ c.InGrace) :
    doTrafficRoutingX ops P c a n m = .same false false n m a.read.2 := by
  unfold doTrafficRoutingX
  rw [show a.read = (a.read.1, a.read.2) from rfl, hr]
  rcases h with h | h
  · simp [href, (isStep_true_iff ops c.strategy).mp hstep, h]
  · by_cases hex : n.stableExists = true <;> simp [href, (isStep_true_iff ops c.strategy).mp hstep, h, hex]

/-- past the guards the call is its Service part, and with nothing to write there the provider part -/
theorem doTRX_toSvc (hr : a.read.1 = false) (hex : n.stableExists = true) (hw : ¬ c.InGrace) :
    doTrafficRoutingX ops P c a n m =
      match svcStepX c a.read.2 n with
      | .wait => .same false false n m a.read.2
      | .fail n2 ws a2 => ⟨false, true, n2, m, false, false, ws, a2, false⟩
      | .ok n2 ws a2 =>
        if ws ≠ [] then ⟨false, false, n2, m, true, false, ws, a2, false⟩ else routeStepX P c.strategy a2 n2 m := by
  unfold doTrafficRoutingX
  rw [show a.read = (a.read.1, a.read.2) from rfl, hr]
  simp only [href, (isStep_true_iff ops c.strategy).mp hstep, hex, hw, not_true_eq_false, Bool.false_eq_true, if_false]
  cases svcStepX c a.read.2 n <;> rfl

end past_skip

/-- the round that puts the Services in place: they are written, the provider is not called -/
theorem doTRX_svcRound {ops : StratOps S} {c : XCtx S} (P : Option (Provider S G)) {a a2 : Api} {n n2 : XNet G} (m : Mem)
    {ws : List String} (href : c.hasRef = true) (hstep : isStep ops c.strategy = true) (ha : a.armed = false)
    (hex : n.stableExists = true) (hw : ¬ c.InGrace) (hs : svcStepX c a n = .ok n2 ws a2) (hws : ws ≠ []) :
    doTrafficRoutingX ops P c a n m = ⟨false, false, n2, m, true, false, ws, a2, false⟩ := by
  have hr := Api.read_of_not_armed ha
  rw [doTRX_toSvc P n m href hstep (congrArg Prod.fst hr) hex hw, congrArg Prod.snd hr, hs]
  exact if_pos hws

/-- with the Services in place the call is its provider part -/
theorem doTRX_inPlace (ops : StratOps S) (P : Option (Provider S G)) (c : XCtx S) (a : Api) (n : XNet G) (m : Mem)
    (href : c.hasRef = true) (hstep : isStep ops c.strategy = true) (ha : a.armed = false)
    (hex : n.stableExists = true) (hw : ¬ c.InGrace) (hin : servicesInPlace c n = true) (hrev : c.RevsKnown) :
    doTrafficRoutingX ops P c a n m = routeStepX P c.strategy a n m := by
  have hr := Api.read_of_not_armed ha
  rw [doTRX_toSvc P n m href hstep (congrArg Prod.fst hr) hex hw, congrArg Prod.snd hr, svcStepX_inPlace c a n ha hin hrev]
  exact if_neg (not_not_intro rfl)

/-- the provider part of `DoTrafficRouting`: the provider's `EnsureRoutes` and nothing else; *done* is its *verified* -/
theorem routeStepX_cases (P : Provider S G) (s : S) (a : Api) (n : XNet G) (m : Mem) :
    let r := P.ensure a n.g s
    (r.panic = true ∧ routeStepX (some P) s a n m = .panicked n m a) ∨
    (r.panic = false ∧ routeStepX (some P) s a n m =
      ⟨!r.err && r.flag, r.err, { n with g := r.g }, m, false, false, r.writes, r.a, false⟩) := by
  unfold routeStepX
  cases hp : (P.ensure a n.g s).panic
  · cases he : (P.ensure a n.g s).err <;> simp [hp, he]
  · simp [hp]

theorem routeStepX_done {P : Provider S G} {s : S} {a : Api} {n : XNet G} {m : Mem}
    (hd : (routeStepX (some P) s a n m).done = true) :
    (P.ensure a n.g s).panic = false ∧ (P.ensure a n.g s).err = false ∧ (P.ensure a n.g s).flag = true ∧
    routeStepX (some P) s a n m =
      ⟨true, false, { n with g := (P.ensure a n.g s).g }, m, false, false, (P.ensure a n.g s).writes, (P.ensure a n.g s).a, false⟩ := by
  rcases routeStepX_cases P s a n m with ⟨_, e⟩ | ⟨hp, e⟩ <;> rw [e] at hd ⊢
  · cases hd
  · obtain ⟨he, hf⟩ : (P.ensure a n.g s).err = false ∧ (P.ensure a n.g s).flag = true := by simpa using hd
    rw [he, hf]; exact ⟨hp, rfl, rfl, rfl⟩

theorem rsX_cases (c : XCtx S) (a : Api) (n : XNet G) (m : Mem) :
    (c.hasRef = false ∧ restoreStableServiceX c a n m = .same false false n m a) ∨
    (c.hasRef = true ∧ a.read.1 = true ∧ restoreStableServiceX c a n m = .same true true n m a.read.2) ∨
    (c.hasRef = true ∧ a.read.1 = false ∧ n.stableExists = false ∧
      restoreStableServiceX c a n m = .same false false n m a.read.2) ∨
    (c.hasRef = true ∧ a.read.1 = false ∧ n.stableExists = true ∧ c.hasRevKey = true ∧ n.stableSel.getD "" ≠ "" ∧
      ((a.read.2.spend = none ∧ restoreStableServiceX c a n m = .same true true n m a.read.2) ∨
       ∃ a2, a.read.2.spend = some a2 ∧ restoreStableServiceX c a n m =
        ⟨(runGrace c.graceSec m.restoreService true).2, false, { n with stableSel := none },
          { m with restoreService := (runGrace c.graceSec m.restoreService true).1 }, true,
          (runGrace c.graceSec m.restoreService true).2, ["unpinStable"], a2, false⟩)) ∨
    (c.hasRef = true ∧ a.read.1 = false ∧ n.stableExists = true ∧ (c.hasRevKey = false ∨ n.stableSel.getD "" = "") ∧
      restoreStableServiceX c a n m =
        ⟨(runGrace c.graceSec m.restoreService false).2, false, n,
          { m with restoreService := (runGrace c.graceSec m.restoreService false).1 }, false,
          (runGrace c.graceSec m.restoreService false).2, [], a.read.2, false⟩) := by
  unfold restoreStableServiceX
  rw [show a.read = (a.read.1, a.read.2) from rfl]
  cases href : c.hasRef
  · exact .inl ⟨rfl, by simp only [Bool.false_eq_true, not_false_eq_true, if_true]⟩
  · right
    cases hr : a.read.1
    · right
      cases hex : n.stableExists
      · exact .inl ⟨rfl, rfl, rfl, by simp only [Bool.false_eq_true, not_true_eq_false, not_false_eq_true, if_false, if_true]⟩
      · right
        cases hk : c.hasRevKey
        · exact .inr ⟨rfl, rfl, rfl, .inl rfl, by simp⟩
        · by_cases hs : n.stableSel.getD "" = ""
          · exact .inr ⟨rfl, rfl, rfl, .inr hs, by simp [hs]⟩
          · refine .inl ⟨rfl, rfl, rfl, rfl, hs, ?_⟩
            cases hsp : a.read.2.spend
            · exact .inl ⟨rfl, by simp [hs, hsp]⟩
            · exact .inr ⟨_, rfl, by simp [hs, hsp]⟩
    · exact .inl ⟨rfl, rfl, by simp only [not_true_eq_false, if_false, if_true]⟩

/-- a healthy API server stays healthy -/
theorem rsX_healthy (c : XCtx S) (n : XNet G) (m : Mem) : (restoreStableServiceX c Api.ok n m).a = Api.ok := by
  unfold restoreStableServiceX
  simp only [Api.read_ok, Api.spend_ok, Bool.false_eq_true, if_false]
  split
  · rfl
  · split
    · rfl
    · split <;> rfl

theorem rcX_cases (c : XCtx S) (a : Api) (n : XNet G) (m : Mem) :
    ((c.hasRef = false ∨ c.noGen = true) ∧ removeCanaryServiceX c a n m = .same false false n m a) ∨
    (c.hasRef = true ∧ c.noGen = false ∧
      ((a.spend = none ∧ removeCanaryServiceX c a n m = .same true true n m a) ∨
       ∃ a1, a.spend = some a1 ∧ removeCanaryServiceX c a n m =
        ⟨(runGrace c.graceSec m.removeCanaryService n.canarySvc.isSome).2, false, { n with canarySvc := none },
          { m with removeCanaryService := (runGrace c.graceSec m.removeCanaryService n.canarySvc.isSome).1 }, false,
          (runGrace c.graceSec m.removeCanaryService n.canarySvc.isSome).2,
          if n.canarySvc.isSome then ["deleteCanarySvc"] else [], a1, false⟩)) := by
  unfold removeCanaryServiceX
  cases href : c.hasRef
  · exact .inl ⟨.inl rfl, by simp⟩
  · cases hng : c.noGen
    · refine .inr ⟨rfl, rfl, ?_⟩
      obtain ⟨se, ss, cs, g⟩ := n
      cases hsp : a.spend
      · exact .inl ⟨rfl, by cases cs <;> simp⟩
      · exact .inr ⟨_, rfl, by cases cs <;> simp⟩
    · exact .inl ⟨.inr rfl, by simp⟩

theorem rgX_cases (P : Provider S G) (c : XCtx S) (a : Api) (n : XNet G) (m : Mem) :
    (c.hasRef = false ∧ restoreGatewayX (some P) c a n m = .same false false n m a) ∨
    (c.hasRef = true ∧
      (((P.finalise a n.g).panic = true ∧ restoreGatewayX (some P) c a n m = .panicked n m a) ∨
       ((P.finalise a n.g).panic = false ∧ (P.finalise a n.g).err = true ∧ restoreGatewayX (some P) c a n m =
          ⟨true, true, { n with g := (P.finalise a n.g).g }, m, (P.finalise a n.g).flag, false,
            (P.finalise a n.g).writes, (P.finalise a n.g).a, false⟩) ∨
       ((P.finalise a n.g).panic = false ∧ (P.finalise a n.g).err = false ∧ restoreGatewayX (some P) c a n m =
          ⟨(runGrace c.graceSec m.restoreGateway (P.finalise a n.g).flag).2, false, { n with g := (P.finalise a n.g).g },
            { m with restoreGateway := (runGrace c.graceSec m.restoreGateway (P.finalise a n.g).flag).1 },
            (P.finalise a n.g).flag, (runGrace c.graceSec m.restoreGateway (P.finalise a n.g).flag).2,
            (P.finalise a n.g).writes, (P.finalise a n.g).a, false⟩))) := by
  unfold restoreGatewayX
  cases href : c.hasRef
  · exact .inl ⟨rfl, by simp⟩
  · refine .inr ⟨rfl, ?_⟩
    cases hp : (P.finalise a n.g).panic
    · cases he : (P.finalise a n.g).err
      · exact .inr (.inr ⟨rfl, rfl, by simp [hp, he]⟩)
      · exact .inr (.inl ⟨rfl, rfl, by simp [hp, he]⟩)
    · exact .inl ⟨rfl, by simp [hp]⟩

theorem unpinned_of_none {n : XNet G} (h : n.stableSel.getD "" = "") : unpinned n = true := by
  simp [unpinned, h]

theorem rs_specX (c : XCtx S) (a : Api) (n : XNet G) (m : Mem) :
    let r := restoreStableServiceX c a n m
    r.net.g = n.g ∧ r.net.canarySvc = n.canarySvc ∧ r.net.stableExists = n.stableExists ∧
    (r.writes = [] ∨ r.writes = ["unpinStable"]) ∧ r.panic = false ∧ ReadLaw a r.a r.err ∧
    (r.err = false → c.hasRef = true → c.hasRevKey = true → unpinned r.net = true) ∧
    (r.touched = false → r.writes = []) ∧
    (c.graceSec ≠ 0 → r.touched = true → r.err = true ∨ r.done = true) := by
  intro r
  rcases rsX_cases c a n m with ⟨h, e⟩ | ⟨_, hr, e⟩ | ⟨_, hr, hex, e⟩ | ⟨_, hr, hex, _, _, ⟨_, e⟩ | ⟨a2, hsp, e⟩⟩ |
    ⟨_, hr, _, hks, e⟩ <;> rw [show r = _ from e]
  · exact ⟨rfl, rfl, rfl, .inl rfl, rfl, .of_armed_eq rfl _, fun _ h' => (by rw [h] at h'; cases h'), fun _ => rfl,
      fun _ h => by cases h⟩
  · exact ⟨rfl, rfl, rfl, .inl rfl, rfl, .of_spent (Api.read_fail hr), fun h => (by cases h), fun _ => rfl,
      fun _ h => by cases h⟩
  · exact ⟨rfl, rfl, rfl, .inl rfl, rfl, .of_armed_eq (Api.read_pass hr) _, fun _ _ _ => (by simp [unpinned, XOut.same, hex]),
      fun _ => rfl, fun _ h => by cases h⟩
  · exact ⟨rfl, rfl, rfl, .inl rfl, rfl, .of_armed_eq (Api.read_pass hr) _, fun h => (by cases h), fun _ => rfl,
      fun _ h => by cases h⟩
  · exact ⟨rfl, rfl, rfl, .inr rfl, rfl, .of_armed_eq ((Api.spend_armed hsp).trans (Api.read_pass hr)) _,
      fun _ _ _ => unpinned_of_none rfl, fun h => (by cases h), fun hg _ => .inr (by simp [runGrace, hg])⟩
  · refine ⟨rfl, rfl, rfl, .inl rfl, rfl, .of_armed_eq (Api.read_pass hr) _, fun _ _ hk => ?_, fun _ => rfl,
      fun _ h => by cases h⟩
    rcases hks with h | h
    · rw [hk] at h; cases h
    · exact unpinned_of_none h

theorem rc_specX (c : XCtx S) (a : Api) (n : XNet G) (m : Mem) :
    let r := removeCanaryServiceX c a n m
    r.net.g = n.g ∧ r.net.stableSel = n.stableSel ∧ r.net.stableExists = n.stableExists ∧
    (r.writes = [] ∨ r.writes = ["deleteCanarySvc"]) ∧ r.panic = false ∧ r.a.armed = a.armed ∧
    (r.err = false → c.hasRef = true → c.noGen = false → r.net.canarySvc = none) := by
  intro r
  rcases rcX_cases c a n m with ⟨h, e⟩ | ⟨_, _, ⟨_, e⟩ | ⟨a1, hsp, e⟩⟩ <;> rw [show r = _ from e]
  · refine ⟨rfl, rfl, rfl, .inl rfl, rfl, rfl, fun _ hr hn => ?_⟩
    rcases h with h | h
    · rw [hr] at h; cases h
    · rw [hn] at h; cases h
  · exact ⟨rfl, rfl, rfl, .inl rfl, rfl, rfl, fun h => by cases h⟩
  · refine ⟨rfl, rfl, rfl, ?_, rfl, Api.spend_armed hsp, fun _ _ _ => rfl⟩
    cases n.canarySvc.isSome
    · exact .inl rfl
    · exact .inr rfl

theorem finPhase_provider {w : String} (h : isProviderWrite w = true) : finPhase w = 1 := by
  unfold finPhase
  by_cases h1 : w = "unpinStable"
  · subst h1; revert h; decide
  · by_cases h2 : w = "deleteCanarySvc"
    · subst h2; revert h; decide
    · simp [h1, h2, h]

theorem phasesOrdered_provider (ws tail : List String) (k : Nat) (hk : k ≤ 1) (hn : NamedWrites ws)
    (ht : tail = [] ∨ tail = ["deleteCanarySvc"]) : phasesOrdered (ws ++ tail) k = true := by
  induction ws generalizing k with
  | nil =>
    rcases ht with rfl | rfl
    · rfl
    · simp only [List.nil_append, phasesOrdered, Bool.and_true, Bool.and_eq_true, decide_eq_true_eq]
      have : finPhase "deleteCanarySvc" = 2 := by decide
      rw [this]; omega
  | cons w r ih =>
    have hw := finPhase_provider (hn w (by simp))
    simp only [List.cons_append, phasesOrdered, hw, Bool.and_eq_true, decide_eq_true_eq]
    exact ⟨⟨hk, by omega⟩, ih 1 (Nat.le_refl _) (fun x hx => hn x (by simp [hx]))⟩

theorem phasesOrdered_fin (w1 w2 w3 : List String) (h1 : w1 = [] ∨ w1 = ["unpinStable"]) (h2 : NamedWrites w2)
    (h3 : w3 = [] ∨ w3 = ["deleteCanarySvc"]) : phasesOrdered (w1 ++ w2 ++ w3) 0 = true := by
  rcases h1 with rfl | rfl
  · simpa using phasesOrdered_provider w2 w3 0 (by omega) h2 h3
  · have : finPhase "unpinStable" = 0 := by decide
    simp only [List.cons_append, List.nil_append, phasesOrdered, this, Nat.le_refl, decide_true, Bool.true_and,
      Nat.zero_le]
    exact phasesOrdered_provider w2 w3 0 (by omega) h2 h3

theorem not_mem_delete_of_named {ws : List String} (h : NamedWrites ws) : "deleteCanarySvc" ∉ ws := fun hm => by
  have := h _ hm
  revert this; decide

end RV.TrafficX
