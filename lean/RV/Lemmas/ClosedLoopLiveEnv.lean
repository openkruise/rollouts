/-
  Progress of the closed loop, the simulated CloneSet controller (`envWl`; its two cases and what it keeps are in
  `RV.Lemmas.ClosedLoopLabels`): it commutes with the annotation and the owner, a second pass changes nothing (`envWl_idem`),
  what a workload it leaves alone looks like (`envWl_fixed`; released: `envWl_fixed_released`), and that claiming such a workload at
  partition 100 % leaves it at rest (`envWl_claim`).
-/
import RV.Lemmas.ClosedLoopLabels
namespace RV.Lemmas.ClosedLoop
open RV.Arith RV.Traffic RV.RolloutSM RV.ClosedLoop RV.Oracle.ClosedLoop

theorem envWl_fixed_observed (w : CWl) (h : envWl w = w) : w.generation = w.observedGeneration := by
  have := (envWl_kept w).observed
  rw [h] at this
  exact this.symm

theorem envWl_anno (w : CWl) (a : Bool) : envWl { w with inProgressAnno := a } = { envWl w with inProgressAnno := a } := by
  by_cases h : w.updateRevision = w.currentRevision
  · rw [envWl_eq w h, envWl_eq { w with inProgressAnno := a } h]
  · rw [envWl_ne w h, envWl_ne { w with inProgressAnno := a } h]
    rfl

theorem envWl_owner (w : CWl) (o : Executor.Owner) : envWl { w with owner := o } = { envWl w with owner := o } := by
  by_cases h : w.updateRevision = w.currentRevision
  · rw [envWl_eq w h, envWl_eq { w with owner := o } h]
  · rw [envWl_ne w h, envWl_ne { w with owner := o } h]
    rfl

theorem envWl_fixed (w : CWl) (hok : wlOK w = true) (h : envWl w = w) :
    w.updatedReady = w.updated ∧ envAllowed w ≤ w.updated ∧ (w.updateRevision = w.currentRevision → w.updated = w.replicas) ∧
    (w.updateRevision ≠ w.currentRevision → w.updated = envUpd w ∧ envUpd w < w.replicas) := by
  by_cases hne : w.updateRevision = w.currentRevision
  · rw [envWl_eq w hne] at h
    have h1 : w.replicas = w.updated := congrArg CWl.updated h
    have h2 : w.replicas = w.updatedReady := congrArg CWl.updatedReady h
    exact ⟨by omega, by have := (envAllowed_le w hok).1; omega, fun _ => h1.symm, fun hn => absurd hne hn⟩
  · rw [envWl_ne w hne] at h
    have h1 : envUpd w = w.updated := congrArg CWl.updated h
    have h2 : envUpd w = w.updatedReady := congrArg CWl.updatedReady h
    have h3 : (if envUpd w ≥ w.replicas then w.updateRevision else w.currentRevision) = w.currentRevision :=
      congrArg CWl.currentRevision h
    refine ⟨by omega, by rw [← h1]; unfold envUpd; split <;> omega, fun he => absurd he hne, fun _ => ⟨h1.symm, ?_⟩⟩
    by_cases hge : envUpd w ≥ w.replicas
    · rw [if_pos hge] at h3
      exact absurd h3 hne
    · omega

/-- a released workload at rest is fully updated -/
theorem envWl_fixed_released (w : CWl) (hok : wlOK w = true) (he : envWl w = w) (hp : w.partition = none) (hpa : w.paused = false) :
    w.updated = w.replicas ∧ w.generation = w.observedGeneration ∧ w.currentRevision = w.updateRevision := by
  obtain ⟨_, h2, h3, h4⟩ := envWl_fixed w hok he
  by_cases hne : w.updateRevision = w.currentRevision
  · exact ⟨h3 hne, envWl_fixed_observed w he, hne.symm⟩
  · exfalso
    unfold envAllowed at h2
    rw [hpa, hp] at h2
    have := (h4 hne).2
    rw [← (h4 hne).1] at this
    exact absurd h2 (by simp only [Bool.false_eq_true, if_false]; omega)

theorem envAllowed_nonneg (w : CWl) (hp : w.paused = false) (h : wlOK w = true) : 0 ≤ envAllowed w := by
  obtain ⟨h2, _⟩ := wlOK_facts w h
  unfold envAllowed
  rw [if_neg (by rw [hp]; decide)]
  split
  · split <;> omega
  · exact h2

theorem envWl_idem (w : CWl) (h : wlOK w = true) : envWl (envWl w) = envWl w := by
  obtain ⟨hal, hu⟩ := envAllowed_le w h
  by_cases hne : w.updateRevision = w.currentRevision
  · rw [envWl_eq w hne]
    exact envWl_eq _ hne
  · rw [envWl_ne w hne]
    have hupd : envUpd w ≤ w.replicas ∧ envAllowed w ≤ envUpd w := by unfold envUpd; split <;> omega
    by_cases hge : envUpd w ≥ w.replicas
    · rw [if_pos hge, show envUpd w = w.replicas by omega]
      exact envWl_eq _ rfl
    · rw [if_neg hge]
      obtain ⟨w2, hw2⟩ : ∃ w2 : CWl, w2 = { w with observedGeneration := w.generation, statusReplicas := w.replicas, updated := envUpd w, updatedReady := envUpd w } := ⟨_, rfl⟩
      -- the second pass finds the allowance already used up
      have eu : envUpd w2 = envUpd w := by
        have ea : envAllowed w2 = if w.paused then envUpd w else envAllowed w := by
          rw [hw2]
          unfold envAllowed
          dsimp only
          split <;> rfl
        rw [envUpd, ea, hw2]
        dsimp only
        split <;> rw [if_neg (by omega)]
      rw [← hw2, envWl_ne w2 (by rw [hw2]; exact hne), eu, hw2]
      dsimp only
      rw [if_neg hge]

/-- the CloneSet controller does nothing new on a workload that has just been claimed (partition 100 %) -/
theorem envWl_claim (w : CWl) (G : Int) (hfix : envWl w = w) (hne : w.updateRevision ≠ w.currentRevision)
    (hp : w.paused = false) (hok : wlOK w = true) :
    (envWl { w with partition := some (.pct 100), paused := false, owner := .this, generation := G }).updated = w.updated ∧
    (envWl { w with partition := some (.pct 100), paused := false, owner := .this, generation := G }).updatedReady =
      w.updatedReady := by
  obtain ⟨f2, f1, _⟩ := envWl_fixed w hok hfix
  have h0 : 0 ≤ w.updated := by
    have := envAllowed_nonneg w hp hok
    omega
  rw [envWl_ne { w with partition := some (.pct 100), paused := false, owner := .this, generation := G } hne,
    envUpd_held { w with partition := some (.pct 100), paused := false, owner := .this, generation := G } rfl h0]
  exact ⟨rfl, f2.symm⟩

end RV.Lemmas.ClosedLoop
