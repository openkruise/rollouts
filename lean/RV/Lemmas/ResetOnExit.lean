/-
  The cursor reset at the end of `RolloutReconciler.Reconcile`:
  `RV.RolloutSM.reconcile w = (reconcileCore w).map (resetOnExit w)`.

  This file: what `resetOnExit` leaves alone (everything except `sub.finStep`, and that only when a Progressing rollout
  leaves towards Terminating / Disabling), and the transfer principle that carries a theorem about `reconcileCore` —
  the body of `Reconcile` up to the reset — to the whole `reconcile`.
-/
import RV.Model.RolloutSM
namespace RV.RolloutSM

theorem resetOnExit_eq (w : World) (r : StepResult) :
    resetOnExit w r = if exitsProgressing w r then { r with w := { r.w with ro := clearCursor r.w.ro } } else r := by
  -- the definition tests the three phases as propositions, `exitsProgressing` as Booleans: the eight cases agree
  unfold resetOnExit exitsProgressing
  by_cases h1 : w.ro.phase = .progressing <;> by_cases h2 : r.w.ro.phase = .terminating <;>
    by_cases h3 : r.w.ro.phase = .disabling <;> simp [h1, h2, h3]

theorem resetOnExit_of_not (w : World) (r : StepResult) (h : exitsProgressing w r = false) : resetOnExit w r = r := by
  rw [resetOnExit_eq, h]; rfl

theorem resetOnExit_of_phase (w : World) (r : StepResult) (h : w.ro.phase ≠ .progressing) : resetOnExit w r = r := by
  apply resetOnExit_of_not; simp [exitsProgressing, h]

theorem resetOnExit_of_stays (w : World) (r : StepResult) (h1 : r.w.ro.phase ≠ .terminating) (h2 : r.w.ro.phase ≠ .disabling) :
    resetOnExit w r = r := by
  apply resetOnExit_of_not; simp [exitsProgressing, h1, h2]

theorem resetOnExit_ro (w : World) (r : StepResult) :
    (resetOnExit w r).w.ro = if exitsProgressing w r then clearCursor r.w.ro else r.w.ro := by
  rw [resetOnExit_eq]; split <;> rfl

theorem resetOnExit_frame (w : World) (r : StepResult) :
    resetOnExit w r = { r with w := { r.w with ro := { r.w.ro with sub := (resetOnExit w r).w.ro.sub } } } := by
  rw [resetOnExit_eq]; split <;> rfl

@[simp] theorem resetOnExit_br (w : World) (r : StepResult) : (resetOnExit w r).w.br = r.w.br := by
  rw [resetOnExit_frame]
@[simp] theorem resetOnExit_wl (w : World) (r : StepResult) : (resetOnExit w r).w.wl = r.w.wl := by
  rw [resetOnExit_frame]
@[simp] theorem resetOnExit_net (w : World) (r : StepResult) : (resetOnExit w r).w.net = r.w.net := by
  rw [resetOnExit_frame]
@[simp] theorem resetOnExit_mem (w : World) (r : StepResult) : (resetOnExit w r).w.mem = r.w.mem := by
  rw [resetOnExit_frame]
@[simp] theorem resetOnExit_roGone (w : World) (r : StepResult) : (resetOnExit w r).roGone = r.roGone := by
  rw [resetOnExit_frame]
@[simp] theorem resetOnExit_requeue (w : World) (r : StepResult) : (resetOnExit w r).requeue = r.requeue := by
  rw [resetOnExit_frame]
@[simp] theorem resetOnExit_err (w : World) (r : StepResult) : (resetOnExit w r).err = r.err := by
  rw [resetOnExit_frame]
@[simp] theorem resetOnExit_writes (w : World) (r : StepResult) : (resetOnExit w r).writes = r.writes := by
  rw [resetOnExit_frame]

theorem clearCursor_sub (ro : Rollout) :
    (clearCursor ro).sub = ro.sub.map fun s => { s with finStep := .empty } := rfl

theorem clearCursor_frame (ro : Rollout) :
    clearCursor ro = { ro with sub := ro.sub.map fun s => { s with finStep := .empty } } := rfl

@[simp] theorem clearCursor_phase (ro : Rollout) : (clearCursor ro).phase = ro.phase := rfl
@[simp] theorem clearCursor_reason (ro : Rollout) : (clearCursor ro).reason = ro.reason := rfl
@[simp] theorem clearCursor_term (ro : Rollout) : (clearCursor ro).term = ro.term := rfl
@[simp] theorem clearCursor_steps (ro : Rollout) : (clearCursor ro).steps = ro.steps := rfl
@[simp] theorem clearCursor_style (ro : Rollout) : (clearCursor ro).style = ro.style := rfl
@[simp] theorem clearCursor_paused (ro : Rollout) : (clearCursor ro).paused = ro.paused := rfl
@[simp] theorem clearCursor_disabled (ro : Rollout) : (clearCursor ro).disabled = ro.disabled := rfl
@[simp] theorem clearCursor_deleting (ro : Rollout) : (clearCursor ro).deleting = ro.deleting := rfl
@[simp] theorem clearCursor_hasFinalizer (ro : Rollout) : (clearCursor ro).hasFinalizer = ro.hasFinalizer := rfl
@[simp] theorem clearCursor_hasTraffic (ro : Rollout) : (clearCursor ro).hasTraffic = ro.hasTraffic := rfl
@[simp] theorem clearCursor_disableGen (ro : Rollout) : (clearCursor ro).disableGen = ro.disableGen := rfl
@[simp] theorem clearCursor_rollbackInBatch (ro : Rollout) : (clearCursor ro).rollbackInBatch = ro.rollbackInBatch := rfl
@[simp] theorem clearCursor_grace (ro : Rollout) : (clearCursor ro).grace = ro.grace := rfl
@[simp] theorem clearCursor_condAge (ro : Rollout) : (clearCursor ro).condAge = ro.condAge := rfl
@[simp] theorem clearCursor_succeeded (ro : Rollout) : (clearCursor ro).succeeded = ro.succeeded := rfl
@[simp] theorem clearCursor_realPartition (ro : Rollout) : (clearCursor ro).realPartition = ro.realPartition := rfl

@[simp] theorem resetOnExit_phase (w : World) (r : StepResult) : (resetOnExit w r).w.ro.phase = r.w.ro.phase := by
  rw [resetOnExit_frame]
@[simp] theorem resetOnExit_reason (w : World) (r : StepResult) : (resetOnExit w r).w.ro.reason = r.w.ro.reason := by
  rw [resetOnExit_frame]
@[simp] theorem resetOnExit_term (w : World) (r : StepResult) : (resetOnExit w r).w.ro.term = r.w.ro.term := by
  rw [resetOnExit_frame]
@[simp] theorem resetOnExit_steps (w : World) (r : StepResult) : (resetOnExit w r).w.ro.steps = r.w.ro.steps := by
  rw [resetOnExit_frame]
@[simp] theorem resetOnExit_style (w : World) (r : StepResult) : (resetOnExit w r).w.ro.style = r.w.ro.style := by
  rw [resetOnExit_frame]
@[simp] theorem resetOnExit_paused (w : World) (r : StepResult) : (resetOnExit w r).w.ro.paused = r.w.ro.paused := by
  rw [resetOnExit_frame]
@[simp] theorem resetOnExit_disabled (w : World) (r : StepResult) : (resetOnExit w r).w.ro.disabled = r.w.ro.disabled := by
  rw [resetOnExit_frame]
@[simp] theorem resetOnExit_deleting (w : World) (r : StepResult) : (resetOnExit w r).w.ro.deleting = r.w.ro.deleting := by
  rw [resetOnExit_frame]
@[simp] theorem resetOnExit_hasFinalizer (w : World) (r : StepResult) : (resetOnExit w r).w.ro.hasFinalizer = r.w.ro.hasFinalizer := by
  rw [resetOnExit_frame]
@[simp] theorem resetOnExit_hasTraffic (w : World) (r : StepResult) : (resetOnExit w r).w.ro.hasTraffic = r.w.ro.hasTraffic := by
  rw [resetOnExit_frame]
@[simp] theorem resetOnExit_succeeded (w : World) (r : StepResult) : (resetOnExit w r).w.ro.succeeded = r.w.ro.succeeded := by
  rw [resetOnExit_frame]
@[simp] theorem resetOnExit_condAge (w : World) (r : StepResult) : (resetOnExit w r).w.ro.condAge = r.w.ro.condAge := by
  rw [resetOnExit_frame]
@[simp] theorem resetOnExit_realPartition (w : World) (r : StepResult) : (resetOnExit w r).w.ro.realPartition = r.w.ro.realPartition := by
  rw [resetOnExit_frame]

theorem resetOnExit_sub (w : World) (r : StepResult) :
    (resetOnExit w r).w.ro.sub =
      r.w.ro.sub.map fun s => { s with finStep := if exitsProgressing w r then .empty else s.finStep } := by
  rw [resetOnExit_ro]
  split
  · rw [clearCursor_sub]
  · cases r.w.ro.sub <;> rfl

theorem resetOnExit_sub_none (w : World) (r : StepResult) (h : r.w.ro.sub = none) : (resetOnExit w r).w.ro.sub = none := by
  rw [resetOnExit_sub, h]; rfl

theorem resetOnExit_sub_some (w : World) (r : StepResult) (s : Sub) (h : r.w.ro.sub = some s) :
    (resetOnExit w r).w.ro.sub = some { s with finStep := if exitsProgressing w r then .empty else s.finStep } := by
  rw [resetOnExit_sub, h]; rfl

theorem reconcile_def (w : World) : reconcile w = (reconcileCore w).map (resetOnExit w) := rfl

theorem reconcile_panic_iff (w : World) : reconcile w = .panic ↔ reconcileCore w = .panic := by
  rw [reconcile_def]; cases reconcileCore w <;> simp [Out.map]

theorem reconcile_val {w : World} {r : StepResult} (h : reconcile w = .val r) :
    ∃ r0, reconcileCore w = .val r0 ∧ r = resetOnExit w r0 := by
  rw [reconcile_def] at h
  cases hc : reconcileCore w with
  | panic => rw [hc] at h; simp [Out.map] at h
  | val r0 => rw [hc] at h; simp only [Out.map, Out.val.injEq] at h; exact ⟨r0, rfl, h.symm⟩

theorem reconcile_of_core {w : World} {r0 : StepResult} (h : reconcileCore w = .val r0) :
    reconcile w = .val (resetOnExit w r0) := by
  rw [reconcile_def, h]; rfl

theorem reconcile_eq_core_of_phase (w : World) (h : w.ro.phase ≠ .progressing) : reconcile w = reconcileCore w := by
  rw [reconcile_def]
  cases reconcileCore w with
  | panic => rfl
  | val r0 => simp only [Out.map]; rw [resetOnExit_of_phase w r0 h]

/-- **transfer principle**: an oracle that does not see the reset holds of the whole reconcile as soon as it holds of the body -/
theorem transfer (P : World → StepResult → Bool)
    (hP : ∀ w r0, P w (resetOnExit w r0) = P w r0)
    (hc : ∀ w r0, reconcileCore w = .val r0 → P w r0 = true)
    (w : World) (r : StepResult) (h : reconcile w = .val r) : P w r = true := by
  obtain ⟨r0, h0, rfl⟩ := reconcile_val h
  rw [hP]; exact hc w r0 h0

end RV.RolloutSM
