/-
  C07 with traffic routing, closed loop: `StepTrafficRouting` is left within 6 fair rounds
  (`round = [ro, br, env, approve, tick]`, `RV.Oracle.ClosedLoop.rounds`), from EVERY state of the traffic invariant.
-/
import RV.Lemmas.ClosedLoopLiveRound
import RV.Lemmas.ClosedLoopTrafficBr
import RV.Lemmas.ClosedLoopTrafficLabels
import RV.Lemmas.ClosedLoopTrafficRoll
import RV.Props.TrafficThms
namespace RV.Lemmas.ClosedLoopTraffic
open RV.Arith RV.Traffic RV.RolloutSM RV.ClosedLoop RV.Oracle.ClosedLoop RV.Oracle.ClosedLoopTraffic RV.Lemmas.ClosedLoop
open RV.Props.Traffic (NoFresh)

/-- the sub-state is past `StepTrafficRouting` (the sub-states of `RV.Oracle.ClosedLoop.postRouting`) -/
def routedState (st : StepState) : Bool := st == .metricsAnalysis || st == .paused || st == .ready || st == .completed

/-- rounds still needed (an upper bound): weighted step — Services (4), create the route (3), set the weight (2), verify (1);
    step without weight — one per object still to restore -/
def live_rank (t : TCtx) (n : Net) : Nat :=
  match t.weight with
  | some wt =>
    if t.disableGen = true ∨ (n.canarySvc = some t.canaryRev ∧ n.stableSel.getD "" = t.stableRev) then
      (match n.canaryIng with
       | none => if wt = 0 then 1 else 3
       | some x => if x = wt then 1 else 2)
    else 4
  | none =>
    (if n.stableSel.getD "" ≠ "" then 1 else 0) + (if n.canaryIng.isSome = true then 1 else 0) +
    (if t.disableGen = false ∧ n.canarySvc.isSome = true then 1 else 0)

theorem live_rank_le (t : TCtx) (n : Net) : live_rank t n ≤ 4 := by
  unfold live_rank
  split
  · split
    · split <;> split <;> omega
    · omega
  · split <;> split <;> split <;> omega

theorem live_rank_lu (t : TCtx) (n : Net) (a : Age) : live_rank { t with lastUpdate := a } n = live_rank t n := rfl

theorem live_dtr_progress (t : TCtx) (n : Net) (m : Mem) (wt : Nat) (hw : t.weight = some wt)
    (hbase : t.hasRef = true → n.stableExists = true ∧ n.stableIngress = true) (hl : t.lastUpdate ≠ .fresh)
    (hsr : t.stableRev ≠ "") (hcr : t.canaryRev ≠ "") :
    (doTrafficRouting t n m).done = true ∨ live_rank t (doTrafficRouting t n m).net < live_rank t n := by
  -- `live_rank` asks whether the Services are in place in the words of `svcOk_iff`, the revisions being known
  have hok : ∀ n' : Net, RV.Props.Traffic.SvcOk t n' ↔
      (t.disableGen = true ∨ (n'.canarySvc = some t.canaryRev ∧ n'.stableSel.getD "" = t.stableRev)) := fun n' =>
    (RV.Props.Traffic.svcOk_iff t n').trans
      ⟨Or.imp id fun h => ⟨h.2.2.1, h.2.2.2⟩, Or.imp id fun h => ⟨hsr, hcr, h.1, h.2⟩⟩
  rcases RV.Props.Traffic.doTR_cases t n m with ⟨_, e⟩ | ⟨w, href, hw', ⟨h, e⟩ | ⟨n2, ws, hs, hws, _, _, e⟩ | ⟨_, _, hk, e⟩⟩ <;>
    rw [e]
  · exact .inl rfl
  · -- there is nothing to wait for: the stable Service is there, no grace period runs, the revisions are known
    exfalso
    rcases h with h | h | h
    · rw [(hbase href).1] at h; cases h
    · exact hl h
    · cases hd : t.disableGen with
      | true => rw [RV.Props.Traffic.svcStep_off t n hd] at h; cases h
      | false =>
        obtain ⟨_, he, _⟩ := RV.Props.Traffic.svcStep_on t n hd hsr hcr
        rw [he] at h; cases h
  · -- the Services are written: they were not in place, and are now
    right
    have h1 : ¬ RV.Props.Traffic.SvcOk t n := fun hk => hws (by rw [show svcStep t n = some (n, []) from hk] at hs; cases hs; rfl)
    unfold live_rank
    rw [hw]
    dsimp only
    rw [if_pos ((hok n2).1 (RV.Props.Traffic.svcStep_idem t n n2 ws hs)), if_neg fun h => h1 ((hok n).2 h)]
    split <;> split <;> omega
  · -- in place: the provider part creates the route (at weight 0), sets the weight, or finds it set
    cases hw.symm.trans hw'
    have hc := (hok n).1 hk
    have hing := (hbase href).2
    unfold live_rank
    rw [hw]
    dsimp only
    unfold routeStep ensureRoutes
    cases hci : n.canaryIng with
    | none =>
      by_cases hw0 : wt = 0
      · left; simp [hw0]
      · right
        simp only [hw0, if_false, hing, if_true, Bool.false_eq_true]
        rw [if_pos hc, if_pos hc]
        by_cases h0 : 0 = wt
        · exact absurd h0.symm hw0
        · rw [if_neg h0]; omega
    | some x =>
      dsimp only
      by_cases hx : x = wt
      · left; simp [hx]
      · right
        simp only [hx, if_false, Bool.false_eq_true]
        rw [if_pos hc, if_pos hc]
        simp

theorem live_fin_progress (t : TCtx) (n : Net) (m : Mem) (hw : t.weight = none)
    (hbase : t.hasRef = true → n.stableExists = true) (hm : NoFresh m) (hkey : t.hasRevKey = true) :
    (finalisingTrafficRouting t n m).done = true ∨ live_rank t (finalisingTrafficRouting t n m).net < live_rank t n := by
  cases href : t.hasRef
  · left
    unfold finalisingTrafficRouting
    simp [href]
  by_cases hg : t.grace = 0
  · exact Or.inl (RV.Props.Traffic.finalising_immediate t n m hg).1
  have hex := hbase href
  obtain ⟨hm1, hm2, hm3⟩ := hm
  have hrk : ∀ n' : Net, live_rank t n' = (if n'.stableSel.getD "" ≠ "" then 1 else 0) + (if n'.canaryIng.isSome = true then 1 else 0) +
      (if t.disableGen = false ∧ n'.canarySvc.isSome = true then 1 else 0) := by
    intro n'; unfold live_rank; rw [hw]
  rw [hrk, hrk n]
  -- The round ends at the first of the three calls that asks for a retry (`finalising_cases`), and with no grace period
  -- running a call asks for one exactly when it has restored its object (`rs_round`, `rg_round`, `rc_round`).
  obtain ⟨-, hc⟩ := RV.Props.Traffic.finalising_cases t n m href
  obtain ⟨-, a1, a2, -, a4, a5, p1, p2⟩ := RV.Props.Traffic.rs_round t n m href hg hm1
  generalize restoreStableService t n m = r1 at *
  obtain ⟨-, b1, b2, -, b4, -, b6, q1, q2⟩ := RV.Props.Traffic.rg_round t r1.net r1.mem href hg (a4 ▸ hm2)
  generalize restoreGateway t r1.net r1.mem = r2 at *
  obtain ⟨-, c1, c2, -, -, -, t1, t2⟩ := RV.Props.Traffic.rc_round t r2.net r2.mem href hg (b6 ▸ a5 ▸ hm3)
  generalize removeCanaryService t r2.net r2.mem = r3 at *
  generalize finalisingTrafficRouting t n m = o at *
  -- a `RestoreStableService` that did not ask found nothing to un-pin and left the network alone
  have quiet1 : r1.done = false → r1.net = n ∧ ¬ n.stableSel.getD "" ≠ "" := fun d1 =>
    have hnp : ¬ (n.stableExists = true ∧ t.hasRevKey = true ∧ n.stableSel.getD "" ≠ "") := fun h => by
      rw [(p1 h).1] at d1; cases d1
    ⟨(p2 hnp).2.1, fun h => hnp ⟨hex, hkey, h⟩⟩
  rcases hc with ⟨d1, -, hn, -⟩ | ⟨d1, d2, -, hn, -⟩ | ⟨d1, d2, hd, hn, -⟩
  · right
    by_cases hpin : n.stableSel.getD "" ≠ ""
    · rw [hn, (p1 ⟨hex, hkey, hpin⟩).2.1, a1, a2, if_pos hpin]
      simp only [Option.getD_none, ne_eq, not_true_eq_false, if_false]
      omega
    · rw [(p2 fun h => hpin h.2.2).1] at d1; cases d1
  · right
    obtain ⟨s1, hpin⟩ := quiet1 d1
    have hing : n.canaryIng.isSome = true := by
      cases h : r1.net.canaryIng.isSome
      · rw [(q2 h).1] at d2; cases d2
      · exact s1 ▸ h
    rw [hn, b1, b2, b4, s1, if_neg hpin, if_pos hing]
    simp only [Option.isSome_none, Bool.false_eq_true, if_false]
    omega
  · cases d3 : r3.done
    · exact .inl (by rw [hd, d3]; rfl)
    · right
      obtain ⟨s1, hpin⟩ := quiet1 d1
      have hd' : t.disableGen = false := by
        cases h : t.disableGen
        · rfl
        · rw [(t1 h).1] at d3; cases d3
      obtain ⟨u1, -, u3⟩ := t2 hd'
      have hsvc : n.canarySvc.isSome = true := by
        cases h : r2.net.canarySvc.isSome
        · rw [(u3 h).1] at d3; cases d3
        · exact s1 ▸ b2 ▸ h
      have hc3 : t.disableGen = false ∧ n.canarySvc.isSome = true := ⟨hd', hsvc⟩
      rw [hn, c1, c2, u1, b1, b4, s1, if_neg hpin, if_pos hc3]
      simp only [Option.isSome_none, Bool.false_eq_true, if_false, and_false]
      omega

theorem live_call_progress (t : TCtx) (n : Net) (m : Mem)
    (hbase : t.hasRef = true → n.stableExists = true ∧ n.stableIngress = true) (hl : t.lastUpdate ≠ .fresh)
    (hsr : t.stableRev ≠ "") (hcr : t.canaryRev ≠ "") (hm : NoFresh m) (hkey : t.hasRevKey = true) :
    (live_call t n m).done = true ∨ live_rank t (live_call t n m).net < live_rank t n := by
  cases hw : t.weight with
  | none =>
    have e : live_call t n m = finalisingTrafficRouting t n m := by unfold live_call; rw [hw]
    rw [e]
    exact live_fin_progress t n m hw (fun h => (hbase h).1) hm hkey
  | some wt =>
    have e : live_call t n m = doTrafficRouting t n m := by unfold live_call; rw [hw]
    rw [e]
    exact live_dtr_progress t n m wt hw hbase hl hsr hcr

/-- the Manager context of a rollout on a step with weight `wt`, recorded stable revision `sr`, pod-template hash `cr` -/
def live_ctx (ro : Rollout) (sr cr : String) (wt : Option Nat) (lu : Age) : TCtx :=
  { hasRef := ro.hasTraffic, grace := ro.grace, weight := wt, disableGen := ro.disableGen, stableRev := sr, canaryRev := cr,
    lastUpdate := lu, hasRevKey := true }

theorem live_rank_congr (t t' : TCtx) (n : Net) (h1 : t'.weight = t.weight) (h2 : t'.disableGen = t.disableGen)
    (h3 : t'.canaryRev = t.canaryRev) (h4 : t'.stableRev = t.stableRev) : live_rank t' n = live_rank t n := by
  unfold live_rank
  rw [h1, h2, h3, h4]

/-- the loop invariant of the progress argument: the traffic invariant, `InRolling`, sub-state `StepTrafficRouting` of step `k`,
    the recorded stable revision and the released revision fixed, the user's configuration that of `cfg` -/
structure LiveSt (cfg : Rollout) (k : Int) (sr rev : String) (s : CS) : Prop where
  inv : trInv s = true
  ph : s.ro.phase = .progressing
  re : s.ro.reason = .inRolling
  same : RV.Props.Reconcile.Same cfg s.ro
  sub : ∃ sub, s.ro.sub = some sub ∧ sub.state = .trafficRouting ∧ sub.curIdx = k ∧ sub.stableRev = sr
  wl : ∃ w, s.wl = some w ∧ w.updateRevision = rev

/-- the goal: still rolling on step `k`, past `StepTrafficRouting` -/
def LiveDone (k : Int) (s : CS) : Prop :=
  trInv s = true ∧ s.ro.phase = .progressing ∧ s.ro.reason = .inRolling ∧
    ∃ sub', s.ro.sub = some sub' ∧ sub'.curIdx = k ∧ routedState sub'.state = true

/-- what holds at the end of every fair round: no grace period running, the workload status up to date, the last-update
    time aged -/
def LiveReady (s : CS) : Prop :=
  NoFresh s.mem ∧ (∀ w, s.wl = some w → w.generation = w.observedGeneration) ∧
  (∀ sub, s.ro.sub = some sub → sub.lastUpdate ≠ .fresh)

/-- `live_rank` as a function of the network alone: the context is fixed by `cfg`, step `k` and the two revisions (what `LiveSt`
    holds constant), the update time taken as aged (`LiveReady`) -/
def live_mu (cfg : Rollout) (k : Int) (sr rev : String) (n : Net) : Nat :=
  live_rank (live_ctx cfg sr rev (weightOf cfg k) .elapsed) n

/-- the state of the round that began in `s`, after its Rollout reconcile and still after its BatchRelease reconcile (`live_br`):
    the step is routed, or it is still in `StepTrafficRouting` and — provided `s` was `LiveReady` — the rank has dropped -/
structure LiveMid (cfg : Rollout) (k : Int) (sr rev : String) (s a : CS) : Prop where
  inv : trInv a = true
  ph : a.ro.phase = .progressing
  re : a.ro.reason = .inRolling
  same : RV.Props.Reconcile.Same cfg a.ro
  wl : ∃ w, a.wl = some w ∧ w.updateRevision = rev
  sub : ∃ sub, a.ro.sub = some sub ∧ sub.curIdx = k ∧ sub.stableRev = sr ∧
    (sub.state = .metricsAnalysis ∨
     (sub.state = .trafficRouting ∧ (LiveReady s → live_mu cfg k sr rev a.net < live_mu cfg k sr rev s.net)))

theorem live_ro (cfg : Rollout) (k : Int) (sr rev : String) (s : CS) (hL : LiveSt cfg k sr rev s) (hsr : sr ≠ "") (hrev : rev ≠ "") :
    ∃ a, stepRo s = some a ∧ LiveMid cfg k sr rev s a := by
  obtain ⟨h, hph, hr, cs, ⟨sub, hsub, hst, hk, hsrev⟩, ⟨w, hw, hwrev⟩⟩ := hL
  obtain ⟨w0, A⟩ := tr_at s h
  cases hw.symm.trans A.fwd.wl
  obtain ⟨a, ha, hfa⟩ := stepRo_fwd s ((trInv_iff s).1 h).1
  refine ⟨a, ha, ?_⟩
  cases hc : (roWl w).consistent with
  | false =>
    rw [stepRo_wait s w A.fwd.gone A.fwd.good hw hc] at ha
    cases ha
    refine ⟨h, hph, hr, cs, ⟨w, hw, hwrev⟩, sub, hsub, hk, hsrev, Or.inr ⟨hst, fun hrd => ?_⟩⟩
    have hc' : (roWl w).consistent = true := decide_eq_true (hrd.2.1 w hw)
    rw [hc] at hc'; cases hc'
  | true =>
    have q := (RV.Props.Reconcile.csObserve_same s.ro (roWl w)).1
    have hP := A.rollAt hph hr hsub
    obtain ⟨hsg, _, hrph, htr, ⟨hcomp, _⟩ | ⟨_, c, br', o, hrc, _, e, _⟩⟩ := tr_round_step A hc hph hr hsub ha
    · rw [hst] at hcomp; cases hcomp
    · have hinv : trInv a = true := (trInv_iff a).2 ⟨hfa, htr⟩
      subst e
      obtain ⟨step, hstep, hn, _, _, hs', hcur, hmove⟩ := routing_round _ c false _ hrc (hsg.observed (roWl w)) hst
      refine ⟨hinv, hrph, (csObserve_frame s.ro (roWl w)).2.trans hr, cs.trans q, ⟨_, rfl, hwrev⟩, c.sub, rfl,
        hcur.trans hk, hs'.trans hsrev, ?_⟩
      -- the pod-template hash the Manager is called with is the released revision
      have hph0 : (syncStep (roundCtx0 s w sub)).sub.podHash = w.updateRevision := by
        rw [syncStep_frame]
        dsimp only
        split
        · rfl
        · rename_i hne
          exact hP.hash.resolve_left hne
      generalize hT : roundCtx (roundCtx0 s w sub) step = T at hn hmove
      have erank : ∀ n : Net, live_rank T n = live_mu cfg k sr rev n := by
        intro n
        unfold live_mu
        rw [← hT]
        refine live_rank_congr _ _ n ?_ (q.disableGen.trans cs.disableGen) (hph0.trans hwrev) hsrev
        rw [← hk]
        exact (weightOf_step cfg sub.curIdx step hsg.lo (by rw [← cs.steps, ← q.steps]; exact hstep)).symm
      rcases hmove with ⟨_, _, hs2⟩ | ⟨hd, hs2⟩
      · exact Or.inl hs2
      · refine Or.inr ⟨hs2, fun hrd => ?_⟩
        obtain ⟨rd1, _, rd3⟩ := hrd
        have hprog := live_call_progress T s.net s.mem
          (fun htr => hP.base (by rw [← hT] at htr; exact q.hasTraffic.symm.trans htr))
          (by rw [← hT]; exact rd3 sub hsub) (by rw [← hT]; show sub.stableRev ≠ ""; rw [hsrev]; exact hsr)
          (by rw [← hT]; show (syncStep _).sub.podHash ≠ ""; rw [hph0, hwrev]; exact hrev) rd1 (by rw [← hT]; rfl)
        have hd' : (live_call T s.net s.mem).done = false := hd.resolve_right (by decide)
        rcases hprog with hp | hp
        · rw [hd'] at hp; cases hp
        · rw [erank, erank] at hp
          show live_mu cfg k sr rev c.net < _
          rw [hn]; exact hp

theorem live_br (cfg : Rollout) (k : Int) (sr rev : String) (s a : CS) (hM : LiveMid cfg k sr rev s a) :
    ∃ b, stepBr a = some b ∧ LiveMid cfg k sr rev s b := by
  obtain ⟨h, hph, hr, cs, ⟨w, hw, hwrev⟩, ⟨sub, hsub, hrest⟩⟩ := hM
  obtain ⟨hf, _⟩ := (trInv_iff a).1 h
  obtain ⟨b, hb, hfb⟩ := stepBr_fwd a hf
  have htb := stepBr_tr a b h hb
  obtain ⟨_, f1, f2, _⟩ := stepBr_frame hb
  obtain ⟨w', hw', hrev'⟩ : ∃ w', b.wl = some w' ∧ w'.updateRevision = w.updateRevision := by
    rcases stepBr_cases hb with ⟨_, e⟩ | ⟨c, o, _, _, rfl⟩
    · exact ⟨w, e ▸ hw, rfl⟩
    · show ∃ w', wlLand a.wl o.wl = some w' ∧ _
      rw [hw]
      cases o.wl <;> exact ⟨_, rfl, rfl⟩
  refine ⟨b, hb, ⟨(trInv_iff b).2 ⟨hfb, htb⟩, by rw [f1]; exact hph, by rw [f1]; exact hr, by rw [f1]; exact cs,
    ⟨w', hw', hrev'.trans hwrev⟩, ⟨sub, by rw [f1]; exact hsub, ?_⟩⟩⟩
  rw [f2]
  exact hrest

theorem live_ageExp (e : Exp) : ageExp e ≠ .fresh := by cases e <;> simp [ageExp]

theorem live_ageAge (e : Age) : ageAge e ≠ .fresh := by cases e <;> simp [ageAge]

theorem live_tail (cfg : Rollout) (k : Int) (sr rev : String) (s b : CS) (hM : LiveMid cfg k sr rev s b) :
    LiveDone k (roundTail b) ∨
    (LiveSt cfg k sr rev (roundTail b) ∧ LiveReady (roundTail b) ∧
     (LiveReady s → live_mu cfg k sr rev (roundTail b).net < live_mu cfg k sr rev s.net)) := by
  obtain ⟨h, hph, hr, cs, ⟨w, hw, hwrev⟩, ⟨sub, hsub, hk, hsrev, hstate⟩⟩ := hM
  obtain ⟨_, T⟩ := tr_at b h
  have hgone := T.fwd.gone
  have h1 : trInv { b with wl := b.wl.map envWl } = true := (trInv_iff _).2 ⟨env_fwd b ((trInv_iff b).1 h).1, env_tr b h⟩
  have h2 : trInv (approve { b with wl := b.wl.map envWl }) = true :=
    (trInv_iff _).2 ⟨approve_fwd _ ((trInv_iff _).1 h1).1, approve_tr _ h1⟩
  have hinvT : trInv (roundTail b) = true := (trInv_iff _).2 ⟨tick_fwd _ ((trInv_iff _).1 h2).1, tick_tr _ h2⟩
  have hb : roundTail b = mid (tick b) (tailRo b.ro) (envWl w) b.br := by
    rw [← tail_mid, ← mid_of b w b.ro hw, ← hgone]
  rw [hb] at hinvT ⊢
  have subT : (tailRo b.ro).sub = some (tailSub sub) := by unfold tailRo; rw [hsub]; rfl
  have hready : LiveReady (mid (tick b) (tailRo b.ro) (envWl w) b.br) := by
    refine ⟨⟨live_ageExp _, live_ageExp _, live_ageExp _⟩, fun w' hw' => ?_, fun sub' hs' => ?_⟩
    · cases hw'
      exact (envWl_kept w).generation.trans (envWl_kept w).observed.symm
    · cases subT.symm.trans hs'
      exact live_ageAge _
  rcases hstate with h1 | ⟨h1, hmu⟩
  · exact Or.inl ⟨hinvT, hph, hr, _, subT, hk, by rw [tailSub_state h1 (by intro hh; cases hh)]; rfl⟩
  · exact Or.inr ⟨⟨hinvT, hph, hr, cs, ⟨_, subT, tailSub_state h1 (by intro hh; cases hh), hk, hsrev⟩,
      ⟨_, rfl, (envWl_kept w).updateRevision.trans hwrev⟩⟩, hready, hmu⟩

theorem live_round (cfg : Rollout) (k : Int) (sr rev : String) (s : CS) (hL : LiveSt cfg k sr rev s) (hsr : sr ≠ "") (hrev : rev ≠ "") :
    ∃ s', round s = some s' ∧
      (LiveDone k s' ∨
       (LiveSt cfg k sr rev s' ∧ LiveReady s' ∧ (LiveReady s → live_mu cfg k sr rev s'.net < live_mu cfg k sr rev s.net))) := by
  obtain ⟨a, ha, hMa⟩ := live_ro cfg k sr rev s hL hsr hrev
  obtain ⟨b, hb, hMb⟩ := live_br cfg k sr rev s a hMa
  exact ⟨_, round_eq s a b ha hb, live_tail cfg k sr rev s b hMb⟩

theorem live_iter (cfg : Rollout) (k : Int) (sr rev : String) (hsr : sr ≠ "") (hrev : rev ≠ "") :
    ∀ (n : Nat) (s : CS), LiveSt cfg k sr rev s → LiveReady s → live_mu cfg k sr rev s.net ≤ n →
      ∃ j s', j ≤ n + 1 ∧ rounds j s = some s' ∧ LiveDone k s' := by
  intro n
  induction n with
  | zero =>
    intro s hL hrd hmu
    obtain ⟨s', hr, hcase⟩ := live_round cfg k sr rev s hL hsr hrev
    rcases hcase with hd | ⟨_, _, hlt⟩
    · exact ⟨1, s', by omega, by rw [rounds_succ 0 s s' hr]; rfl, hd⟩
    · have := hlt hrd
      omega
  | succ n ih =>
    intro s hL hrd hmu
    obtain ⟨s', hr, hcase⟩ := live_round cfg k sr rev s hL hsr hrev
    rcases hcase with hd | ⟨hL', hrd', hlt⟩
    · exact ⟨1, s', by omega, by rw [rounds_succ 0 s s' hr]; rfl, hd⟩
    · have := hlt hrd
      obtain ⟨j, s'', hj, hrs, hd⟩ := ih s' hL' hrd' (by omega)
      exact ⟨j + 1, s'', by omega, by rw [rounds_succ j s s' hr]; exact hrs, hd⟩

/-- 6 = 1 + 5: from an arbitrary state the first round need not lower `live_mu` (a grace period may run, the update time may be
    fresh — the decrease in `LiveMid` is conditional on `LiveReady s`) but ends `LiveReady`; from there `live_iter` with
    `live_rank_le` (rank ≤ 4) needs at most 5 rounds -/
theorem routing_converges (s : CS) (w : CWl) (sub : Sub) (h : trInv s = true) (hw : s.wl = some w)
    (hph : s.ro.phase = .progressing) (hr : s.ro.reason = .inRolling) (hsub : s.ro.sub = some sub)
    (hst : sub.state = .trafficRouting) (hsr : sub.stableRev ≠ "") (hur : w.updateRevision ≠ "") :
    ∃ k s', k ≤ 6 ∧ rounds k s = some s' ∧ LiveDone sub.curIdx s' := by
  have hL : LiveSt s.ro sub.curIdx sub.stableRev w.updateRevision s :=
    ⟨h, hph, hr, RV.Props.Reconcile.Same.rfl' _, ⟨sub, hsub, hst, rfl, rfl⟩, ⟨w, hw, rfl⟩⟩
  obtain ⟨s1, hr1, hcase⟩ := live_round s.ro sub.curIdx sub.stableRev w.updateRevision s hL hsr hur
  rcases hcase with hd | ⟨hL1, hrd1, _⟩
  · exact ⟨1, s1, by omega, by rw [rounds_succ 0 s s1 hr1]; rfl, hd⟩
  · obtain ⟨j, s2, hj, hrs, hd⟩ :=
      live_iter s.ro sub.curIdx sub.stableRev w.updateRevision hsr hur 4 s1 hL1 hrd1 (live_rank_le _ _)
    exact ⟨j + 1, s2, by omega, by rw [rounds_succ j s s1 hr1]; exact hrs, hd⟩

end RV.Lemmas.ClosedLoopTraffic
