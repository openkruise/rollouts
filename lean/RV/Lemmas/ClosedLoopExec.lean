/-
  One BatchRelease reconcile (`RV.Executor.reconcile`), as far as the closed loop needs it: its three exits (`rec_cases`:
  the object goes, stopped after the sync step, executed); it cannot crash from a non-negative batch index; what it may do to
  the status cursor and phase; and the four things it may do to the CloneSet (nothing / claim it at partition 100 % / write
  the partition of the persisted batch / release it).
-/
import RV.Props.ExecutorThms
namespace RV.Lemmas.ClosedLoop
open RV.Arith RV.BatchCtx RV.Executor
open RV.ExecutorX (csPlane reconcileX ExecX reconcileX_rec nostopX_progressing_healthy)
open RV.Props.ExecutorX (csLaws x_batch_le)
open RV.Props.Executor (reconcile_rec reconcile_csPlane syncStatus_of_info)

theorem wf_status (br : BR) : (withFinalizer br).status = br.status := rfl
theorem wf_batches (br : BR) : (withFinalizer br).batches = br.batches := rfl
theorem wf_partition (br : BR) : (withFinalizer br).partition = br.partition := rfl

/-- one reconcile in terms of the CloneSet plane's own sync step `syncStatus`: the object goes; the sync step stops and the status it
    computed is persisted; or the plan runs on the persisted status (`ExecX` at `csPlane`: `cases` gives the leaf) -/
theorem rec_cases (br : BR) (wl : Option Workload) (o : StepOut) (h : reconcile br wl = .val o) :
    (br.deleting = true ∧ br.status.phase = .completed ∧ o.br = none ∧ o.wl = wl) ∨
    ((syncStatus (withFinalizer br) (initializedStatus br.status) wl).stop = true ∧
      o.br = some { withFinalizer br with
        status := (syncStatus (withFinalizer br) (initializedStatus br.status) wl).status } ∧ o.wl = wl) ∨
    ((syncStatus (withFinalizer br) (initializedStatus br.status) wl).stop = false ∧
      ∃ ns' wl' rq er, ExecX csPlane (withFinalizer br) br.status wl (.val (ns', wl', rq, er)) ∧
        o.br = some { withFinalizer br with status := ns' } ∧ o.wl = wl') := by
  obtain ⟨ox, rfl, hx⟩ := reconcile_rec h
  cases hx with
  | gone hd hp => exact .inl ⟨hd, hp, rfl, rfl⟩
  | stopped st hs hsi hst =>
    have e : st = (syncStatus (withFinalizer br) (initializedStatus br.status) wl).status := by
      rw [syncStatus_of_info hsi]; exact hst
    subst e
    exact .inr (.inl ⟨hs, rfl, rfl⟩)
  | executed hns _ _ _ hx => exact .inr (.inr ⟨hns, _, _, _, _, hx, rfl, rfl⟩)

/-- **C09** — the executor indexes the plan only at the persisted batch index, after `isPlanUnhealthy` has ruled out
    an index beyond the plan: with a non-negative index it cannot crash -/
theorem exec_total (br : BR) (wl : Option Workload) (h0 : 0 ≤ br.status.currentBatch) : reconcile br wl ≠ .panic := by
  intro h
  rw [RV.Props.ExecutorX.executor_is_instance] at h
  cases hx : reconcileX csPlane br wl with
  | val ox => rw [hx] at h; cases h
  | panic =>
    cases reconcileX_rec hx with
    | syncPanic hp => cases hp
    | execPanic hns _ _ _ hx =>
      cases hx with
      | initPanic _ hp | finPanic _ hp => cases hp
      | progressing hpr hx =>
        have hlt := nostopX_progressing_healthy _ br wl hns hpr
        cases hx with
        | upgradePanic _ hp => exact upgradeBatch_ne_panic (withFinalizer br) _ wl h0 hlt hp
        | ensurePanic _ hp => exact ensureReady_ne_panic (withFinalizer br) _ wl h0 hlt hp

theorem exec_gone (br : BR) (wl : Option Workload) (o : StepOut) (h : reconcile br wl = .val o) (hb : o.br = none) :
    br.deleting = true ∧ br.status.phase = .completed ∧ o.wl = wl := by
  obtain ⟨ox, rfl, hx⟩ := reconcile_rec h
  cases hx with
  | gone hd hp => exact ⟨hd, hp, rfl⟩
  | stopped | executed => cases hb

theorem exec_spec_kept (br : BR) (wl : Option Workload) (o : StepOut) (b' : BR) (h : reconcile br wl = .val o)
    (hb : o.br = some b') : b' = { br with hasFinalizer := true, status := b'.status } := by
  obtain ⟨ox, rfl, hx⟩ := reconcile_rec h
  cases hx with
  | gone => cases hb
  | stopped | executed => cases hb; rfl

theorem exec_batch_nonneg (br : BR) (wl : Option Workload) (o : StepOut) (b' : BR) (h : reconcile br wl = .val o)
    (hb : o.br = some b') (h0 : 0 ≤ br.status.currentBatch) (hp : ∀ p, br.partition = some p → 0 ≤ p) (hne : br.batches ≠ []) :
    0 ≤ b'.status.currentBatch := by
  obtain ⟨ox, rfl, hx⟩ := reconcile_rec h
  cases hx with
  | gone => cases hb
  | stopped st _ _ hst =>
    cases hb
    show 0 ≤ st.currentBatch
    rw [hst, refresh_currentBatch]
    apply syncDecide_nonneg (withFinalizer br) _ _ _ _ hp hne
    rcases initialized_cases br.status with ⟨_, hi⟩ | ⟨_, hi⟩ <;> rw [hi]
    · exact Int.le_refl 0
    · exact h0
  | @executed _ _ ns' _ _ _ _ _ _ _ hx =>
    cases hb
    show 0 ≤ ns'.currentBatch
    rcases hx.cursor csLaws.init_frame with hc | ⟨hc, _⟩ <;> omega

/-- **C01.3 / C11** — the executor's batch never passes the batch partition (whatever the phase) -/
theorem exec_batch_le (br : BR) (wl : Option Workload) (o : StepOut) (b' : BR) (p : Int) (h : reconcile br wl = .val o)
    (hb : o.br = some b') (hp : br.partition = some p) (hp0 : 0 ≤ p) (hle : br.status.currentBatch ≤ p) :
    b'.status.currentBatch ≤ p := by
  obtain ⟨ox, hx, rfl⟩ := reconcile_csPlane h
  exact x_batch_le csPlane csLaws.init_frame br wl ox b' p hx hb hp hp0 hle

theorem exec_nn_none (br : BR) (wl : Option Workload) (o : StepOut) (b' : BR) (h : reconcile br wl = .val o)
    (hb : o.br = some b') (hra : br.rollbackAnno = false) (hnn : br.status.noNeedUpdate = none) :
    b'.status.noNeedUpdate = none := by
  have hinit : ∀ m w' ns1 r, csPlane.init (withFinalizer br) m wl = .val (w', ns1, r) → ns1.noNeedUpdate = m.noNeedUpdate :=
    fun m _ _ _ hi => (congrArg (·.2.1.noNeedUpdate) (Out.val.inj hi)).symm.trans (initializeWl_noNeedUpdate _ m wl hra)
  obtain ⟨ox, rfl, hx⟩ := reconcile_rec h
  cases hx with
  | gone => cases hb
  | @stopped ev info st _ _ hst =>
    cases hb
    show st.noNeedUpdate = none
    rw [hst, refresh_noNeedUpdate]
    rcases syncDecide_noNeedUpdate (withFinalizer br) (initializedStatus br.status) ev info with hs | hs
    · rw [hs]
      rcases initialized_cases br.status with ⟨_, hi⟩ | ⟨_, hi⟩ <;> rw [hi]
      · rfl
      · exact hnn
    · exact hs
  | @executed _ _ ns' _ _ _ _ _ _ _ hx =>
    cases hb
    show ns'.noNeedUpdate = none
    cases hx with
    | progressing _ hpr => rw [hpr.frame.2.1, normState_noNeedUpdate]; exact hnn
    | initialized _ hi | initErr _ hi => exact (hinit _ _ _ _ hi).trans ((normPhase_noNeedUpdate _).trans hnn)
    | finalized | finErr | idle => exact hnn

theorem exec_phase_live (br : BR) (wl : Option Workload) (o : StepOut) (b' : BR) (h : reconcile br wl = .val o)
    (hb : o.br = some b') (hd : br.deleting = false) (hp : br.partition.isSome = true) (hw : wl.isSome = true)
    (hph : br.status.phase = .empty ∨ br.status.phase = .preparing ∨ br.status.phase = .progressing) :
    b'.status.phase = .preparing ∨ b'.status.phase = .progressing := by
  obtain ⟨ox, rfl, hx⟩ := reconcile_rec h
  cases hx with
  | gone => cases hb
  | @stopped ev info st _ hsi hst =>
    cases hb
    show st.phase = _ ∨ st.phase = _
    rw [hst, refresh_phase]
    have hnf : br.status.phase ≠ .finalizing := by
      rcases hph with h1 | h1 | h1 <;> rw [h1] <;> exact Phase.noConfusion
    apply syncDecide_live _ _ _ _ (isPlanFinalizing_false (withFinalizer br) hd hnf hp)
    · cases wl with
      | none => cases hw
      | some w =>
        have := syncInfo_not_gone (withFinalizer br) (initializedStatus br.status) w
        rw [show syncInfo (withFinalizer br) (initializedStatus br.status) (some w) = (ev, info) from Out.val.inj hsi] at this
        exact this
    · rcases initialized_cases br.status with ⟨_, hi⟩ | ⟨hne, hi⟩ <;> rw [hi]
      · exact .inl rfl
      · exact hph.resolve_left hne
  | @executed _ _ ns' _ _ _ _ _ _ _ hx =>
    cases hb
    show ns'.phase = _ ∨ ns'.phase = _
    cases hx with
    | progressing hpg hpr => exact .inr (hpr.frame.1.trans ((normState_phase _).trans hpg))
    | initialized => exact .inr rfl
    | initErr hq hi => exact .inl ((csLaws.init_frame _ _ _ _ _ _ hi).1.trans hq)
    | finalized hq | finErr hq | idle hq => rcases hph with h1 | h1 | h1 <;> rw [h1] at hq <;> cases hq

theorem exec_completed_stays (br : BR) (wl : Option Workload) (o : StepOut) (b' : BR) (h : reconcile br wl = .val o)
    (hb : o.br = some b') (hph : br.status.phase = .completed) : b'.status.phase = .completed := by
  obtain ⟨ox, rfl, hx⟩ := reconcile_rec h
  cases hx with
  | gone => cases hb
  | stopped st _ _ hst =>
    cases hb
    show st.phase = _
    rw [hst, refresh_phase, syncDecide_completed (withFinalizer br) _ _ _ hph,
      initialized_id _ (by rw [hph]; exact Phase.noConfusion)]
    exact hph
  | executed _ _ hd =>
    rw [syncDecide_completed (withFinalizer br) _ _ _ hph] at hd
    cases hd

/-- what one executor reconcile may do to the CloneSet.  `init`: `Initialize` claiming a CloneSet that does not carry this release's
    control annotation (annotation set, un-paused, partition 100 %); `upgrade`: `UpgradeBatch` for the persisted batch; `release`:
    `Finalize` — with the batch partition cleared the CloneSet is released altogether, else only the control annotation goes -/
inductive WlEffect (br : BR) (w : Workload) : Workload → Prop
  | same : WlEffect br w w
  | init : WlEffect br w { w with owner := .this, paused := false, partition := some (.pct 100) }
  | upgrade (e : IntOrPct) : 0 ≤ br.status.currentBatch → br.batches[br.status.currentBatch.toNat]? = some e →
      WlEffect br w { w with partition := some (desKnob .cloneSet w.replicas e br.status.noNeedUpdate) }
  | release : br.status.phase = .finalizing →
      WlEffect br w (if br.partition.isNone then { w with owner := .none, partition := none, paused := false } else { w with owner := .none })

theorem exec_wl_effect (br : BR) (w : Workload) (o : StepOut) (h : reconcile br (some w) = .val o) :
    ∃ w', o.wl = some w' ∧ WlEffect br w w' := by
  obtain ⟨ox, rfl, hx⟩ := reconcile_rec h
  cases hx with
  | gone | stopped => exact ⟨w, rfl, .same⟩
  | executed _ _ _ _ hx =>
    cases hx with
    | idle => exact ⟨w, rfl, .same⟩
    | initialized _ hi | initErr _ hi =>
      have hi := congrArg Prod.fst (Out.val.inj hi)
      rcases initializeWl_wl (withFinalizer br) (normPhase br.status) w with e | e
      · exact ⟨w, hi.symm.trans e, .same⟩
      · exact ⟨_, hi.symm.trans e, .init⟩
    | finalized hq hf | finErr hq hf => exact ⟨_, (congrArg Prod.fst (Out.val.inj hf)).symm, WlEffect.release hq⟩
    | progressing _ hpr =>
      cases hpr with
      | upgraded _ hu | upgradeErr _ hu =>
        rcases upgradeBatch_effect _ _ _ _ _ hu with hs | ⟨e, h0, he, hs⟩
        · exact ⟨w, hs, .same⟩
        · exact ⟨_, hs, .upgrade e h0 he⟩
      | verified | unverified | unready | advance | wait => exact ⟨w, rfl, .same⟩

theorem exec_wl_none (br : BR) (o : StepOut) (h : reconcile br none = .val o) : o.wl = none := by
  obtain ⟨ox, rfl, hx⟩ := reconcile_rec h
  cases hx with
  | gone | stopped => rfl
  | executed _ _ _ _ hx =>
    cases hx with
    | idle => rfl
    | initialized _ hi | initErr _ hi => exact (congrArg Prod.fst (Out.val.inj hi)).symm
    | finalized _ hf | finErr _ hf => exact (congrArg Prod.fst (Out.val.inj hf)).symm
    | progressing _ hpr =>
      cases hpr with
      | upgraded _ hu => cases hu
      | upgradeErr _ hu => cases hu; rfl
      | verified | unverified | unready | advance | wait => rfl

theorem exec_some (br : BR) (wl : Option Workload) (o : StepOut) (h : reconcile br wl = .val o) (hd : br.deleting = false) :
    ∃ b', o.br = some b' := by
  cases hb : o.br with
  | some b' => exact ⟨b', rfl⟩
  | none =>
    have h1 := (exec_gone br wl o h hb).1
    rw [hd] at h1
    cases h1

theorem exec_completed_wl (br : BR) (wl : Option Workload) (o : StepOut) (h : reconcile br wl = .val o)
    (hph : br.status.phase = .completed) : o.wl = wl := by
  obtain ⟨ox, rfl, hx⟩ := reconcile_rec h
  cases hx with
  | gone => rfl
  | stopped => rfl
  | executed hs =>
    have hs' : (syncStatus (withFinalizer br) (initializedStatus br.status) wl).stop = false := hs
    rw [sync_completed_stops (withFinalizer br) (initializedStatus br.status) wl hph] at hs'
    cases hs'

/-- a status turns Completed only in a reconcile that finalises the workload -/
theorem exec_new_completed (br : BR) (wl : Option Workload) (o : StepOut) (b' : BR) (h : reconcile br wl = .val o)
    (hb : o.br = some b') (hc : b'.status.phase = .completed) (hnc : br.status.phase ≠ .completed) :
    br.status.phase = .finalizing ∧ o.wl = (finalize (withFinalizer br) wl).1 := by
  obtain ⟨ox, hx, rfl⟩ := reconcile_csPlane h
  obtain ⟨hf, hfin⟩ := RV.Props.ExecutorX.x_completed_needs_finalize _ csLaws.init_frame br wl ox b' hx hb hc hnc
  exact ⟨hf, (congrArg Prod.fst (Out.val.inj hfin)).symm⟩

end RV.Lemmas.ClosedLoop
