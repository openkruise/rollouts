/-
  C01.5, second half: while the rollout is rolling, no reconcile lowers the exposure of the CloneSet partition.
-/
import RV.Lemmas.ClosedLoopStepBr
namespace RV.Lemmas.ClosedLoop
open RV.Arith RV.Traffic RV.RolloutSM RV.ClosedLoop RV.Oracle.ClosedLoop RV.Oracle.Batch

/-- new-revision pods the partition in force lets the CloneSet controller run (no partition = all of them) -/
def expo (w : CWl) : Int := exposure (w.partition.getD (.int 0)) w.replicas

/-- the relation "same size, exposure not lowered" between the workload before and after -/
def MonoW (w w' : Executor.Workload) : Prop :=
  w'.replicas = w.replicas ∧
  exposure (w.partition.getD (.int 0)) w.replicas ≤ exposure (w'.partition.getD (.int 0)) w.replicas

theorem MonoW.refl (w : Executor.Workload) : MonoW w w := ⟨rfl, Int.le_refl _⟩

theorem upgradeBatch_mono (br : Executor.BR) (ns : Executor.Status) (w : Executor.Workload)
    (wl' : Option Executor.Workload) (r : Executor.CallResult)
    (h : Executor.upgradeBatch br ns (some w) = .val (wl', r)) : ∃ w', wl' = some w' ∧ MonoW w w' := by
  rcases Executor.upgradeBatch_cases br ns (some w) wl' r h with ⟨hw, _⟩ | ⟨w2, c, hwl, _, hcur, hrep, hlt, hw, _⟩
  · exact ⟨w, hw, MonoW.refl w⟩
  · cases hwl
    refine ⟨_, hw, rfl, ?_⟩
    rw [hcur, hrep] at hlt
    show exposure (w.partition.getD (.int 0)) w.replicas ≤ exposure c.knobDes w.replicas
    have : keptStable c.knobDes w.replicas ≤ keptStable (w.partition.getD (.int 0)) w.replicas :=
      keptStable_mono (by omega)
    simp only [exposure]
    omega

/-- **C01.2 (executor level)** — one BatchRelease reconcile over a CloneSet it controls (control annotation naming it),
    unless the BatchRelease is being finalised, never lowers the exposure: the partition is untouched, or rewritten by
    `UpgradeBatch`, which writes only when the new partition keeps fewer pods on the old revision -/
theorem exec_wl_monotone (br : Executor.BR) (w w' : Executor.Workload) (o : Executor.StepOut)
    (h : Executor.reconcile br (some w) = .val o) (hw : o.wl = some w') (hown : w.owner = .this)
    (hnf : br.status.phase ≠ .finalizing) : MonoW w w' := by
  obtain ⟨ox, rfl, hx⟩ := RV.Props.Executor.reconcile_rec h
  have same : ∀ {x : Option Executor.Workload}, x = some w' → x = some w → MonoW w w' :=
    fun e1 e2 => by cases e1.symm.trans e2; exact MonoW.refl _
  cases hx with
  | gone | stopped => exact same hw rfl
  | executed _ _ _ _ hx =>
    cases hx with
    | idle => exact same hw rfl
    | initialized _ hi | initErr _ hi =>
      -- `Initialize` does not touch a CloneSet that carries this release's control annotation
      exact same hw ((congrArg Prod.fst (Executor.Out.val.inj hi)).symm.trans (Executor.initializeWl_own _ _ w hown))
    | finalized hq | finErr hq => exact absurd hq hnf
    | progressing _ hpr =>
      cases hpr with
      | upgraded _ hu | upgradeErr _ hu =>
        obtain ⟨x, hx, hm⟩ := upgradeBatch_mono _ _ _ _ _ hu
        cases hx.symm.trans hw
        exact hm
      | verified | unverified | unready | advance | wait => exact same hw rfl

/-- **C01.5 (monotone, closed loop)** — from a state satisfying the forward invariant in which the rollout is rolling and
    the CloneSet is controlled by the BatchRelease, a BatchRelease reconcile does not lower the exposure -/
theorem stepBr_monotone (s s' : CS) (w : CWl) (hinv : fwdInv s = true) (hph : s.ro.phase = .progressing)
    (hre : s.ro.reason = .inRolling) (hw : s.wl = some w) (hown : w.owner = .this) (h : stepBr s = some s') :
    ∃ w', s'.wl = some w' ∧ w'.replicas = w.replicas ∧ expo w ≤ expo w' := by
  obtain ⟨w0, F⟩ := fwd_at s hinv
  cases hw.symm.trans F.wl
  have hbrok := F.brok
  cases hb : s.br with
  | none =>
    cases (stepBr_none s hb).symm.trans h
    exact ⟨w, hw, rfl, Int.le_refl _⟩
  | some b =>
    rw [hb] at hbrok
    obtain ⟨o, ew, hrec, hew, _, hstep, hwl', _⟩ := stepBr_land s w b hw hb hbrok F.wok
    rw [hstep] at h
    cases h
    obtain ⟨sub, _, _, hlink, _⟩ := F.rolling hph hre
    rw [hb] at hlink
    exact ⟨landW w ew, hwl', rfl, (exec_wl_monotone (exBr b) (exWl w) ew o hrec hew hown (linkOK_not_finalizing hlink)).2⟩

end RV.Lemmas.ClosedLoop
