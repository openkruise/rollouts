/-
  Progress of the closed loop, the Rollout reconcile of a rolling rollout without traffic routing, computed down to the
  move of the sub-state on the step it is on (`runCanary_noTraffic`: the round on a natural cursor (`runCanary_natural`) whose Manager call
  is a no-op; `stepRo_rolling`, `stepRo_rolling_status`); `StepUpgrade` over a BatchRelease that
  carries the wanted spec (`stepRo_upgrading`).
-/
import RV.Lemmas.ClosedLoopLiveRound
namespace RV.Lemmas.ClosedLoop
open RV.Arith RV.Traffic RV.RolloutSM RV.ClosedLoop RV.Oracle.ClosedLoop

/-- the pod-template hash filled in by `syncStep` -/
def fillSub (s : Sub) (h : String) : Sub := { s with podHash := if s.podHash = "" then h else s.podHash }

theorem fillSub_eq (s : Sub) (h : String) :
    (if s.podHash = "" then { s with podHash := h } else s) = fillSub s h := by
  unfold fillSub
  split
  · rfl
  · cases s; rfl

def fillCtx (c : Ctx) : Ctx := { c with sub := fillSub c.sub c.wl.podTemplateHash }

theorem syncStep_fill (c : Ctx) (h : ∀ b, c.br = some b → c.sub.observedRolloutID = b.rolloutID) :
    syncStep c = fillCtx c := by
  obtain ⟨ro, sub, wl, br, net, mem, rq, ws, seen⟩ := c
  unfold syncStep fillCtx
  dsimp only
  cases br with
  | none => dsimp only; rw [fillSub_eq]
  | some b =>
    have hb : sub.observedRolloutID = b.rolloutID := h b rfl
    have hne : ¬ (sub.observedRolloutID ≠ b.rolloutID) := by simp [hb]
    simp only [if_neg hne]
    rw [fillSub_eq]

/-- a round of the release manager for a rollout without traffic routing on a step without weight: the one Manager call of the
    round (`FinalisingTrafficRouting`) returns at once, what is left is the move of the sub-state -/
theorem runCanary_noTraffic (c0 : Ctx) (step : Step)
    (hsync : ∀ b, c0.br = some b → c0.sub.observedRolloutID = b.rolloutID)
    (hlo : 1 ≤ c0.sub.curIdx) (hhi : c0.sub.curIdx ≤ c0.ro.steps.length)
    (hnext : c0.sub.nextIdx = nextBatchIndex c0.ro.steps.length c0.sub.curIdx)
    (hstep : c0.ro.steps[(c0.sub.curIdx - 1).toNat]? = some step) (hw : step.weight = none)
    (hnt : c0.ro.hasTraffic = false) :
    runCanary c0 = finish c0.ro step (fillCtx c0) := by
  obtain ⟨step', hstep', e⟩ := runCanary_natural c0 hlo hhi hnext
  cases hstep.symm.trans hstep'
  rw [e, show roundCall c0.ro step c0.wl c0.sub = some .fin from if_pos (by simp [stepHasTraffic, hw]), syncStep_fill c0 hsync]
  dsimp only
  rw [show MCall.fin.fn (roundCtx c0 step) c0.net c0.mem = ⟨true, false, c0.net, c0.mem, false, []⟩ from
    (manager_noref _ _ _ hnt).2.1]
  unfold afterCall landCall
  simp only [List.append_nil, Bool.false_eq_true, false_and, if_false, MCall.waits, Bool.not_true]
  rfl

/-- the context the sub-state action of the round runs on -/
def ctxOf (s : CS) (w : CWl) (sub : Sub) : Ctx :=
  fillCtx (toCtx { roWorld s with ro := { s.ro with sub := some (obsSub sub (roWl w)) } } (obsSub sub (roWl w)) (roWl w))

/-- one Rollout reconcile of a rolling rollout without traffic routing is the sub-state action of the step (`stepRo_roll`) -/
theorem stepRo_rolling (s : CS) (w : CWl) (sub : Sub) (step : Step) (F : LiveFacts s w) (h : Rolling s sub)
    (hnc : sub.state ≠ .completed) (hstep : s.ro.steps[(sub.curIdx - 1).toNat]? = some step) (hw : step.weight = none)
    (hsync : ∀ b, s.br = some b → b.rolloutID = w.updateRevision) (c : Ctx)
    (hss : finish { s.ro with sub := some (obsSub sub (roWl w)) } step
      (ctxOf s w sub)
        = .ok c false) :
    stepRo s = some (landRo s { w := ofCtx (roWorld s) c { s.ro with sub := some (obsSub sub (roWl w)) }, roGone := false,
                                requeue := c.requeue, err := false, writes := c.writes }) := by
  have hsg := (F.roll h).1
  have hid : getRolloutID (roWl w) = w.updateRevision := by unfold getRolloutID; rw [noRollback w F.wok]; rfl
  have hobs := csObserve_rolling s.ro (roWl w) sub h.sub (by rw [hsg.rev]; exact F.rev) hsg.rev
  obtain ⟨s', hst, _, _, _, ⟨hc, _⟩ | ⟨_, c', err, hrc, e, _⟩⟩ :=
    stepRo_roll s w sub F.gone F.good F.wl F.wok F.consistent h.ph h.re h.sub hsg
  · exact absurd hc hnc
  · rw [roundCtx0, hobs, csSub_pos ⟨by rw [hsg.rev]; exact F.rev, hsg.rev⟩, runCanary_noTraffic _ step (fun b hb => by
        obtain ⟨cb, hcb, hcb2⟩ := map_roBr_some s.br b hb
        rw [← hcb2]
        exact hid.trans (hsync cb hcb).symm) hsg.lo hsg.hi hsg.next hstep hw F.nt] at hrc
    cases hss.symm.trans hrc
    rw [hst, e, hobs]
    unfold landRo ofCtx
    dsimp only
    rw [show c.wl = roWl w from (finish_frame hss).2.1, F.wl, show annoLand (some w) (some (roWl w)) = some w from annoLand_id (some w)]
    rfl

theorem stepRo_rolling_status (s : CS) (w : CWl) (sub : Sub) (step : Step) (F : LiveFacts s w) (h : Rolling s sub)
    (hnc : sub.state ≠ .completed) (hstep : s.ro.steps[(sub.curIdx - 1).toNat]? = some step) (hw : step.weight = none)
    (hsync : ∀ b, s.br = some b → b.rolloutID = w.updateRevision) (c : Ctx)
    (hss : finish { s.ro with sub := some (obsSub sub (roWl w)) } step
      (ctxOf s w sub)
        = .ok c false)
    (hwl : c.wl = roWl w) (hbr : c.br = s.br.map roBr) (hnet : c.net = s.net) (hmem : c.mem = s.mem) :
    stepRo s = some (mid s { s.ro with sub := some c.sub } w s.br) := by
  rw [stepRo_rolling s w sub step F h hnc hstep hw hsync c hss,
    landRo_status s _ (by show some c.wl = s.wl.map roWl; rw [hwl, F.wl]; rfl) hbr hnet hmem, mid_of s w _ F.wl]
  rfl

theorem brSpecEq_desired (s : CS) (w : CWl) (sub : Sub) (b : CBr) (F : LiveFacts s w) (hup : Upgrading s sub b) (hc : BrCore b w)
    (hpol : b.policy = "") : brSpecEq (roBr b) (desiredBR s.ro w.updateRevision (sub.curIdx - 1) false) = true := by
  have hlink := (F.roll hup.roll).2.1
  rw [hup.br] at hlink
  have e1 : b.batches = List.map (fun x => x.replicas) s.ro.steps := ((linkOK_iff s.ro sub b).1 hlink).1
  unfold brSpecEq desiredBR roBr
  dsimp only
  rw [e1, hup.part, hc.rid, ((brOK_iff b).1 (F.brOK hup.br)).2.2.2.1, hc.so, hc.ft, hpol]
  simp

/-- the sub-status `StepUpgrade` leaves: observed ids and pod-template hash refreshed, and moved on when the batch is ready -/
def upgradedSub (ro : Rollout) (step : Step) (w : CWl) (sub : Sub) (b : CBr) : Sub :=
  if b.st.batchState = .ready ∧ ¬ b.st.currentBatch + 1 < sub.curIdx then
    { fillSub (obsSub sub (roWl w)) w.updateRevision with
      state := upgradeNext ro step w.replicas, podHash := w.updateRevision, lastUpdate := .fresh }
  else fillSub (obsSub sub (roWl w)) w.updateRevision

theorem stepRo_upgrading (s : CS) (w : CWl) (sub : Sub) (b : CBr) (F : LiveFacts s w) (hup : Upgrading s sub b) (hc : BrCore b w)
    (hpol : b.policy = "") :
    ∃ step, s.ro.steps[(sub.curIdx - 1).toNat]? = some step ∧
      stepRo s = some (mid s { s.ro with sub := some (upgradedSub s.ro step w sub b) } w s.br) := by
  obtain ⟨step, hstep, hwt⟩ := F.step_exists (F.roll hup.roll).1
  refine ⟨step, hstep, ?_⟩
  have hnr := noRollback w F.wok
  have hgid : getRolloutID (roWl w) = w.updateRevision := by unfold getRolloutID; rw [hnr]; rfl
  have hss := finish_current { s.ro with sub := some (obsSub sub (roWl w)) } step
    (ctxOf s w sub)
    (roBr b) hup.st (by show s.br.map roBr = _; rw [hup.br]; rfl)
    (by rw [show (ctxOf s w sub).wl = roWl w from rfl, hgid, hnr]; exact brSpecEq_desired s w sub b F hup hc hpol)
  have hobs : (roBr b).hashSame = true ∧ (roBr b).genObserved = true := ⟨decide_eq_true hc.hash, decide_eq_true hc.gen⟩
  by_cases hr : b.st.batchState = .ready ∧ ¬ b.st.currentBatch + 1 < sub.curIdx
  · rw [if_pos ⟨hobs.1, hobs.2, decide_eq_true hr.1, hr.2⟩] at hss
    rw [upgradedSub, if_pos hr]
    exact stepRo_rolling_status s w sub step F hup.roll (by rw [hup.st]; decide) hstep hwt
      (fun b' hb' => by rw [hup.br] at hb'; cases hb'; exact hc.rid) _ hss rfl (by rw [hup.br]; rfl) rfl rfl
  · rw [if_neg (fun h => hr ⟨of_decide_eq_true h.2.2.1, h.2.2.2⟩)] at hss
    rw [upgradedSub, if_neg hr]
    exact stepRo_rolling_status s w sub step F hup.roll (by rw [hup.st]; decide) hstep hwt
      (fun b' hb' => by rw [hup.br] at hb'; cases hb'; exact hc.rid) _ hss rfl (by rw [hup.br]; rfl) rfl rfl

theorem Upgrading.in_plan {s : CS} {w : CWl} {sub : Sub} {b : CBr} (hup : Upgrading s sub b) (F : LiveFacts s w) :
    0 ≤ sub.curIdx - 1 ∧ sub.curIdx - 1 < b.batches.length := by
  obtain ⟨hsg, hlink, _⟩ := F.roll hup.roll
  rw [hup.br] at hlink
  have hlo := hsg.lo
  have hhi := hsg.hi
  rw [((linkOK_iff s.ro sub b).1 hlink).1, planOf_length]
  omega

end RV.Lemmas.ClosedLoop
