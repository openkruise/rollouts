import RV.Lemmas.Grace
import RV.Oracle.Traffic
/-!
# The traffic-routing Manager of `RV/Model/Traffic.lean`, function by function

The Service part (`svcStep`), the provider part (`routeStep`), `DoTrafficRouting` by the guard that decides the call,
the retry-style calls (`rs_spec`, `rg_spec`, `rc_spec`: the three restore calls of the clean-up, each a `Restored`; `ps_spec`;
`rs_round`, `rg_round`, `rc_round`: what one call does to the grace memory, whose clock is in `RV/Lemmas/Grace.lean`),
`FinalisingTrafficRouting` as their sequence, and the iterators and the measure the convergence theorems of
`RV/Props/TrafficThms.lean` are stated with.
-/
namespace RV.Props.Traffic
open RV.Traffic RV.Oracle.Traffic

theorem svcStep_off (c : TCtx) (n : Net) (hd : c.disableGen = true) : svcStep c n = some (n, []) := by
  unfold svcStep; rw [if_pos hd]

theorem svcStep_wait (c : TCtx) (n : Net) (hd : c.disableGen = false) (hr : c.stableRev = "" ∨ c.canaryRev = "") :
    svcStep c n = none := by
  unfold svcStep; rw [if_neg (by rw [hd]; decide), if_pos hr]

theorem svcStep_on (c : TCtx) (n : Net) (hd : c.disableGen = false) (hs : c.stableRev ≠ "") (hc : c.canaryRev ≠ "") :
    ∃ ws, svcStep c n = some ({ n with canarySvc := some c.canaryRev, stableSel := some c.stableRev }, ws) ∧
      (ws = [] ↔ n.canarySvc = some c.canaryRev ∧ n.stableSel = some c.stableRev) := by
  -- a selector that reads as the (non-empty) stable revision is that revision
  have pinned : ∀ ss : Option String, ss.getD "" = c.stableRev ↔ ss = some c.stableRev := fun ss =>
    ⟨fun e => (Option.getD_eq_iff.mp e).resolve_right fun h => hs h.2.symm, fun e => e ▸ rfl⟩
  unfold svcStep
  rw [if_neg (by rw [hd]; decide), if_neg (not_or.mpr ⟨hs, hc⟩)]
  obtain ⟨se, ss, cs, si, ci⟩ := n
  dsimp only
  by_cases h2 : ss.getD "" = c.stableRev
  · have h2' := (pinned ss).mp h2
    cases cs with
    | none => simp [h2']
    | some r => by_cases h1 : r = c.canaryRev <;> simp [h1, h2']
  · have h2' := mt (pinned ss).mpr h2
    cases cs with
    | none => simp [h2, h2']
    | some r => by_cases h1 : r = c.canaryRev <;> simp [h1, h2, h2']

theorem svcStep_spec (c : TCtx) (n n2 : Net) (ws : List String) (h : svcStep c n = some (n2, ws)) :
    (c.disableGen = true ∧ n2 = n ∧ ws = []) ∨
    (c.disableGen = false ∧ c.stableRev ≠ "" ∧ c.canaryRev ≠ "" ∧
      n2 = { n with canarySvc := some c.canaryRev, stableSel := some c.stableRev } ∧
      (ws = [] ↔ n.canarySvc = some c.canaryRev ∧ n.stableSel = some c.stableRev)) := by
  cases hd : c.disableGen with
  | true => rw [svcStep_off c n hd] at h; cases h; exact Or.inl ⟨rfl, rfl, rfl⟩
  | false =>
    by_cases hr : c.stableRev = "" ∨ c.canaryRev = ""
    · rw [svcStep_wait c n hd hr] at h; cases h
    · obtain ⟨ws', he, hw⟩ := svcStep_on c n hd (fun e => hr (Or.inl e)) (fun e => hr (Or.inr e))
      rw [he] at h; cases h
      exact Or.inr ⟨rfl, fun e => hr (Or.inl e), fun e => hr (Or.inr e), rfl, hw⟩

theorem svcStep_net (t : TCtx) (n n2 : Net) (ws : List String) (h : svcStep t n = some (n2, ws)) :
    (t.disableGen = true ∧ n2 = n) ∨
    (t.disableGen = false ∧ t.stableRev ≠ "" ∧ t.canaryRev ≠ "" ∧
      n2 = { n with canarySvc := some t.canaryRev, stableSel := some t.stableRev }) :=
  (svcStep_spec t n n2 ws h).imp (fun h => ⟨h.1, h.2.1⟩) (fun h => ⟨h.1, h.2.1, h.2.2.1, h.2.2.2.1⟩)

theorem svcStep_nowrite (c : TCtx) (n n2 : Net) (h : svcStep c n = some (n2, [])) :
    n2 = n ∧ (c.disableGen = false → n.canarySvc = some c.canaryRev ∧ n.stableSel = some c.stableRev) := by
  rcases svcStep_spec c n n2 [] h with ⟨hd, hn, _⟩ | ⟨_, _, _, hn, hw⟩
  · exact ⟨hn, fun hd' => absurd (hd.symm.trans hd') nofun⟩
  · obtain ⟨a, b⟩ := hw.mp rfl
    refine ⟨?_, fun _ => ⟨a, b⟩⟩
    rw [hn, ← a, ← b]

theorem svcStep_frame (c : TCtx) (n n2 : Net) (ws : List String) (h : svcStep c n = some (n2, ws)) :
    n2.canaryIng = n.canaryIng ∧ n2.stableExists = n.stableExists ∧ n2.stableIngress = n.stableIngress := by
  rcases svcStep_spec c n n2 ws h with ⟨_, hn, _⟩ | ⟨_, _, _, hn, _⟩ <;> rw [hn] <;> exact ⟨rfl, rfl, rfl⟩

/-- the Services are in place: the Service part of the call finds nothing to do -/
def SvcOk (c : TCtx) (n : Net) : Prop := svcStep c n = some (n, [])

theorem svcOk_iff (c : TCtx) (n : Net) :
    SvcOk c n ↔ (c.disableGen = true ∨
      (c.stableRev ≠ "" ∧ c.canaryRev ≠ "" ∧ n.canarySvc = some c.canaryRev ∧ n.stableSel.getD "" = c.stableRev)) := by
  constructor
  · intro h
    rcases svcStep_spec c n n [] h with ⟨hd, _⟩ | ⟨_, hs, hc, _, hw⟩
    · exact Or.inl hd
    · obtain ⟨a, b⟩ := hw.mp rfl
      exact Or.inr ⟨hs, hc, a, by rw [b]; rfl⟩
  · rintro (hd | ⟨hs, hc, a, b⟩)
    · exact svcStep_off c n hd
    · cases hd : c.disableGen with
      | true => exact svcStep_off c n hd
      | false =>
        have b' : n.stableSel = some c.stableRev := (Option.getD_eq_iff.mp b).resolve_right fun h => hs h.2.symm
        obtain ⟨ws, he, hw⟩ := svcStep_on c n hd hs hc
        rw [SvcOk, he, hw.mpr ⟨a, b'⟩, ← a, ← b']

theorem svcStep_idem (c : TCtx) (n n2 : Net) (ws : List String) (h : svcStep c n = some (n2, ws)) : SvcOk c n2 := by
  rw [svcOk_iff]
  rcases svcStep_spec c n n2 ws h with ⟨hd, _⟩ | ⟨_, hs, hc, hn, _⟩
  · exact Or.inl hd
  · rw [hn]; exact Or.inr ⟨hs, hc, rfl, rfl⟩

/-- the provider part of `DoTrafficRouting`: the route is left alone, set to the wanted weight, or created at weight 0;
    an error only without the stable Ingress -/
theorem routeStep_net (n : Net) (m : Mem) (w : Nat) :
    ∃ x, (x = n.canaryIng ∨ x = some w ∨ x = some 0) ∧ (routeStep n m w).net = { n with canaryIng := x } ∧
      ((routeStep n m w).err = true → n.stableIngress = false) := by
  have same : n.canaryIng = none → n = { n with canaryIng := none } := by
    intro hc
    obtain ⟨_, _, _, _, ci⟩ := n
    cases hc
    rfl
  unfold routeStep ensureRoutes
  cases hc : n.canaryIng with
  | none =>
    dsimp only
    by_cases hw : w = 0
    · rw [if_pos hw]
      exact ⟨none, Or.inl rfl, rfl, fun h => by cases h⟩
    · rw [if_neg hw]
      by_cases hi : n.stableIngress = true
      · rw [if_pos hi]
        exact ⟨some 0, Or.inr (Or.inr rfl), rfl, fun h => by cases h⟩
      · rw [if_neg hi]
        exact ⟨none, Or.inl rfl, same hc, fun _ => by simpa using hi⟩
  | some x =>
    dsimp only
    by_cases hx : x = w
    · rw [if_pos hx]
      exact ⟨some x, Or.inl rfl, rfl, fun h => by cases h⟩
    · rw [if_neg hx]
      exact ⟨some w, Or.inr (Or.inl rfl), rfl, fun h => by cases h⟩

/-- `DoTrafficRouting`, by the guard that decides the call: nothing to route; waiting (stable Service missing, grace
    period running, revisions unknown); the Services are written, and only they; or, with the Services in place, the
    provider part alone -/
theorem doTR_cases (c : TCtx) (n : Net) (m : Mem) :
    ((c.hasRef = false ∨ c.weight = none) ∧ doTrafficRouting c n m = ⟨true, false, n, m, false, []⟩) ∨
    ∃ w, c.hasRef = true ∧ c.weight = some w ∧
      (((n.stableExists = false ∨ c.lastUpdate = .fresh ∨ svcStep c n = none) ∧
          doTrafficRouting c n m = ⟨false, false, n, m, false, []⟩) ∨
       (∃ n2 ws, svcStep c n = some (n2, ws) ∧ ws ≠ [] ∧ n.stableExists = true ∧ c.lastUpdate ≠ .fresh ∧
          doTrafficRouting c n m = ⟨false, false, n2, m, true, ws⟩) ∨
       (n.stableExists = true ∧ c.lastUpdate ≠ .fresh ∧ SvcOk c n ∧ doTrafficRouting c n m = routeStep n m w)) := by
  unfold doTrafficRouting
  by_cases href : c.hasRef = true
  · rw [if_neg (not_not_intro href)]
    cases hw : c.weight with
    | none => exact Or.inl ⟨Or.inr rfl, rfl⟩
    | some w =>
      refine Or.inr ⟨w, href, rfl, ?_⟩
      dsimp only
      by_cases hex : n.stableExists = true
      · rw [if_neg (not_not_intro hex)]
        by_cases hl : c.lastUpdate = .fresh
        · rw [if_pos hl]; exact Or.inl ⟨Or.inr (Or.inl hl), rfl⟩
        · rw [if_neg hl]
          cases hs : svcStep c n with
          | none => exact Or.inl ⟨Or.inr (Or.inr rfl), rfl⟩
          | some p =>
            obtain ⟨n2, ws⟩ := p
            dsimp only
            by_cases hws : ws = []
            · subst hws
              cases (svcStep_nowrite c n n2 hs).1
              rw [if_neg (not_not_intro rfl)]
              exact Or.inr (Or.inr ⟨hex, hl, hs, rfl⟩)
            · rw [if_pos hws]; exact Or.inr (Or.inl ⟨n2, ws, rfl, hws, hex, hl, rfl⟩)
      · rw [if_pos hex]; exact Or.inl ⟨Or.inl (by simpa using hex), rfl⟩
  · rw [if_pos href]; exact Or.inl ⟨Or.inl (by simpa using href), rfl⟩

/-! `RestoreStableService`, `RestoreGateway`, `RemoveCanaryService`, `PatchStableService`: each is decided by a few guards (a ref; the
    object it works on exists; there is something to modify). -/

/-- What one of the three restore calls of the clean-up does, `r` being its result on the network `n`: it issues at most
    its one write `w`, never fails, leaves the network as it was or with its own object restored (`cleared`), does nothing
    without a ref, and with one establishes `post`. -/
structure Restored (c : TCtx) (n cleared : Net) (w : String) (post : Prop) (r : TOut) : Prop where
  writes : r.writes = [] ∨ r.writes = [w]
  err : r.err = false
  net : r.net = n ∨ r.net = cleared
  noRef : c.hasRef = false → r.net = n
  post : c.hasRef = true → post

/-- the three specs are proved as a plain conjunction, which `simp` closes after the case split on the guards; this packs it -/
theorem Restored.of_and {c : TCtx} {n cleared : Net} {w : String} {post : Prop} {r : TOut}
    (h : (r.writes = [] ∨ r.writes = [w]) ∧ r.err = false ∧ (r.net = n ∨ r.net = cleared) ∧ (c.hasRef = false → r.net = n) ∧
      (c.hasRef = true → post)) : Restored c n cleared w post r :=
  ⟨h.1, h.2.1, h.2.2.1, h.2.2.2.1, h.2.2.2.2⟩

/-- the call keeps every part of the network that restoring its own object keeps -/
theorem Restored.kept {c : TCtx} {n cleared : Net} {w : String} {post : Prop} {r : TOut} (h : Restored c n cleared w post r)
    {α : Type} (f : Net → α) (hf : f cleared = f n) : f r.net = f n := by
  rcases h.net with e | e <;> rw [e]
  exact hf

theorem rs_spec (c : TCtx) (n : Net) (m : Mem) :
    Restored c n { n with stableSel := none } "unpinStable"
      (n.stableExists = true → c.hasRevKey = true → (restoreStableService c n m).net.stableSel.getD "" = "")
      (restoreStableService c n m) := by
  apply Restored.of_and
  unfold restoreStableService
  by_cases h1 : c.hasRef = true
  · by_cases h2 : n.stableExists = true
    · by_cases h3 : n.stableSel.getD "" = ""
      · simp [h1, h2, h3]
      · by_cases h4 : c.hasRevKey = true <;> simp [h1, h2, h3, h4]
    · simp [h1, h2]
  · simp [h1]

theorem rg_spec (c : TCtx) (n : Net) (m : Mem) :
    Restored c n { n with canaryIng := none } "deleteCanaryIngress" ((restoreGateway c n m).net.canaryIng = none)
      (restoreGateway c n m) := by
  apply Restored.of_and
  unfold restoreGateway finaliseGw
  by_cases h1 : c.hasRef = true
  · cases n.canaryIng <;> simp [h1]
  · simp [h1]

theorem rc_spec (c : TCtx) (n : Net) (m : Mem) :
    Restored c n { n with canarySvc := none } "deleteCanarySvc"
      (c.disableGen = false → (removeCanaryService c n m).net.canarySvc = none) (removeCanaryService c n m) := by
  apply Restored.of_and
  unfold removeCanaryService
  by_cases h1 : c.hasRef = true
  · by_cases h2 : c.disableGen = true
    · simp [h1, h2]
    · cases n.canarySvc <;> simp [h1, h2]
  · simp [h1]

theorem ps_spec (c : TCtx) (n : Net) (m : Mem) :
    let r := patchStableService c n m
    (r.net = n ∨ (c.hasRef = true ∧ c.disableGen = false ∧ r.net = { n with stableSel := selOf c.stableRev })) ∧
    (r.err = true ↔ c.hasRef = true ∧ c.disableGen = false ∧ n.stableExists = false) ∧
    (c.hasRef = true → c.disableGen = false → n.stableExists = true → r.net.stableSel.getD "" = c.stableRev) := by
  have hsel : (selOf c.stableRev).getD "" = c.stableRev := by
    unfold selOf; split
    · rename_i h; rw [h]; rfl
    · rfl
  unfold patchStableService
  by_cases h1 : c.hasRef = true
  · by_cases h2 : c.disableGen = true
    · simp [h1, h2]
    · by_cases h3 : n.stableExists = true
      · by_cases h4 : n.stableSel.getD "" = c.stableRev <;> simp [h1, h2, h3, h4, hsel]
      · simp [h1, h2, h3]
  · simp [h1]

/-- `FinalisingTrafficRouting` with a routing ref: the three restore calls in order (none of them fails); the first
    that asks for a retry ends the round, and the round is done when none does -/
theorem finalising_cases (c : TCtx) (n : Net) (m : Mem) (href : c.hasRef = true) :
    let r1 := restoreStableService c n m
    let r2 := restoreGateway c r1.net r1.mem
    let r3 := removeCanaryService c r2.net r2.mem
    let o := finalisingTrafficRouting c n m
    o.err = false ∧
    (r1.done = true ∧ o.done = false ∧ o.net = r1.net ∧ o.mem = r1.mem ∧ o.writes = r1.writes ∨
     r1.done = false ∧ r2.done = true ∧ o.done = false ∧ o.net = r2.net ∧ o.mem = r2.mem ∧ o.writes = r1.writes ++ r2.writes ∨
     r1.done = false ∧ r2.done = false ∧ o.done = !r3.done ∧ o.net = r3.net ∧ o.mem = r3.mem ∧
       o.writes = r1.writes ++ r2.writes ++ r3.writes) := by
  have e1 := (rs_spec c n m).err
  have e2 := (rg_spec c (restoreStableService c n m).net (restoreStableService c n m).mem).err
  have e3 := (rc_spec c (restoreGateway c (restoreStableService c n m).net (restoreStableService c n m).mem).net
    (restoreGateway c (restoreStableService c n m).net (restoreStableService c n m).mem).mem).err
  unfold finalisingTrafficRouting
  dsimp only at e1 e2 e3 ⊢
  generalize restoreStableService c n m = r1 at *
  generalize restoreGateway c r1.net r1.mem = r2 at *
  generalize removeCanaryService c r2.net r2.mem = r3 at *
  simp only [href, not_true_eq_false, if_false, e1, e2, e3, Bool.false_eq_true, false_or]
  cases d1 : r1.done
  · cases d2 : r2.done
    · cases d3 : r3.done <;> simp
    · simp
  · simp

/-- for a property carried along the three calls: the round fails nowhere, and the network it leaves is the one it found
    (no ref) or the one the last restore call it made left -/
theorem finalising_net (c : TCtx) (n : Net) (m : Mem) :
    let r1 := restoreStableService c n m
    let r2 := restoreGateway c r1.net r1.mem
    let r3 := removeCanaryService c r2.net r2.mem
    let o := finalisingTrafficRouting c n m
    o.err = false ∧ ((c.hasRef = false ∧ o.net = n) ∨ o.net = r1.net ∨ o.net = r2.net ∨ o.net = r3.net) := by
  cases href : c.hasRef
  · simp [finalisingTrafficRouting, href]
  · obtain ⟨he, ⟨_, _, hn, _⟩ | ⟨_, _, _, hn, _⟩ | ⟨_, _, _, hn, _⟩⟩ := finalising_cases c n m href
    · exact ⟨he, .inr (.inl hn)⟩
    · exact ⟨he, .inr (.inr (.inl hn))⟩
    · exact ⟨he, .inr (.inr (.inr hn))⟩

/-- the network after one more `DoTrafficRouting` round (the grace memory plays no part in this call) -/
def stepNet (c : TCtx) (n : Net) : Net := (doTrafficRouting c n Mem.empty).net

def iterNet (c : TCtx) : Nat → Net → Net
  | 0, n => n
  | k + 1, n => iterNet c k (stepNet c n)

theorem iterNet_succ (c : TCtx) (k : Nat) (n : Net) : iterNet c (k + 1) n = stepNet c (iterNet c k n) := by
  induction k generalizing n with
  | zero => rfl
  | succ k ih => exact ih (stepNet c n)

/-- `DoTrafficRouting` does not read the grace memory -/
theorem doTR_mem (c : TCtx) (n : Net) (m m' : Mem) : (doTrafficRouting c n m).net = (doTrafficRouting c n m').net := by
  have hr : ∀ w, (routeStep n m w).net = (routeStep n m' w).net := by
    intro w; unfold routeStep; dsimp only; split <;> rfl
  unfold doTrafficRouting
  by_cases href : c.hasRef = true
  · rw [if_neg (not_not_intro href), if_neg (not_not_intro href)]
    cases c.weight with
    | none => rfl
    | some w =>
      dsimp only
      by_cases hex : n.stableExists = true
      · rw [if_neg (not_not_intro hex), if_neg (not_not_intro hex)]
        by_cases hl : c.lastUpdate = .fresh
        · rw [if_pos hl, if_pos hl]
        · rw [if_neg hl, if_neg hl]
          cases svcStep c n with
          | none => rfl
          | some p =>
            dsimp only
            by_cases hws : p.2 = []
            · rw [if_neg (not_not_intro hws), if_neg (not_not_intro hws)]; exact hr w
            · rw [if_pos hws, if_pos hws]
      · rw [if_pos hex, if_pos hex]
  · rw [if_pos href, if_pos href]

/-- what is left to clean up, weighted so that every round that is not done lowers it -/
def leftover (c : TCtx) (n : Net) (m : Mem) : Nat :=
  (if n.stableExists = true ∧ c.hasRevKey = true ∧ n.stableSel.getD "" ≠ "" then 2 else 0) +
  (if n.canaryIng.isSome = true then 2 else 0) +
  (if c.disableGen = false ∧ n.canarySvc.isSome = true then 2 else 0) +
  expW m.restoreService + expW m.restoreGateway + expW m.removeCanaryService

theorem leftover_le (c : TCtx) (n : Net) (m : Mem) : leftover c n m ≤ 9 := by
  unfold leftover
  have := expW_le_one m.restoreService
  have := expW_le_one m.restoreGateway
  have := expW_le_one m.removeCanaryService
  split <;> split <;> split <;> omega

theorem rs_round (c : TCtx) (n : Net) (m : Mem) (href : c.hasRef = true) (hg : c.grace ≠ 0) (hm : m.restoreService ≠ .fresh) :
    let r := restoreStableService c n m
    r.err = false ∧ r.net.canaryIng = n.canaryIng ∧ r.net.canarySvc = n.canarySvc ∧ r.net.stableExists = n.stableExists ∧
    r.mem.restoreGateway = m.restoreGateway ∧ r.mem.removeCanaryService = m.removeCanaryService ∧
    ((n.stableExists = true ∧ c.hasRevKey = true ∧ n.stableSel.getD "" ≠ "") →
      r.done = true ∧ r.net.stableSel = none ∧ r.mem.restoreService = .fresh) ∧
    (¬ (n.stableExists = true ∧ c.hasRevKey = true ∧ n.stableSel.getD "" ≠ "") →
      r.done = false ∧ r.net = n ∧ (n.stableExists = true → r.mem.restoreService = .none) ∧
      (n.stableExists = false → r.mem = m)) := by
  unfold restoreStableService
  simp only [href, not_true_eq_false, if_false]
  by_cases hex : n.stableExists = true
  · simp only [hex, not_true_eq_false, if_false, true_and]
    by_cases hk : c.hasRevKey = true
    · by_cases hs : n.stableSel.getD "" = ""
      · simp [hk, hs, runGrace_nofresh c.grace m.restoreService hg hm, hex]
      · simp [hk, hs, runGrace_modified c.grace m.restoreService hg]
    · simp [hk, runGrace_nofresh c.grace m.restoreService hg hm, hex]
  · simp [hex]

theorem rg_round (c : TCtx) (n : Net) (m : Mem) (href : c.hasRef = true) (hg : c.grace ≠ 0) (hm : m.restoreGateway ≠ .fresh) :
    let r := restoreGateway c n m
    r.err = false ∧ r.net.stableSel = n.stableSel ∧ r.net.canarySvc = n.canarySvc ∧ r.net.stableExists = n.stableExists ∧
    r.net.canaryIng = none ∧
    r.mem.restoreService = m.restoreService ∧ r.mem.removeCanaryService = m.removeCanaryService ∧
    (n.canaryIng.isSome = true → r.done = true ∧ r.mem.restoreGateway = .fresh) ∧
    (n.canaryIng.isSome = false → r.done = false ∧ r.mem.restoreGateway = .none) := by
  unfold restoreGateway finaliseGw
  simp only [href, not_true_eq_false, if_false]
  cases hci : n.canaryIng with
  | none =>
    simp [runGrace_nofresh c.grace m.restoreGateway hg hm]
  | some x =>
    simp [runGrace_modified c.grace m.restoreGateway hg]

theorem rc_round (c : TCtx) (n : Net) (m : Mem) (href : c.hasRef = true) (hg : c.grace ≠ 0) (hm : m.removeCanaryService ≠ .fresh) :
    let r := removeCanaryService c n m
    r.err = false ∧ r.net.stableSel = n.stableSel ∧ r.net.canaryIng = n.canaryIng ∧ r.net.stableExists = n.stableExists ∧
    r.mem.restoreService = m.restoreService ∧ r.mem.restoreGateway = m.restoreGateway ∧
    (c.disableGen = true → r.done = false ∧ r.net = n ∧ r.mem = m) ∧
    (c.disableGen = false → r.net.canarySvc = none ∧
      (n.canarySvc.isSome = true → r.done = true ∧ r.mem.removeCanaryService = .fresh) ∧
      (n.canarySvc.isSome = false → r.done = false ∧ r.mem.removeCanaryService = .none)) := by
  unfold removeCanaryService
  simp only [href, not_true_eq_false, if_false]
  by_cases hd : c.disableGen = true
  · simp [hd]
  · simp only [hd]
    cases hcs : n.canarySvc with
    | none =>
      simp [runGrace_nofresh c.grace m.removeCanaryService hg hm]
    | some x =>
      simp [runGrace_modified c.grace m.removeCanaryService hg]

/-- `k` rounds of clean-up, time passing after each -/
def finIter (c : TCtx) : Nat → Net × Mem → Net × Mem
  | 0, s => s
  | k + 1, s => finIter c k ((finalisingTrafficRouting c s.1 s.2).net, tick (finalisingTrafficRouting c s.1 s.2).mem)

/-- `DoTrafficRouting` on the network: untouched; both Services written; or, with the Services in place, the route alone -/
theorem doTR_net (t : TCtx) (n : Net) (m : Mem) :
    ((doTrafficRouting t n m).net = n ∧ (doTrafficRouting t n m).err = false) ∨
    (t.hasRef = true ∧ t.disableGen = false ∧ t.stableRev ≠ "" ∧ t.canaryRev ≠ "" ∧
      (doTrafficRouting t n m).net = { n with canarySvc := some t.canaryRev, stableSel := some t.stableRev } ∧
      (doTrafficRouting t n m).err = false) ∨
    (t.hasRef = true ∧ ∃ wt x, t.weight = some wt ∧ (x = n.canaryIng ∨ x = some wt ∨ x = some 0) ∧
      (doTrafficRouting t n m).net = { n with canaryIng := x } ∧
      (t.disableGen = false → n.canarySvc = some t.canaryRev ∧ n.stableSel = some t.stableRev) ∧
      ((doTrafficRouting t n m).err = true → n.stableIngress = false)) := by
  rcases doTR_cases t n m with ⟨_, e⟩ | ⟨wt, href, hw, ⟨_, e⟩ | ⟨n2, ws, hsv, hws, _, _, e⟩ | ⟨_, _, hok, e⟩⟩
  · rw [e]; exact Or.inl ⟨rfl, rfl⟩
  · rw [e]; exact Or.inl ⟨rfl, rfl⟩
  · rw [e]
    rcases svcStep_spec t n n2 ws hsv with ⟨_, _, h0⟩ | ⟨hd, h1, h2, h3, _⟩
    · exact absurd h0 hws
    · exact Or.inr (Or.inl ⟨href, hd, h1, h2, h3, rfl⟩)
  · rw [e]
    obtain ⟨x, hx, hn, he⟩ := routeStep_net n m wt
    exact Or.inr (Or.inr ⟨href, wt, x, hw, hx, hn, (svcStep_nowrite t n n hok).2, he⟩)

theorem selOf_some (r x : String) (h : selOf r = some x) : x = r ∧ x ≠ "" := by
  unfold selOf at h
  split at h
  · cases h
  · rename_i hne
    cases h; exact ⟨rfl, hne⟩

end RV.Props.Traffic
