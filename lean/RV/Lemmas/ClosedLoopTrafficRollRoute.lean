/-
  Label `ro` on a rolling rollout (consistent workload): the canary route is only written in `StepTrafficRouting`, with the
  weight of the step the rollout is on (or created at weight 0); otherwise it is left alone or withdrawn.
-/
import RV.Lemmas.ClosedLoopTrafficRoll
namespace RV.Lemmas.ClosedLoopTraffic
open RV.Arith RV.Traffic RV.RolloutSM RV.ClosedLoop RV.Oracle.ClosedLoop RV.Oracle.ClosedLoopTraffic RV.Lemmas.ClosedLoop
open RV.Props.Reconcile

/-- the canary route `b` after, against `a` before: unchanged, withdrawn, or a value `Q` allows -/
def RtRel (Q : Option Nat → Prop) (a b : Option Nat) : Prop := b = a ∨ b = none ∨ Q b

theorem RtRel.refl (Q : Option Nat → Prop) (a : Option Nat) : RtRel Q a a := Or.inl rfl

theorem RtRel.mono {Q Q' : Option Nat → Prop} {a b : Option Nat} (hq : ∀ x, Q x → Q' x) (h : RtRel Q a b) : RtRel Q' a b := by
  rcases h with h | h | h
  · exact Or.inl h
  · exact Or.inr (Or.inl h)
  · exact Or.inr (Or.inr (hq _ h))

def RtDown (a b : Option Nat) : Prop := b = a ∨ b = none

theorem RtDown.rel {Q : Option Nat → Prop} {a b : Option Nat} (h : RtDown a b) : RtRel Q a b := by
  rcases h with h | h
  · exact Or.inl h
  · exact Or.inr (Or.inl h)

theorem restoreStable_ing (c : TCtx) (n : Net) (m : Mem) : (restoreStableService c n m).net.canaryIng = n.canaryIng := by
  exact (RV.Props.Traffic.rs_spec c n m).kept (·.canaryIng) rfl

theorem patchStable_ing (c : TCtx) (n : Net) (m : Mem) : (patchStableService c n m).net.canaryIng = n.canaryIng := by
  obtain ⟨h | ⟨_, _, h⟩, _⟩ := RV.Props.Traffic.ps_spec c n m <;> rw [h]

theorem removeCanary_ing (c : TCtx) (n : Net) (m : Mem) : (removeCanaryService c n m).net.canaryIng = n.canaryIng := by
  exact (RV.Props.Traffic.rc_spec c n m).kept (·.canaryIng) rfl

theorem restoreGateway_ing (c : TCtx) (n : Net) (m : Mem) : RtDown n.canaryIng (restoreGateway c n m).net.canaryIng := by
  rcases (RV.Props.Traffic.rg_spec c n m).net with h | h <;> rw [h]
  · exact Or.inl rfl
  · exact Or.inr rfl

theorem finalising_ing (c : TCtx) (n : Net) (m : Mem) : RtDown n.canaryIng (finalisingTrafficRouting c n m).net.canaryIng := by
  have h1 := restoreStable_ing c n m
  have h2 := restoreGateway_ing c (restoreStableService c n m).net (restoreStableService c n m).mem
  have h3 := removeCanary_ing c (restoreGateway c (restoreStableService c n m).net (restoreStableService c n m).mem).net
    (restoreGateway c (restoreStableService c n m).net (restoreStableService c n m).mem).mem
  rw [h1] at h2
  obtain ⟨_, ⟨_, e⟩ | e | e | e⟩ := RV.Props.Traffic.finalising_net c n m <;> rw [e]
  · exact Or.inl rfl
  · exact Or.inl h1
  · exact h2
  · rw [h3]; exact h2

theorem doTR_ing (c : TCtx) (n : Net) (m : Mem) :
    (doTrafficRouting c n m).net.canaryIng = n.canaryIng ∨
    ∃ wt, c.weight = some wt ∧
      ((doTrafficRouting c n m).net.canaryIng = some wt ∨ (doTrafficRouting c n m).net.canaryIng = some 0) := by
  rcases RV.Props.Traffic.doTR_net c n m with ⟨hn, _⟩ | ⟨_, _, _, _, hn, _⟩ | ⟨_, wt, x, hw, hx, hn, _⟩
  · rw [hn]; exact Or.inl rfl
  · rw [hn]; exact Or.inl rfl
  · rw [hn]
    rcases hx with hx | hx | hx
    · exact Or.inl hx
    · exact Or.inr ⟨wt, hw, Or.inl hx⟩
    · exact Or.inr ⟨wt, hw, Or.inr hx⟩

/-- what the Manager call of a round may write on the route -/
theorem call_ing (k : MCall) (t : TCtx) (n : Net) (m : Mem) :
    RtRel (fun b => k = .route ∧ ∃ wt, t.weight = some wt ∧ (b = some wt ∨ b = some 0)) n.canaryIng (k.fn t n m).net.canaryIng := by
  cases k
  · exact (finalising_ing t n m).rel
  · exact Or.inl (restoreStable_ing t n m)
  · exact Or.inl (patchStable_ing t n m)
  · rcases doTR_ing t n m with h | ⟨wt, hw, h⟩
    · exact Or.inl h
    · exact Or.inr (Or.inr ⟨rfl, wt, hw, h⟩)

/-- what one round may write on the route: only from `StepTrafficRouting`, the weight of the step the round started on -/
def RunQ (c0 : Ctx) (b : Option Nat) : Prop :=
  c0.sub.state = .trafficRouting ∧ ∃ step wt, c0.ro.steps[(c0.sub.curIdx - 1).toNat]? = some step ∧ step.weight = some wt ∧
    (b = some wt ∨ b = some 0)

theorem runCanary_ing (c0 c' : Ctx) (err : Bool) (h : runCanary c0 = .ok c' err) (rev : String) (hg : SubGood c0.ro c0.sub rev) :
    RtRel (RunQ c0) c0.net.canaryIng c'.net.canaryIng := by
  obtain ⟨step, hstep, O⟩ := runCanary_natural_out hg.lo hg.hi hg.next h
  -- after a Manager call the network is the call's answer
  have call : ∀ k, roundCall c0.ro step c0.wl c0.sub = some k → c'.net = (roundAns c0 step k).net →
      RtRel (RunQ c0) c0.net.canaryIng c'.net.canaryIng := fun k hk hnet => by
    rw [hnet]
    refine RtRel.mono ?_ (call_ing k (roundCtx c0 step) c0.net c0.mem)
    rintro x ⟨rfl, wt, hw, hx⟩
    exact ⟨(roundCall_route hk).1, step, wt, hstep, hw, hx⟩
  cases O with
  | noCall _ hf => exact Or.inl (by rw [(finish_frame hf).2.2.1, syncStep_frame])
  | callErr k hk _ hc => exact call k hk (by rw [hc]; rfl)
  | callWait k hk _ _ hc => exact call k hk (by rw [hc]; rfl)
  | callThen k hk _ _ hf => exact call k hk (by rw [(finish_frame hf).2.2.1]; rfl)

theorem ro_rolling_route {s s' : CS} {w : CWl} {sub : Sub} (hsg : SubGood s.ro sub w.updateRevision)
    (hout : TrRollOut s w sub s') :
    s'.net.canaryIng = s.net.canaryIng ∨ s'.net.canaryIng = none ∨
    (sub.state = .trafficRouting ∧ ∃ wt, weightOf s.ro sub.curIdx = some wt ∧
      (s'.net.canaryIng = some wt ∨ s'.net.canaryIng = some 0)) := by
  rcases hout with ⟨_, e⟩ | ⟨_, c, br', o, hrc, _, e, _⟩
  · rw [e]; exact Or.inl rfl
  · rw [e]
    rcases runCanary_ing _ c false hrc _ (hsg.observed (roWl w)) with k | k | ⟨q1, step, wt, q2, q3, q4⟩
    · exact Or.inl k
    · exact Or.inr (Or.inl k)
    · exact Or.inr (Or.inr ⟨q1, wt, (weightOf_step s.ro sub.curIdx step hsg.lo
        (by rw [← (csObserve_same s.ro (roWl w)).1.steps]; exact q2)).trans q3, q4⟩)

end RV.Lemmas.ClosedLoopTraffic
