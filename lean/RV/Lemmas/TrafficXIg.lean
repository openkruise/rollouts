import RV.Lemmas.TrafficXAtomic
import RV.Lemmas.Ingress
/-!
The canary-Ingress provider (`RV.TrafficX.igProvider`, over `RV/Model/Ingress.lean`) satisfies the provider
laws: its two calls are atomic around `RV.Ingress.ensureRoutes` / `finalise` (`ig_ensure_atomic`,
`ig_finalise_atomic`), whose laws are the C14 lemmas `ensure_cases`, `script_fixed`, `Inv.fresh`,
`finalise_post`, `finalise_idle`, `inv_ensure`, `inv_finalise`.
-/
namespace RV.TrafficX
open RV.Ingress RV.Oracle.C14 RV.Oracle.TrafficX

/-- `EnsureRoutes` reads the stable Ingress too: only when a canary Ingress has to be created -/
def igNeedStable (w : World) (s : Strat) : Bool := w.canary.isNone && s.weight != some 0

theorem ig_ensure_eq (cfg : Cfg) (a : Api) (w : World) (s : Strat) :
    (igProvider cfg).ensure a w s =
      if a.read.1 then ⟨w, false, true, a.read.2, [], false⟩
      else if igNeedStable w s && a.read.2.read.1 then ⟨w, false, true, a.read.2.read.2, [], false⟩
      else igRun (if igNeedStable w s then a.read.2.read.2 else a.read.2) w (ensureRoutes cfg w (igStrategy s)) := by
  simp only [igProvider, igNeedStable]
  rw [show a.read = (a.read.1, a.read.2) from rfl]
  cases h1 : a.read.1
  · simp only [Bool.false_eq_true, if_false]
    by_cases hn : (w.canary.isNone && s.weight != some 0) = true
    · simp only [hn, if_true, Bool.true_and]
    · simp only [hn, Bool.false_eq_true, if_false, Bool.false_and]
  · simp

theorem ig_finalise_eq (cfg : Cfg) (a : Api) (w : World) :
    (igProvider cfg).finalise a w =
      if a.read.1 then ⟨w, false, true, a.read.2, [], false⟩ else igRun a.read.2 w (finalise cfg w) := by
  simp only [igProvider]

theorem igStrategy_weight (s : Strat) : (igStrategy s).traffic.map weightOf = s.weight := rfl

theorem named_ig (ws : List Write) : NamedWrites (ws.map igWriteName) := by
  intro w hw
  simp only [List.mem_map] at hw
  obtain ⟨x, _, rfl⟩ := hw
  cases x <;> simp only [igWriteName] <;> decide

/-- rounds still needed: 2 to create and set, 1 to set, 0 when set (or when the script rejects the step) -/
def igMu (cfg : Cfg) (w : World) (s : Strat) : Nat :=
  match w.canary with
  | none => if s.weight = some 0 then 0 else 2
  | some c =>
    match script cfg.cls c.ing.ann (luaStepOf (igStrategy s)) with
    | none => 0
    | some new => if eqvB c.ing.ann new then 0 else 1

theorem igMu_le (cfg : Cfg) (w : World) (s : Strat) : igMu cfg w s ≤ 2 := by
  unfold igMu
  split
  · split <;> omega
  · split
    · omega
    · split <;> omega

theorem igMu_some_le (cfg : Cfg) (w : World) (s : Strat) (c : CanaryObj) (h : w.canary = some c) : igMu cfg w s ≤ 1 := by
  unfold igMu
  rw [h]
  simp only []
  split
  · omega
  · split <;> omega

/-- the plan behind `igRun` -/
def igPlan (w : World) : Outcome → Plan World
  | .panic => ⟨w, false, false, true, true⟩
  | .ret w' done e ws => ⟨w', done, e != .ok, false, ws.isEmpty⟩

theorem igPlan_ret (w w' : World) (d : Bool) (e : Err) (ws : List Write) :
    igPlan w (.ret w' d e ws) = ⟨w', d, e != .ok, false, ws.isEmpty⟩ := rfl

theorem igRun_atomic (a : Api) (w : World) (o : Outcome) : Atomic a w (igPlan w o) (igRun a w o) := by
  cases o with
  | panic => exact .idle ..
  | ret w' done e ws =>
    simp only [igRun, igPlan]
    split
    · exact .idle ..
    · rename_i h
      exact .write a w (by simpa using h) (named_ig ws)

theorem ig_ensure_atomic (cfg : Cfg) (a : Api) (w : World) (s : Strat) :
    Atomic a w (igPlan w (ensureRoutes cfg w (igStrategy s))) ((igProvider cfg).ensure a w s) := by
  rw [ig_ensure_eq]
  cases igNeedStable w s
  · simpa using Atomic.read_ite (igRun_atomic a.read.2 w _)
  · simpa using Atomic.read_ite (Atomic.read_ite (igRun_atomic a.read.2.read.2 w _))

theorem ig_finalise_atomic (cfg : Cfg) (a : Api) (w : World) :
    Atomic a w (igPlan w (finalise cfg w)) ((igProvider cfg).finalise a w) := by
  rw [ig_finalise_eq]
  exact .read_ite (igRun_atomic ..)

/-- **the canary-Ingress provider is lawful** (C14), on every state reachable from "the user's stable Ingress
    `st`, no canary Ingress": *verified* means that the canary annotations are a fixed point of the class's
    script for the step **and** are exactly those of entering the step first — `script(stable, step)` — with
    exactly the re-targeted stable paths as rules. -/
theorem ig_lawful (cfg : Cfg) (st : Ingress) :
    LawfulProvider (igProvider cfg) (Inv cfg st)
      (fun w s => igSpecB cfg s w = true ∧ igFreshB cfg s w = true) (fun w => igCleanB w = true) (igMu cfg) 2 := by
  refine .of_atomic (fun w s => igPlan w (ensureRoutes cfg w (igStrategy s))) (fun w => igPlan w (finalise cfg w))
    (ig_ensure_atomic cfg) (ig_finalise_atomic cfg) ?inv_e ?inv_f ?strict ?fin ?progress (igMu_le cfg)
  case inv_e =>
    intro w s hi
    obtain ⟨w', done, e, ws, hens, _, _⟩ := ensure_frame cfg w (igStrategy s)
    rw [hens]; exact inv_ensure hi hens
  case inv_f =>
    intro w hi
    obtain ⟨w', done, ws, hfin, _, _⟩ := finalise_frame cfg w
    rw [hfin]; exact inv_finalise hi hfin
  case strict =>
    intro w s hi hf _ _
    have H := ensure_cases cfg w (igStrategy s)
    generalize ensureRoutes cfg w (igStrategy s) = r at H hf ⊢
    -- only the two branches that report `done` are verified
    cases H <;> rw [igPlan_ret] at hf ⊢ <;> cases hf <;> refine ⟨?_, rfl, rfl⟩
    case zero hn hw0 => simp [igSpecB, igFreshB, hn, show s.weight = some 0 from hw0]
    case same c new hc hn hv =>
      simp only [igSpecB, igFreshB, hc, hn, hi.stable, hi.fresh hc hn hv, pathsOk, hi.rules c hc, beq_self_eq_true,
        Bool.and_true, and_true]
      exact (eqvB_iff _ _).mpr hv
  case fin =>
    intro w hi
    obtain ⟨w', done, ws, hfin, hok, _⟩ := finalise_post hi
    rw [hfin]
    refine ⟨rfl, rfl, hok, ?_⟩
    show igPlan w' (finalise cfg w') = _
    rw [finalise_idle hok]; rfl
  case progress =>
    intro w s hi he _
    have H := ensure_cases cfg w (igStrategy s)
    generalize ensureRoutes cfg w (igStrategy s) = r at H he ⊢
    cases H <;> rw [igPlan_ret] at he ⊢
    case noStable | createErr | stepErr => cases he
    case zero | same => exact ⟨nofun, Nat.le_refl _⟩
    case created st' a0 hn hw _ _ =>
      -- one round less to go
      have h1 := igMu_some_le cfg { w with canary := some (createdCanary cfg st' a0) } s _ rfl
      have h2 : igMu cfg w s = 2 := by
        unfold igMu
        rw [hn]
        exact if_neg hw
      dsimp only
      exact ⟨fun _ => by omega, by omega⟩
    case patched c new hc hn hne =>
      -- the patched annotations are a fixed point of the script (`script_fixed`)
      have h1 : igMu cfg { w with canary := some { c with ing := { c.ing with
          ann := applyPatch c.ing.ann (mergePatch c.ing.ann new) } } } s = 0 := by
        unfold igMu
        simp only []
        cases h2 : script cfg.cls (applyPatch c.ing.ann (mergePatch c.ing.ann new)) (luaStepOf (igStrategy s)) with
        | none => rfl
        | some n2 => simp [(eqvB_iff _ _).mpr (script_fixed hn (applyPatch_mergePatch c.ing.ann new) h2)]
      have h2 : igMu cfg w s = 1 := by
        unfold igMu
        rw [hc]
        simp only [hn]
        rw [if_neg fun h => hne ((eqvB_iff _ _).mp h)]
      rw [h1, h2]
      exact ⟨fun _ => Nat.zero_lt_one, Nat.zero_le _⟩

end RV.TrafficX
