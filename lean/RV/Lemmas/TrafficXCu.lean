import RV.Lemmas.TrafficX
import RV.Props.C15
/-!
The custom (Lua) provider (`RV.TrafficX.cuProvider`: `cuEnsure` / `cuFinalise` over `RV/Model/Custom.lean`):
`cuEnsure` against `RV.Custom.ensureRoutesF` (`RV/Model/CustomHist.lean`; `cuEnsure_char`), `cuFinalise` against
`RV.Custom.finOne` per ref (`cuFinaliseLoop_spec`), and the provider laws — from the C15 lemmas `ensureRoutesF_inv`, `ensureRoutesF_ok`, `ensureRoutes_noop`, `ensure_idempotent`, `restore_of_St`.
The provider is not atomic in the sense of `RV/Lemmas/TrafficXAtomic.lean` (one write per referenced object), so the
laws are proved one by one.
-/
namespace RV.TrafficX
open RV.Custom RV.Oracle.C15 RV.Oracle.TrafficX

theorem cuStoreLoop_spec (c : Codec) (a : Api) (l : List PRef) :
    (cuStoreLoop c a l).1 = (storeLoop c a.w l).1 ∧
    (match (cuStoreLoop c a l).2.1 with
     | none => (storeLoop c a.w l).2 = none
     | some a1 => (storeLoop c a.w l).2 = some a1.w ∧ a1.r = a.r) ∧
    NamedWrites (cuStoreLoop c a l).2.2 := by
  induction l generalizing a with
  | nil => exact ⟨rfl, ⟨rfl, rfl⟩, NamedWrites.nil⟩
  | cons p r ih =>
    simp only [cuStoreLoop, storeLoop]
    by_cases hw : (storeIfAbsentW c p.2).2 = true
    · simp only [hw, if_true]
      rcases Api.spend_cases a with ⟨hsp, h1⟩ | ⟨a1, hsp, h1, h2⟩ <;> simp only [hsp, h1]
      · exact ⟨trivial, trivial, NamedWrites.nil⟩
      · obtain ⟨i1, i2, i3⟩ := ih a1
        refine ⟨by rw [i1], ?_, ?_⟩
        · cases hh : (cuStoreLoop c a1 r).2.1 with
          | none => rw [hh] at i2; simpa using i2
          | some a2 => rw [hh] at i2; simp only []; exact ⟨i2.1, i2.2.trans h2⟩
        · exact .cons (by decide) i3
    · simp only [hw, Bool.false_eq_true, if_false]
      obtain ⟨i1, i2, i3⟩ := ih a
      exact ⟨by rw [i1], i2, i3⟩

theorem cuApplyLoop_spec (a : Api) (ds : List Data) (l : List PRef) :
    (cuApplyLoop a ds l).1 = (applyLoop a.w ds l).1 ∧
    (match (cuApplyLoop a ds l).2.1 with
     | none => (applyLoop a.w ds l).2 = none
     | some x => (applyLoop a.w ds l).2 = some x.1 ∧ x.2.r = a.r) ∧
    NamedWrites (cuApplyLoop a ds l).2.2 := by
  induction ds generalizing a l with
  | nil => cases l <;> exact ⟨rfl, ⟨rfl, rfl⟩, NamedWrites.nil⟩
  | cons d ds ih =>
    cases l with
    | nil => exact ⟨rfl, ⟨rfl, rfl⟩, NamedWrites.nil⟩
    | cons p r =>
      simp only [cuApplyLoop, applyLoop]
      by_cases hw : (compareAndUpdate d p.2).2 = true
      · simp only [hw, if_true]
        rcases Api.spend_cases a with ⟨hsp, h1⟩ | ⟨a1, hsp, h1, h2⟩ <;> simp only [hsp, h1]
        · exact ⟨trivial, trivial, NamedWrites.nil⟩
        · obtain ⟨i1, i2, i3⟩ := ih a1 r
          refine ⟨by rw [i1], ?_, ?_⟩
          · cases hh : (cuApplyLoop a1 ds r).2.1 with
            | none => rw [hh] at i2; simp only [Option.map_none]; rw [i2]; rfl
            | some x =>
              rw [hh] at i2
              simp only [Option.map_some]
              rw [i2.1]
              exact ⟨by simp, i2.2.trans h2⟩
          · exact .cons (by decide) i3
      · simp only [hw, Bool.false_eq_true, if_false]
        obtain ⟨i1, i2, i3⟩ := ih a r
        refine ⟨by rw [i1], ?_, i3⟩
        cases hh : (cuApplyLoop a ds r).2.1 with
        | none => rw [hh] at i2; rw [i2]; rfl
        | some x => rw [hh] at i2; simp only []; rw [i2.1]; exact ⟨by simp, i2.2⟩

theorem cuGetLoop_spec (a : Api) (st : List Ref) :
    ((cuGetLoop a st).1 = none ∧ a.armed = true ∧ (cuGetLoop a st).2.armed = false) ∨
    ((cuGetLoop a st).1 = getAll st ∧ ((cuGetLoop a st).2.armed = true → a.armed = true) ∧
      (a.armed = false → (cuGetLoop a st).2 = a) ∧ (cuGetLoop a st).2.w = a.w ∧
      ((cuGetLoop a st).1.isSome = true → (cuGetLoop a st).2.armed = a.armed)) := by
  induction st generalizing a with
  | nil => right; exact ⟨rfl, fun h => h, fun _ => rfl, rfl, fun _ => rfl⟩
  | cons r rs ih =>
    have hw1 := Api.read_w a
    simp only [cuGetLoop]
    rcases Api.read_cases a with ⟨hr, har, hr2⟩ | ⟨hr, hr2⟩
    · left
      rw [show a.read = (a.read.1, a.read.2) from rfl, hr]
      exact ⟨rfl, har, hr2⟩
    · rw [show a.read = (a.read.1, a.read.2) from rfl, hr]
      simp only [Bool.false_eq_true, if_false]
      cases ho : r.obj with
      | none =>
        right
        simp only [getAll, ho]
        exact ⟨trivial, fun h => hr2 ▸ h, fun ha => Api.read_snd_not_armed ha, hw1, fun h => by cases h⟩
      | some o =>
        simp only []
        rcases ih a.read.2 with ⟨h1, h2, h3⟩ | ⟨h1, h2, h3, h4, h5⟩
        · left
          exact ⟨by rw [h1]; rfl, hr2 ▸ h2, h3⟩
        · right
          refine ⟨?_, fun h => hr2 ▸ h2 h, ?_, h4.trans hw1, ?_⟩
          · rw [h1]; simp only [getAll, ho]; cases getAll rs <;> rfl
          · intro ha; rw [h3 (by rw [hr2]; exact ha)]; exact Api.read_snd_not_armed ha
          · intro hs
            have : (cuGetLoop a.read.2 rs).1.isSome = true := by
              cases hh : (cuGetLoop a.read.2 rs).1 with
              | none => rw [hh] at hs; cases hs
              | some _ => rfl
            exact (h5 this).trans hr2

/-- the provider result read as the `Res` of `RV/Model/Custom.lean` -/
def resOf (p : PRes (List Ref)) : Res := if p.err then .err else .ok p.flag

theorem cuStoreLoop_ok (c : Codec) (l : List PRef) : (cuStoreLoop c Api.ok l).2.1 = some Api.ok := by
  induction l with
  | nil => rfl
  | cons p r ih =>
    simp only [cuStoreLoop, Api.spend_ok]
    split <;> exact ih

theorem cuApplyLoop_ok (ds : List Data) (l : List PRef) :
    ∃ d, (cuApplyLoop Api.ok ds l).2.1 = some (d, Api.ok) := by
  induction ds generalizing l with
  | nil => cases l <;> exact ⟨true, rfl⟩
  | cons d ds ih =>
    cases l with
    | nil => exact ⟨true, rfl⟩
    | cons p r =>
      obtain ⟨d', hd⟩ := ih r
      simp only [cuApplyLoop, Api.spend_ok]
      split
      · exact ⟨false, by rw [hd]; rfl⟩
      · exact ⟨d', hd⟩

theorem cuEnsure_healthy (c : Codec) (st : List Ref) (s : Strategy) : (cuEnsure c Api.ok st s).a = Api.ok := by
  unfold cuEnsure
  have hg : (cuGetLoop Api.ok st).2 = Api.ok := by
    rcases cuGetLoop_spec Api.ok st with ⟨_, h, _⟩ | ⟨_, _, h, _, _⟩
    · cases h
    · exact h rfl
  cases h1 : (cuGetLoop Api.ok st).1 with
  | none => simp only [h1, hg]
  | some objs =>
    simp only [h1, hg, cuStoreLoop_ok]
    cases hpl : planAll c s (cuStoreLoop c Api.ok objs).1 with
    | none => simp only []
    | some ds =>
      obtain ⟨d, hd⟩ := cuApplyLoop_ok ds (cuStoreLoop c Api.ok objs).1
      simp only [hd]

/-- either a `Get` of the first loop hit the armed read fault — nothing has happened — or the call is `ensureRoutesF` under the
    write budget `a.w`, and owes the API what every call owes -/
theorem cuEnsure_char (c : Codec) (a : Api) (st : List Ref) (s : Strategy) :
    (∃ a1, cuEnsure c a st s = ⟨st, false, true, a1, [], false⟩ ∧ a.armed = true ∧ a1.armed = false) ∨
    ((cuEnsure c a st s).g = (ensureRoutesF c a.w s st).1 ∧
     resOf (cuEnsure c a st s) = (ensureRoutesF c a.w s st).2 ∧
     (cuEnsure c a st s).panic = false ∧ NamedWrites (cuEnsure c a st s).writes ∧
     ReadLaw a (cuEnsure c a st s).a (cuEnsure c a st s).err) := by
  unfold cuEnsure
  rcases cuGetLoop_spec a st with ⟨h1, h2, h3⟩ | ⟨h1, h2, h3, h4, h5⟩
  · left
    exact ⟨(cuGetLoop a st).2, by simp [h1], h2, h3⟩
  · right
    generalize hg : cuGetLoop a st = g at h1 h2 h3 h4 h5
    obtain ⟨res, a1⟩ := g
    simp only at h1 h2 h3 h4 h5 ⊢
    subst h1
    unfold ensureRoutesF
    cases hga : getAll st with
    | none =>
      simp only []
      exact ⟨trivial, rfl, trivial, NamedWrites.nil, fun _ => rfl, h2⟩
    | some objs =>
      have harm : a1.armed = a.armed := h5 (by rw [hga]; rfl)
      simp only []
      obtain ⟨s1, s2, s3⟩ := cuStoreLoop_spec c a1 objs
      rw [h4] at s1 s2
      cases hst : (cuStoreLoop c a1 objs).2.1 with
      | none =>
        rw [hst] at s2
        simp only [s2, s1]
        exact ⟨trivial, rfl, trivial, s3, fun _ => rfl, fun h => h2 (by simpa [Api.armed] using h)⟩
      | some a2 =>
        rw [hst] at s2
        obtain ⟨s2a, s2b⟩ := s2
        have harm2 : a2.armed = a.armed := (armed_of_r s2b).trans harm
        simp only [s2a, s1]
        cases hpl : planAll c s (storeLoop c a.w objs).1 with
        | none =>
          simp only []
          exact ⟨trivial, rfl, trivial, s3, .of_armed_eq harm2 _⟩
        | some ds =>
          simp only []
          obtain ⟨t1, t2, t3⟩ := cuApplyLoop_spec a2 ds (storeLoop c a.w objs).1
          cases hap : (cuApplyLoop a2 ds (storeLoop c a.w objs).1).2.1 with
          | none =>
            rw [hap] at t2
            have t2' : (applyLoop a2.w ds (storeLoop c a.w objs).1).2 = none := t2
            simp only [t1, t2']
            refine ⟨trivial, rfl, trivial, s3.append t3, fun _ => rfl, fun h => ?_⟩
            rw [← harm2]; simpa [Api.armed] using h
          | some x =>
            rw [hap] at t2
            obtain ⟨t2a, t2b⟩ := t2
            have harm3 : x.2.armed = a.armed := (armed_of_r t2b).trans harm2
            simp only [t1, t2a]
            obtain ⟨done, a3⟩ := x
            exact ⟨trivial, rfl, trivial, s3.append t3, .of_armed_eq harm3 _⟩

theorem cuGetLoop_unarmed {a : Api} (ha : a.armed = false) (st : List Ref) : cuGetLoop a st = (getAll st, a) := by
  rcases cuGetLoop_spec a st with ⟨_, h, _⟩ | ⟨h1, _, h3, _, _⟩
  · rw [ha] at h; cases h
  · rw [show cuGetLoop a st = ((cuGetLoop a st).1, (cuGetLoop a st).2) from rfl, h1, h3 ha]

theorem cuStoreLoop_fix {c : Codec} {l : List PRef} (h : storedOf c l = l) (a : Api) :
    cuStoreLoop c a l = (l, some a, []) := by
  induction l with
  | nil => rfl
  | cons p r ih =>
    obtain ⟨hp, hr⟩ := storedOf_cons_fix h
    simp [cuStoreLoop, hp, ih hr]

theorem cuApplyLoop_fix (c : Codec) (s : Strategy) {l : List PRef} {ds : List Data}
    (hp : planAll c s l = some ds) (h : ((applyAll ds l).all fun r => !r.2) = true) (a : Api) :
    cuApplyLoop a ds l = (l.map refOf, some (true, a), []) := by
  induction l generalizing ds with
  | nil => simp [planAll] at hp; subst hp; rfl
  | cons p r ih =>
    obtain ⟨d, ds', _, hr, rfl⟩ := planAll_cons_some hp
    simp only [applyAll, List.all_cons, Bool.and_eq_true, Bool.not_eq_eq_eq_not, Bool.not_true] at h
    obtain ⟨hu, hrest⟩ := h
    simp [cuApplyLoop, hu, ih hr hrest, compareAndUpdate_unchanged hu, refOf]

theorem cuEnsure_fix {c : Codec} {s : Strategy} {st : List Ref}
    (h : ensureRoutes c s st = (st, .ok true)) {a : Api} (ha : a.armed = false) :
    cuEnsure c a st s = ⟨st, true, false, a, [], false⟩ := by
  obtain ⟨l, ds, hg, rfl, hsto, hp, hall⟩ := ensureRoutes_noop h
  simp [cuEnsure, cuGetLoop_unarmed ha, hg, cuStoreLoop_fix hsto a, hp, cuApplyLoop_fix c s hp hall a]

theorem cuFinaliseLoop_rel (c : Codec) (a : Api) (st : List Ref) : All2 (FinRel c) st (cuFinaliseLoop c a st).1 := by
  induction st generalizing a with
  | nil => exact .nil
  | cons r rs ih =>
    simp only [cuFinaliseLoop]
    rw [show a.read = (a.read.1, a.read.2) from rfl]
    cases hr : a.read.1
    · simp only [Bool.false_eq_true, if_false]
      cases ho : r.obj with
      | none => exact .cons (.inl rfl) (ih _)
      | some o =>
        simp only []
        split
        · cases a.read.2.spend with
          | none => exact .cons (.inl rfl) (ih _)
          | some a1 => exact .cons (.inr (by rw [finOne_some ho])) (ih _)
        · exact .cons (.inr (by rw [finOne_some ho])) (ih _)
    · simp only [if_true]
      exact .cons (.inl rfl) (ih _)

/-- `Finalise` of the custom provider on the refs `st` against the API value `a`, by what it returns (the refs `out`, the error
    `err`, the API value `a'`, the writes `ws`: the fields `g`, `err`, `a`, `writes` of `(cuProvider c).finalise a st`): without an
    error every ref went through `finOne`; what the call owes the API; a healthy API server neither fails nor ceases to be healthy -/
structure CuFinalised (c : Codec) (a : Api) (st out : List Ref) (err : Bool) (a' : Api) (ws : List String) : Prop where
  restored : err = false → out = (st.map (finOne c)).map (·.1)
  read : ReadLaw a a' err
  writes : NamedWrites ws
  healthy : a = Api.ok → err = false ∧ a' = Api.ok

theorem cuFinaliseLoop_spec (c : Codec) (a : Api) (st : List Ref) :
    CuFinalised c a st (cuFinaliseLoop c a st).1 (cuFinaliseLoop c a st).2.2.1 (cuFinaliseLoop c a st).2.2.2.1
      (cuFinaliseLoop c a st).2.2.2.2 := by
  induction st generalizing a with
  | nil => exact ⟨fun _ => rfl, .of_armed_eq rfl _, NamedWrites.nil, fun h => ⟨rfl, h⟩⟩
  | cons r rs ih =>
    simp only [cuFinaliseLoop]
    rw [show a.read = (a.read.1, a.read.2) from rfl]
    cases hr : a.read.1
    · simp only [Bool.false_eq_true, if_false]
      have rl1 : ReadLaw a a.read.2 false := .of_armed_eq (Api.read_pass hr) _
      have hok : a = Api.ok → a.read.2 = Api.ok := fun h => by subst h; rfl
      -- the ref is restored (or has no object) and the loop goes on from `a'`
      have go : ∀ a', ReadLaw a a' false → (a = Api.ok → a' = Api.ok) → ∀ ws, NamedWrites ws →
          CuFinalised c a (r :: rs) ((finOne c r).1 :: (cuFinaliseLoop c a' rs).1) (cuFinaliseLoop c a' rs).2.2.1
            (cuFinaliseLoop c a' rs).2.2.2.1 (ws ++ (cuFinaliseLoop c a' rs).2.2.2.2) := by
        intro a' rl hk ws hws
        obtain ⟨i1, i2, i3, i4⟩ := ih a'
        exact ⟨fun h => by rw [i1 h]; rfl, rl.trans i2, hws.append i3, fun ha => i4 (hk ha)⟩
      cases ho : r.obj with
      | none =>
        have := go a.read.2 rl1 hok [] .nil
        simpa [finOne_none ho] using this
      | some o =>
        simp only []
        by_cases hm : (restoreObject c o).2 = true
        · simp only [hm, if_true]
          cases hsp : a.read.2.spend with
          | none =>
            obtain ⟨_, i2, i3, _⟩ := ih a.read.2
            refine ⟨fun h => (by cases h), (ReadLaw.trans (e₂ := true) rl1 ⟨fun _ => rfl, i2.2⟩), i3, fun ha => ?_⟩
            rw [hok ha] at hsp; cases hsp
          | some a1 =>
            have := go a1 (.of_armed_eq ((Api.spend_armed hsp).trans (Api.read_pass hr)) _)
              (fun ha => by rw [hok ha] at hsp; cases hsp; rfl) ["updateCustom"] (.cons (by decide) .nil)
            simpa [finOne_some ho] using this
        · simp only [hm, Bool.false_eq_true, if_false]
          have := go a.read.2 rl1 hok [] .nil
          simpa [finOne_some ho] using this
    · -- the Get of this ref fails: recorded, the loop goes on
      simp only [if_true]
      obtain ⟨_, i2, i3, _⟩ := ih a.read.2
      refine ⟨fun h => (by cases h), .of_spent ?_, i3, fun ha => ?_⟩
      · cases hb : (cuFinaliseLoop c a.read.2 rs).2.2.2.1.armed
        · rfl
        · have := i2.2 hb; rw [Api.read_fail hr] at this; cases this
      · subst ha; cases hr

theorem cuFinaliseLoop_clean (c : Codec) {a : Api} (ha : a.armed = false) {st : List Ref}
    (h : ∀ r, r ∈ st → ∀ o, r.obj = some o → restoreObject c o = (o, false)) :
    cuFinaliseLoop c a st = (st, false, false, a, []) := by
  induction st with
  | nil => rfl
  | cons r rs ih =>
    have ih' := ih fun x hx => h x (by simp [hx])
    simp only [cuFinaliseLoop, Api.read_of_not_armed ha, Bool.false_eq_true, if_false]
    cases ho : r.obj with
    | none => simp [ih']
    | some o =>
      have := h r (by simp) o ho
      simp only [this, Bool.false_eq_true, if_false, ih']
      obtain ⟨f, ob⟩ := r
      simp only at ho
      subst ho
      rfl

/-- invariant of the referenced objects: every ref's object is the user's configuration `us[i]` (as written, or
    as Finalise restores it), or carries it as its stored original (`RV.Custom.HInv`, C15 histories); the user's
    manifests do not carry the provider's annotation and `encoding/json` round-trips them (`Good`) -/
def cuInv (c : Codec) (us : List PRef) (st : List Ref) : Prop := All2 (HInv c) us st

open Classical in
/-- rounds still needed: 1 unless `EnsureRoutes` for the step has nothing to do.  (A `Ref` holds its script, a function, so
    equality of states is not decidable: hence `Classical`; `cuMu` is only ever compared with 0 and 1.) -/
noncomputable def cuMu (c : Codec) (st : List Ref) (s : Strat) : Nat :=
  if ensureRoutes c (cuStrategy s) st = (st, .ok true) then 0 else 1

theorem cuCleanB_of_noOrig {st : List Ref} (h : ∀ r, r ∈ st → ∀ o, r.obj = some o → noOrig o = true) :
    cuCleanB st = true := by
  unfold cuCleanB
  rw [List.all_eq_true]
  intro r hr
  cases ho : r.obj with
  | none => rfl
  | some o => simp [noOrig_origOf (h r hr o ho)]

theorem cuEnsure_ok {c : Codec} {a : Api} {st : List Ref} {s : Strategy}
    (hg : (cuEnsure c a st s).g = (ensureRoutesF c a.w s st).1)
    (hres : resOf (cuEnsure c a st s) = (ensureRoutesF c a.w s st).2) (he : (cuEnsure c a st s).err = false) :
    ensureRoutes c s st = ((cuEnsure c a st s).g, .ok (cuEnsure c a st s).flag) := by
  have hres' : (ensureRoutesF c a.w s st).2 = .ok (cuEnsure c a st s).flag := by
    rw [← hres]; simp [resOf, he]
  rw [← ensureRoutesF_ok (by rw [hres']; intro h; cases h), hg, ← hres']

/-- **the custom (Lua) provider is lawful** (C15 with histories): *verified* means that `EnsureRoutes` for the
    step has nothing to do **and** every object is `f(original, step)` — the script applied to the user's
    original configuration, whatever steps preceded (statelessness). -/
theorem cu_lawful (c : Codec) (us : List PRef) :
    LawfulProvider (cuProvider c) (cuInv c us)
      (fun st s => cuSpecB c s st = true ∧ cuStatelessB c s us st = true) (fun st => cuCleanB st = true)
      (cuMu c) 1 where
  inv_ensure := by
    intro a st s hi
    simp only [cuProvider]
    rcases cuEnsure_char c a st (cuStrategy s) with ⟨a1, h, _, _⟩ | ⟨hg, _⟩
    · rw [h]; exact hi
    · rw [hg]; exact ensureRoutesF_inv a.w (cuStrategy s) hi
  inv_finalise := fun a st hi => HInv_of_finRel hi (cuFinaliseLoop_rel c a st)
  verified_spec := by
    intro a st s hi _ he hf
    simp only [cuProvider] at he hf ⊢
    rcases cuEnsure_char c a st (cuStrategy s) with ⟨a1, h, _, _⟩ | ⟨hg, hres, _⟩
    · rw [h] at hf; cases hf
    · have hens := cuEnsure_ok hg hres he
      rw [hf] at hens
      have hid := RV.Props.C15.ensure_idempotent c (cuStrategy s) st _ true hens
      refine ⟨by simp [cuSpecB, hid], ?_⟩
      obtain ⟨ds, hds, hst⟩ := ensureRoutes_stateless (cuStrategy s) hi (by rw [hens]; intro h; cases h)
      rw [hens] at hst
      simp only [cuStatelessB, hds, hst]
  verified_stable := by
    intro a st s _ _ he hf a' ha'
    simp only [cuProvider] at he hf ⊢
    rcases cuEnsure_char c a st (cuStrategy s) with ⟨a1, h, _, _⟩ | ⟨hg, hres, _⟩
    · rw [h] at hf; cases hf
    · have hens := cuEnsure_ok hg hres he
      rw [hf] at hens
      have hid := RV.Props.C15.ensure_idempotent c (cuStrategy s) st _ true hens
      rw [cuEnsure_fix hid ha']; rfl
  finalise_clean := by
    intro a st hi _ he
    rw [show ((cuProvider c).finalise a st).g = _ from (cuFinaliseLoop_spec c a st).restored he]
    exact cuCleanB_of_noOrig (finAll_noOrig hi)
  finalise_stable := by
    intro a st hi _ he a' ha'
    rw [show ((cuProvider c).finalise a st).g = _ from (cuFinaliseLoop_spec c a st).restored he]
    have := cuFinaliseLoop_clean c ha' (st := (st.map (finOne c)).map (·.1))
      (fun r hr o ho => restore_of_noOrig c (finAll_noOrig hi r hr o ho))
    simp only [cuProvider, cuFinalise, this, PRes.noop]
  finalise_healthy := fun st _ => ⟨((cuFinaliseLoop_spec c Api.ok st).healthy rfl).1, rfl⟩
  ensure_progress := by
    intro st s _ _ he
    simp only [cuProvider] at he ⊢
    rcases cuEnsure_char c Api.ok st (cuStrategy s) with ⟨a1, _, har, _⟩ | ⟨hg, hres, _⟩
    · cases har
    · have hens := cuEnsure_ok hg hres he
      have hid := RV.Props.C15.ensure_idempotent c (cuStrategy s) st _ _ hens
      have h0 : cuMu c (cuEnsure c Api.ok st (cuStrategy s)).g s = 0 := by simp [cuMu, hid]
      rw [h0]
      refine ⟨fun hf => ?_, Nat.zero_le _⟩
      have : ensureRoutes c (cuStrategy s) st ≠ (st, .ok true) := by
        rw [hens, hf]; intro h; injection h with _ h2; cases h2
      simp [cuMu, this]
  μ_le := by
    intro st s
    unfold cuMu
    split <;> omega
  healthy_ensure := fun st s => cuEnsure_healthy c st (cuStrategy s)
  healthy_finalise := fun st => ((cuFinaliseLoop_spec c Api.ok st).healthy rfl).2
  writes_ensure := by
    intro a st s
    simp only [cuProvider]
    rcases cuEnsure_char c a st (cuStrategy s) with ⟨a1, h, _, _⟩ | ⟨_, _, _, hw, _⟩
    · rw [h]; exact NamedWrites.nil
    · exact hw
  writes_finalise := fun a st => (cuFinaliseLoop_spec c a st).writes
  read_fault_ensure := by
    intro a st s _
    simp only [cuProvider]
    rcases cuEnsure_char c a st (cuStrategy s) with ⟨a1, h, _, h1⟩ | ⟨_, _, _, _, hrl⟩
    · rw [h]; exact ReadLaw.of_spent h1
    · exact hrl
  read_fault_finalise := fun a st _ => (cuFinaliseLoop_spec c a st).read

end RV.TrafficX
