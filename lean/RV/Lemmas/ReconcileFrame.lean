/-
  What one `RolloutReconciler.Reconcile` leaves in place and how it is composed; shared by `Props/ReconcileThms`, the closed loops
  and the bindings. The finalizer handling (`hf_`) and the status calculation (`cs_`) keep the user's configuration (`Same`) and,
  unless the workload is lost, the sub-status up to its observed fields (`subCore`, `cs_frame`). The clean-up and the reset of a
  superseded release cannot crash on a plan that is not empty, and keep the step indices. The body `reconcileCore` writes the
  calculated status up to five fields (`CoreRo`); for a rollout neither deleted nor disabled the reconcile is the body
  (`reconcile_eq_core`). A rolling rollout's reconcile is `doProgressingInRolling` on `newStatus`, landed by `land`
  (`reconcile_live`, `reconcile_rolling`); seen from the sub-status it has five outcomes (`SubMove`). With them, the readings as
  propositions of the predicates the oracles are written in (`inRollingNow_iff`, `podsReady_iff`, `fullStep_iff`,
  `pinnedFirstStep_iff`).
-/
import RV.Lemmas.ResetOnExit
import RV.Lemmas.RunMove
import RV.Oracle.RolloutSM
namespace RV.Props.Reconcile
open RV.Arith RV.Traffic RV.RolloutSM RV.Oracle.RolloutSM RV.Props.Rollout

theorem hf_frame (ro : Rollout) :
    (handleFinalizer ro).1 = { ro with hasFinalizer := (handleFinalizer ro).1.hasFinalizer } := by
  unfold handleFinalizer
  split
  · split <;> rfl
  · split <;> rfl

/-- the fields of the sub-status that `calculateRolloutStatus` leaves alone on a Progressing / Terminating / Disabling rollout and that
    `Props/ReconcileThms` compares between the stored and the calculated status (`cs_frame`); the observed rollout-id / generation are
    refreshed (`csSub`) and so are not among them (`stableRev` and `podHash` are kept too, and not listed) -/
def subCore (s : Sub) : Int × Int × StepState × Age × FinStep × String × HashRel :=
  (s.curIdx, s.nextIdx, s.state, s.lastUpdate, s.finStep, s.canaryRev, s.hash)

theorem subCore_inj {s os : Sub} (h : subCore s = subCore os) :
    s.curIdx = os.curIdx ∧ s.nextIdx = os.nextIdx ∧ s.state = os.state ∧ s.lastUpdate = os.lastUpdate ∧
    s.finStep = os.finStep ∧ s.canaryRev = os.canaryRev ∧ s.hash = os.hash := by
  simpa only [subCore, Prod.mk.injEq] using h

/-- the user-owned configuration of a rollout, which no status calculation touches -/
def Same (a b : Rollout) : Prop :=
  b.steps = a.steps ∧ b.hasTraffic = a.hasTraffic ∧ b.style = a.style ∧ b.paused = a.paused ∧
  b.rollbackInBatch = a.rollbackInBatch ∧ b.disableGen = a.disableGen ∧ b.grace = a.grace ∧ b.disabled = a.disabled ∧
  b.deleting = a.deleting ∧ b.realPartition = a.realPartition

theorem Same.rfl' (a : Rollout) : Same a a := ⟨rfl, rfl, rfl, rfl, rfl, rfl, rfl, rfl, rfl, rfl⟩

theorem hf_same (ro : Rollout) : Same ro (handleFinalizer ro).1 := by
  rw [hf_frame ro]; exact Same.rfl' ro

theorem Same.trans {a b c : Rollout} (h1 : Same a b) (h2 : Same b c) : Same a c := by
  obtain ⟨a1, a2, a3, a4, a5, a6, a7, a8, a9, a10⟩ := h1
  obtain ⟨b1, b2, b3, b4, b5, b6, b7, b8, b9, b10⟩ := h2
  exact ⟨b1.trans a1, b2.trans a2, b3.trans a3, b4.trans a4, b5.trans a5, b6.trans a6, b7.trans a7, b8.trans a8, b9.trans a9, b10.trans a10⟩

theorem Same.steps {a b : Rollout} (h : Same a b) : b.steps = a.steps := h.1
theorem Same.hasTraffic {a b : Rollout} (h : Same a b) : b.hasTraffic = a.hasTraffic := h.2.1
theorem Same.style {a b : Rollout} (h : Same a b) : b.style = a.style := h.2.2.1
theorem Same.paused {a b : Rollout} (h : Same a b) : b.paused = a.paused := h.2.2.2.1
theorem Same.rollbackInBatch {a b : Rollout} (h : Same a b) : b.rollbackInBatch = a.rollbackInBatch := h.2.2.2.2.1
theorem Same.disableGen {a b : Rollout} (h : Same a b) : b.disableGen = a.disableGen := h.2.2.2.2.2.1
theorem Same.grace {a b : Rollout} (h : Same a b) : b.grace = a.grace := h.2.2.2.2.2.2.1
theorem Same.disabled {a b : Rollout} (h : Same a b) : b.disabled = a.disabled := h.2.2.2.2.2.2.2.1
theorem Same.deleting {a b : Rollout} (h : Same a b) : b.deleting = a.deleting := h.2.2.2.2.2.2.2.2.1
theorem Same.realPartition {a b : Rollout} (h : Same a b) : b.realPartition = a.realPartition := h.2.2.2.2.2.2.2.2.2

theorem csObserve_same (ro : Rollout) (w : WL) :
    Same ro (csObserve ro w) ∧ (csObserve ro w).sub.map subCore = ro.sub.map subCore ∧ (csObserve ro w).phase = ro.phase := by
  rw [csObserve_eq]
  exact ⟨Same.rfl' _, by cases ro.sub <;> rfl, rfl⟩

theorem csPhase_same (ro ns : Rollout) (w : WL) :
    Same ns (csPhase ro ns w) ∧
    (ns.phase ≠ .healthy → (csPhase ro ns w).sub = ns.sub ∧ (csPhase ro ns w).reason = ns.reason) := by
  unfold csPhase
  split
  · exact ⟨Same.rfl' _, fun _ => ⟨rfl, rfl⟩⟩
  · rename_i hp
    refine ⟨?_, fun h => absurd hp h⟩
    split
    · exact Same.rfl' _
    · split <;> exact Same.rfl' _
  · split <;> exact ⟨Same.rfl' _, fun _ => ⟨rfl, rfl⟩⟩
  · exact ⟨Same.rfl' _, fun _ => ⟨rfl, rfl⟩⟩

/-- the one case that drops the sub-status is a lost workload on a rollout neither deleted nor disabled (`CalcStatus.lost`) -/
theorem cs_frame (ro ns : Rollout) (wl : Option WL) (h : calculateStatus ro wl = some ns) :
    Same ro ns ∧
    ((ro.phase = .progressing ∨ ro.phase = .terminating ∨ ro.phase = .disabling) → (wl.isSome ∨ ro.deleting = true ∨ ro.disabled = true) →
      ns.sub.map subCore = ro.sub.map subCore) := by
  cases calculateStatus_inv h with
  | deleting => split <;> exact ⟨Same.rfl' _, fun _ _ => rfl⟩
  | lost hd hdis =>
    exact ⟨Same.rfl' _, fun _ hw => hw.elim (fun h => by cases h) (·.elim (absurd · hd) (absurd · hdis))⟩
  | lostDisabled => exact ⟨Same.rfl' _, fun _ _ => rfl⟩
  | observed _ w =>
    obtain ⟨p1, p2⟩ := csPhase_same ro { ro with phase := phaseIn ro.disabled ro.phase, sub := ro.sub.map (csSub · w) } w
    refine ⟨p1, fun hph _ => ?_⟩
    -- a Progressing, Terminating or Disabling rollout does not enter the last stage Healthy: its sub-status is kept
    have key : ∀ dis p, (p = .progressing ∨ p = .terminating ∨ p = .disabling) → phaseIn dis p ≠ .healthy := by decide
    rw [(p2 (key ro.disabled ro.phase hph)).1]
    cases ro.sub <;> rfl

theorem cs_hasFinalizer {ro ns : Rollout} {wl : Option WL} (h : calculateStatus ro wl = some ns) :
    ns.hasFinalizer = ro.hasFinalizer := by
  cases calculateStatus_inv h with
  | deleting => split <;> rfl
  | lost | lostDisabled => rfl
  | observed => rw [csPhase_eq]

theorem cs_term {ro ns : Rollout} {wl : Option WL} (h : calculateStatus ro wl = some ns) :
    ns.term = .completed → ro.term = .completed := by
  -- the status calculation writes the Terminating reason only to reset it or to start the termination
  have key : ∀ d dis a p, termAfter d dis a p ≠ some .completed := by decide
  intro hc
  rw [(cs_ctl h).2.2] at hc
  cases ht : termAfter ro.deleting ro.disabled (wl.map (·.inProgressAnno)) ro.phase with
  | none => rw [ht] at hc; exact hc
  | some t => rw [ht] at hc; cases hc; exact absurd ht (key _ _ _ _)

/-- the status calculation keeps both step indices of a stored sub-status, or (a sub-status created for a Healthy rollout,
    `csPhase_sub`) gives one whose next index is the natural successor -/
theorem cs_next {ro ns : Rollout} {wl : Option WL} (h : calculateStatus ro wl = some ns) :
    ∀ s', ns.sub = some s' →
      (∃ s, ro.sub = some s ∧ s'.curIdx = s.curIdx ∧ s'.nextIdx = s.nextIdx) ∨
      s'.nextIdx = nextBatchIndex ns.steps.length s'.curIdx := by
  intro s' hs'
  cases calculateStatus_inv h with
  | deleting => left; split at hs' <;> exact ⟨s', hs', rfl, rfl⟩
  | lost => cases hs'
  | lostDisabled => exact .inl ⟨s', hs', rfl, rfl⟩
  | observed _ w =>
    rcases csPhase_sub ro { ro with phase := phaseIn ro.disabled ro.phase, sub := ro.sub.map (csSub · w) } w with e | ⟨s, e, hn⟩
    · -- the stored sub-status, its observed fields refreshed
      rw [e] at hs'
      cases hro : ro.sub with
      | none => rw [hro] at hs'; cases hs'
      | some s0 => rw [hro] at hs'; cases hs'; exact .inl ⟨s0, rfl, rfl, rfl⟩
    · cases e.symm.trans hs'
      rw [(csPhase_same ro _ w).1.1]
      exact .inr hn

theorem cs_phase_alive {ro ns : Rollout} {wl : Option WL} (h : calculateStatus ro wl = some ns)
    (hph : ro.phase = .progressing) (hdel : ro.deleting = false) (hdis : ro.disabled = false) :
    ns.phase ≠ .terminating ∧ ns.phase ≠ .disabling := by
  have key : ∀ a, phaseAfter false false a .progressing ≠ .terminating ∧ phaseAfter false false a .progressing ≠ .disabling := by
    decide
  rw [(cs_ctl h).1, hph, hdel, hdis]
  exact key _

theorem finTask_total (c : Ctx) (wr : Bool) (h : c.ro.steps ≠ []) : finTask c wr ≠ none := by
  unfold finTask
  split <;> first | exact callTM_total _ _ _ h | simp

theorem doFinalising_total (c : Ctx) (r : Reason) (wr : Bool) (h : c.ro.steps ≠ []) : doFinalising c r wr ≠ none := by
  unfold doFinalising
  dsimp only
  rw [(stripAnno_frame c).2.1]
  have hne : c.ro.steps.isEmpty = false := by cases hs : c.ro.steps <;> simp_all
  simp only [hne, Bool.false_eq_true, if_false]
  split
  · simp
  · split
    · simp
    · -- the task runs on `finStart c r`, which carries the rollout of `c`
      rw [(stripAnno_frame c).1]
      have ht := finTask_total (finStart c r) wr (by rw [(finStart_frame c r).1]; exact h)
      split
      · rename_i hn; exact absurd hn ht
      · split <;> simp

theorem finalise_total (w : World) (ns : Rollout) (wl : Option WL) (r : Reason) (wr : Bool) (h : ns.steps ≠ []) :
    finalise w ns wl r wr ≠ none := by
  cases hsub : ns.sub with
  | none => rw [finalise_none wl r wr hsub]; simp
  | some s =>
    have e := finalise_eq w wl r wr hsub
    have := doFinalising_total (finCtx w ns s wl) r wr (by rw [finCtx_eq]; exact h)
    rw [e]
    cases hd : doFinalising (finCtx w ns s wl) r wr with
    | none => exact absurd hd this
    | some x => simp

theorem prStage3_total (c : Ctx) (h : c.ro.steps ≠ []) : prStage3 c ≠ none := by
  unfold prStage3
  have := callTM_total removeCanaryService c false h
  split
  · rename_i hn; exact absurd hn this
  · split <;> simp

theorem prStage2_total (c : Ctx) (h : c.ro.steps ≠ []) : prStage2 c ≠ none := by
  unfold prStage2
  dsimp only
  split
  · simp
  · exact prStage3_total _ h

/-- the cursor normalisation of the reset touches the cursor only -/
theorem prCursor_eq (c : Ctx) : prCursor c = { c with sub := { c.sub with finStep := (prCursor c).sub.finStep } } := by
  unfold prCursor; split <;> rfl

theorem prCursor_ro (c : Ctx) : (prCursor c).ro = c.ro := by rw [prCursor_eq]

theorem doProgressingReset_total (c : Ctx) (h : c.ro.steps ≠ []) : doProgressingReset c ≠ none := by
  have hne : c.ro.steps.isEmpty = false := by cases hs : c.ro.steps <;> simp_all
  have h1 : (prCursor c).ro.steps ≠ [] := by rw [prCursor_ro]; exact h
  unfold doProgressingReset
  split
  · simp
  · simp only [hne, Bool.false_eq_true, if_false]
    split
    · have := callTM_total restoreGateway (prCursor c) true h1
      split
      · rename_i hn; exact absurd hn this
      · rename_i c2 rt e hc
        split
        · simp
        · refine prStage2_total _ ?_
          dsimp only; rw [(callTM_tm hc).sameStep.ro]; exact h1
    · exact prStage2_total _ h1
    · exact prStage3_total _ h1

theorem doFinalising_keeps {c c' : Ctx} {reason : Reason} {wr d e : Bool} (h : doFinalising c reason wr = some (c', d, e)) :
    c'.sub.curIdx = c.sub.curIdx ∧ c'.sub.nextIdx = c.sub.nextIdx ∧ c'.ro = c.ro := by
  have hs : (finStart c reason).sub.curIdx = c.sub.curIdx ∧ (finStart c reason).sub.nextIdx = c.sub.nextIdx ∧
      (finStart c reason).ro = c.ro := by rw [finStart_eq]; exact ⟨rfl, rfl, rfl⟩
  have task : ∀ {c1 : Ctx} {rt er : Bool}, finTask (finStart c reason) wr = some (c1, rt, er) →
      c1.sub.curIdx = c.sub.curIdx ∧ c1.sub.nextIdx = c.sub.nextIdx ∧ c1.ro = c.ro := fun hrun => by
    have f := (finTask_frame hrun).1
    exact ⟨f.curIdx.trans hs.1, f.nextIdx.trans hs.2.1, f.ro.trans hs.2.2⟩
  cases doFinalising_inv h with
  | atEnd => obtain ⟨e1, e2, -⟩ := stripAnno_frame c; rw [e1, e2]; exact ⟨rfl, rfl, rfl⟩
  | restart => exact hs
  | stopped _ _ _ _ _ hrun => exact task hrun
  | advanced _ _ c1 hrun => exact task (c1 := c1) hrun

theorem finalise_frame {w w' : World} {ns : Rollout} {wl : Option WL} {reason : Reason} {wr done err : Bool} {ws : List String}
    (h : finalise w ns wl reason wr = some (w', done, err, ws)) :
    w'.ro = { ns with sub := w'.ro.sub } ∧
    (done = true → w'.ro.sub = none ∨ ∃ s', w'.ro.sub = some s' ∧ s'.finStep = .end_) ∧
    (∀ s', w'.ro.sub = some s' → ∃ s, ns.sub = some s ∧ s'.curIdx = s.curIdx ∧ s'.nextIdx = s.nextIdx) := by
  cases hsub : ns.sub with
  | none =>
    rw [finalise_none wl reason wr hsub] at h
    cases h
    exact ⟨rfl, fun _ => .inl hsub, fun s' hs' => by cases hsub.symm.trans hs'⟩
  | some s =>
    rw [finalise_eq w wl reason wr hsub] at h
    cases hd : doFinalising (finCtx w ns s wl) reason wr with
    | none => rw [hd] at h; cases h
    | some x =>
      rw [hd] at h
      cases h
      obtain ⟨a, b, _⟩ := doFinalising_keeps hd
      rw [finCtx_eq] at a b
      exact ⟨rfl, fun hdone => .inr ⟨_, rfl, (doFinalising_done hd hdone).1⟩,
        fun s' hs' => by cases hs'; exact ⟨s, rfl, a, b⟩⟩

theorem prStage3_sameStep {c c' : Ctx} {d e : Bool} (h : prStage3 c = some (c', d, e)) : SameStep c c' := by
  unfold prStage3 at h
  split at h
  · cases h
  · rename_i c1 _ _ hc
    split at h <;> (cases h; exact (callTM_tm hc).sameStep)

theorem prStage2_sameStep {c c' : Ctx} {d e : Bool} (h : prStage2 c = some (c', d, e)) : SameStep c c' := by
  unfold prStage2 at h
  dsimp only at h
  split at h
  · cases h; exact ⟨rfl, rfl, rfl, rfl, rfl, rfl, .inl rfl⟩
  · refine SameStep.trans ?_ (prStage3_sameStep h)
    exact ⟨rfl, rfl, rfl, rfl, rfl, rfl, .inr rfl⟩

theorem reset_sameStep {c c' : Ctx} {d e : Bool} (h : doProgressingReset c = some (c', d, e)) : SameStep c c' := by
  have hcur : SameStep c (prCursor c) := by rw [prCursor_eq]; exact ⟨rfl, rfl, rfl, rfl, rfl, rfl, .inl rfl⟩
  unfold doProgressingReset at h
  split at h
  · cases h; exact ⟨rfl, rfl, rfl, rfl, rfl, rfl, .inl rfl⟩
  · split at h
    · cases h
    · dsimp only at h
      split at h
      · split at h
        · cases h
        · rename_i c2 rt er hc
          have f := hcur.trans ((callTM_tm hc).sameStep)
          split at h
          · cases h; exact f
          · refine f.trans (SameStep.trans ?_ (prStage2_sameStep h))
            exact ⟨rfl, rfl, rfl, rfl, rfl, rfl, .inr rfl⟩
      · exact hcur.trans (prStage2_sameStep h)
      · exact hcur.trans (prStage3_sameStep h)

theorem reconcileCore_inconsistent {w : World} {wl : WL} {r : StepResult} (hdel : w.ro.deleting = false) (hwl : w.wl = some wl)
    (hc : wl.consistent = false) (h : reconcileCore w = .val r) : r.w.ro.sub = w.ro.sub := by
  have hfr := hf_frame w.ro
  rw [reconcileCore_wait (hwl ▸ calculateStatus_none (by rw [hfr]; simp [hdel]) (by simp [hc]))] at h
  cases h
  dsimp only [result]
  rw [hfr]

theorem reconcileCore_nowl {w : World} {r : StepResult} (hph : w.ro.phase = .progressing) (hndel : w.ro.deleting = false)
    (hw : w.wl = none) (h : reconcileCore w = .val r) : r.w.ro.sub = none ∨ r.w.ro.sub = w.ro.sub := by
  have hfr := hf_frame w.ro
  have live : ∀ wl, Live w wl → False := fun wl hl => by cases hw.symm.trans hl.readable
  cases reconcileCore_inv h with
  | wait | initErr | rollingErr | finErr => right; dsimp only [result]; rw [hfr]
  | idle ns hcs =>
    -- calculateStatus without a workload clears the sub-status or keeps it
    rw [hw] at hcs
    cases calculateStatus_inv hcs with
    | deleting _ hd => rw [hfr, hndel] at hd; cases hd
    | lost => left; rfl
    | lostDisabled => right; dsimp only [result]; rw [hfr]
  | initFresh _ _ wl hl | initDone _ _ wl hl | pausedNoSub _ _ wl hl | rolling _ _ wl hl | resumed _ _ wl hl
    | completed _ _ wl hl => exact (live wl hl).elim
  | finDone _ _ hc | finWait _ _ hc =>
    cases hc with
    | success wl hl | rollback wl hl => exact (live wl hl).elim
    | terminating hph' | disabling hph' => rw [hph] at hph'; cases hph'

/-- What the body leaves of the rollout. `unwritten`: the status is not written (wait, error), only the finalizer handling shows.
    `written`: the calculated status `ns` up to phase, reason, result, Terminating reason and sub-status; the Terminating reason
    moves only when a termination finishes (cursor at END, or no sub-status), the phase only to Healthy or out of Disabling. -/
inductive CoreRo (w : World) (r : StepResult) : Prop
  | unwritten (hro : r.w.ro = (handleFinalizer w.ro).1)
  | written (ns : Rollout) (hcs : calculateStatus (handleFinalizer w.ro).1 w.wl = some ns)
      (hfr : r.w.ro = { ns with phase := r.w.ro.phase, reason := r.w.ro.reason, succeeded := r.w.ro.succeeded,
                                term := r.w.ro.term, sub := r.w.ro.sub })
      (hterm : r.w.ro.term = ns.term ∨
        w.ro.phase = .terminating ∧ (r.w.ro.sub = none ∨ ∃ s', r.w.ro.sub = some s' ∧ s'.finStep = .end_))
      (hphase : r.w.ro.phase = ns.phase ∨ r.w.ro.phase = .healthy ∨ w.ro.phase = .disabling)

theorem reconcileCore_frame {w : World} {r : StepResult} (h : reconcileCore w = .val r) :
    r.roGone = (handleFinalizer w.ro).2.1 ∧ CoreRo w r := by
  cases reconcileCore_inv h with
  | wait | initErr | rollingErr | finErr => exact ⟨rfl, .unwritten rfl⟩
  | idle ns hcs | initFresh ns hcs | initDone ns hcs | pausedNoSub ns hcs | resumed ns hcs =>
    exact ⟨rfl, .written ns hcs rfl (.inl rfl) (.inl rfl)⟩
  | completed ns hcs => exact ⟨rfl, .written ns hcs rfl (.inl rfl) (.inr (.inl rfl))⟩
  | rolling ns hcs _ _ _ _ _ r0 hir =>
    have hfr := (inRolling_frame hir).1
    refine ⟨rfl, .written ns hcs ?_ (.inl ?_) (.inl ?_)⟩ <;> dsimp only [result] <;> rw [hfr]
  | finWait ns hcs _ w' _ hf =>
    have hfr := (finalise_frame hf).1
    refine ⟨rfl, .written ns hcs ?_ (.inl ?_) (.inl ?_)⟩ <;> dsimp only [result] <;> rw [hfr]
  | finDone ns hcs hc w' _ hf =>
    obtain ⟨hfr, hend, _⟩ := finalise_frame hf
    cases hc with
    | success | rollback => refine ⟨rfl, .written ns hcs ?_ (.inl ?_) (.inl ?_)⟩ <;> dsimp only [result] <;> rw [hfr]
    | terminating hph => refine ⟨rfl, .written ns hcs ?_ (.inr ⟨hph, hend rfl⟩) (.inl ?_)⟩ <;> dsimp only [result] <;> rw [hfr]
    | disabling hph => refine ⟨rfl, .written ns hcs ?_ (.inl ?_) (.inr (.inr hph))⟩ <;> dsimp only [result] <;> rw [hfr]

/-- a Progressing rollout that is neither being deleted nor disabled does not turn Terminating / Disabling -/
theorem alive_stays (w : World) (r : StepResult) (h : reconcileCore w = .val r) (hph : w.ro.phase = .progressing)
    (hdel : w.ro.deleting = false) (hdis : w.ro.disabled = false) :
    r.w.ro.phase ≠ .terminating ∧ r.w.ro.phase ≠ .disabling := by
  have hfr := hf_frame w.ro
  have e_phase : (handleFinalizer w.ro).1.phase = .progressing := by rw [hfr]; exact hph
  rcases (reconcileCore_frame h).2 with ⟨hro⟩ | ⟨ns, hcs, _, _, hp | hp | hp⟩
  · rw [hro, e_phase]; exact ⟨by simp, by simp⟩
  · rw [hp]; exact cs_phase_alive hcs e_phase (by rw [hfr]; exact hdel) (by rw [hfr]; exact hdis)
  · rw [hp]; exact ⟨by simp, by simp⟩
  · rw [hph] at hp; cases hp

/-- **the cursor reset concerns deletion and disabling only**: for a rollout that is neither being deleted nor disabled the
    whole reconcile is the body -/
theorem reconcile_eq_core (w : World) (hdel : w.ro.deleting = false) (hdis : w.ro.disabled = false) :
    reconcile w = reconcileCore w := by
  by_cases hph : w.ro.phase = .progressing
  · rw [reconcile_def]
    cases hc : reconcileCore w with
    | panic => rfl
    | val r0 =>
      obtain ⟨h1, h2⟩ := alive_stays w r0 hc hph hdel hdis
      simp only [Out.map]; rw [resetOnExit_of_stays w r0 h1 h2]
  · exact reconcile_eq_core_of_phase w hph

/-- One `inRolling` step seen from the sub-status `s` of the new status: every branch but four leaves step index, next
    index and sub-state as they are. -/
inductive SubMove (w : World) (old ns : Rollout) (s : Sub) (wl : WL) (r : StepResult) : Sub → Prop
  | keep (s' : Sub) (hcur : s'.curIdx = s.curIdx) (hnext : s'.nextIdx = s.nextIdx) (hst : s'.state = s.state) :
      SubMove w old ns s wl r s'
  | rollbackInBatch (os : Sub) (ho : old.sub = some os) (hrb : RolledBack os wl) (hib : InBatch ns) :
      SubMove w old ns s wl r { s with
        curIdx := 1, nextIdx := nextBatchIndex (ns.steps.length : Int) 1, canaryRev := wl.canaryRev,
        state := .init, lastUpdate := .fresh, hash := .same }
  | planSame (os : Sub) (ho : old.sub = some os) (hh : PlanChanged os) :
      SubMove w old ns s wl r { s with state := .ready, lastUpdate := .fresh, hash := .same }
  | planJump (os : Sub) (ho : old.sub = some os) (hh : PlanChanged os) (newIdx : Int) (s2 : Sub) (j : Bool)
      (hj : doCanaryJump ns { s with nextIdx := newIdx, lastUpdate := .fresh, hash := .same } = some (s2, j)) :
      SubMove w old ns s wl r s2
  | run (os : Sub) (ho : old.sub = some os) (hrb : ¬ RolledBack os wl) (hh : ¬ PlanChanged os) (hst : ¬ s.state = .completed)
      (c : Ctx) (err : Bool) (hrun : runCanary (toCtx { w with ro := ns } (fixNext ns s) wl) = .ok c err)
      (hw : r.w = ofCtx w c ns) :
      SubMove w old ns s wl r c.sub

theorem inRolling_move {w : World} {old ns : Rollout} {s : Sub} {wl : WL} {r : StepResult} {s' : Sub}
    (h : inRolling w old ns s wl = .val r) (hns : ns.sub = some s) (hs' : r.w.ro.sub = some s') :
    SubMove w old ns s wl r s' := by
  have unchanged : ns.sub = some s' → SubMove w old ns s wl r s' := fun h' => by
    cases hns.symm.trans h'; exact .keep _ rfl rfl rfl
  have reset : ∀ c d e, doProgressingReset (toCtx { w with ro := ns } s wl) = some (c, d, e) → SubMove w old ns s wl r c.sub :=
    fun c d e hreset => have f := reset_sameStep hreset; .keep _ f.curIdx f.nextIdx f.state
  cases ho : old.sub with
  | none => rw [(inRolling_nosub h ho).2.2] at hs'; exact unchanged hs'
  | some os =>
    cases inRolling_dispatch h ho with
    | cancelling => cases hs'; exact .keep _ rfl rfl rfl
    | paused | continuousBlueGreen | completed => exact unchanged hs'
    | rollbackInBatch _ hrb hib => cases hs'; exact .rollbackInBatch os ho hrb hib
    | reset _ _ _ _ c d e hreset =>
      cases d <;> cases e <;> cases hs' <;> exact reset c _ _ hreset
    | planSame _ _ _ hh => cases hs'; exact .planSame os ho hh
    | planJump _ _ _ hh newIdx _ _ _ j hj => cases hs'; exact .planJump os ho hh newIdx _ j hj
    | run _ hrb _ hh hst c err hrun => cases hs'; exact .run os ho hrb hh hst c err hrun rfl

/-- the status `Reconcile` works on for a Progressing rollout, with sub-status `s`: the rollout itself up to the finalizer (as
    `handleFinalizer` leaves it), the phase and the Terminating reason (as `calculateRolloutStatus` sets them) -/
def newStatus (ro : Rollout) (s : Sub) : Rollout :=
  { ro with hasFinalizer := (handleFinalizer ro).1.hasFinalizer, phase := livePhase ro, term := liveTerm ro, sub := some s }

/-- what `Reconcile` makes of the result `r0` of `doProgressingInRolling`: on an error the status is not written; otherwise
    `r0`'s world is written, with the clean-up cursor cleared if the rollout leaves Progressing for Terminating / Disabling -/
def land (w : World) (r0 : StepResult) : StepResult :=
  resetOnExit w
    (if r0.err = true then result w { r0.w with ro := (handleFinalizer w.ro).1 } false true ((handleFinalizer w.ro).2.2 ++ r0.writes)
     else result w r0.w r0.requeue false ((handleFinalizer w.ro).2.2 ++ r0.writes))

/-- the clean-up cursor after a reconcile that did not fail: cleared by the reset at the end of `Reconcile` if the rollout
    leaves Progressing for Terminating / Disabling -/
def landCursor (w : World) (r0 : StepResult) (s : Sub) : FinStep :=
  if exitsProgressing w (result w r0.w r0.requeue false ((handleFinalizer w.ro).2.2 ++ r0.writes)) = true then .empty else s.finStep

section land
variable (w : World) (r0 : StepResult)

@[simp] theorem land_br : (land w r0).w.br = r0.w.br := by unfold land; rw [resetOnExit_br]; split <;> rfl
@[simp] theorem land_net : (land w r0).w.net = r0.w.net := by unfold land; rw [resetOnExit_net]; split <;> rfl
@[simp] theorem land_wl : (land w r0).w.wl = r0.w.wl := by unfold land; rw [resetOnExit_wl]; split <;> rfl
@[simp] theorem land_writes : (land w r0).writes = (handleFinalizer w.ro).2.2 ++ r0.writes := by
  unfold land; rw [resetOnExit_writes]; split <;> rfl

@[simp] theorem land_err : (land w r0).err = r0.err := by
  unfold land
  rw [resetOnExit_err]
  split
  · rename_i h; exact h.symm
  · rename_i h; exact (Bool.not_eq_true _ ▸ h).symm

/-- the status after a reconcile that did not fail is the one `doProgressingInRolling` left, up to the clean-up cursor -/
theorem land_ro (he : r0.err = false) :
    (land w r0).w.ro = { r0.w.ro with sub := r0.w.ro.sub.map fun s => { s with finStep := landCursor w r0 s } } := by
  unfold land
  rw [if_neg (by simp [he]), resetOnExit_frame, resetOnExit_sub]
  rfl

end land

/-- the sub-status after a reconcile that did not fail is the one `doProgressingInRolling` left, with the cursor of `landCursor` -/
theorem land_sub {w : World} {r0 : StepResult} {s' : Sub} (he : r0.err = false) (hs' : (land w r0).w.ro.sub = some s') :
    ∃ s0, r0.w.ro.sub = some s0 ∧ s' = { s0 with finStep := landCursor w r0 s0 } := by
  rw [land_ro w r0 he] at hs'
  cases h0 : r0.w.ro.sub with
  | none => rw [h0] at hs'; cases hs'
  | some s0 => rw [h0] at hs'; cases hs'; exact ⟨s0, rfl, rfl⟩

theorem cs_live {w : World} {wl : WL} {os : Sub} {ns : Rollout} (hl : Live w wl) (hos : w.ro.sub = some os)
    (hcs : calculateStatus (handleFinalizer w.ro).1 w.wl = some ns) : ns = newStatus w.ro (liveSub w.ro wl os) := by
  rw [hl.readable, calculateStatus_progressing (by rw [hf_frame]; exact hl.progressing) hl.consistent] at hcs
  cases hcs
  rw [newStatus, hf_frame w.ro, hos]
  rfl

/-- **one reconcile of a rolling rollout with a readable workload**: the status it works on is the rollout's own up to
    finalizer, phase, Terminating reason and the observed rollout-id / generation; the dispatch is
    `doProgressingInRolling`'s; the result is landed by `land`. -/
theorem reconcile_live {w : World} {r : StepResult} {os : Sub} {wl : WL} (h : reconcile w = .val r)
    (hph : w.ro.phase = .progressing) (hr : w.ro.reason = .inRolling) (hos : w.ro.sub = some os) (hwl : w.wl = some wl)
    (hc : wl.consistent = true) :
    ∃ r0, inRolling w w.ro (newStatus w.ro (liveSub w.ro wl os)) (liveSub w.ro wl os) wl = .val r0 ∧ r = land w r0 := by
  obtain ⟨r1, h1, rfl⟩ := reconcile_val h
  obtain ⟨ns, hcs, hx⟩ := reconcileCore_rolling h1 ⟨hph, hwl, hc⟩ hr
  cases cs_live ⟨hph, hwl, hc⟩ hos hcs
  rcases hx with ⟨hn, _⟩ | ⟨s, r0, hs, hir, rfl⟩
  · cases hn
  · cases hs
    exact ⟨r0, hir, rfl⟩

theorem inRollingNow_iff (ro : Rollout) :
    inRollingNow ro = true ↔ ro.phase = .progressing ∧ ro.reason = .inRolling ∧ ro.deleting = false := by
  simp [inRollingNow, and_assoc]

theorem podsReady_iff (st : StepState) : podsReady st = true ↔ Upgraded st := by
  unfold podsReady Upgraded; cases st <;> simp

theorem not_upgraded_init : ¬ Upgraded .init := by unfold Upgraded; simp

theorem fullStep_iff (ro : Rollout) (s : Sub) (wl : WL) :
    fullStep ro s wl = true ↔ ∃ st, ro.steps[(s.curIdx - 1).toNat]? = some st ∧ ro.style = .canary ∧
      stepHasTraffic st = true ∧ ReleasesAll ro st wl := by
  unfold fullStep
  cases ro.steps[(s.curIdx - 1).toNat]? <;> simp [and_assoc]

theorem pinnedFirstStep_iff (ro : Rollout) (s : Sub) (wl : WL) :
    pinnedFirstStep ro s wl = true ↔ ∃ st, ro.steps[(s.curIdx - 1).toNat]? = some st ∧ ro.style = .canary ∧
      ro.disableGen = false ∧ stepHasTraffic st = true ∧ s.curIdx = 1 ∧ ¬ ReleasesAll ro st wl := by
  unfold pinnedFirstStep
  cases ro.steps[(s.curIdx - 1).toNat]? <;> simp [and_assoc, Decidable.imp_iff_not_or]

/-- **one reconcile of a rolling rollout, seen from its sub-status `os`**: the sub-status is dropped (no workload), or is `os`
    up to the clean-up cursor (no workload, inconsistent workload status, an error: the status is not written), or the
    reconcile is `doProgressingInRolling` on the new status, landed by `land`. -/
theorem reconcile_rolling {w : World} {r : StepResult} {os : Sub} (h : reconcile w = .val r)
    (hnow : inRollingNow w.ro = true) (hos : w.ro.sub = some os) :
    r.w.ro.sub = none ∨ (∃ f, r.w.ro.sub = some { os with finStep := f }) ∨
    ∃ wl r0, w.wl = some wl ∧ wl.consistent = true ∧ r0.err = false ∧
      inRolling w w.ro (newStatus w.ro (liveSub w.ro wl os)) (liveSub w.ro wl os) wl = .val r0 ∧ r = land w r0 := by
  obtain ⟨hph, hr, hndel⟩ := (inRollingNow_iff _).mp hnow
  -- a body that kept or dropped the sub-status: so does the reconcile, up to the cursor
  have kept : ∀ r1, r = resetOnExit w r1 → r1.w.ro.sub = none ∨ r1.w.ro.sub = some os →
      r.w.ro.sub = none ∨ ∃ f, r.w.ro.sub = some { os with finStep := f } := fun r1 e hk => by
    rw [e, resetOnExit_sub]
    rcases hk with hk | hk <;> rw [hk]
    · exact .inl rfl
    · exact .inr ⟨_, rfl⟩
  cases hw : w.wl with
  | none =>
    obtain ⟨r1, h1, e⟩ := reconcile_val h
    exact (kept r1 e ((reconcileCore_nowl hph hndel hw h1).imp id (·.trans hos))).imp id .inl
  | some wl =>
    cases hc : wl.consistent with
    | false =>
      obtain ⟨r1, h1, e⟩ := reconcile_val h
      exact (kept r1 e (.inr ((reconcileCore_inconsistent hndel hw hc h1).trans hos))).imp id .inl
    | true =>
      obtain ⟨r0, hir, e⟩ := reconcile_live h hph hr hos hw hc
      cases he : r0.err with
      | false => exact .inr (.inr ⟨wl, r0, rfl, hc, he, hir, e⟩)
      | true =>
        refine .inr (.inl ?_)
        rw [e, land, if_pos he, resetOnExit_sub]
        dsimp only [result]
        rw [hf_frame w.ro, hos]
        exact ⟨_, rfl⟩

end RV.Props.Reconcile
