/-
  C10 — supersession in the closed loop: while the Rollout controller resets a superseded release (`resetInv` of
  `RV.Oracle.ClosedLoop`), the canary route is withdrawn before the BatchRelease is deleted or the canary Service removed
  (`resetNet`), and no reconcile hands the workload back while the route carries weight (`rollbackRoutesFirst`).
-/
import RV.Lemmas.ClosedLoopTrafficDefs
import RV.Lemmas.ClosedLoopResetRo
import RV.Lemmas.ClosedLoopResetBr
import RV.Lemmas.ClosedLoopResetLabels
namespace RV.Lemmas.ClosedLoopTraffic
open RV.Arith RV.Traffic RV.RolloutSM RV.ClosedLoop RV.Oracle.ClosedLoop RV.Oracle.ClosedLoopTraffic RV.Lemmas.ClosedLoop
open RV.Props.Reconcile

/-- the labels under which the reset is followed: all but a further `release` and `delete` (one superseding release per
    history, `ReachR`) -/
def resetLabel : Label → Bool
  | .ro | .br | .env | .approve | .tick | .crash => true
  | _ => false

/-- the reset half of `supInv` (`RV.Oracle.ClosedLoop`) strengthened by the network clause `resetNet` -/
def RstInv (s : CS) : Prop := resetInv s = true ∧ resetCursor s = true ∧ resetNet s = true

/-- a transition of the reset region hands nothing back while the route is live, and stays in the region until the forward
    invariant holds again -/
def RstStep (s s' : CS) : Prop := rollbackRoutesFirst s s' = true ∧ (fwdInv s' = true ∨ RstInv s')

/-- the workload is held at partition 100 %, so no pod is exposed: `handedBack`'s exposure disjunct is dead in the reset region -/
theorem rst_expo (s : CS) (h : resetInv s = true) : expoOf s = 0 := by
  obtain ⟨_, w, hw, _, _, _, _, _, _, _, hpos, _, hheld, _⟩ := (resetInv_iff s).1 h
  unfold expoOf
  rw [hw]
  dsimp only
  rw [(held_iff w).1 hheld]
  exact exposure_pct100 w.replicas (by omega)

-- `rrf`: `rollbackRoutesFirst`
theorem rst_rrf_noroute (s s' : CS) (h : s'.net.canaryIng = none) : rollbackRoutesFirst s s' = true := by
  unfold rollbackRoutesFirst routeLive
  rw [h]
  simp

theorem rst_rrf_kept (s s' : CS) (hr : resetInv s = true) (hr' : resetInv s' = true)
    (hb : ∀ b, s.br = some b → ∃ b', s'.br = some b' ∧ b'.deleting = b.deleting ∧ b'.partition = b.partition) :
    rollbackRoutesFirst s s' = true := by
  have hh : handedBack s s' = false := by
    unfold handedBack
    rw [rst_expo s hr, rst_expo s' hr']
    cases hbo : s.br with
    | none => simp
    | some b =>
      obtain ⟨b', hb', hd, hp⟩ := hb b hbo
      rw [hb']
      dsimp only
      rw [hd, hp]
      cases b.deleting <;> cases b.partition <;> simp
  unfold rollbackRoutesFirst
  rw [hh]
  simp

theorem rst_rrf_same (s s' : CS) (hr : resetInv s = true) (hr' : resetInv s' = true) (hb : s'.br = s.br) :
    rollbackRoutesFirst s s' = true :=
  rst_rrf_kept s s' hr hr' (fun b hbo => ⟨b, by rw [hb]; exact hbo, rfl, rfl⟩)

theorem rst_net_iff (s : CS) (sub : Sub) (hs : s.ro.sub = some sub) :
    resetNet s = true ↔ ingOK s = true ∧ baseOK s = true ∧
      ((sub.finStep = .releaseWorkloadControl ∨ sub.finStep = .removeCanaryService) → s.net.canaryIng = none) ∧
      (∀ b, s.br = some b → b.deleting = true → s.net.canaryIng = none) := by
  unfold resetNet
  rw [hs]
  dsimp only
  have hcur : (!(sub.finStep == .releaseWorkloadControl || sub.finStep == .removeCanaryService) || s.net.canaryIng.isNone) = true ↔
      ((sub.finStep = .releaseWorkloadControl ∨ sub.finStep = .removeCanaryService) → s.net.canaryIng = none) := by
    by_cases h1 : sub.finStep = .releaseWorkloadControl <;> by_cases h2 : sub.finStep = .removeCanaryService <;> simp [h1, h2]
  rw [Bool.and_eq_true, Bool.and_eq_true, Bool.and_eq_true, hcur, and_assoc, and_assoc]
  refine and_congr_right fun _ => and_congr_right fun _ => and_congr_right fun _ => ?_
  cases hb : s.br with
  | none => simp
  | some b0 => cases hd : b0.deleting <;> simp [hd]

theorem rst_base_ext (s s' : CS) (ht : s'.ro.hasTraffic = s.ro.hasTraffic) (h1 : s'.net.stableExists = s.net.stableExists)
    (h2 : s'.net.stableIngress = s.net.stableIngress) : baseOK s' = baseOK s := by
  unfold baseOK
  rw [ht, h1, h2]

theorem rst_net_ext (s s' : CS) (sub sub' : Sub) (hs : s.ro.sub = some sub) (hs' : s'.ro.sub = some sub')
    (hf : sub'.finStep = sub.finStep) (ht : s'.ro.hasTraffic = s.ro.hasTraffic) (hd : s'.ro.disableGen = s.ro.disableGen)
    (hn : s'.net = s.net)
    (hb : ∀ b', s'.br = some b' → b'.deleting = true → ∃ b, s.br = some b ∧ b.deleting = true)
    (h : resetNet s = true) : resetNet s' = true := by
  obtain ⟨h1, h2, h3, h4⟩ := (rst_net_iff s sub hs).1 h
  refine (rst_net_iff s' sub' hs').2 ⟨?_, ?_, ?_, fun b' hb' hdel => ?_⟩
  · unfold ingOK at h1 ⊢
    rw [hn, ht, hd]; exact h1
  · rw [rst_base_ext s s' ht (by rw [hn]) (by rw [hn])]; exact h2
  · rw [hf, hn]; exact h3
  · obtain ⟨b, hbo, hbd⟩ := hb b' hb' hdel
    rw [hn]; exact h4 b hbo hbd

theorem rst_net_none (s' : CS) (sub' : Sub) (hs' : s'.ro.sub = some sub') (hi : s'.net.canaryIng = none)
    (hbase : baseOK s' = true) : resetNet s' = true :=
  (rst_net_iff s' sub' hs').2 ⟨(ingOK_iff s').2 (by rw [hi]; nofun), hbase, fun _ => hi, fun _ _ _ => hi⟩

theorem rst_start (s : CS) (rev : String) (h : trInv s = true) (hs : supersedeOK s rev = true) :
    RstInv { s with wl := s.wl.map (releaseWl rev) } := by
  obtain ⟨w, T⟩ := tr_at s h
  have hr := supersede_release s rev ((trInv_iff s).1 h).1 hs
  obtain ⟨hph, hre⟩ := supersedeOK_rolling hs
  obtain ⟨sub, hsub, _⟩ := (phaseInv_rolling_iff s w hph hre).1 T.fwd.pi
  obtain ⟨sg, hlink, hP⟩ := T.case.rolling_inv hph hre hsub
  refine ⟨hr, ?_, ?_⟩
  · simp only [resetCursor, hsub, sg.fin]
    simp
  · refine (rst_net_iff _ sub hsub).2 ⟨(ingOK_iff s).2 hP.ing, (baseOK_iff s).2 hP.base, fun hc => ?_, fun b hb hdel => ?_⟩
    · rw [sg.fin] at hc
      rcases hc with hc | hc <;> cases hc
    · have hb' : s.br = some b := hb
      rw [hb'] at hlink
      obtain ⟨_, _, hnd, _⟩ := (linkOK_iff s.ro sub b).1 hlink
      rw [hnd] at hdel; cases hdel

/-- a Rollout reconcile of the reset that does anything leaves the canary route withdrawn (`hnone`): without traffic routing
    there is none (`ingOK`); with it, `reset_round` withdraws it or the cursor is already past the gateway stage (`resetNet`). So
    `rollbackRoutesFirst` holds by its second disjunct whatever the reconcile hands back -/
theorem rst_ro (s s' : CS) (h : RstInv s) (hs : stepRo s = some s') : RstStep s s' := by
  obtain ⟨hr, hc, hn⟩ := h
  obtain ⟨hro, w, hw, hwok, _, _, hph, hre, ⟨sub, hsub, hrev, hne⟩, _⟩ := (resetInv_iff s).1 hr
  obtain ⟨hgone, hg⟩ := (roOK_iff s).1 hro
  obtain ⟨t, ht, hi⟩ := stepRo_reset s hr hc
  cases hs.symm.trans ht
  cases hcons : (roWl w).consistent with
  | false =>
    rw [stepRo_wait s w hgone hg hw hcons] at hs
    cases hs
    exact ⟨rst_rrf_same _ _ hr hr rfl, Or.inr ⟨hr, hc, hn⟩⟩
  | true =>
    obtain ⟨c, done, err, hd, hst⟩ := stepRo_rst s w sub hgone hg hw hwok hcons hph hre hsub hrev (fun e => hne e.symm)
    have R := reset_round _ c done err hd
    cases hs.symm.trans hst
    have e1 : (if err then s.ro else if done then { s.ro with sub := none, reason := .initializing }
        else { s.ro with sub := some c.sub }).hasTraffic = s.ro.hasTraffic := by
      cases err
      · cases done <;> rfl
      · rfl
    obtain ⟨hing, hbase, hcur, _⟩ := (rst_net_iff s sub hsub).1 hn
    have hnone : c.net.canaryIng = none := by
      cases htr : s.ro.hasTraffic with
      | false =>
        rw [R.noTraffic htr]
        show s.net.canaryIng = none
        unfold ingOK at hing
        cases hci : s.net.canaryIng with
        | none => rfl
        | some x => rw [hci, htr] at hing; simp at hing
      | true =>
        rcases R.route htr with a | ⟨a, b⟩
        · exact a
        · rw [b]; exact hcur a
    refine ⟨rst_rrf_noroute _ _ hnone, ?_⟩
    rcases hi with hi | ⟨a, b⟩
    · exact Or.inl hi
    · obtain ⟨_, _, _, _, _, _, _, _, ⟨sub', hs', _, _⟩, _⟩ := (resetInv_iff _).1 a
      exact Or.inr ⟨a, b, rst_net_none _ sub' hs' hnone (by rw [rst_base_ext s _ e1 R.stableExists R.stableIngress]; exact hbase)⟩

theorem rst_br (s s' : CS) (h : RstInv s) (hs : stepBr s = some s') : RstStep s s' := by
  obtain ⟨hr, hc, hn⟩ := h
  obtain ⟨t, ht, hi⟩ := stepBr_reset s hr
  rw [hs] at ht
  cases ht
  have hcur' := stepBr_cursor s s' hc hs
  obtain ⟨_, w, hw, _, _, _, _, _, ⟨sub, hsub, _, _⟩, _⟩ := (resetInv_iff s).1 hr
  obtain ⟨_, hbase, _, hdel⟩ := (rst_net_iff s sub hsub).1 hn
  rcases stepBr_cases hs with ⟨_, e⟩ | ⟨b, o, hb, hrec, e⟩
  · subst e
    exact ⟨rst_rrf_same _ _ hr hr rfl, Or.inr ⟨hr, hc, hn⟩⟩
  · subst e
    cases hob : o.br with
    | none =>
      obtain ⟨hd, _, _⟩ := exec_gone _ _ o hrec hob
      have hnone : s.net.canaryIng = none := hdel b hb hd
      exact ⟨rst_rrf_noroute _ _ hnone, Or.inr ⟨hi, hcur', rst_net_none (landBr s b o) sub hsub hnone hbase⟩⟩
    | some eb =>
      have hbr' : (landBr s b o).br = some (stLand b eb) := by
        show o.br.map (stLand b) = _
        rw [hob]; rfl
      refine ⟨rst_rrf_kept s _ hr hi (fun b0 hb0 => ?_),
        Or.inr ⟨hi, hcur', rst_net_ext s (landBr s b o) sub sub hsub hsub rfl rfl rfl rfl ?_ hn⟩⟩
      · rw [hb] at hb0
        cases hb0
        exact ⟨_, hbr', rfl, rfl⟩
      · intro b' hb' hd'
        rw [hbr'] at hb'
        cases hb'
        exact ⟨b, hb, hd'⟩

/-- what the labels other than the two reconciles keep of a state of the reset region, as far as `resetCursor` and `resetNet`
    read it -/
def RstKept (s s' : CS) : Prop :=
  s'.br = s.br ∧ s'.net = s.net ∧ s'.ro.hasTraffic = s.ro.hasTraffic ∧ s'.ro.disableGen = s.ro.disableGen ∧
  ∀ sub, s.ro.sub = some sub → ∃ sub', s'.ro.sub = some sub' ∧ sub'.finStep = sub.finStep

theorem rst_frame (s s' : CS) (h : RstInv s) (hr' : resetInv s' = true) (hk : RstKept s s') : RstStep s s' := by
  obtain ⟨hr, hc, hn⟩ := h
  obtain ⟨hbr, hnet, ht, hd, hsub⟩ := hk
  obtain ⟨_, _, _, _, _, _, _, _, ⟨sub, hs, _, _⟩, _⟩ := (resetInv_iff s).1 hr
  obtain ⟨sub', hs', hf⟩ := hsub sub hs
  refine ⟨rst_rrf_same s s' hr hr' hbr, Or.inr ⟨hr', ?_, ?_⟩⟩
  · unfold resetCursor at hc ⊢
    rw [hs] at hc
    rw [hs']
    dsimp only at hc ⊢
    rw [ht, hf, hbr]
    exact hc
  · refine rst_net_ext s s' sub sub' hs hs' hf ht hd hnet (fun b' hb' hdel => ?_) hn
    rw [hbr] at hb'
    exact ⟨b', hb', hdel⟩

theorem rst_idle {s s' : CS} (k : Idle s s') : RstKept s s' := by
  obtain ⟨⟨sub', age, mem', rfl⟩, hsub⟩ := k
  refine ⟨rfl, rfl, rfl, rfl, fun sub h => ?_⟩
  rcases hsub with ⟨h0, _⟩ | ⟨a, b, ha, hb, hab⟩
  · rw [h] at h0; cases h0
  · cases h.symm.trans ha
    exact ⟨b, hb, congrArg (·.finStep) hab.1⟩

theorem rst_step (s s' : CS) (l : Label) (h : RstInv s) (hl : resetLabel l = true) (hs : step s l = some s') :
    RstStep s s' := by
  have hr := h.1
  have wl : ∀ f, RstKept s { s with wl := s.wl.map f } := fun _ => ⟨rfl, rfl, rfl, rfl, fun sub h => ⟨sub, h, rfl⟩⟩
  cases l with
  | ro => exact rst_ro s s' h hs
  | br => exact rst_br s s' h hs
  | release rev => cases hl
  | delete => cases hl
  | env => cases hs; exact rst_frame s _ h (env_reset s hr) (wl envWl)
  | approve => cases hs; exact rst_frame s _ h (approve_reset s hr) (rst_idle (approve_idle s))
  | tick => cases hs; exact rst_frame s _ h (tick_reset s hr) (rst_idle (tick_idle s))
  | crash => cases hs; exact rst_frame s _ h (crash_reset s hr) (rst_idle (crash_idle s))

theorem resetNet_route (s : CS) (hn : resetNet s = true) :
    (∀ b, s.br = some b → b.deleting = true → s.net.canaryIng = none) ∧
    (∀ sub, s.ro.sub = some sub → (sub.finStep = .releaseWorkloadControl ∨ sub.finStep = .removeCanaryService) → s.net.canaryIng = none) := by
  cases hsub : s.ro.sub with
  | none => unfold resetNet at hn; rw [hsub] at hn; cases hn
  | some sub0 =>
    obtain ⟨_, _, c, d⟩ := (rst_net_iff s sub0 hsub).1 hn
    exact ⟨d, fun sub hs hf => by cases hs; exact c hf⟩

end RV.Lemmas.ClosedLoopTraffic
