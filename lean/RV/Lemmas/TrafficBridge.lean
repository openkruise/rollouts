import RV.Props.TrafficXConv
import RV.Lemmas.Traffic
import RV.Lemmas.TrafficXAtomic
/-!
# The nginx-only Manager `RV.Traffic` as the instance `nginxW` of the provider-parametric one

* the translations `ctxX` / `netX` / `outOld` and, for each of the seven Manager functions, the equation between the
  nginx-only function and the generic one at `nginxW` on a healthy API server (`…_is_instance`);
* `nginxW` is a lawful provider (`nginxW_lawful`: atomic around `ngPlan` / `ngFin`), strict, and does not fail on a healthy
  API server while the stable Ingress exists;
* the iterators and the clean-up measure of `RV/Lemmas/Traffic.lean` are those of `RV/Props/TrafficXConv.lean` at `nginxW`.

With these, the theorems of `RV/Props/TrafficXThms.lean` / `TrafficXConv.lean` are theorems about `RV.Traffic`
(`RV/Props/TrafficThms.lean`).
-/
namespace RV.Props.TrafficX
open RV.TrafficX RV.Traffic RV.Oracle.TrafficX

/-- the context of the nginx-only model as a context of the provider-parametric one (one ref, `OnlyTrafficRouting = false`, weight-only
    steps, default grace period 3 s) -/
def ctxX (c : TCtx) : XCtx (Option Nat) :=
  { hasRef := c.hasRef, grace := (c.grace : Int), extraGrace := [], defGrace := 3, strategy := c.weight,
    disableGen := c.disableGen, onlyTR := false, stableRev := c.stableRev, canaryRev := c.canaryRev,
    lastUpdate := c.lastUpdate, hasRevKey := c.hasRevKey }

/-- the network state of the nginx-only model: the provider's objects are (stable Ingress exists, canary weight) -/
def netX (n : Net) : XNet (Bool × Option Nat) :=
  ⟨n.stableExists, n.stableSel, n.canarySvc, (n.stableIngress, n.canaryIng)⟩

def netOld (n : XNet (Bool × Option Nat)) : Net := ⟨n.stableExists, n.stableSel, n.canarySvc, n.g.1, n.g.2⟩

/-- an outcome of the provider-parametric model seen as an outcome of the nginx-only one -/
def outOld (o : XOut (Bool × Option Nat)) : TOut := ⟨o.done, o.err, netOld o.net, o.mem, o.touched, o.writes⟩

theorem netOld_netX (n : Net) : netOld (netX n) = n := rfl
theorem netX_netOld (n : XNet (Bool × Option Nat)) : netX (netOld n) = n := rfl

theorem graceSec_ctxX (c : TCtx) : (ctxX c).graceSec = c.grace := by
  simp only [XCtx.graceSec, getGraceSeconds, ctxX, List.isEmpty_cons, Bool.false_eq_true, if_false, List.foldl_cons,
    List.foldl_nil]
  by_cases h : (0 : Int) < (c.grace : Int)
  · simp only [h, if_true]
    have : ¬ ((c.grace : Int) < 0) := by omega
    simp [this]
  · simp only [h, if_false]
    have : c.grace = 0 := by omega
    simp [this]

theorem doGrace_ctxX (c : TCtx) : (ctxX c).doGrace > 0 := by
  unfold XCtx.doGrace
  split
  · show (3 : Int) > 0; omega
  · rename_i h
    show ((c.grace : Nat) : Int) > 0
    have : ¬ (((c.grace : Nat) : Int) ≤ 0) := h
    omega

theorem noGen_ctxX (c : TCtx) : (ctxX c).noGen = c.disableGen := by simp [XCtx.noGen, ctxX]

/-- the Ingress `EnsureRoutes` of the nginx-only model reads only the two Ingress fields -/
theorem ensureRoutes_fields (n : Net) (w : Nat) :
    RV.Traffic.ensureRoutes ⟨true, none, none, n.stableIngress, n.canaryIng⟩ w = RV.Traffic.ensureRoutes n w := by
  unfold RV.Traffic.ensureRoutes; rfl

theorem patchStable_is_instance (c : TCtx) (n : Net) (m : Mem) :
    outOld (patchStableServiceX (ctxX c) Api.ok (netX n) m) = patchStableService c n m := by
  obtain ⟨se, ss, cs, si, ci⟩ := n
  unfold patchStableServiceX patchStableService
  simp only [noGen_ctxX, graceSec_ctxX, Api.read_ok, Api.spend_ok]
  by_cases h1 : c.hasRef = true
  · by_cases h2 : c.disableGen = true
    · simp [ctxX, h1, h2, outOld, XOut.same, netOld_netX]
    · by_cases h3 : se = true
      · by_cases h4 : ss.getD "" = c.stableRev
        · simp [ctxX, h1, h2, h3, h4, outOld, netOld, netX]
        · simp [ctxX, h1, h2, h3, h4, outOld, netOld, netX]
      · simp [ctxX, h1, h2, h3, outOld, XOut.same, netOld, netX]
  · simp [ctxX, h1, outOld, XOut.same, netOld_netX]

theorem restoreStable_is_instance (c : TCtx) (n : Net) (m : Mem) :
    outOld (restoreStableServiceX (ctxX c) Api.ok (netX n) m) = restoreStableService c n m := by
  obtain ⟨se, ss, cs, si, ci⟩ := n
  unfold restoreStableServiceX restoreStableService
  simp only [graceSec_ctxX, Api.read_ok, Api.spend_ok]
  by_cases h1 : c.hasRef = true
  · by_cases h3 : se = true
    · by_cases hk : c.hasRevKey = true
      · by_cases h4 : ss.getD "" = ""
        · simp [ctxX, h1, h3, hk, h4, outOld, netOld, netX]
        · simp [ctxX, h1, h3, hk, h4, outOld, netOld, netX]
      · simp [ctxX, h1, h3, hk, outOld, netOld, netX]
    · simp [ctxX, h1, h3, outOld, XOut.same, netOld, netX]
  · simp [ctxX, h1, outOld, XOut.same, netOld_netX]

theorem restoreGateway_is_instance (c : TCtx) (n : Net) (m : Mem) :
    outOld (restoreGatewayX (some nginxW) (ctxX c) Api.ok (netX n) m) = restoreGateway c n m := by
  obtain ⟨se, ss, cs, si, ci⟩ := n
  unfold restoreGatewayX restoreGateway finaliseGw
  simp only [graceSec_ctxX]
  by_cases h1 : c.hasRef = true
  · cases ci <;> simp [ctxX, h1, outOld, netOld, netX, nginxW]
  · simp [ctxX, h1, outOld, XOut.same, netOld_netX]

theorem removeCanary_is_instance (c : TCtx) (n : Net) (m : Mem) :
    outOld (removeCanaryServiceX (ctxX c) Api.ok (netX n) m) = removeCanaryService c n m := by
  obtain ⟨se, ss, cs, si, ci⟩ := n
  unfold removeCanaryServiceX removeCanaryService
  simp only [noGen_ctxX, graceSec_ctxX, Api.spend_ok]
  by_cases h1 : c.hasRef = true
  · by_cases h2 : c.disableGen = true
    · simp [ctxX, h1, h2, outOld, XOut.same, netOld_netX]
    · cases cs <;> simp [ctxX, h1, h2, outOld, netOld, netX]
  · simp [ctxX, h1, outOld, XOut.same, netOld_netX]

theorem nginxW_ensure_ok (n : Net) (w : Nat) :
    nginxW.ensure Api.ok (netX n).g (some w) =
      if (RV.Traffic.ensureRoutes n w).2.2 then ⟨(netX n).g, false, true, Api.ok, [], false⟩
      else ⟨(n.stableIngress, (RV.Traffic.ensureRoutes n w).1), (RV.Traffic.ensureRoutes n w).2.1, false, Api.ok,
        if (RV.Traffic.ensureRoutes n w).1 = n.canaryIng then []
        else if n.canaryIng.isNone then ["createCanaryIngress"] else ["patchCanaryIngress"], false⟩ := by
  simp only [nginxW, netX, ensureRoutes_fields, Api.spend_ok]
  split
  · rfl
  · split
    · rename_i h; simp only [h]
    · split <;> rfl

theorem routeAll_is_instance (c : TCtx) (n : Net) (m : Mem) :
    outOld (routeAllToNewX nginxOps (some nginxW) (ctxX c) Api.ok (netX n) m) = routeAllToNew c n m := by
  cases h1 : c.hasRef
  · simp [routeAllToNewX, routeAllToNew, ctxX, h1, outOld, XOut.same, netOld_netX]
  · have h1' : (ctxX c).hasRef = true := h1
    simp only [routeAllToNewX, routeAllToNew, h1, h1', graceSec_ctxX, nginxOps, nginxW_ensure_ok, not_true_eq_false,
      if_false]
    cases (RV.Traffic.ensureRoutes n 100).2.2 <;> rfl

theorem routeStep_is_instance (n : Net) (m : Mem) (w : Nat) :
    outOld (routeStepX (some nginxW) (some w) Api.ok (netX n) m) = routeStep n m w := by
  simp only [routeStepX, routeStep, nginxW_ensure_ok]
  cases (RV.Traffic.ensureRoutes n w).2.2 <;> rfl

theorem restoreGateway_nginx_healthy (c : TCtx) (n : Net) (m : Mem) :
    (restoreGatewayX (some nginxW) (ctxX c) Api.ok (netX n) m).panic = false ∧
    (restoreGatewayX (some nginxW) (ctxX c) Api.ok (netX n) m).a = Api.ok := by
  obtain ⟨se, ss, cs, si, ci⟩ := n
  unfold restoreGatewayX
  by_cases h1 : (ctxX c).hasRef = true
  · cases ci <;> simp [h1, netX, nginxW]
  · simp [h1, XOut.same]

theorem weight_is_step (c : TCtx) (w : Nat) (hw : c.weight = some w) : isStep nginxOps (ctxX c).strategy = true := by
  simp [isStep, nginxOps, ctxX, hw]

theorem svcStep_is_instance (c : TCtx) (n : Net) :
    svcStepX (ctxX c) Api.ok (netX n) =
      match svcStep c n with
      | none => .wait
      | some (n2, ws) => .ok (netX n2) ws Api.ok := by
  obtain ⟨se, ss, cs, si, ci⟩ := n
  unfold svcStepX svcStep
  simp only [noGen_ctxX, Api.read_ok, Api.spend_ok]
  by_cases hd : c.disableGen = true
  · simp [hd]
  · by_cases hr : c.stableRev = "" ∨ c.canaryRev = ""
    · simp [hd, hr, ctxX]
    · cases cs with
      | none =>
        by_cases hs : ss.getD "" = c.stableRev <;> simp [hd, hr, hs, ctxX, netX]
      | some r =>
        by_cases hrr : r = c.canaryRev <;> by_cases hs : ss.getD "" = c.stableRev <;>
          simp [hd, hr, hrr, hs, ctxX, netX]

/-- branch by branch: `doTR_cases` on the nginx side, the equations of `RV/Lemmas/TrafficXMgr.lean` on the other -/
theorem doTR_is_instance (c : TCtx) (n : Net) (m : Mem) :
    outOld (doTrafficRoutingX nginxOps (some nginxW) (ctxX c) Api.ok (netX n) m) = doTrafficRouting c n m := by
  rcases RV.Props.Traffic.doTR_cases c n m with ⟨h, e⟩ | ⟨w, href, hw, ⟨h, e⟩ | ⟨n2, ws, hs, hws, hex, hl, e⟩ | ⟨hex, hl, hk, e⟩⟩ <;>
    rw [e]
  · rw [doTRX_skip nginxOps (some nginxW) (ctxX c) Api.ok (netX n) m (h.imp id fun h => by simp [isStep, nginxOps, ctxX, h])]
    rfl
  · by_cases hq : n.stableExists = false ∨ c.lastUpdate = .fresh
    · rw [doTRX_wait (some nginxW) (netX n) m href (weight_is_step c w hw) rfl (hq.imp id fun h => ⟨h, doGrace_ctxX c⟩)]
      rfl
    · obtain ⟨hex, hl⟩ : n.stableExists = true ∧ c.lastUpdate ≠ .fresh := by simpa [not_or] using hq
      have hs : svcStep c n = none := (h.resolve_left (by simp [hex])).resolve_left hl
      rw [doTRX_toSvc (some nginxW) (netX n) m href (weight_is_step c w hw) rfl hex fun h => hl h.1]
      simp only [Api.read_ok, svcStep_is_instance, hs]
      rfl
  · rw [doTRX_svcRound (some nginxW) m href (weight_is_step c w hw) rfl hex (fun h => hl h.1)
      (by rw [svcStep_is_instance, hs]) hws]
    rfl
  · rw [doTRX_toSvc (some nginxW) (netX n) m href (weight_is_step c w hw) rfl hex fun h => hl h.1]
    simp only [Api.read_ok, svcStep_is_instance, show svcStep c n = some (n, []) from hk, ne_eq, not_true_eq_false, if_false,
      show (ctxX c).strategy = some w from hw]
    exact routeStep_is_instance n m w

/-- both sides are the same three calls in sequence: rewrite each nginx call as `outOld` of the generic one (the three instance
    equations), then compare the two ways of sequencing them case by case (`finX_cases`); `nginxW` neither panics nor spends the
    API (`restoreGateway_nginx_healthy`) -/
theorem finalising_is_instance (c : TCtx) (n : Net) (m : Mem) :
    outOld (finalisingTrafficRoutingX (some nginxW) (ctxX c) Api.ok (netX n) m) = finalisingTrafficRouting c n m := by
  cases h1 : c.hasRef
  · simp [finalisingTrafficRoutingX, finalisingTrafficRouting, ctxX, h1, outOld, netOld_netX]
  have hc := finX_cases (some nginxW) (ctxX c) Api.ok (netX n) m h1
  dsimp only at hc
  rw [rsX_healthy] at hc
  unfold finalisingTrafficRouting
  simp only [h1, not_true_eq_false, if_false]
  rw [← restoreStable_is_instance c n m]
  generalize restoreStableServiceX (ctxX c) Api.ok (netX n) m = r1 at *
  have e2 : restoreGateway c (outOld r1).net (outOld r1).mem = outOld (restoreGatewayX (some nginxW) (ctxX c) Api.ok r1.net r1.mem) :=
    (restoreGateway_is_instance c (netOld r1.net) r1.mem).symm
  rw [e2]
  have p2 := restoreGateway_nginx_healthy c (netOld r1.net) r1.mem
  change (restoreGatewayX (some nginxW) (ctxX c) Api.ok r1.net r1.mem).panic = false ∧
    (restoreGatewayX (some nginxW) (ctxX c) Api.ok r1.net r1.mem).a = Api.ok at p2
  rw [p2.2] at hc
  generalize restoreGatewayX (some nginxW) (ctxX c) Api.ok r1.net r1.mem = r2 at *
  have e3 : removeCanaryService c (outOld r2).net (outOld r2).mem = outOld (removeCanaryServiceX (ctxX c) Api.ok r2.net r2.mem) :=
    (removeCanary_is_instance c (netOld r2.net) r2.mem).symm
  rw [e3]
  generalize removeCanaryServiceX (ctxX c) Api.ok r2.net r2.mem = r3 at *
  rcases hc with ⟨h, e⟩ | ⟨he1, hd1, ⟨hp, _⟩ | ⟨_, h, e⟩ | ⟨_, he2, hd2, e⟩⟩
  · rw [e]; simp [outOld, h]
  · rw [p2.1] at hp; cases hp
  · rw [e]; simp [outOld, he1, hd1, h]
  · rw [e]
    cases he3 : r3.err <;> cases hd3 : r3.done <;> simp [outOld, he1, hd1, he2, hd2, he3, hd3]

/-- the step is carried by the canary Ingress -/
def ngSpec (g : Bool × Option Nat) : Option Nat → Prop
  | none => True
  | some w => g.2 = some w ∨ (w = 0 ∧ g.2 = none)

/-- rounds still needed: create (at weight 0), set, verify -/
def ngMu (g : Bool × Option Nat) : Option Nat → Nat
  | none => 0
  | some w =>
    match g.2 with
    | none => if w = 0 then 0 else 2
    | some x => if x = w then 0 else 1

/-- what `nginxW.ensure` decides: nothing to do; create at weight 0 (an error without the stable Ingress to copy); set the
    weight -/
def ngPlan (g : Bool × Option Nat) : Option Nat → Plan (Bool × Option Nat)
  | none => ⟨g, true, false, false, true⟩
  | some w =>
    match g.2 with
    | none => if w = 0 then ⟨g, true, false, false, true⟩ else if g.1 then ⟨(g.1, some 0), false, false, false, false⟩
        else ⟨g, false, true, false, true⟩
    | some x => if x = w then ⟨g, true, false, false, true⟩ else ⟨(g.1, some w), false, false, false, false⟩

def ngFin (g : Bool × Option Nat) : Plan (Bool × Option Nat) :=
  match g.2 with
  | none => ⟨g, false, false, false, true⟩
  | some _ => ⟨(g.1, none), true, false, false, false⟩

theorem nginxW_ensure_atomic (a : Api) (g : Bool × Option Nat) (s : Option Nat) :
    Atomic a g (ngPlan g s) (nginxW.ensure a g s) := by
  obtain ⟨si, ci⟩ := g
  cases s with
  | none => exact .idle ..
  | some w =>
    simp only [nginxW, ngPlan, RV.Traffic.ensureRoutes]
    cases ci with
    | none =>
      by_cases hw : w = 0
      · simpa [hw] using Atomic.idle a (si, none) ⟨(si, none), true, false, false, true⟩
      · cases si
        · simpa [hw] using Atomic.idle a (false, none) ⟨(false, none), false, true, false, true⟩
        · simp only [hw, if_false, if_true, reduceCtorEq, Option.isNone_none]
          exact Atomic.write a (true, none) (p := ⟨(true, some 0), false, false, false, false⟩) rfl
            (.cons (w := "createCanaryIngress") (by decide) .nil)
    | some x =>
      by_cases hx : x = w
      · simpa [hx] using Atomic.idle a (si, some w) ⟨(si, some w), true, false, false, true⟩
      · have hx' : ¬ w = x := fun h => hx h.symm
        simp only [hx, hx', if_false, Option.some.injEq, Option.isNone_some, Bool.false_eq_true]
        exact Atomic.write a (si, some x) (p := ⟨(si, some w), false, false, false, false⟩) rfl
          (.cons (w := "patchCanaryIngress") (by decide) .nil)

theorem nginxW_finalise_atomic (a : Api) (g : Bool × Option Nat) : Atomic a g (ngFin g) (nginxW.finalise a g) := by
  obtain ⟨si, ci⟩ := g
  cases ci with
  | none => exact .idle ..
  | some x => exact .write a (si, some x) rfl (.cons (w := "deleteCanaryIngress") (by decide) .nil)

/-- the plan never panics and fails only without the stable Ingress; it is the idle verified plan, when no round is
    needed and the Ingress carries the step, or it is not verified and (unless it fails) one round less is needed -/
theorem ngPlan_cases (g : Bool × Option Nat) (s : Option Nat) :
    (ngPlan g s).panic = false ∧ ((ngPlan g s).err = true → g.1 = false) ∧
    ((ngSpec g s ∧ ngPlan g s = ⟨g, true, false, false, true⟩) ∨
     ((ngPlan g s).flag = false ∧ ((ngPlan g s).err = true ∨ ngMu (ngPlan g s).g s < ngMu g s))) := by
  obtain ⟨si, ci⟩ := g
  cases s with
  | none => exact ⟨rfl, nofun, .inl ⟨trivial, rfl⟩⟩
  | some w =>
    cases ci with
    | none =>
      by_cases hw : w = 0
      · simp [ngPlan, ngSpec, hw]
      · have hw' : ¬ 0 = w := fun h => hw h.symm
        cases si <;> simp [ngPlan, ngMu, hw, hw']
    | some x =>
      by_cases hx : x = w
      · simp [ngPlan, ngSpec, hx]
      · simp [ngPlan, ngMu, hx]

/-- no plan touches the stable Ingress -/
theorem ngPlan_fst (g : Bool × Option Nat) (s : Option Nat) : (ngPlan g s).g.1 = g.1 := by
  obtain ⟨si, ci⟩ := g
  cases s with
  | none => rfl
  | some w =>
    cases ci with
    | none =>
      simp only [ngPlan]
      split
      · rfl
      · split <;> rfl
    | some x => simp only [ngPlan]; split <;> rfl

theorem ngFin_fst (g : Bool × Option Nat) : (ngFin g).g.1 = g.1 := by
  obtain ⟨si, ci⟩ := g
  cases ci <;> rfl

/-- **the weight-only nginx provider is lawful**, with any invariant that its plans keep: at most 2 rounds of rewriting (create at
    weight 0, set) -/
theorem nginxW_lawful_of {Inv : Bool × Option Nat → Prop} (he : ∀ g s, Inv g → Inv (ngPlan g s).g)
    (hf : ∀ g, Inv g → Inv (ngFin g).g) : LawfulProvider nginxW Inv ngSpec (fun g => g.2 = none) ngMu 2 := by
  refine .of_atomic ngPlan ngFin nginxW_ensure_atomic nginxW_finalise_atomic he hf ?strict ?fin ?progress ?μ_le
  case strict =>
    intro g s _ hf _ _
    rcases (ngPlan_cases g s).2.2 with ⟨h, e⟩ | ⟨h, _⟩
    · rw [e]; exact ⟨h, rfl, rfl⟩
    · rw [hf] at h; cases h
  case fin =>
    rintro ⟨si, ci⟩ -
    cases ci <;> exact ⟨rfl, rfl, rfl, rfl⟩
  case progress =>
    intro g s _ he _
    rcases (ngPlan_cases g s).2.2 with ⟨_, e⟩ | ⟨_, h | h⟩
    · rw [e]; exact ⟨nofun, Nat.le_refl _⟩
    · rw [he] at h; cases h
    · exact ⟨fun _ => h, Nat.le_of_lt h⟩
  case μ_le =>
    intro g s
    unfold ngMu
    split
    · omega
    · split <;> split <;> omega

theorem nginxW_lawful : LawfulProvider nginxW (fun _ => True) ngSpec (fun g => g.2 = none) ngMu 2 :=
  nginxW_lawful_of (fun _ _ _ => trivial) (fun _ _ => trivial)

/-- the stable Ingress, once there, stays -/
theorem nginxW_lawful_ing : LawfulProvider nginxW (fun g => g.1 = true) ngSpec (fun g => g.2 = none) ngMu 2 :=
  nginxW_lawful_of (fun g s hi => (ngPlan_fst g s).trans hi) (fun g hi => (ngFin_fst g).trans hi)

/-- with the stable Ingress in place the provider does not fail on a healthy API server -/
theorem nginxW_healthy (g : Bool × Option Nat) (s : Option Nat) (hi : g.1 = true) :
    (nginxW.ensure Api.ok g s).err = false ∧ (nginxW.ensure Api.ok g s).panic = false := by
  rw [(nginxW_ensure_atomic Api.ok g s).healthy]
  obtain ⟨hp, he, _⟩ := ngPlan_cases g s
  refine ⟨?_, hp⟩
  cases h : (ngPlan g s).err
  · rfl
  · rw [he h] at hi; cases hi

/-- it verifies only what it did not have to write -/
theorem nginxW_strict (a : Api) (g : Bool × Option Nat) (s : Option Nat) (hf : (nginxW.ensure a g s).flag = true) :
    (nginxW.ensure a g s).g = g ∧ (nginxW.ensure a g s).writes = [] := by
  have H := nginxW_ensure_atomic a g s
  generalize nginxW.ensure a g s = r at H hf ⊢
  cases H with
  | fault => cases hf
  | through _ _ _ hq =>
    rcases (ngPlan_cases g s).2.2 with ⟨_, e'⟩ | ⟨h, _⟩
    · rw [e'] at hq ⊢; exact ⟨rfl, (hq rfl).1⟩
    · rw [show (ngPlan g s).flag = true from hf] at h; cases h

/-! ## the iterators and the measure of the nginx-only model are the generic ones at `nginxW` -/

open RV.Props.Traffic (stepNet iterNet finIter leftover tick doTR_mem)

theorem iterNetX_nginx (c : TCtx) (m : Mem) (k : Nat) (n : Net) :
    iterNetX nginxOps nginxW (ctxX c) m k (netX n) = netX (iterNet c k n) := by
  induction k generalizing n with
  | zero => rfl
  | succ k ih =>
    show iterNetX nginxOps nginxW (ctxX c) m k (stepNetX nginxOps nginxW (ctxX c) m (netX n)) = netX (iterNet c k (stepNet c n))
    rw [← ih, stepNetX, ← netX_netOld (doTrafficRoutingX _ _ _ _ _ _).net,
      show netOld (doTrafficRoutingX nginxOps (some nginxW) (ctxX c) Api.ok (netX n) m).net =
        (outOld (doTrafficRoutingX nginxOps (some nginxW) (ctxX c) Api.ok (netX n) m)).net from rfl,
      doTR_is_instance, doTR_mem c n m Mem.empty, stepNet]

theorem finIterX_nginx (c : TCtx) (k : Nat) (s : XNet (Bool × Option Nat) × Mem) :
    finIter c k (netOld s.1, s.2) = (netOld (finIterX nginxW (ctxX c) k s).1, (finIterX nginxW (ctxX c) k s).2) := by
  induction k generalizing s with
  | zero => rfl
  | succ k ih =>
    show finIter c k ((finalisingTrafficRouting c (netOld s.1) s.2).net, tick (finalisingTrafficRouting c (netOld s.1) s.2).mem) = _
    rw [← finalising_is_instance c (netOld s.1) s.2]
    exact ih ((finalisingTrafficRoutingX (some nginxW) (ctxX c) Api.ok s.1 s.2).net,
      tick (finalisingTrafficRoutingX (some nginxW) (ctxX c) Api.ok s.1 s.2).mem)

theorem nginxW_finalise_flag (g : Bool × Option Nat) : (nginxW.finalise Api.ok g).flag = g.2.isSome := by
  obtain ⟨si, ci⟩ := g
  cases ci <;> rfl

theorem leftoverX_nginx (c : TCtx) (n : XNet (Bool × Option Nat)) (m : Mem) :
    leftover c (netOld n) m = leftoverX nginxW (ctxX c) n m := by
  simp only [leftover, leftoverX, pinWX, provWX, svcWX, nginxW_finalise_flag, noGen_ctxX]
  rfl

end RV.Props.TrafficX
