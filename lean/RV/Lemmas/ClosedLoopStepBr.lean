/-
  Label `br`: one BatchRelease reconcile preserves the forward invariant `fwdInv` (and cannot crash).
-/
import RV.Lemmas.ClosedLoop
import RV.Lemmas.ClosedLoopArith
import RV.Lemmas.ClosedLoopExec
import RV.Props.ClusterThms
namespace RV.Lemmas.ClosedLoop
open RV.Arith RV.Traffic RV.RolloutSM RV.ClosedLoop RV.Oracle.ClosedLoop RV.Oracle.Batch

/-- the CloneSet after the executor's patch landed: `wlLand` on a workload that exists on both sides -/
def landW (w : CWl) (ew : Executor.Workload) : CWl :=
  { w with partition := ew.partition, paused := ew.paused, owner := ew.owner,
           generation := if ew.partition ≠ w.partition ∨ ew.paused ≠ w.paused then w.generation + 1 else w.generation }

theorem wlLand_some (w : CWl) (ew : Executor.Workload) : wlLand (some w) (some ew) = some (landW w ew) := rfl

theorem wlOK_land (w : CWl) (ew : Executor.Workload) (h : wlOK w = true)
    (hp : ∀ k, ew.partition = some k → 0 ≤ scaledV k w.replicas true) : wlOK (landW w ew) = true := by
  unfold wlOK at h ⊢
  simp only [Bool.and_eq_true] at h ⊢
  obtain ⟨⟨⟨⟨h1, h2⟩, h3⟩, h4⟩, _⟩ := h
  refine ⟨⟨⟨⟨h1, h2⟩, h3⟩, h4⟩, ?_⟩
  show (match ew.partition with | some k => decide (0 ≤ scaledV k w.replicas true) | none => true) = true
  cases hk : ew.partition with
  | none => rfl
  | some k => exact decide_eq_true (hp k hk)

theorem effect_part_nonneg (br : Executor.BR) (w w' : Executor.Workload) (he : WlEffect br w w') (hR : 0 ≤ w.replicas)
    (hnn : br.status.noNeedUpdate = none) (hold : ∀ k, w.partition = some k → 0 ≤ scaledV k w.replicas true) :
    ∀ k, w'.partition = some k → 0 ≤ scaledV k w.replicas true := by
  cases he with
  | same => exact hold
  | init =>
    intro k hk
    simp only [Option.some.injEq] at hk
    subst hk
    rw [scaledV_pct100]; exact hR
  | upgrade e h0 hb =>
    intro k hk
    simp only [Option.some.injEq] at hk
    subst hk
    rw [hnn]
    exact desKnob_nonneg w.replicas e hR
  | release hf =>
    intro k hk
    split at hk
    · cases hk
    · exact hold k hk

theorem effect_within (br : Executor.BR) (w w' : Executor.Workload) (he : WlEffect br w w') (hR : 0 ≤ w.replicas)
    (hnn : br.status.noNeedUpdate = none) (hm : planMono w.replicas br.batches = true) (j : Nat) (ecur : IntOrPct)
    (hj : br.batches[j]? = some ecur) (hcb : br.status.currentBatch.toNat ≤ j) (hnf : br.status.phase ≠ .finalizing)
    (hold : ∃ k, w.partition = some k ∧ within w.replicas br.batches ecur k = true) :
    ∃ k, w'.partition = some k ∧ within w.replicas br.batches ecur k = true := by
  cases he with
  | same => exact hold
  | init => exact ⟨_, rfl, within_held w.replicas br.batches ecur hR⟩
  | upgrade e h0 hb =>
    refine ⟨_, rfl, ?_⟩
    rw [hnn]
    exact within_mono w.replicas br.batches e ecur _
      (planMono_le w.replicas br.batches hm _ j e ecur hcb hb hj)
      (within_desKnob w.replicas br.batches e _ hR hb)
  | release hf => exact absurd hf hnf

theorem brOK_land (b : CBr) (wl : Option Executor.Workload) (o : Executor.StepOut) (eb : Executor.BR)
    (hrec : Executor.reconcile (exBr b) wl = .val o) (hb : o.br = some eb) (h : brOK b = true) :
    brOK (stLand b eb) = true := by
  obtain ⟨hne, h0, hp0, hra, hnn⟩ := (brOK_iff b).1 h
  exact (brOK_iff (stLand b eb)).2
    ⟨hne, exec_batch_nonneg (exBr b) wl o eb hrec hb h0 hp0 hne, hp0, hra,
     exec_nn_none (exBr b) wl o eb hrec hb hra hnn⟩

theorem brOKo_land (b : CBr) (wl : Option Executor.Workload) (o : Executor.StepOut)
    (hrec : Executor.reconcile (exBr b) wl = .val o) (h : brOK b = true) :
    brOKo (o.br.map (stLand b)) = true := by
  cases hb : o.br with
  | none => rfl
  | some eb => exact brOK_land b wl o eb hrec hb h

theorem linkOK_land (ro : Rollout) (sub : Sub) (b : CBr) (w : Executor.Workload) (o : Executor.StepOut)
    (hrec : Executor.reconcile (exBr b) (some w) = .val o) (h : linkOK ro sub b = true) :
    linkOKo ro sub (o.br.map (stLand b)) = true := by
  obtain ⟨hpl, ⟨p, hp, hp0, hpc, hcb⟩, hd, hph⟩ := (linkOK_iff ro sub b).1 h
  cases hb : o.br with
  | none => rfl
  | some eb =>
    have hpe : (exBr b).partition = some p := hp
    refine (linkOK_iff ro sub (stLand b eb)).2 ⟨hpl, ⟨p, hp, hp0, hpc, ?_⟩, hd, ?_⟩
    · exact exec_batch_le (exBr b) (some w) o eb p hrec hb hpe hp0 hcb
    · exact Or.inr (exec_phase_live (exBr b) (some w) o eb hrec hb hd (by rw [hpe]; rfl) rfl hph)

theorem brLE_land (b : CBr) (wl : Option Executor.Workload) (o : Executor.StepOut)
    (hrec : Executor.reconcile (exBr b) wl = .val o) :
    RV.Props.Cluster.BrLE (some (roBr b)) ((o.br.map (stLand b)).map roBr) := by
  refine ⟨fun hc => (by cases hc), ?_⟩
  intro rb hrb hpn hpc
  simp only [Option.some.injEq] at hrb
  subst hrb
  cases hb : o.br with
  | none => exact Or.inl rfl
  | some eb =>
    right
    refine ⟨roBr (stLand b eb), rfl, hpn, ?_⟩
    have hc : b.st.phase = .completed := of_decide_eq_true hpc
    exact decide_eq_true (exec_completed_stays (exBr b) wl o eb hrec hb hc)

theorem stepBr_land (s : CS) (w : CWl) (b : CBr) (hw : s.wl = some w) (hb : s.br = some b) (hbok : brOK b = true)
    (hwok : wlOK w = true) :
    ∃ o ew, Executor.reconcile (exBr b) (some (exWl w)) = .val o ∧ o.wl = some ew ∧ WlEffect (exBr b) (exWl w) ew ∧
      stepBr s = some (landBr s b o) ∧ (landBr s b o).wl = some (landW w ew) ∧ wlOK (landW w ew) = true ∧
      brOKo (landBr s b o).br = true := by
  obtain ⟨_, h0, _, _, hnn⟩ := (brOK_iff b).1 hbok
  obtain ⟨hR, hpart⟩ := wlOK_facts w hwok
  cases hrec : Executor.reconcile (exBr b) (some (exWl w)) with
  | panic => exact absurd hrec (exec_total (exBr b) _ h0)
  | val o =>
    obtain ⟨ew, hew, heff⟩ := exec_wl_effect (exBr b) (exWl w) o hrec
    refine ⟨o, ew, rfl, hew, heff, stepBr_eq s b w o hb hw hrec, ?_,
      wlOK_land w ew hwok (effect_part_nonneg (exBr b) (exWl w) ew heff hR hnn hpart), brOKo_land b _ o hrec hbok⟩
    show wlLand s.wl o.wl = _
    rw [hw, hew]; rfl

/-- why `within` survives an executor write: the executor's batch index is ≤ the batch partition ≤ `curIdx − 1` (`linkOK`) and
    the plan is monotone, so the partition `UpgradeBatch` writes for its batch is within that batch (`within_desKnob`) and hence
    within the current step (`planMono_le`, `within_mono`); `init` claims at 100 %, which exposes nothing; `release` does not occur,
    a linked BatchRelease is not Finalizing -/
theorem phaseInv_landBr (s : CS) (w : CWl) (b : CBr) (o : Executor.StepOut) (ew : Executor.Workload)
    (hb : s.br = some b) (hrec : Executor.reconcile (exBr b) (some (exWl w)) = .val o)
    (heff : WlEffect (exBr b) (exWl w) ew) (hwok : wlOK w = true)
    (hmono : planMono w.replicas (planOf s.ro) = true) (hbok : brOK b = true)
    (hpi : phaseInv s w = true) : phaseInv (landBr s b o) (landW w ew) = true := by
  obtain ⟨_, _, _, _, hnn⟩ := (brOK_iff b).1 hbok
  obtain ⟨hR, _⟩ := wlOK_facts w hwok
  obtain ⟨hp, _, _, hr | hr⟩ := phaseInv_with_br s w b hb hpi
  · obtain ⟨sub, hs, hsub, hlink, hwc⟩ := (phaseInv_rolling_iff s w hp hr).1 hpi
    rw [hb] at hlink
    refine (phaseInv_rolling_iff (landBr s b o) (landW w ew) hp hr).2
      ⟨sub, hs, hsub, linkOK_land s.ro sub b (exWl w) o hrec hlink, ?_⟩
    obtain ⟨hpl, ⟨p, _, _, hpc, hcb⟩, _, _⟩ := (linkOK_iff s.ro sub b).1 hlink
    obtain ⟨k, ecur, hk, hj, hwk⟩ := (withinCur_iff s.ro sub w).1 hwc
    have hnf : (exBr b).status.phase ≠ .finalizing := linkOK_not_finalizing hlink
    have hcbj : (exBr b).status.currentBatch.toNat ≤ (sub.curIdx - 1).toNat := by
      show b.st.currentBatch.toNat ≤ _
      omega
    rw [← hpl] at hmono hj hwk
    obtain ⟨k', hk', hwk'⟩ := effect_within (exBr b) (exWl w) ew heff hR hnn hmono (sub.curIdx - 1).toNat ecur hj hcbj hnf
      ⟨k, hk, hwk⟩
    rw [hpl] at hj
    exact (withinCur_iff s.ro sub (landW w ew)).2 ⟨k', ecur, hk', hj, by rw [← hpl]; exact hwk'⟩
  · obtain ⟨sub, hs, hcur, hinv⟩ := (phaseInv_fin_iff s w hp hr).1 hpi
    rw [hb] at hinv
    exact (phaseInv_fin_iff (landBr s b o) (landW w ew) hp hr).2 ⟨sub, hs, hcur,
      RV.Props.Cluster.finInv_mono .success s.ro sub.finStep _ _ s.net s.net (RV.Props.Cluster.NetLE.refl _)
        (brLE_land b _ o hrec) hinv⟩

theorem stepBr_fwd (s : CS) (h : fwdInv s = true) : ∃ s', stepBr s = some s' ∧ fwdInv s' = true := by
  obtain ⟨w, hgone, hg, hw, hwok, hmono, hbrok, hpi⟩ := fwd_at s h
  cases hb : s.br with
  | none => exact ⟨s, stepBr_none s hb, h⟩
  | some b =>
    rw [hb] at hbrok
    obtain ⟨o, ew, hrec, _, heff, hstep, hwl', hwok', hbrok'⟩ := stepBr_land s w b hw hb hbrok hwok
    exact ⟨_, hstep, fwdInv_mk _ _ hgone hg hwl' hwok' hmono hbrok'
      (phaseInv_landBr s w b o ew hb hrec heff hwok hmono hbrok hpi)⟩

end RV.Lemmas.ClosedLoop
