import RV.Model.Traffic
/-!
The clock of the grace memory (`RV.Traffic.Mem`, `runGrace`), for every Manager over it: time passing between two rounds
(`tick`), a memory without a running period (`NoFresh`), the weight of an expectation in the clean-up measures (`expW`), and
what `runGrace` answers after a modification (`runGrace_modified`) and when no period is running (`runGrace_nofresh`).
-/
namespace RV.Props.Traffic
open RV.Traffic

def tickE : Exp → Exp
  | .fresh => .elapsed
  | e => e
/-- time passes: every grace period that was running has elapsed when the caller comes back -/
def tick (m : Mem) : Mem :=
  ⟨tickE m.patchService, tickE m.restoreService, tickE m.restoreGateway, tickE m.removeCanaryService, tickE m.updateRoute⟩

/-- no grace period of the clean-up (`RestoreStableService`, `RestoreGateway`, `RemoveCanaryService`) is still running -/
def NoFresh (m : Mem) : Prop := m.restoreService ≠ .fresh ∧ m.restoreGateway ≠ .fresh ∧ m.removeCanaryService ≠ .fresh

theorem tickE_ne_fresh (e : Exp) : tickE e ≠ .fresh := by cases e <;> simp [tickE]
theorem tick_noFresh (m : Mem) : NoFresh (tick m) := ⟨tickE_ne_fresh _, tickE_ne_fresh _, tickE_ne_fresh _⟩

def expW : Exp → Nat
  | .none => 0
  | _ => 1

theorem expW_tick_le (e : Exp) : expW (tickE e) ≤ expW e := by cases e <;> simp [expW, tickE]
theorem expW_le_one (e : Exp) : expW e ≤ 1 := by cases e <;> simp [expW]


/-- with a grace period configured, a modification starts a period and asks for the retry … -/
theorem runGrace_modified (g : Nat) (e : Exp) (hg : g ≠ 0) : runGrace g e true = (.fresh, true) := by
  simp [runGrace, hg]

/-- … and without one, no period running, nothing is pending -/
theorem runGrace_nofresh (g : Nat) (e : Exp) (hg : g ≠ 0) (he : e ≠ .fresh) : runGrace g e false = (.none, false) := by
  cases e <;> simp_all [runGrace]

end RV.Props.Traffic
