import RV.Model.Arith
/-!
Rounding and clamping facts about `RV.Model.Arith`: bounds of `ceilDiv100`; the clamp `keptStable` with its
bounds, monotonicity and values, to which `CalculateBatchReplicas` and `NewRSReplicasLimit` are related once
(`keptStable_eq_calc`, `newRSLimit_kept`); `exposure` of an integer knob and of `100%`; and one walk through `ParseIntegerAsPercentageIfPossible`
(`parsePct_spec`).  The control planes, the executor and the closed loop take their replica arithmetic from here.
-/
namespace RV.Arith
open IntOrPct

theorem ceilDiv100_ge (a : Int) : a ≤ 100 * ceilDiv100 a := by
  unfold ceilDiv100; omega

theorem ceilDiv100_lt (a : Int) : 100 * ceilDiv100 a < a + 100 := by
  unfold ceilDiv100; omega

theorem ceilDiv100_mono {a b : Int} (h : a ≤ b) : ceilDiv100 a ≤ ceilDiv100 b := by
  unfold ceilDiv100; omega

theorem ceilDiv100_nonneg {a : Int} (h : 0 ≤ a) : 0 ≤ ceilDiv100 a := by
  unfold ceilDiv100; omega

theorem ceilDiv100_mul100 (a : Int) : ceilDiv100 (100 * a) = a := by
  unfold ceilDiv100; omega

theorem floor_bracket {s R : Int} (hR : 0 < R) :
    (100 * s / R) * R ≤ 100 * s ∧ 100 * s < (100 * s / R) * R + R := by
  constructor
  · exact Int.ediv_mul_le _ (by omega)
  · have := Int.lt_ediv_add_one_mul_self (100 * s) hR
    have h2 : (100 * s / R + 1) * R = (100 * s / R) * R + R := by
      rw [Int.add_mul, Int.one_mul]
    omega

theorem scaledV_int (n R : Int) (up : Bool) : scaledV (int n) R up = n := rfl

theorem scaledV_pct100 (R : Int) : scaledV (pct 100) R true = R := ceilDiv100_mul100 R

/-! ### the clamp

`keptStable e R = max 0 (min R ⌈e⌉)` is one quantity under several names: the pods a partition keeps on the old
revision, the surge of the blue-green kinds (`Oracle.CtlBlueGreen.clampSurge`, the blue-green cases of
`BatchCtx.exposureOf`: the same body), and `CalculateBatchReplicas` floored at 0. -/

/-- for every size, also a corrupt negative one -/
theorem keptStable_eq_calc (e : IntOrPct) (R : Int) : keptStable e R = max 0 (calcBatchReplicas R e) := by
  simp only [keptStable, calcBatchReplicas]; omega

/-- … and for a size that is not negative the floor at 0 is not needed -/
theorem calcBatch_eq_clamp {R : Int} (hR : 0 ≤ R) (e : IntOrPct) : calcBatchReplicas R e = keptStable e R := by
  simp only [keptStable, calcBatchReplicas]; omega

theorem keptStable_nonneg (e : IntOrPct) (R : Int) : 0 ≤ keptStable e R := Int.le_max_left ..

theorem keptStable_le (e : IntOrPct) {R : Int} (hR : 0 ≤ R) : keptStable e R ≤ R := by
  unfold keptStable; omega

theorem keptStable_mono {a b : IntOrPct} {R : Int} (h : scaledV a R true ≤ scaledV b R true) :
    keptStable a R ≤ keptStable b R := by
  unfold keptStable; omega

theorem keptStable_int (n R : Int) : keptStable (int n) R = max 0 (min R n) := rfl

theorem keptStable_pct100 (R : Int) : keptStable (pct 100) R = max 0 R := by
  unfold keptStable; rw [scaledV_pct100]; omega

theorem calcBatch_nonneg (R : Int) (e : IntOrPct) (hR : 0 ≤ R) : 0 ≤ calcBatchReplicas R e :=
  calcBatch_eq_clamp hR e ▸ keptStable_nonneg e R

theorem calcBatch_le (R : Int) (e : IntOrPct) (hR : 0 ≤ R) : calcBatchReplicas R e ≤ R :=
  calcBatch_eq_clamp hR e ▸ keptStable_le e hR

theorem exposure_int (n R : Int) (h0 : 0 ≤ n) (h1 : n ≤ R) : exposure (int n) R = R - n := by
  unfold exposure; rw [keptStable_int]; omega

theorem exposure_anti {a b : Int} (r : Int) (h : a ≤ b) : exposure (int b) r ≤ exposure (int a) r :=
  Int.sub_le_sub_left (keptStable_mono (a := int a) (b := int b) h) _

theorem exposure_nonneg (p r : Int) (h : 0 ≤ r) : 0 ≤ exposure (int p) r :=
  Int.sub_nonneg_of_le (keptStable_le _ h)

theorem exposure_pct100_le (R : Int) : exposure (pct 100) R ≤ 0 := by
  unfold exposure
  rw [keptStable_pct100]
  omega

/-- the clamp is within what `CalculateBatchReplicas` plans, or within any `X` that is not negative -/
theorem keptStable_le_planned (e : IntOrPct) (R X : Int) (hX : 0 ≤ X) : keptStable e R ≤ max X (calcBatchReplicas R e) := by
  rw [keptStable_eq_calc]; omega

/-- `NewRSReplicasLimit` is the clamp, lowered to one pod below the size for a percentage under 100 -/
theorem newRSLimit_kept (p : IntOrPct) (r : Int) :
    0 ≤ newRSReplicasLimit p r ∧ newRSReplicasLimit p r ≤ keptStable p r := by
  unfold newRSReplicasLimit keptStable
  simp only []
  split <;> omega

/-- `ParseIntegerAsPercentageIfPossible` for a stable count `0 ≤ s ≤ R` answers a percentage `q` whose rounded-up
    value is not negative; which keeps fewer than `s` pods by strictly less than 1 % of `R` (by none when `R = 0`);
    keeps at most `s` outside the region where it falls back to "1%"; and keeps at least one pod when `s ≥ 1` and
    the entry is not "100%". -/
theorem parsePct_spec (s R : Int) (c : IntOrPct) (hR : 0 ≤ R) (hs0 : 0 ≤ s) (hs : s ≤ R) :
    ∃ q, parsePct s R c = pct q ∧ 0 ≤ scaledV (pct q) R true ∧
      100 * (s - keptStable (pct q) R) < max R 1 ∧
      (¬ (0 < s ∧ s < R ∧ 100 * s < R ∧ c ≠ pct 100) → keptStable (pct q) R ≤ s) ∧
      (1 ≤ s → c ≠ pct 100 → 1 ≤ scaledV (pct q) R true) := by
  unfold parsePct
  by_cases h1 : s ≥ R
  · rw [if_pos h1]; refine ⟨100, rfl, ?_⟩
    rw [keptStable_pct100, scaledV_pct100]; omega
  rw [if_neg h1]
  by_cases h2 : s ≤ 0
  · rw [if_pos h2]; refine ⟨0, rfl, ?_⟩
    have : scaledV (pct 0) R true = 0 := by simp [scaledV, scaled, ceilDiv100]
    unfold keptStable; rw [this]; omega
  rw [if_neg h2]
  -- Go's truncating division is floor division here; `q` is the floor of `100 s / R`, so `q R ≤ 100 s < q R + R`
  have hR' : 0 < R := by omega
  have htd : (s * 100).tdiv R = (100 * s) / R := by
    rw [Int.tdiv_eq_ediv_of_nonneg (by omega), Int.mul_comm]
  have hb := floor_bracket (s := s) hR'
  have hq0 : 0 ≤ (100 * s / R) * R := Int.mul_nonneg (Int.ediv_nonneg (by omega) hR) hR
  simp only [htd]
  generalize (100 * s) / R = q at hb hq0
  have hc1 := ceilDiv100_ge (q * R)
  have hc2 := ceilDiv100_lt (q * R)
  have hr1 := ceilDiv100_ge (1 * R)
  have hr2 := ceilDiv100_lt (1 * R)
  by_cases h3 : scaledV (pct q) R true ≤ 0 ∧ c ≠ pct 100
  · -- the fallback: restored ≤ 0 means `q R ≤ 0`, i.e. `100 s < R`
    rw [if_pos h3]; refine ⟨1, rfl, ?_⟩
    have h3' : ceilDiv100 (q * R) ≤ 0 := h3.1
    unfold keptStable
    simp only [scaledV, scaled, if_true] at *
    exact ⟨by omega, by omega, fun hg => absurd ⟨by omega, by omega, by omega, h3.2⟩ hg, by omega⟩
  · rw [if_neg h3]; refine ⟨q, rfl, ?_⟩
    unfold keptStable
    simp only [scaledV, scaled, if_true] at *
    refine ⟨by omega, by omega, fun _ => by omega, fun h1s hc => ?_⟩
    have : ¬ ceilDiv100 (q * R) ≤ 0 := fun h => h3 ⟨h, hc⟩
    omega

end RV.Arith
