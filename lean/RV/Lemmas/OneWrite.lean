/-!
A controller call that reads one object and issues at most one write: the shape of `Initialize`, `UpgradeBatch` and
`Finalize` of the partition-style control planes (`RV.CtlPDeploy`, `RV.CtlSts`).  A plane says what the call would write
and which API call fails, and inverts its `step` ONCE, into `Ran`; what is true of every such call under every fault —
which result comes with which object and how many writes, that a property of the object and of what would be written
survives the call, that a call which did not succeed changed nothing, that repeating a successful call changes nothing when
its write function is idempotent — is proved here, about `Ran`.
-/
namespace RV.OneWrite

section
variable {ω ρ : Type} (ok err : ρ)
  /- the size `util.ParseWorkload` reads (`none`: nil dereference, the call never returns), and the object the call's
     `Initialize` / `UpgradeBatch` / `Finalize` would write on an object of that size (`none`: it returns without a write) -/
  (size : ω → Option Int) (write : ω → Int → Option ω)
  /- which API call of `BuildController` or of the patch fails, and whether the call wraps its Get in `client.IgnoreNotFound` -/
  (getFails : Prop) (readFails : ω → Prop) (writeFails ignoreNotFound : Prop)

/-- `Ran … d res d' n`: the call on the stored object `d` returned `res`, left `d'` and issued `n` writes.
    The constructors follow `realBatchControlPlane.{Initialize,UpgradeBatch,Finalize}` through `BuildController`: the Get
    fails; the object is NotFound (`Finalize` ignores that, the other two return the error); a read after the Get fails
    (`ListOwnedPods`); the controller has nothing to patch; the patch fails; the patch is applied.  A nil size panics
    inside `BuildController` and has no constructor: `Ran` speaks of calls that return.
    To `cases` on `h : Ran … d o.res o.dep o.writes` destructure the outcome `o` first: the indices must be variables. -/
inductive Ran : Option ω → ρ → Option ω → Nat → Prop where
  | getErr {d} : getFails → Ran d err d 0
  | absentOk : ¬ getFails → ignoreNotFound → Ran none ok none 0
  | absentErr : ¬ getFails → ¬ ignoreNotFound → Ran none err none 0
  | readErr {w r} : ¬ getFails → size w = some r → readFails w → Ran (some w) err (some w) 0
  | noop {w r} : ¬ getFails → size w = some r → ¬ readFails w → write w r = none → Ran (some w) ok (some w) 0
  | failed {w r w'} : ¬ getFails → size w = some r → ¬ readFails w → write w r = some w' → writeFails →
      Ran (some w) err (some w) 1
  | written {w r w'} : ¬ getFails → size w = some r → ¬ readFails w → write w r = some w' → ¬ writeFails →
      Ran (some w) ok (some w') 1
end

variable {ω ρ : Type} {ok err : ρ} {size : ω → Option Int} {write write₂ : ω → Int → Option ω}
  {getFails getFails₂ : Prop} {readFails readFails₂ : ω → Prop} {writeFails writeFails₂ ignoreNotFound ignoreNotFound₂ : Prop}
  {d d' d₂ : Option ω} {res res₂ : ρ} {n n₂ : Nat}

theorem Ran.ok_or_err (h : Ran ok err size write getFails readFails writeFails ignoreNotFound d res d' n) :
    res = ok ∨ res = err := by
  cases h <;> first | exact .inl rfl | exact .inr rfl

/-- a call that returned without error: no object (and the call ignores that), nothing to write, or written -/
theorem Ran.ok_cases (h : Ran ok err size write getFails readFails writeFails ignoreNotFound d res d' n) (ne : ok ≠ err)
    (hok : res = ok) :
    (d = none ∧ d' = none ∧ ignoreNotFound) ∨
    ∃ w r, d = some w ∧ size w = some r ∧
      ((write w r = none ∧ d' = some w) ∨ ∃ w', write w r = some w' ∧ d' = some w') := by
  cases h with
  | absentOk _ hi => exact .inl ⟨rfl, rfl, hi⟩
  | noop _ hr _ hw => exact .inr ⟨_, _, rfl, hr, .inl ⟨hw, rfl⟩⟩
  | written _ hr _ hw => exact .inr ⟨_, _, rfl, hr, .inr ⟨_, hw, rfl⟩⟩
  | _ => exact absurd hok.symm ne

/-- the object afterwards is the one before, or what the call's single write put there -/
theorem Ran.obj (h : Ran ok err size write getFails readFails writeFails ignoreNotFound d res d' n) :
    (d' = d ∧ n ≤ 1 ∧ (d = none → n = 0)) ∨
    ∃ w r w', d = some w ∧ size w = some r ∧ write w r = some w' ∧ d' = some w' ∧ n = 1 := by
  cases h with
  | written _ hr _ hw => exact .inr ⟨_, _, _, rfl, hr, hw, rfl, rfl⟩
  | _ => exact .inl ⟨rfl, by omega, fun h => by first | rfl | cases h⟩

/-- what holds of the object before, and of whatever the call would write, holds afterwards — under every fault -/
theorem Ran.rel (P : Option ω → Prop) (h : Ran ok err size write getFails readFails writeFails ignoreNotFound d res d' n)
    (h0 : P d) (hw : ∀ w r w', d = some w → size w = some r → write w r = some w' → P (some w')) : P d' := by
  rcases h.obj with ⟨rfl, _⟩ | ⟨w, r, w', hd, hr, hs, rfl, _⟩
  · exact h0
  · exact hw w r w' hd hr hs

/-- fault safety: an error leaves the object alone; a failed Get or read is an error without a write; under a failing
    write the object stays, and the call succeeds only if it had nothing to write -/
theorem Ran.safe (h : Ran ok err size write getFails readFails writeFails ignoreNotFound d res d' n) (ne : ok ≠ err) :
    (res = err → d' = d) ∧ (getFails ∨ (∃ w, d = some w ∧ readFails w) → res = err ∧ n = 0) ∧
    (writeFails → d' = d ∧ (res = ok → n = 0)) := by
  have key : ∀ {w}, ¬ getFails → ¬ readFails w → getFails ∨ (∃ w₀, some w = some w₀ ∧ readFails w₀) → False :=
    fun hg hl h => h.elim hg (fun ⟨_, h, h'⟩ => by cases h; exact hl h')
  cases h with
  | getErr => exact ⟨fun _ => rfl, fun _ => ⟨rfl, rfl⟩, fun _ => ⟨rfl, fun _ => rfl⟩⟩
  | absentOk hg => exact ⟨fun _ => rfl, fun h => h.elim (absurd · hg) (fun ⟨_, h, _⟩ => nomatch h), fun _ => ⟨rfl, fun _ => rfl⟩⟩
  | absentErr hg => exact ⟨fun _ => rfl, fun h => h.elim (absurd · hg) (fun ⟨_, h, _⟩ => nomatch h), fun _ => ⟨rfl, fun _ => rfl⟩⟩
  | readErr => exact ⟨fun _ => rfl, fun _ => ⟨rfl, rfl⟩, fun _ => ⟨rfl, fun _ => rfl⟩⟩
  | noop hg _ hl => exact ⟨fun _ => rfl, fun h => (key hg hl h).elim, fun _ => ⟨rfl, fun _ => rfl⟩⟩
  | failed hg _ hl => exact ⟨fun _ => rfl, fun h => (key hg hl h).elim, fun _ => ⟨rfl, fun h => absurd h ne.symm⟩⟩
  | written hg _ hl _ hf => exact ⟨fun h => absurd h ne, fun h => (key hg hl h).elim, fun h => absurd h hf⟩

/-- a call that did not return `ok` left the object alone -/
theorem Ran.failed_same (h : Ran ok err size write getFails readFails writeFails ignoreNotFound d res d' n) (ne : ok ≠ err)
    (hne : res ≠ ok) : d' = d :=
  (h.safe ne).1 (h.ok_or_err.resolve_left hne)

/-- idempotence: if writing keeps the size, and on what it wrote (or found nothing to write on) the repeated call has
    nothing to write — or, where `Q`, the same again — then the repeated call, run without fault after a successful one,
    succeeds and changes nothing -/
theorem Ran.again {Q : Prop} (h₁ : Ran ok err size write getFails readFails writeFails ignoreNotFound d res d' n)
    (ne : ok ≠ err) (hok : res = ok)
    (h₂ : Ran ok err size write₂ getFails₂ readFails₂ writeFails₂ ignoreNotFound₂ d' res₂ d₂ n₂)
    (nofault : ¬ getFails₂ ∧ (∀ w, ¬ readFails₂ w) ∧ ¬ writeFails₂) (hnf : ignoreNotFound → ignoreNotFound₂)
    (hsize : ∀ w r w', size w = some r → write w r = some w' → size w' = some r)
    (hnone : ∀ w r, write w r = none → write₂ w r = none)
    (hsome : ∀ w r w', write w r = some w' → write₂ w' r = none ∨ (Q ∧ write₂ w' r = some w')) :
    res₂ = ok ∧ d₂ = d' ∧ (n₂ = 0 ∨ Q) := by
  obtain ⟨hg, hl, hf⟩ := nofault
  rcases h₁.ok_cases ne hok with ⟨_, rfl, h⟩ | ⟨w, r, _, hr, ⟨hn, rfl⟩ | ⟨w', hs, rfl⟩⟩
  · cases h₂ with
    | getErr h => exact absurd h hg
    | absentOk => exact ⟨rfl, rfl, .inl rfl⟩
    | absentErr _ hi => exact absurd (hnf h) hi
  · cases h₂ with
    | getErr h => exact absurd h hg
    | readErr _ _ h => exact absurd h (hl _)
    | noop => exact ⟨rfl, rfl, .inl rfl⟩
    | failed _ _ _ _ h => exact absurd h hf
    | written _ hr₂ _ hw _ => rw [hr] at hr₂; cases hr₂; rw [hnone _ _ hn] at hw; cases hw
  · have hr' := hsize w r w' hr hs
    cases h₂ with
    | getErr h => exact absurd h hg
    | readErr _ _ h => exact absurd h (hl _)
    | noop => exact ⟨rfl, rfl, .inl rfl⟩
    | failed _ _ _ _ h => exact absurd h hf
    | written _ hr₂ _ hw _ =>
      rw [hr'] at hr₂; cases hr₂
      rcases hsome _ _ _ hs with h | ⟨hq, h⟩ <;> rw [h] at hw <;> cases hw
      exact ⟨rfl, rfl, .inr hq⟩

end RV.OneWrite
