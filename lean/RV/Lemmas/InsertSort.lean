/-!
Insertion sorts.  The model has one per file that sorts (`sort.Slice` / `sort.Sort` / `table.sort` on short lists), each
with its own comparison and its own way of running the insertions: the head into the sorted tail (`perm_sort`: structural
recursion, and `foldr`, whose two equations hold by `rfl`) or the elements one after the other into an accumulator
(`perm_foldl`).  What they share: the insertion either puts the new element in front or goes past the head (`perm_insert`).
That alone makes every one of them a permutation; membership, length, `all` and sums are then read off `List.Perm`.
-/
namespace RV.InsertSort
variable {α : Type}

theorem perm_insert (ins : α → List α → List α) (nil : ∀ x, ins x [] = [x])
    (cons : ∀ x y ys, ins x (y :: ys) = x :: y :: ys ∨ ins x (y :: ys) = y :: ins x ys) (x : α) :
    ∀ l, (ins x l).Perm (x :: l)
  | [] => by rw [nil]
  | y :: ys => by
    rcases cons x y ys with e | e
    · rw [e]
    · rw [e]
      exact ((perm_insert ins nil cons x ys).cons y).trans (.swap x y ys)

section
variable {ins : α → List α → List α} (h : ∀ x l, (ins x l).Perm (x :: l))
include h

/-- a sort that inserts the head into the sorted tail -/
theorem perm_sort (sort : List α → List α) (nil : sort [] = []) (cons : ∀ x xs, sort (x :: xs) = ins x (sort xs)) :
    ∀ l, (sort l).Perm l
  | [] => by rw [nil]
  | x :: xs => by
    rw [cons]
    exact (h x _).trans ((perm_sort sort nil cons xs).cons x)

/-- a sort that inserts the elements one after the other into an accumulator -/
theorem perm_foldl : ∀ l acc : List α, (l.foldl (fun acc x => ins x acc) acc).Perm (l ++ acc)
  | [], _ => .refl _
  | x :: xs, acc => (perm_foldl xs (ins x acc)).trans (((h x acc).append_left xs).trans List.perm_middle)

end
end RV.InsertSort
