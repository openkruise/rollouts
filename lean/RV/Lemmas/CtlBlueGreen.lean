import RV.Oracle.CtlBlueGreen
import RV.Lemmas.Arith
/-!
Lemmas about the blue-green control-plane model, on which the property theorems of `RV.Props.CtlBlueGreenThms` rest.
Two ideas carry the file.  (1) Every write step other than the patch of the workload (`DisableHPA`, `RestoreHPA`, the
ReplicaSet patch) is a `StepTo P`: it writes nothing, or carries out its undisturbed effect `P` with exactly one write; the
effects `disabledW`, `enabledW`, `rsW` are idempotent and commute (`hpaW_idem`, `rsW_idem`, `rsW_hpaW`); so the inversions
`initialize_cases`, `upgrade_cases`, `finalize_cases` name the worlds a call can leave as these effects, and a patch of the
workload, applied to the world before.  (2) An undisturbed `Initialize` / `Finalize` is a function of the world (`initGoal`,
`finGoal`: `init_direct`, `finalize_direct`), and an attempt cut short by faults leaves that function's value unchanged
(`init_first`, `finalize_first`): hence `call_converges`, `idempotent_calls` (`UpgradeBatch`, with its one write, directly:
`upgrade_converges`).  All three calls start alike (`start_cases`: the Get, the workload, its size, with the crash on a nil
`spec.replicas`).  Between the two: the release invariant, why the calls do not crash, and the exposure patch by patch and
per call (`upgrade_exposure_ge`, `init_exposure_le`, `upgrade_within_step`, `exposure_within_plan` over histories).
-/
namespace RV.Lemmas.CtlBlueGreen
open RV.Arith IntOrPct RV.CtlBlueGreen RV.Oracle.CtlBlueGreen

theorem setHPA_frame (w : World) (v : Ver) (k : Nat) : (setHPA w v k).wl = w.wl ∧ (setHPA w v k).rss = w.rss := by
  cases v <;> exact ⟨rfl, rfl⟩

theorem hpaMatches_set (a : HPA) (k : Nat) (hm : hpaMatches a = true) : hpaMatches { a with name := some k } = true := by
  unfold hpaMatches at hm ⊢
  simp only [Bool.and_eq_true] at hm ⊢
  exact ⟨hm.1, rfl⟩

theorem findIn_setFirst (l : List HPA) (k0 k : Nat) (h : findIn l = some k0) :
    findIn (setFirst k l) = some k := by
  induction l with
  | nil => simp [findIn] at h
  | cons a t ih =>
    unfold findIn at h
    split at h
    · rename_i hm
      simp only [setFirst, hm, if_true, findIn, hpaMatches_set a k hm]
    · rename_i hm
      simp only [setFirst, hm, findIn, Bool.false_eq_true, if_false]
      exact ih h

theorem setFirst_idem (l : List HPA) (k : Nat) : setFirst k (setFirst k l) = setFirst k l := by
  induction l with
  | nil => rfl
  | cons a t ih =>
    by_cases hm : hpaMatches a = true
    · simp only [setFirst, hm, if_true, hpaMatches_set a k hm]
    · have hm' : hpaMatches a = false := by simpa using hm
      simp only [setFirst, hm', Bool.false_eq_true, if_false, ih]

/-- the HPA `lookupHPAForWorkload` finds when no List fails -/
def hpaOf (w : World) : Option (Ver × Nat) :=
  match findIn w.hpaV2 with
  | some k => some (.v2, k)
  | none => (findIn w.hpaV1).map ((.v1, ·))

theorem findHPA_noFault (w : World) : findHPA w noFault = .val (hpaOf w) := by
  unfold findHPA findVer noFault hpaOf
  simp only [Bool.false_eq_true, if_false]
  cases findIn w.hpaV2 with
  | some k => rfl
  | none => cases findIn w.hpaV1 <;> rfl

theorem findHPA_val (w : World) (f : Fault) (x : Option (Ver × Nat)) (h : findHPA w f = .val x) : x = hpaOf w := by
  unfold findHPA findVer at h
  unfold hpaOf
  cases h2 : f.listV2 <;> cases hk2 : findIn w.hpaV2 <;> simp only [h2, hk2, Bool.false_eq_true, if_false, if_true, reduceCtorEq] at h
  · cases h1 : f.listV1 <;> cases hk1 : findIn w.hpaV1 <;> simp only [h1, hk1, Bool.false_eq_true, if_false, if_true, reduceCtorEq] at h <;>
      cases h <;> rfl
  · cases h; rfl

theorem hpaOf_setHPA (w : World) (v : Ver) (k0 k : Nat) (h : hpaOf w = some (v, k0)) :
    hpaOf (setHPA w v k) = some (v, k) := by
  unfold hpaOf at h ⊢
  cases v <;> simp only [setHPA]
  · cases hk : findIn w.hpaV2 with
    | some k' => rw [findIn_setFirst _ _ k hk]
    | none => cases hk1 : findIn w.hpaV1 <;> simp [hk, hk1] at h
  · cases hk : findIn w.hpaV2 with
    | some k' => simp [hk] at h
    | none =>
      cases hk1 : findIn w.hpaV1 with
      | some k' => simp only [findIn_setFirst _ _ k hk1, Option.map_some]
      | none => simp [hk, hk1] at h

/-! ### `DisableHPA` and `RestoreHPA`

Both rename the HPA found to `t` copies of the suffix when its present count is `bad`: `DisableHPA` with `bad k := k = 0`
and `t := 1`, `RestoreHPA` with `bad k := k ≠ 0` and `t := 0`. -/

def hpaStep (bad : Nat → Bool) (t : Nat) (w : World) (f : Fault) (n : Nat) : World × Bool × Nat :=
  match findHPA w f with
  | .err => (w, false, n)
  | .val none => (w, true, n)
  | .val (some (v, k)) =>
    if bad k then if canWrite f n then (setHPA w v t, true, n + 1) else (w, false, n) else (w, true, n)

/-- the world after an undisturbed `hpaStep` -/
def hpaW (bad : Nat → Bool) (t : Nat) (w : World) : World :=
  match hpaOf w with
  | some (v, k) => if bad k then setHPA w v t else w
  | none => w

theorem disableHPA_eq (w : World) (f : Fault) (n : Nat) : disableHPA w f n = hpaStep (· == 0) 1 w f n := by
  unfold disableHPA hpaStep
  cases findHPA w f with
  | err => rfl
  | val x => rcases x with _ | ⟨v, k⟩ <;> simp

theorem restoreHPA_eq (w : World) (f : Fault) (n : Nat) : restoreHPA w f n = hpaStep (· != 0) 0 w f n := by
  unfold restoreHPA hpaStep
  cases findHPA w f with
  | err => rfl
  | val x => rcases x with _ | ⟨v, k⟩ <;> simp

/-- the world after an undisturbed `DisableHPA` -/
def disabledW (w : World) : World :=
  match findHPA w noFault with
  | .val (some (v, 0)) => setHPA w v 1
  | _ => w

theorem disabledW_eq (w : World) : disabledW w = hpaW (· == 0) 1 w := by
  unfold disabledW hpaW
  rw [findHPA_noFault]
  split
  · rename_i v h; rw [Lk.val.inj h]; rfl
  · rename_i h
    split
    · rename_i v k hk
      cases k with
      | zero => exact absurd (congrArg Lk.val hk) (h v)
      | succ k => rfl
    · rfl

theorem hpaW_of_ok (bad : Nat → Bool) (t : Nat) (w : World) (h : ∀ v k, hpaOf w = some (v, k) → bad k = false) :
    hpaW bad t w = w := by
  unfold hpaW
  split
  · rename_i v k hk; rw [h v k hk]; rfl
  · rfl

theorem hpaOf_hpaW (bad : Nat → Bool) (t : Nat) (ht : bad t = false) (w : World) (v : Ver) (k : Nat)
    (h : hpaOf (hpaW bad t w) = some (v, k)) : bad k = false := by
  unfold hpaW at h
  split at h
  · rename_i v' k' hk
    cases hb : bad k' with
    | true =>
      rw [hb, if_pos rfl, hpaOf_setHPA w v' k' t hk] at h
      cases h; exact ht
    | false =>
      rw [hb, if_neg Bool.false_ne_true, hk] at h
      cases h; exact hb
  · rename_i hk; rw [hk] at h; cases h

theorem hpaW_idem (bad : Nat → Bool) (t : Nat) (ht : bad t = false) (w : World) :
    hpaW bad t (hpaW bad t w) = hpaW bad t w :=
  hpaW_of_ok bad t _ (hpaOf_hpaW bad t ht w)

theorem hpaW_frame (bad : Nat → Bool) (t : Nat) (w : World) :
    (hpaW bad t w).wl = w.wl ∧ (hpaW bad t w).rss = w.rss := by
  unfold hpaW
  split
  · split
    · exact setHPA_frame _ _ _
    · exact ⟨rfl, rfl⟩
  · exact ⟨rfl, rfl⟩

theorem setHPA_with_wl (w : World) (x : Option Workload) (v : Ver) (k : Nat) :
    setHPA { w with wl := x } v k = { setHPA w v k with wl := x } := by
  cases v <;> rfl

theorem setHPA_with_rss (w : World) (x : List RS) (v : Ver) (k : Nat) :
    setHPA { w with rss := x } v k = { setHPA w v k with rss := x } := by
  cases v <;> rfl

theorem hpaW_with_wl (bad : Nat → Bool) (t : Nat) (w : World) (x : Option Workload) :
    hpaW bad t { w with wl := x } = { hpaW bad t w with wl := x } := by
  unfold hpaW
  have : hpaOf { w with wl := x } = hpaOf w := rfl
  rw [this]
  split
  · split
    · rw [setHPA_with_wl]
    · rfl
  · rfl

theorem hpaW_with_rss (bad : Nat → Bool) (t : Nat) (w : World) (x : List RS) :
    hpaW bad t { w with rss := x } = { hpaW bad t w with rss := x } := by
  unfold hpaW
  have : hpaOf { w with rss := x } = hpaOf w := rfl
  rw [this]
  split
  · split
    · rw [setHPA_with_rss]
    · rfl
  · rfl

/-- Outcome `(w1, b, n1)` of a write step whose undisturbed effect on the world is `P`: nothing written — a success then
    means `P` had nothing to do, and without faults it is a success — or `P` carried out by one write. -/
def StepTo (P : World → World) (w : World) (f : Fault) (n : Nat) (w1 : World) (b : Bool) (n1 : Nat) : Prop :=
  (w1 = w ∧ n1 = n ∧ (b = true → P w = w) ∧ (f = noFault → b = true)) ∨ (w1 = P w ∧ n1 = n + 1 ∧ b = true)

section
variable {P : World → World} {w : World} {f : Fault} {n : Nat} {w1 : World} {b : Bool} {n1 : Nat}

theorem StepTo.world (h : StepTo P w f n w1 b n1) : w1 = w ∨ w1 = P w :=
  h.elim (fun h => Or.inl h.1) (fun h => Or.inr h.1)

theorem StepTo.done (h : StepTo P w f n w1 b n1) (hb : b = true) : w1 = P w :=
  h.elim (fun h => h.1.trans (h.2.2.1 hb).symm) (fun h => h.1)

theorem StepTo.writes (h : StepTo P w f n w1 b n1) : n ≤ n1 ∧ (n1 = n → w1 = w) :=
  h.elim (fun h => ⟨by omega, fun _ => h.1⟩) (fun h => ⟨by omega, by omega⟩)

theorem StepTo.ok (h : StepTo P w f n w1 b n1) (hf : f = noFault) : b = true :=
  h.elim (fun h => h.2.2.2 hf) (fun h => h.2.2)

end

theorem hpaStep_cases {bad : Nat → Bool} {t : Nat} {w : World} {f : Fault} {n : Nat} {w1 : World} {b : Bool} {n1 : Nat}
    (h : hpaStep bad t w f n = (w1, b, n1)) :
    (w1 = w ∧ n1 = n ∧ (b = true → hpaW bad t w = w) ∧ (f = noFault → b = true)) ∨
    (w1 = hpaW bad t w ∧ n1 = n + 1 ∧ b = true ∧ ∃ v k, hpaOf w = some (v, k) ∧ bad k = true) := by
  unfold hpaStep at h
  cases hx : findHPA w f with
  | err =>
    rw [hx] at h; cases h
    refine Or.inl ⟨rfl, rfl, nofun, fun hf => ?_⟩
    rw [hf, findHPA_noFault] at hx; cases hx
  | val x =>
    have hx' := findHPA_val w f x hx
    rw [hx] at h
    rcases x with _ | ⟨v, k⟩
    · cases h
      exact Or.inl ⟨rfl, rfl, fun _ => hpaW_of_ok _ _ _ (by rw [← hx']; intro v k h; cases h), fun _ => rfl⟩
    · simp only at h
      cases hb : bad k with
      | false =>
        rw [hb, if_neg Bool.false_ne_true] at h; cases h
        refine Or.inl ⟨rfl, rfl, fun _ => hpaW_of_ok _ _ _ ?_, fun _ => rfl⟩
        rw [← hx']; intro v' k' h; cases h; exact hb
      | true =>
        rw [hb, if_pos rfl] at h
        cases hc : canWrite f n with
        | true =>
          rw [hc, if_pos rfl] at h; cases h
          refine Or.inr ⟨?_, rfl, rfl, v, k, hx'.symm, hb⟩
          unfold hpaW; rw [← hx']; simp only [hb, if_true]
        | false =>
          rw [hc, if_neg Bool.false_ne_true] at h; cases h
          refine Or.inl ⟨rfl, rfl, nofun, fun hf => ?_⟩
          rw [hf] at hc; cases hc

/-- the world after an undisturbed `RestoreHPA` -/
def enabledW (w : World) : World := hpaW (· != 0) 0 w

theorem enabledW_wl (w : World) : (enabledW w).wl = w.wl := (hpaW_frame _ _ w).1

theorem patchFirstRS_idem (l : List RS) : patchFirstRS (patchFirstRS l) = patchFirstRS l := by
  induction l with
  | nil => rfl
  | cons a t ih =>
    cases hz : a.zero with
    | true => simp only [patchFirstRS, hz, if_true, ih]
    | false => simp only [patchFirstRS, hz, Bool.false_eq_true, if_false]

theorem patchFirstRS_of_not (l : List RS) (h : hasStableRS l = false) : patchFirstRS l = l := by
  induction l with
  | nil => rfl
  | cons a t ih =>
    simp only [hasStableRS, List.any_cons, Bool.or_eq_false_iff, Bool.not_eq_false'] at h
    simp only [patchFirstRS, h.1, if_true, ih h.2]

/-- the world after an undisturbed `patchStableRSMinReadySeconds` (Deployment control only; without a stable
    ReplicaSet the patch of the list changes nothing) -/
def rsW : Kind → World → World
  | .deployment, w => { w with rss := patchFirstRS w.rss }
  | .cloneSet, w => w

theorem rsW_idem (kind : Kind) (w : World) : rsW kind (rsW kind w) = rsW kind w := by
  cases kind
  · simp only [rsW, patchFirstRS_idem]
  · rfl

theorem rsW_frame (kind : Kind) (w : World) :
    (rsW kind w).wl = w.wl ∧ (rsW kind w).hpaV2 = w.hpaV2 ∧ (rsW kind w).hpaV1 = w.hpaV1 := by
  cases kind <;> exact ⟨rfl, rfl, rfl⟩

theorem rsW_hpaW (kind : Kind) (bad : Nat → Bool) (t : Nat) (w : World) :
    rsW kind (hpaW bad t w) = hpaW bad t (rsW kind w) := by
  cases kind
  · simp only [rsW, hpaW_with_rss, (hpaW_frame bad t w).2]
  · rfl

theorem stableRSStep_cases (kind : Kind) (w : World) (f : Fault) (n : Nat) (w1 : World) (b : Bool) (n1 : Nat)
    (h : stableRSStep kind w f n = (w1, b, n1)) : StepTo (rsW kind) w f n w1 b n1 := by
  unfold StepTo
  cases kind
  · simp only [stableRSStep, patchStableRS] at h
    cases hs : hasStableRS w.rss with
    | false =>
      rw [hs, if_neg Bool.false_ne_true] at h; cases h
      refine Or.inl ⟨rfl, rfl, fun _ => ?_, fun _ => rfl⟩
      simp only [rsW, patchFirstRS_of_not _ hs]
    | true =>
      rw [hs, if_pos rfl] at h
      cases hc : canWrite f n with
      | true => rw [hc, if_pos rfl] at h; cases h; exact Or.inr ⟨rfl, rfl, rfl⟩
      | false =>
        rw [hc, if_neg Bool.false_ne_true] at h; cases h
        refine Or.inl ⟨rfl, rfl, nofun, fun hf => ?_⟩
        rw [hf] at hc; cases hc
  · cases h; exact Or.inl ⟨rfl, rfl, fun _ => rfl, fun _ => rfl⟩

theorem disableHPA_to (w : World) (f : Fault) (n : Nat) (w1 : World) (b : Bool) (n1 : Nat)
    (h : disableHPA w f n = (w1, b, n1)) : StepTo disabledW w f n w1 b n1 := by
  rw [disableHPA_eq] at h
  simp only [StepTo, disabledW_eq]
  exact (hpaStep_cases h).imp id (fun h => ⟨h.1, h.2.1, h.2.2.1⟩)

theorem enabledW_idem (w : World) : enabledW (enabledW w) = enabledW w := hpaW_idem (· != 0) 0 rfl w

theorem disabledW_with_wl (w : World) (x : Option Workload) :
    disabledW { w with wl := x } = { disabledW w with wl := x } := by
  simp only [disabledW_eq, hpaW_with_wl]

/-- how every call of the control plane starts: the Get of the workload; no workload; `ParseWorkload` dereferences `spec.replicas`
    (a nil pointer crashes); else the call goes on (`k`) with the workload and its size -/
theorem start_cases {α : Type} {w : World} {f : Fault} {e n : Out α} {k : Workload → Int → Out α} {x : Out α}
    (h : (if f.get then e else
      match w.wl with
      | none => n
      | some wl =>
        match wl.replicas with
        | none => .panic
        | some R => k wl R) = x) :
    (f.get = true ∧ e = x) ∨ (f.get = false ∧ w.wl = none ∧ n = x) ∨
    (∃ wl, f.get = false ∧ w.wl = some wl ∧ wl.replicas = none ∧ .panic = x) ∨
    ∃ wl R, f.get = false ∧ w.wl = some wl ∧ wl.replicas = some R ∧ k wl R = x := by
  split at h
  · exact .inl ⟨‹_›, h⟩
  · have hg := (Bool.not_eq_true _).mp ‹_›
    split at h
    · exact .inr (.inl ⟨hg, ‹_›, h⟩)
    · split at h
      · exact .inr (.inr (.inl ⟨_, hg, ‹_›, ‹_›, h⟩))
      · exact .inr (.inr (.inr ⟨_, _, hg, ‹_›, ‹_›, h⟩))

/-- the world `Initialize` aims at, before the patch of the workload itself -/
def initBase (kind : Kind) (w : World) : World := rsW kind (disabledW w)

/-- the three worlds a cut-short `Initialize` can leave behind keep the workload and all lead to the same base -/
theorem initBase_stable (kind : Kind) (w X : World)
    (hX : X = w ∨ X = disabledW w ∨ X = initBase kind w) : X.wl = w.wl ∧ initBase kind X = initBase kind w := by
  unfold initBase at hX ⊢
  simp only [disabledW_eq] at hX ⊢
  rcases hX with h | h | h <;> rw [h]
  · exact ⟨rfl, rfl⟩
  · exact ⟨(hpaW_frame _ _ w).1, by rw [hpaW_idem (· == 0) 1 rfl]⟩
  · exact ⟨(rsW_frame kind _).1.trans (hpaW_frame _ _ w).1,
      by simp only [rsW_hpaW, hpaW_idem (· == 0) 1 rfl, rsW_idem]⟩

/-- cut short, `Initialize` leaves the world before, between or after `DisableHPA` and the ReplicaSet patch; without faults
    only an unreadable annotation cuts it short -/
theorem initialize_cases (kind : Kind) (w : World) (br : BR) (f : Fault) (out : CallOut)
    (h : cpInitialize kind w br f = .val out) :
    (out.world = w ∧ out.writes = 0 ∧
      ((f.get = true ∧ out.res = .err) ∨ (w.wl = none ∧ out.res = .notFound) ∨
       (out.res = .ok ∧ ∃ wl, w.wl = some wl ∧ controlled br wl = true))) ∨
    ∃ wl, w.wl = some wl ∧ controlled br wl = false ∧
      ((out.res ≠ .ok ∧ (out.world = w ∨ out.world = disabledW w ∨ out.world = initBase kind w) ∧
          (out.writes = 0 → out.world = w) ∧
          (f = noFault → getSetting wl.saved = none ∧ out.res = .badRequest ∧ out.world = initBase kind w)) ∨
       ∃ s, getSetting wl.saved = some s ∧ out.res = .ok ∧ out.writes ≠ 0 ∧
          out.world = { initBase kind w with wl := some (initPatch kind br (initSetting kind s wl) wl) }) := by
  unfold cpInitialize at h
  rcases start_cases h with ⟨hg, h⟩ | ⟨-, hw, h⟩ | ⟨_, _, _, _, h⟩ | ⟨wl, R, -, hw, hR, h⟩
  · cases h; exact Or.inl ⟨rfl, rfl, Or.inl ⟨hg, rfl⟩⟩
  · cases h; exact Or.inl ⟨rfl, rfl, Or.inr (Or.inl ⟨hw, rfl⟩)⟩
  · cases h
  cases hc : controlled br wl
  case true => rw [hc, if_pos rfl] at h; cases h; exact Or.inl ⟨rfl, rfl, Or.inr (Or.inr ⟨rfl, wl, hw, hc⟩)⟩
  rw [hc, if_neg Bool.false_ne_true] at h
  refine Or.inr ⟨wl, hw, hc, ?_⟩
  obtain ⟨w1, b1, n1, hd⟩ : ∃ w1 b1 n1, disableHPA w f 0 = (w1, b1, n1) := ⟨_, _, _, rfl⟩
  obtain ⟨w2, b2, n2, hs⟩ : ∃ w2 b2 n2, stableRSStep kind w1 f n1 = (w2, b2, n2) := ⟨_, _, _, rfl⟩
  have hD := disableHPA_to w f 0 w1 b1 n1 hd
  have hS := stableRSStep_cases kind w1 f n1 w2 b2 n2 hs
  rw [hd] at h
  cases b1
  · cases h
    exact Or.inl ⟨nofun, hD.world.imp_right Or.inl, hD.writes.2, fun hf => nomatch hD.ok hf⟩
  obtain rfl : w1 = disabledW w := hD.done rfl
  simp only at h
  have hwr : n2 = 0 → w2 = w := fun h0 =>
    (hS.writes.2 (by have := hS.writes.1; omega)).trans (hD.writes.2 (by have := hS.writes.1; omega))
  rw [hs] at h
  cases b2 <;> simp only at h
  · cases h
    exact Or.inl ⟨nofun, Or.inr hS.world, hwr, fun hf => nomatch hS.ok hf⟩
  have hw2 : w2 = initBase kind w := hS.done rfl
  cases hgs : getSetting wl.saved with
  | none => rw [hgs] at h; cases h; exact Or.inl ⟨nofun, Or.inr (Or.inr hw2), hwr, fun _ => ⟨rfl, rfl, hw2⟩⟩
  | some s =>
    rw [hgs] at h
    simp only at h
    cases hcw : canWrite f n2
    · rw [hcw, if_neg Bool.false_ne_true] at h; cases h
      exact Or.inl ⟨nofun, Or.inr (Or.inr hw2), hwr, fun hf => by rw [hf] at hcw; cases hcw⟩
    · rw [hcw, if_pos rfl] at h; cases h
      exact Or.inr ⟨s, rfl, rfl, Nat.succ_ne_zero _, by rw [hw2]⟩

theorem initialize_wl (kind : Kind) (w : World) (br : BR) (f : Fault) (out : CallOut)
    (h : cpInitialize kind w br f = .val out) :
    (out.world.wl = w.wl ∧ (out.res = .ok → ∃ wl, w.wl = some wl ∧ controlled br wl = true)) ∨
    (∃ wl s, w.wl = some wl ∧ controlled br wl = false ∧ getSetting wl.saved = some s ∧ out.res = .ok ∧
      out.world.wl = some (initPatch kind br (initSetting kind s wl) wl)) := by
  rcases initialize_cases kind w br f out h with ⟨hw, _, hr⟩ | ⟨wl, hw, hc, ⟨hne, hX, _⟩ | ⟨s, hgs, hok, _, ho⟩⟩
  · refine Or.inl ⟨by rw [hw], fun hok => ?_⟩
    rcases hr with ⟨_, hr⟩ | ⟨_, hr⟩ | ⟨_, hr⟩
    · rw [hok] at hr; cases hr
    · rw [hok] at hr; cases hr
    · exact hr
  · exact Or.inl ⟨(initBase_stable kind w _ hX).1, fun hok => absurd hok hne⟩
  · exact Or.inr ⟨wl, s, hw, hc, hgs, hok, by rw [ho]⟩

theorem init_took_control (kind : Kind) (w : World) (br : BR) (f : Fault) (out : CallOut) (wl : Workload)
    (h : cpInitialize kind w br f = .val out) (hw : w.wl = some wl) (hc : ¬ controlled br wl = true)
    (hok : out.res = .ok) :
    ∃ s, getSetting wl.saved = some s ∧
      out.world = { initBase kind w with wl := some (initPatch kind br (initSetting kind s wl) wl) } := by
  rcases initialize_cases kind w br f out h with
    ⟨_, _, ⟨_, hr⟩ | ⟨hn, _⟩ | ⟨_, wl', hw', hc'⟩⟩ | ⟨wl', hw', _, ⟨hne, _⟩ | ⟨s, hgs, _, _, e⟩⟩
  · rw [hok] at hr; cases hr
  · rw [hw] at hn; cases hn
  · rw [hw] at hw'; cases hw'; exact absurd hc' hc
  · exact absurd hok hne
  · rw [hw] at hw'; cases hw'; exact ⟨s, hgs, e⟩

theorem initPatch_claims (kind : Kind) (b : BR) (s : Setting) (wl : Workload) :
    (initPatch kind b s wl).ctl = .uid b.uid ∧
    (initPatch kind b s wl).saved = .some s ∧
    (initPatch kind b s wl).minReadySeconds = maxReady ∧
    ruUnavailable (initPatch kind b s wl).ru = some (.int 0) ∧
    ruSurge (initPatch kind b s wl).ru = some (.int 1) := by
  cases kind <;> exact ⟨rfl, rfl, rfl, rfl, rfl⟩

/-- the returns of `UpgradeBatch`, in the order of the code: the Get fails; no workload; size 0 (nothing to do); the workload does
    not validate (`badRequest`); the surge in force already covers the batch; the patch is written; the patch fails -/
def UpgradeCases (kind : Kind) (w : World) (br : BR) (f : Fault) (out : CallOut) : Prop :=
  (f.get = true ∧ out = ⟨w, .err, 0, none⟩) ∨
  (f.get = false ∧ w.wl = none ∧ out = ⟨w, .notFound, 0, none⟩) ∨
  (∃ wl R, f.get = false ∧ w.wl = some wl ∧ wl.replicas = some R ∧
    ((R = 0 ∧ out = ⟨w, .ok, 0, none⟩) ∨
     (R ≠ 0 ∧ ∃ e, entryOf br = some e ∧
       ((validate kind wl = false ∧ out = ⟨w, .badRequest, 0, none⟩) ∨
        (validate kind wl = true ∧ scaledV (curSurge wl) R true ≥ scaledV e R true ∧ out = ⟨w, .ok, 0, none⟩) ∨
        (validate kind wl = true ∧ scaledV (curSurge wl) R true < scaledV e R true ∧ canWrite f 0 = true ∧
          out = ⟨{ w with wl := some (upgradePatch kind e wl) }, .ok, 1, none⟩) ∨
        (validate kind wl = true ∧ scaledV (curSurge wl) R true < scaledV e R true ∧ canWrite f 0 = false ∧
          out = ⟨w, .err, 0, none⟩)))))

theorem upgrade_cases (kind : Kind) (w : World) (br : BR) (f : Fault) (out : CallOut)
    (h : cpUpgradeBatch kind w br f = .val out) : UpgradeCases kind w br f out := by
  unfold cpUpgradeBatch at h
  unfold UpgradeCases
  rcases start_cases h with ⟨hg, h⟩ | ⟨hg, hw, h⟩ | ⟨_, _, _, _, h⟩ | ⟨wl, R, hg, hw, hR, h⟩
  · cases h; exact Or.inl ⟨hg, rfl⟩
  · cases h; exact Or.inr (Or.inl ⟨hg, hw, rfl⟩)
  · cases h
  refine Or.inr (Or.inr ⟨wl, R, hg, hw, hR, ?_⟩)
  by_cases h0 : R = 0
  · rw [if_pos h0] at h; cases h; exact Or.inl ⟨h0, rfl⟩
  rw [if_neg h0] at h
  cases he : entryOf br with
  | none => rw [he] at h; cases h
  | some e =>
    rw [he] at h
    simp only at h
    refine Or.inr ⟨h0, e, rfl, ?_⟩
    cases hv : validate kind wl
    · rw [hv, if_pos (by simp)] at h; cases h; exact Or.inl ⟨rfl, rfl⟩
    rw [hv, if_neg (by simp)] at h
    by_cases hge : scaledV (curSurge wl) R true ≥ scaledV e R true
    · rw [if_pos hge] at h; cases h; exact Or.inr (Or.inl ⟨rfl, hge, rfl⟩)
    rw [if_neg hge] at h
    have hlt : scaledV (curSurge wl) R true < scaledV e R true := by omega
    cases hcw : canWrite f 0
    · rw [hcw, if_neg Bool.false_ne_true] at h; cases h; exact Or.inr (Or.inr (Or.inr ⟨rfl, hlt, rfl, rfl⟩))
    · rw [hcw, if_pos rfl] at h; cases h; exact Or.inr (Or.inr (Or.inl ⟨rfl, hlt, rfl, rfl⟩))

/-- the one write `UpgradeBatch` can make: the patch of the surge, on a validated workload whose surge in force does not cover the batch -/
structure Patched (kind : Kind) (w : World) (br : BR) (out : CallOut) (wl : Workload) (R : Int) (e : IntOrPct) : Prop where
  found : w.wl = some wl
  replicas : wl.replicas = some R
  nonzero : R ≠ 0
  entry : entryOf br = some e
  valid : validate kind wl = true
  less : scaledV (curSurge wl) R true < scaledV e R true
  ok : out.res = .ok
  writes : out.writes = 1
  world : out.world = { w with wl := some (upgradePatch kind e wl) }

theorem upgrade_world (kind : Kind) (w : World) (br : BR) (f : Fault) (out : CallOut)
    (h : cpUpgradeBatch kind w br f = .val out) :
    (out.world = w ∧ out.writes = 0) ∨ ∃ wl R e, Patched kind w br out wl R e := by
  rcases upgrade_cases kind w br f out h with ⟨_, ho⟩ | ⟨_, _, ho⟩ | ⟨wl, R, _, hw, hR, ⟨_, ho⟩ | ⟨h0, e, he, hc⟩⟩
  · subst ho; exact Or.inl ⟨rfl, rfl⟩
  · subst ho; exact Or.inl ⟨rfl, rfl⟩
  · subst ho; exact Or.inl ⟨rfl, rfl⟩
  rcases hc with ⟨_, ho⟩ | ⟨_, _, ho⟩ | ⟨hv, hlt, _, ho⟩ | ⟨_, _, _, ho⟩ <;> subst ho
  · exact Or.inl ⟨rfl, rfl⟩
  · exact Or.inl ⟨rfl, rfl⟩
  · exact Or.inr ⟨wl, R, e, hw, hR, h0, he, hv, hlt, rfl, rfl, rfl⟩
  · exact Or.inl ⟨rfl, rfl⟩

/-- `finishHPA` is `RestoreHPA` with its verdict as result; a write happens only if the HPA found carries the suffix -/
theorem finishHPA_eq (w : World) (f : Fault) (n : Nat) :
    ∃ w' b n', StepTo enabledW w f n w' b n' ∧ (n' ≠ n → ∃ v k, hpaOf w = some (v, k) ∧ k ≠ 0) ∧
      finishHPA w f n = ⟨w', if b then .ok else .err, n', none⟩ := by
  obtain ⟨w', b, n', hr⟩ : ∃ w' b n', restoreHPA w f n = (w', b, n') := ⟨_, _, _, rfl⟩
  refine ⟨w', b, n', ?_, ?_, by unfold finishHPA; rw [hr]; cases b <;> rfl⟩ <;> rw [restoreHPA_eq] at hr <;>
    rcases hpaStep_cases hr with h | ⟨h1, h2, h3, v, k, hk, hb⟩
  · exact Or.inl h
  · exact Or.inr ⟨h1, h2, h3⟩
  · exact fun hn => absurd h.2.1 hn
  · exact fun _ => ⟨v, k, hk, by simpa using hb⟩

theorem finishHPA_wl (w : World) (f : Fault) (n : Nat) : (finishHPA w f n).world.wl = w.wl := by
  obtain ⟨w', b, n', hT, _, ho⟩ := finishHPA_eq w f n
  rw [ho]
  rcases hT.world with e | e <;> rw [e]
  exact (hpaW_frame _ _ w).1

theorem finishHPA_noFault (w : World) (n : Nat) :
    (finishHPA w noFault n).world = enabledW w ∧ (finishHPA w noFault n).res = .ok := by
  obtain ⟨w', b, n', hT, _, ho⟩ := finishHPA_eq w noFault n
  obtain rfl := hT.ok rfl
  rw [ho]; exact ⟨hT.done rfl, rfl⟩

/-- the tail of `Finalize` from world `w1` after `n` writes: the wait does not pass (`retry`, nothing more happens), or it passes
    and the outcome is that of `RestoreHPA` -/
def FinWait (kind : Kind) (wl d : Workload) (w1 : World) (f : Fault) (n : Nat) (out : CallOut) : Prop :=
  (waitStep kind wl d = .val false ∧ out = ⟨w1, .retry, n, none⟩) ∨
  (waitStep kind wl d = .val true ∧ out = finishHPA w1 f n)

theorem finishWait_cases {kind : Kind} {wl d : Workload} {w1 : World} {f : Fault} {n : Nat} {out : CallOut}
    (h : finishWait kind wl d w1 f n = .val out) : FinWait kind wl d w1 f n out := by
  unfold finishWait at h
  split at h
  · cases h
  · rename_i hw; cases h; exact Or.inl ⟨hw, rfl⟩
  · rename_i hw; cases h; exact Or.inr ⟨hw, rfl⟩

/-- the workload after the last patch of the Deployment `Finalize` (`forget`, on the world) -/
def forgetWl (wl : Workload) : Workload := { wl with saved := .none }

theorem forget_wl (w : World) (wl : Workload) (h : w.wl = some wl) : (forget w).wl = some (forgetWl wl) := by
  simp [forget, forgetWl, h]

theorem waitAll_forget (d : Workload) : waitAllUpdatedAndReady (forgetWl d) = waitAllUpdatedAndReady d := rfl

/-- the second patch of the Deployment control: after a success of the tail it removes the annotation (or fails) -/
theorem finishForget_cases (kind : Kind) (f : Fault) (o : CallOut) :
    (finishForget kind f o = o ∧ (kind = .cloneSet ∨ o.res ≠ .ok)) ∨
    (kind = .deployment ∧ o.res = .ok ∧
      (finishForget kind f o = ⟨forget o.world, .ok, o.writes + 1, none⟩ ∨
       (f ≠ noFault ∧ finishForget kind f o = ⟨o.world, .err, o.writes, none⟩))) := by
  cases kind
  · by_cases hok : o.res = .ok
    · refine Or.inr ⟨rfl, hok, ?_⟩
      cases hc : canWrite f o.writes
      · exact Or.inr ⟨fun hf => (by rw [hf] at hc; cases hc), by simp [finishForget, hok, hc]⟩
      · exact Or.inl (by simp [finishForget, hok, hc])
    · exact Or.inl ⟨by simp [finishForget, hok], Or.inr hok⟩
  · exact Or.inl ⟨rfl, Or.inl rfl⟩

/-- `Finalize` by cases.  Without a write: nil when there is no workload or the release is partitioned; or an error (without
    faults only on an un-restored workload whose saved annotation cannot be read).  Otherwise `o` is the outcome of the
    wait-and-restore tail (`FinWait`), run directly on a restored workload or after the restoring patch -/
theorem finalize_cases (kind : Kind) (w : World) (br : BR) (f : Fault) (out : CallOut)
    (h : cpFinalize kind w br f = .val out) :
    (out.world = w ∧ out.writes = 0 ∧
      ((out.res = .ok ∧ (w.wl = none ∨ br.partitioned = true)) ∨
       (out.res = .err ∧
         (f = noFault → ∃ wl, w.wl = some wl ∧ br.partitioned = false ∧ restored wl = false ∧ getSetting wl.saved = none)))) ∨
    ∃ wl d w1 n o, w.wl = some wl ∧ br.partitioned = false ∧ FinWait kind wl d w1 f n o ∧
      ((restored wl = true ∧ d = emptyDeployment ∧ w1 = w ∧ n = 0 ∧ out = o) ∨
       (restored wl = false ∧ ∃ s, getSetting wl.saved = some s ∧ d = finalizePatch kind s wl ∧
          w1 = { w with wl := some d } ∧ n = 1 ∧ out = finishForget kind f o)) := by
  unfold cpFinalize at h
  rcases start_cases h with ⟨hg, h⟩ | ⟨-, hw, h⟩ | ⟨_, _, _, _, h⟩ | ⟨wl, R, -, hw, hR, h⟩
  · cases h
    exact Or.inl ⟨rfl, rfl, Or.inr ⟨rfl, fun hf => by rw [hf] at hg; cases hg⟩⟩
  · cases h; exact Or.inl ⟨rfl, rfl, Or.inl ⟨rfl, Or.inl hw⟩⟩
  · cases h
  cases hp : br.partitioned
  case true => rw [hp, if_pos rfl] at h; cases h; exact Or.inl ⟨rfl, rfl, Or.inl ⟨rfl, Or.inr rfl⟩⟩
  rw [hp, if_neg Bool.false_ne_true] at h
  cases hr : restored wl
  case true =>
    rw [hr, if_pos rfl] at h
    exact Or.inr ⟨wl, _, w, 0, out, hw, rfl, finishWait_cases h, Or.inl ⟨hr, rfl, rfl, rfl, rfl⟩⟩
  rw [hr, if_neg Bool.false_ne_true] at h
  cases hgs : getSetting wl.saved with
  | none => rw [hgs] at h; cases h; exact Or.inl ⟨rfl, rfl, Or.inr ⟨rfl, fun _ => ⟨wl, hw, rfl, hr, hgs⟩⟩⟩
  | some s =>
    rw [hgs] at h
    simp only at h
    cases hcw : canWrite f 0
    · rw [hcw, if_pos (by simp)] at h; cases h
      exact Or.inl ⟨rfl, rfl, Or.inr ⟨rfl, fun hf => by rw [hf] at hcw; cases hcw⟩⟩
    rw [hcw, if_neg (by simp)] at h
    cases ho : finishWait kind wl (finalizePatch kind s wl) { w with wl := some (finalizePatch kind s wl) } f 1 with
    | panic => rw [ho] at h; cases h
    | val o =>
      rw [ho] at h; cases h
      exact Or.inr ⟨wl, _, _, 1, o, hw, rfl, finishWait_cases ho, Or.inr ⟨hr, s, hgs, rfl, rfl, rfl, rfl⟩⟩

theorem waitStep_empty (kind : Kind) (wl : Workload) (hk : kind = .deployment) :
    waitStep kind wl emptyDeployment = .val true := by
  subst hk; rfl

theorem waitStep_of_readyNow (kind : Kind) (wl d : Workload) (hst : d.status = wl.status)
    (h : readyNow kind d = true) : waitStep kind wl d = .val true := by
  cases kind
  · simp only [readyNow] at h
    simp only [waitStep]
    cases hw : waitAllUpdatedAndReady d with
    | panic => rw [hw] at h; cases h
    | val b => rw [hw] at h; simp only at h; rw [h]
  · simp only [readyNow, hst] at h
    simp only [waitStep, h]

theorem forgetWl_finalizePatch_cs (s : Setting) (wl : Workload) :
    forgetWl (finalizePatch .cloneSet s wl) = finalizePatch .cloneSet s wl := rfl

theorem FinWait_wl {kind : Kind} {wl d : Workload} {w1 : World} {f : Fault} {n : Nat} {o : CallOut}
    (h : FinWait kind wl d w1 f n o) : o.world.wl = w1.wl := by
  rcases h with ⟨_, ho⟩ | ⟨_, ho⟩ <;> subst ho
  · rfl
  · exact finishHPA_wl _ _ _

theorem FinWait_writes {kind : Kind} {wl d : Workload} {w1 : World} {f : Fault} {n : Nat} {o : CallOut}
    (h : FinWait kind wl d w1 f n o) : n ≤ o.writes ∧ (o.writes = n → o.world = w1) := by
  rcases h with ⟨_, rfl⟩ | ⟨_, rfl⟩
  · exact ⟨Nat.le_refl n, fun _ => rfl⟩
  · obtain ⟨w', b, n', hT, _, ho⟩ := finishHPA_eq w1 f n
    rw [ho]; exact hT.writes

theorem finalize_wl (kind : Kind) (w : World) (br : BR) (f : Fault) (out : CallOut)
    (h : cpFinalize kind w br f = .val out) :
    out.world.wl = w.wl ∨
    (∃ wl s, w.wl = some wl ∧ restored wl = false ∧ br.partitioned = false ∧ getSetting wl.saved = some s ∧
      (out.world.wl = some (finalizePatch kind s wl) ∨ out.world.wl = some (forgetWl (finalizePatch kind s wl)))) := by
  rcases finalize_cases kind w br f out h with ⟨e, _⟩ | ⟨wl, d, w1, n, o, hw, hp, hfw, hc⟩
  · exact Or.inl (by rw [e])
  have hwl := FinWait_wl hfw
  rcases hc with ⟨_, _, rfl, _, rfl⟩ | ⟨hr, s, hgs, rfl, rfl, _, rfl⟩
  · exact Or.inl hwl
  refine Or.inr ⟨wl, s, hw, hr, hp, hgs, ?_⟩
  rcases finishForget_cases kind f o with ⟨e, _⟩ | ⟨_, _, e | ⟨_, e⟩⟩ <;> rw [e]
  · exact Or.inl hwl
  · exact Or.inr (forget_wl _ _ hwl)
  · exact Or.inl hwl

/-- a `Finalize` that succeeds un-partitioned on an existing workload: the wait passed and `RestoreHPA` (`finishHPA`) succeeded,
    directly on a restored workload or after the restoring patch; on the patch path the saved annotation is gone afterwards
    (`forgetWl`) -/
theorem finalize_done (kind : Kind) (w : World) (br : BR) (f : Fault) (out : CallOut) (wl : Workload)
    (h : cpFinalize kind w br f = .val out) (hw : w.wl = some wl) (hp : br.partitioned = false) (hok : out.res = .ok) :
    ∃ d w1 n o,
      waitStep kind wl d = .val true ∧ o = finishHPA w1 f n ∧ o.res = .ok ∧
      ((restored wl = true ∧ d = emptyDeployment ∧ w1 = w ∧ n = 0 ∧ out = o) ∨
       (restored wl = false ∧ ∃ s, getSetting wl.saved = some s ∧ d = finalizePatch kind s wl ∧
          w1 = { w with wl := some d } ∧ n = 1 ∧ out = finishForget kind f o ∧
          out.world.wl = some (forgetWl d) ∧ out.world.hpaV2 = o.world.hpaV2 ∧ out.world.hpaV1 = o.world.hpaV1)) := by
  rcases finalize_cases kind w br f out h with ⟨_, _, ⟨_, hn | hp'⟩ | ⟨he, _⟩⟩ | ⟨wl', d, w1, n, o, hw', _, hfw, hc⟩
  · rw [hw] at hn; cases hn
  · rw [hp] at hp'; cases hp'
  · rw [hok] at he; cases he
  obtain rfl : wl = wl' := Option.some.inj (hw.symm.trans hw')
  -- the tail `o` succeeded: the second patch, where there is one, passes its verdict on
  have hook : o.res = .ok := by
    rcases hc with ⟨_, _, _, _, rfl⟩ | ⟨_, s, _, _, _, _, rfl⟩
    · exact hok
    · rcases finishForget_cases kind f o with ⟨e, _⟩ | ⟨_, h, _⟩
      · rw [← e]; exact hok
      · exact h
  rcases hfw with ⟨_, rfl⟩ | ⟨hwt, hfin⟩
  · cases hook
  refine ⟨d, w1, n, o, hwt, hfin, hook, hc.imp_right fun ⟨hr, s, hgs, hd, hw1, hn, ho⟩ => ⟨hr, s, hgs, hd, hw1, hn, ho, ?_⟩⟩
  have hwl : o.world.wl = some d := by rw [hfin, finishHPA_wl, hw1]
  rcases finishForget_cases kind f o with ⟨e, hk | hne⟩ | ⟨_, _, e | ⟨_, e⟩⟩
  · subst hk hd; rw [ho, e]; exact ⟨hwl, rfl, rfl⟩
  · exact absurd hook hne
  · rw [ho, e]; exact ⟨forget_wl _ _ hwl, rfl, rfl⟩
  · rw [ho, e] at hok; cases hok

theorem finalizePatch_ctl (kind : Kind) (s : Setting) (wl : Workload) :
    (forgetWl (finalizePatch kind s wl)).ctl = .none := by
  cases kind <;> rfl

/-- what a successful `Finalize` leaves of the control-info: it is gone, unless the release is partitioned, there is no workload,
    or the workload was found restored and is left as it was (the region of the guard `gBgRestoredControlled`) -/
theorem cpFinalize_ok_cases (kind : Kind) (w : World) (b : BR) (f : Fault)
    (o : CallOut) (h : cpFinalize kind w b f = .val o) (hok : o.res = .ok) :
    b.partitioned = true ∨ o.world.wl = none ∨
    ∃ wl', o.world.wl = some wl' ∧ ((restored wl' = true ∧ w.wl = some wl') ∨ wl'.ctl = .none) := by
  cases hp : b.partitioned
  case true => exact Or.inl rfl
  case false =>
    right
    cases hw : w.wl with
    | none =>
      left
      rcases finalize_wl kind w b f o h with e | ⟨wl, _, hwl, _⟩
      · rw [e, hw]
      · rw [hw] at hwl; cases hwl
    | some wl =>
      right
      obtain ⟨d, w1, n, o1, _, ho1, _, hc⟩ := finalize_done kind w b f o wl h hw hp hok
      rcases hc with ⟨hr, _, hw1, _, ho⟩ | ⟨_, s, _, hd, _, _, _, hwl', _⟩
      · refine ⟨wl, ?_, Or.inl ⟨hr, rfl⟩⟩
        rw [ho, ho1, finishHPA_wl, hw1, hw]
      · refine ⟨_, hwl', Or.inr ?_⟩
        rw [hd]; exact finalizePatch_ctl kind s wl

/-! ## C05 — the invariant of a release -/

/-- a complete setting is a fixed point of `InitOriginalSetting` (its `maxSurge` is present, so `minReadySeconds`
    is never taken from the object) -/
theorem initSetting_complete (kind : Kind) (s : Setting) (wl : Workload) (hc : complete kind s = true) :
    initSetting kind s wl = s := by
  obtain ⟨mu, ms, mr, pd⟩ := s
  cases kind <;> cases mu <;> cases ms <;> cases pd <;>
    simp [complete] at hc <;> simp [initSetting, nothingSaved]

theorem effSetting_complete (kind : Kind) (wl : Workload) : complete kind (effSetting kind wl) = true := by
  cases kind <;> simp [effSetting, initSetting, complete, emptySetting]

theorem effSetting_finalizePatch (kind : Kind) (s : Setting) (wl : Workload) (hc : complete kind s = true) :
    effSetting kind (forgetWl (finalizePatch kind s wl)) = s := by
  -- the patch writes the fields of `s` into the workload; `complete` says that the ones `InitOriginalSetting` would default are there
  obtain ⟨mu, ms, mr, pd⟩ := s
  cases kind <;> cases mu <;> cases ms <;> cases pd <;>
    simp [complete] at hc <;>
    simp [effSetting, initSetting, finalizePatch, forgetWl, emptySetting, ruSurge, ruUnavailable, nothingSaved]

theorem invWl_iff (kind : Kind) (o : Orig) (wl : Workload) :
    invWl kind o wl = true ↔
      ((wl.saved = .none ∧ effSetting kind wl = o.setting ∧ wl.ctl = .none) ∨ wl.saved = .some o.setting) ∧
      (gOrigType kind o = true ∨ wl.stype = o.stype) := by
  unfold invWl
  cases wl.saved <;> simp

/-- the type clause of the invariant holds of every Deployment of type `RollingUpdate`: that was the original type, or
    the guard `origRecreate` exempts it -/
theorem type_clause_expected (o : Orig) : gOrigType .deployment o = true ∨ SType.expected = o.stype := by
  by_cases hg : gOrigType .deployment o = true
  · left; exact hg
  · right
    simp only [gOrigType, decide_true, Bool.true_and, ne_eq, decide_not, Bool.not_eq_true', decide_eq_false_iff_not,
      Decidable.not_not] at hg
    exact hg.symm

theorem invWl_initPatch (kind : Kind) (o : Orig) (br : BR) (wl : Workload) (s : Setting)
    (hc : complete kind o.setting = true) (hi : invWl kind o wl = true) (hgs : getSetting wl.saved = some s) :
    invWl kind o (initPatch kind br (initSetting kind s wl) wl) = true := by
  obtain ⟨hsv, ht⟩ := (invWl_iff kind o wl).1 hi
  -- what is saved is the original: read from the workload, or the complete setting saved before
  have hset : initSetting kind s wl = o.setting := by
    rcases hsv with ⟨hn, he, _⟩ | hs
    · rw [hn] at hgs; cases hgs; exact he
    · rw [hs] at hgs; cases hgs; exact initSetting_complete kind _ wl hc
  refine (invWl_iff kind o _).2 ⟨Or.inr (by rw [← hset]; cases kind <;> rfl), ?_⟩
  cases kind
  · exact type_clause_expected o
  · exact ht

theorem invWl_upgradePatch (kind : Kind) (o : Orig) (wl : Workload) (e : IntOrPct)
    (hi : invWl kind o wl = true) (hv : validate kind wl = true) :
    invWl kind o (upgradePatch kind e wl) = true := by
  have hctl : wl.ctl ≠ .none := by
    cases kind <;> simp only [validate, Bool.and_eq_true, ne_eq, decide_not, Bool.not_eq_true', decide_eq_false_iff_not] at hv
    · exact hv.1.1.1.1
    · exact hv.1.1
  obtain ⟨⟨_, _, hn⟩ | hs, ht⟩ := (invWl_iff kind o wl).1 hi
  · exact absurd hn hctl
  · refine (invWl_iff kind o _).2 ⟨Or.inr (by cases kind <;> exact hs), ?_⟩
    cases kind
    · exact type_clause_expected o
    · exact ht

/-- both stages of the restoration keep the invariant: the restoring patch (the Deployment still carries the saved
    annotation) and the workload without the annotation -/
theorem invWl_finalizePatch (kind : Kind) (o : Orig) (wl : Workload) (s : Setting)
    (hc : complete kind o.setting = true) (hi : invWl kind o wl = true) (hr : restored wl = false)
    (hgs : getSetting wl.saved = some s) :
    invWl kind o (finalizePatch kind s wl) = true ∧ invWl kind o (forgetWl (finalizePatch kind s wl)) = true ∧
    s = o.setting := by
  obtain ⟨⟨hn, _⟩ | hs, ht⟩ := (invWl_iff kind o wl).1 hi
  · simp [restored, hn] at hr
  · rw [hs] at hgs; cases hgs
    have h2 : invWl kind o (forgetWl (finalizePatch kind o.setting wl)) = true :=
      (invWl_iff kind o _).2 ⟨Or.inl ⟨by cases kind <;> rfl, effSetting_finalizePatch kind _ wl hc, by cases kind <;> rfl⟩,
        by cases kind <;> exact ht⟩
    refine ⟨?_, h2, rfl⟩
    cases kind
    · exact (invWl_iff _ o _).2 ⟨Or.inr hs, ht⟩
    · exact h2

theorem inv_of_wl (kind : Kind) (o : Orig) (w w' : World) (h : w'.wl = w.wl) : inv kind o w' = inv kind o w := by
  unfold inv; rw [h]

theorem inv_some (kind : Kind) (o : Orig) (w : World) (wl : Workload) (hw : w.wl = some wl) :
    inv kind o w = true ↔ complete kind o.setting = true ∧ invWl kind o wl = true := by
  unfold inv
  rw [hw, Bool.and_eq_true]

/-- the invariant reads of the workload only what `InitOriginalSetting` reads, the annotations and the strategy type:
    a change of the status or of the replica count leaves it as it is -/
theorem inv_map (kind : Kind) (o : Orig) (w : World) (g : Workload → Workload)
    (hg : ∀ wl, effSetting kind (g wl) = effSetting kind wl ∧ (g wl).saved = wl.saved ∧ (g wl).ctl = wl.ctl ∧
      (g wl).stype = wl.stype) :
    inv kind o { w with wl := w.wl.map g } = inv kind o w := by
  unfold inv
  cases w.wl with
  | none => rfl
  | some wl =>
    obtain ⟨he, hs, hc, ht⟩ := hg wl
    simp only [Option.map_some, invWl, he, hs, hc, ht]

/-! ## C05 — what a successful `Finalize` leaves behind -/

theorem finalizeDone_iff (w : World) (br : BR) (out : CallOut) :
    finalizeDone w br out = true ↔
      out.res = .ok ∧ br.partitioned = false ∧ ∃ wl, w.wl = some wl ∧ wl.deleting = false := by
  unfold finalizeDone
  cases hw : w.wl with
  | none => simp
  | some wl => simp [and_assoc]

theorem hpaOf_congr (w w' : World) (h2 : w'.hpaV2 = w.hpaV2) (h1 : w'.hpaV1 = w.hpaV1) : hpaOf w' = hpaOf w := by
  unfold hpaOf; rw [h2, h1]

/-- `finalize_done` under the oracle's premise `finalizeDone`, in the form the C05 / C06 theorems consume -/
theorem finalize_done_facts (kind : Kind) (w : World) (br : BR) (f : Fault) (out : CallOut)
    (h : cpFinalize kind w br f = .val out) (hd : finalizeDone w br out = true) :
    hpaRestored out.world = true ∧ ∃ wl, w.wl = some wl ∧
      ((wl.saved = .none ∧ out.world.wl = some wl ∧ waitStep kind wl emptyDeployment = .val true) ∨
       (restored wl = false ∧ ∃ s, getSetting wl.saved = some s ∧
          out.world.wl = some (forgetWl (finalizePatch kind s wl)) ∧
          waitStep kind wl (finalizePatch kind s wl) = .val true)) := by
  obtain ⟨hok, hp, wl, hw, hdel⟩ := (finalizeDone_iff w br out).1 hd
  obtain ⟨d, w1, n, o, hwait, ho, hook, hpath⟩ := finalize_done kind w br f out wl h hw hp hok
  -- the successful `RestoreHPA` has left the world `enabledW w1`; the second patch keeps the HPAs
  have hhpa : hpaOf out.world = hpaOf o.world → hpaRestored out.world = true := fun e => by
    obtain ⟨w', b, n', hT, _, hfin⟩ := finishHPA_eq w1 f n
    rw [ho, hfin] at hook
    have hw' : w' = enabledW w1 := by
      cases b
      · cases hook
      · exact hT.done rfl
    unfold hpaRestored
    rw [findHPA_noFault, e, ho, hfin, hw']
    split
    · rename_i v k hf
      simpa using hpaOf_hpaW _ 0 rfl w1 v k (Lk.val.inj hf)
    · rfl
  rcases hpath with ⟨hr, rfl, rfl, _, rfl⟩ | ⟨hr, s, hgs, rfl, _, _, _, hwl, h2, h1⟩
  · refine ⟨hhpa rfl, wl, hw, Or.inl ⟨?_, by rw [ho, finishHPA_wl, hw], hwait⟩⟩
    simpa [restored, hdel] using hr
  · exact ⟨hhpa (hpaOf_congr _ _ h2 h1), wl, hw, Or.inr ⟨hr, s, hgs, hwl, hwait⟩⟩

/-! ## C09 — panics -/

theorem Out.exists_of_ne_panic {α : Type} (o : Out α) (h : o ≠ .panic) : ∃ a, o = .val a := by
  cases o with
  | val a => exact ⟨a, rfl⟩
  | panic => exact absurd rfl h

theorem ite_val_ne_panic {α : Type} {c : Prop} [Decidable c] {a : α} {x : Out α} (h : x ≠ .panic) :
    (if c then .val a else x) ≠ .panic := by
  split
  · nofun
  · exact h

theorem waitAll_noPanic (d : Workload) (R : Int) (ru : RU) (hR : d.replicas = some R) (hru : d.ru = some ru) :
    waitAllUpdatedAndReady d ≠ .panic := by
  have hm : deployMaxUnavailable d ≠ .panic := by
    unfold deployMaxUnavailable
    rw [hR, hru]
    simp only []
    refine ite_val_ne_panic (ite_val_ne_panic ?_)
    split <;> nofun
  unfold waitAllUpdatedAndReady
  refine ite_val_ne_panic (ite_val_ne_panic ?_)
  cases hd : deployMaxUnavailable d with
  | panic => exact absurd hd hm
  | val m => nofun

/-- the wait of the Deployment control never panics on a patched object: the patch creates `rollingUpdate` -/
theorem waitStep_noPanic_patched (kind : Kind) (wl : Workload) (s : Setting) (R : Int) (hR : wl.replicas = some R) :
    waitStep kind wl (finalizePatch kind s wl) ≠ .panic := by
  cases kind
  · exact waitAll_noPanic _ R ⟨s.maxSurge, s.maxUnavailable⟩ hR rfl
  · simp [waitStep]

theorem finishWait_noPanic (kind : Kind) (wl d : Workload) (w1 : World) (f : Fault) (n : Nat)
    (hw : waitStep kind wl d ≠ .panic) : finishWait kind wl d w1 f n ≠ .panic := by
  unfold finishWait
  cases hb : waitStep kind wl d with
  | panic => exact absurd hb hw
  | val b => cases b <;> simp

/-! ## C01 — exposure of the new revision -/

theorem clampSurge_eq (s : IntOrPct) (R : Int) : clampSurge s R = keptStable s R := rfl

theorem exposureBG_nonneg (kind : Kind) (wl : Workload) : 0 ≤ exposureBG kind wl := by
  unfold exposureBG
  cases wl.replicas with
  | none => simp
  | some R =>
    simp only [clampSurge_eq]
    split
    · simp
    · have := keptStable_nonneg ((ruSurge wl.ru).getD (defaultSurge kind)) R
      cases kind <;> simp only [] <;> split <;> omega

theorem exposureW_some (kind : Kind) (w : World) (wl : Workload) (h : w.wl = some wl) :
    exposureW kind w = exposureBG kind wl := by
  unfold exposureW; rw [h]

theorem exposureW_congr (kind : Kind) (w w' : World) (h : w'.wl = w.wl) :
    exposureW kind w' = exposureW kind w := by
  unfold exposureW; rw [h]

theorem exposureBG_paused (kind : Kind) (wl : Workload) (h : wl.paused = true) :
    exposureBG kind wl = 0 := by
  unfold exposureBG
  cases wl.replicas <;> simp [h]

theorem held_upgradePatch_dep (e : IntOrPct) (wl : Workload) (hv : validate .deployment wl = true) :
    held (upgradePatch .deployment e wl) = true := by
  simp only [validate, Bool.and_eq_true, decide_eq_true_eq] at hv
  simp [held, upgradePatch, ruUnavailable, hv.1.2]

theorem held_upgradePatch_cs (e : IntOrPct) (wl : Workload) :
    held (upgradePatch .cloneSet e wl) = held wl := by
  cases hru : wl.ru <;> simp [held, upgradePatch, ruUnavailable, hru]

/-- After the patch of `UpgradeBatch` a validated, held workload exposes exactly the clamp of the new surge (a CloneSet
    that is paused: nothing): the Deployment is un-paused, and the CloneSet's partition is gone, which alone would
    allow every pod. -/
theorem exposureBG_upgradePatch (kind : Kind) (e : IntOrPct) (wl : Workload) (R : Int) (hR : wl.replicas = some R)
    (hv : validate kind wl = true) (hh : kind = .cloneSet → held wl = true) :
    exposureBG kind (upgradePatch kind e wl) = if kind = .cloneSet ∧ wl.paused = true then 0 else keptStable e R := by
  unfold exposureBG
  cases kind
  · rw [held_upgradePatch_dep e wl hv]
    simp [upgradePatch, hR, ruSurge, clampSurge_eq]
  · rw [held_upgradePatch_cs, hh rfl]
    simp only [upgradePatch, hR, ruSurge, Option.bind_some, Option.getD_some, if_true, Option.getD_none, true_and, clampSurge_eq]
    split
    · rfl
    · have : scaledV (int 0) R true = 0 := rfl
      unfold exposure keptStable
      omega

theorem exposureBG_held (kind : Kind) (wl : Workload) (R : Int) (s : IntOrPct) (hR : wl.replicas = some R)
    (hh : held wl = true) (hs : ruSurge wl.ru = some s) :
    exposureBG kind wl ≤ if wl.paused = true then 0 else keptStable s R := by
  unfold exposureBG
  simp only [hR, hh, hs, Option.getD_some, if_true, clampSurge_eq]
  split
  · exact Int.le_refl 0
  · cases kind <;> simp only [] <;> omega

theorem upgrade_within_step (kind : Kind) (w : World) (br : BR) (f : Fault) (out : CallOut)
    (h : cpUpgradeBatch kind w br f = .val out) : upgradeWithinStep kind w br out = true := by
  unfold upgradeWithinStep
  cases hw : w.wl with
  | none => rfl
  | some wl =>
    simp only []
    cases hR : wl.replicas with
    | none => rfl
    | some R =>
      simp only []
      split
      · rfl
      · rename_i hcs
        simp only [decide_eq_true_eq]
        have hnn := exposureBG_nonneg kind wl
        rcases upgrade_world kind w br f out h with ⟨hw', _⟩ | ⟨wl', R', e, p⟩
        · rw [hw']; simp only [exposureW, hw]; omega
        · cases hw.symm.trans p.found
          cases hR.symm.trans p.replicas
          have hpl : plannedOfBR br R = calcBatchReplicas R e := by simp [plannedOfBR, p.entry]
          have hcl := keptStable_le_planned e R (exposureBG kind wl) hnn
          rw [p.world, hpl]
          simp only [exposureW]
          rw [exposureBG_upgradePatch kind e wl R hR p.valid fun hk => Decidable.byContradiction fun hh => hcs ⟨hk, hh⟩]
          split
          · omega
          · exact hcl

/-- the surge as the workload carries it is not above the surge `UpgradeBatch` finds larger than the normalised one (`1`, the
    initial value, is read as `0`) -/
theorem surge_le_of_cur_lt (s e : IntOrPct) (R : Int)
    (h : scaledV (RV.BatchCtx.normSurge s) R true < scaledV e R true) : scaledV s R true ≤ scaledV e R true := by
  unfold RV.BatchCtx.normSurge at h
  split at h
  · rename_i h1
    subst h1
    have : scaledV (int 0) R true = 0 := rfl
    have h1 : scaledV (int 1) R true = 1 := rfl
    omega
  · omega

theorem prepared_exposure_zero (kind : Kind) (wl : Workload) (hp : prepared kind wl = true) : exposureBG kind wl = 0 := by
  unfold exposureBG
  cases hR : wl.replicas with
  | none => rfl
  | some R =>
    simp only []
    cases kind
    · simp only [prepared] at hp
      simp [hp]
    · simp only [prepared, decide_eq_true_eq] at hp
      split
      · rfl
      · have := exposure_pct100_le R
        simp only [hp, Option.getD_some, clampSurge_eq]
        have hc : 0 ≤ (if held wl = true then keptStable ((ruSurge wl.ru).getD (defaultSurge .cloneSet)) R else max 0 R) := by
          split
          · exact keptStable_nonneg _ _
          · omega
        omega

/-- The patch of `Initialize` on the workload: the Deployment is held with surge `1` and paused as before; the CloneSet
    is un-paused, keeps its partition, and is held with surge `1` unless its update type is foreign. -/
theorem exposureBG_initPatch (kind : Kind) (br : BR) (s : Setting) (wl : Workload) :
    (¬ (kind = .cloneSet ∧ wl.paused = true ∧ wl.stype = .other) →
      exposureBG kind (initPatch kind br s wl) ≤ max (exposureBG kind wl) 1) ∧
    (prepared kind wl = true → exposureBG kind (initPatch kind br s wl) = 0) := by
  have hnn := exposureBG_nonneg kind wl
  cases hR : wl.replicas with
  | none =>
    have hz : exposureBG kind (initPatch kind br s wl) = 0 := by cases kind <;> simp [exposureBG, initPatch, hR]
    rw [hz]; exact ⟨fun _ => by omega, fun _ => rfl⟩
  | some R =>
    have hc1 : keptStable (int 1) R ≤ 1 ∧ 0 ≤ keptStable (int 1) R := by
      rw [keptStable_int]; omega
    cases kind
    · have hex : exposureBG .deployment (initPatch .deployment br s wl) =
          if wl.paused then 0 else keptStable (int 1) R := by
        unfold exposureBG
        simp [initPatch, hR, ruSurge, held, ruUnavailable, clampSurge_eq]
      rw [hex]
      refine ⟨fun _ => by split <;> omega, fun hp => ?_⟩
      simp only [prepared] at hp
      simp [hp]
    · have hex : exposureBG .cloneSet (initPatch .cloneSet br s wl) =
          min (max 0 (exposure (wl.partition.getD (int 0)) R))
            (if wl.stype ≠ .other then keptStable (int 1) R else max 0 R) := by
        unfold exposureBG
        simp only [initPatch, hR, Bool.false_eq_true, if_false, held, ruUnavailable, ruSurge, Option.bind_some,
          Option.getD_some, decide_true, Bool.true_and, decide_eq_true_eq, clampSurge_eq]
      rw [hex]
      refine ⟨fun hnc => ?_, fun hp => ?_⟩
      · by_cases hst : wl.stype = .other
        · -- a foreign update type: un-paused and not held before, and so it stays
          have hpa : wl.paused = false := by
            cases hpp : wl.paused with
            | false => rfl
            | true => exact absurd ⟨rfl, hpp, hst⟩ hnc
          have hb : exposureBG .cloneSet wl = min (max 0 (exposure (wl.partition.getD (int 0)) R)) (max 0 R) := by
            unfold exposureBG
            simp [hR, hpa, held, hst]
          rw [hb]
          simp only [hst, ne_eq, not_true_eq_false, if_false]
          omega
        · simp only [ne_eq, hst, not_false_eq_true, if_true]
          omega
      · simp only [prepared, decide_eq_true_eq] at hp
        have := exposure_pct100_le R
        rw [hp, Option.getD_some]
        split <;> omega

section
variable {kind : Kind} {w : World} {br : BR} {f : Fault} {out : CallOut} {wl : Workload}

/-- the patch is made only when the batch's surge exceeds the normalised surge in force (`surge_le_of_cur_lt`), and the clamp
    `keptStable` is monotone in the surge; `held` and a set surge are what make the exposure before the call equal that clamp -/
theorem upgrade_exposure_ge {s : IntOrPct}
    (h : cpUpgradeBatch kind w br f = .val out) (hw : w.wl = some wl) (hheld : held wl = true) (hs : ruSurge wl.ru = some s) :
    exposureBG kind wl ≤ exposureW kind out.world := by
  rcases upgrade_world kind w br f out h with ⟨hw', _⟩ | ⟨wl', R, e, p⟩
  · rw [hw']; simp only [exposureW, hw]; omega
  · cases hw.symm.trans p.found
    have hlt := p.less
    rw [show curSurge wl = RV.BatchCtx.normSurge s by simp [curSurge, hs]] at hlt
    have hmono := keptStable_mono (surge_le_of_cur_lt s e R hlt)
    have hnn := keptStable_nonneg e R
    have h0 := exposureBG_held kind wl R s p.replicas hheld hs
    rw [p.world]
    simp only [exposureW]
    rw [exposureBG_upgradePatch kind e wl R p.replicas p.valid fun _ => hheld]
    split at h0
    · split <;> omega
    · rename_i hnp
      rw [if_neg fun hc => hnp hc.2]
      omega

/-- `Initialize` exposes at most one pod more than was exposed, and nothing on a workload the admission webhook prepared.  The
    exception is a paused CloneSet of a foreign update type: `Initialize` un-pauses it without setting the type, and the hold
    (`held`) does not bind a foreign type -/
theorem init_exposure_le (h : cpInitialize kind w br f = .val out) (hw : w.wl = some wl) :
    (¬ (kind = .cloneSet ∧ wl.paused = true ∧ wl.stype = .other) → exposureW kind out.world ≤ max (exposureBG kind wl) 1) ∧
    (prepared kind wl = true → exposureW kind out.world = 0) := by
  rcases initialize_wl kind w br f out h with ⟨hw', _⟩ | ⟨wl', s, hw2, _, _, _, hw'⟩
  · have he : exposureW kind out.world = exposureBG kind wl := by simp only [exposureW, hw', hw]
    rw [he]
    exact ⟨fun _ => by omega, prepared_exposure_zero kind wl⟩
  · rw [hw] at hw2; cases hw2
    have he : exposureW kind out.world = exposureBG kind (initPatch kind br (initSetting kind s wl) wl) := by
      simp only [exposureW, hw']
    rw [he]
    exact exposureBG_initPatch kind br _ wl

end

theorem exposureBG_status (kind : Kind) (wl : Workload) (st : Status) :
    exposureBG kind { wl with status := st } = exposureBG kind wl := by
  cases kind <;> rfl

theorem expInv_some (kind : Kind) (B : Int) (w : World) (wl : Workload) (hw : w.wl = some wl) :
    expInv kind B w = true ↔
      exposureBG kind wl ≤ B ∧ (wl.minReadySeconds ≠ maxReady ∨ ruUnavailable wl.ru = some (int 0)) ∧
      (kind ≠ .cloneSet ∨ wl.stype ≠ .other) := by
  unfold expInv
  rw [hw]
  simp only [Bool.and_eq_true, Bool.or_eq_true, decide_eq_true_eq, Bool.not_eq_true', decide_eq_false_iff_not,
    bne_iff_ne, ne_eq, and_assoc]

/-- `expInv` is inductive because it carries, besides the bound, exactly what makes the next `UpgradeBatch` patch exact: once
    `minReadySeconds` has the hold value, `maxUnavailable = 0`, so that a validated CloneSet is `held`; and no CloneSet has a
    foreign update type -/
theorem expInv_step (kind : Kind) (B : Int) (hB : 1 ≤ B) (w w' : World) (e : Ev)
    (hi : expInv kind B w = true) (hp : progressEv B w e = true) (he : applyEv kind w e = some w') :
    expInv kind B w' = true := by
  cases e with
  | status st =>
    simp only [applyEv, Option.some.injEq] at he
    subst he
    cases hw : w.wl with
    | none => simp only [expInv, Option.map_none]
    | some wl =>
      rw [expInv_some _ _ _ wl hw] at hi
      rw [expInv_some _ _ _ { wl with status := st } rfl, exposureBG_status]
      exact hi
  | scale r => simp [progressEv] at hp
  | call op br f =>
    simp only [applyEv] at he
    split at he
    · rename_i out hc
      simp only [Option.some.injEq] at he
      subst he
      have same : out.world.wl = w.wl → expInv kind B out.world = true := fun e => by
        unfold expInv at hi ⊢; rw [e]; exact hi
      cases op with
      | fin => simp [progressEv] at hp
      | init =>
        rcases initialize_wl kind w br f out hc with ⟨h1, _⟩ | ⟨wl, s, hw, _, _, _, h2⟩
        · exact same h1
        rw [expInv_some _ _ _ wl hw] at hi
        obtain ⟨hexp, _, hcs⟩ := hi
        rw [expInv_some _ _ _ _ h2]
        -- at most one pod more than before (the excepted case contradicts the invariant)
        have hle := (exposureBG_initPatch kind br (initSetting kind s wl) wl).1
          fun ⟨hk, _, hst⟩ => hcs.elim (· hk) (· hst)
        refine ⟨by omega, Or.inr (by cases kind <;> rfl), ?_⟩
        cases kind
        · exact Or.inl nofun
        · exact Or.inr (hcs.resolve_left (fun h => h rfl))
      | upgrade =>
        rcases upgrade_world kind w br f out hc with ⟨h1, _⟩ | ⟨wl, R, e, p⟩
        · exact same (by rw [h1])
        rw [expInv_some _ _ _ wl p.found] at hi
        obtain ⟨hexp, hhold, hcs⟩ := hi
        rw [p.world, expInv_some _ _ _ _ rfl]
        have hv := p.valid
        have hmr : wl.minReadySeconds = maxReady := by
          cases kind <;> simp only [validate, Bool.and_eq_true, decide_eq_true_eq] at hv
          · exact hv.1.2
          · exact hv.2
        have hun : ruUnavailable wl.ru = some (int 0) := hhold.resolve_left (fun h => h hmr)
        -- a validated CloneSet under the invariant is held: what the batch plans is exposed, at most
        have hheld : kind = .cloneSet → held wl = true := by
          rintro rfl
          simp only [validate, Bool.and_eq_true, decide_eq_true_eq, ne_eq, decide_not, Bool.not_eq_true',
            decide_eq_false_iff_not] at hv
          simp [held, hmr, hun, hv.1.2]
        simp only [progressEv, p.found, p.replicas, decide_eq_true_eq, plannedOfBR, p.entry] at hp
        have hcl := keptStable_le_planned e R (exposureBG kind wl) (exposureBG_nonneg kind wl)
        have hex := exposureBG_upgradePatch kind e wl R p.replicas hv hheld
        refine ⟨by rw [hex]; split <;> omega, Or.inr ?_, ?_⟩
        · cases kind
          · rfl
          · simp only [upgradePatch, ruUnavailable, Option.bind_some]; exact hun
        · cases kind
          · exact Or.inl nofun
          · exact Or.inr (hcs.resolve_left (fun h => h rfl))
    · cases he

theorem exposure_within_plan (kind : Kind) (B : Int) (hB : 1 ≤ B) (evs : List Ev) (w w' : World)
    (hi : expInv kind B w = true) (hp : progressRun kind B w evs = true) (hr : run kind w evs = some w') :
    exposureW kind w' ≤ B := by
  have key : expInv kind B w' = true := by
    induction evs generalizing w with
    | nil => simp only [run, Option.some.injEq] at hr; subst hr; exact hi
    | cons e t ih =>
      unfold run at hr
      unfold progressRun at hp
      cases he : applyEv kind w e with
      | none => rw [he] at hr; cases hr
      | some w1 =>
        rw [he] at hr hp
        simp only [Bool.and_eq_true] at hp
        exact ih w1 (expInv_step kind B hB w w1 e hi hp.1 he) hp.2 hr
  unfold exposureW
  cases hw : w'.wl with
  | none => simp only []; omega
  | some wl => exact ((expInv_some kind B w' wl hw).1 key).1

/-! ## C06 — attempts converge

An undisturbed call is a function of the world (`initGoal`, `finGoal`); a call under faults leaves a world on which this
function has the value it had before. -/

/-- world and result of an undisturbed `Initialize` -/
def initGoal (kind : Kind) (br : BR) (w : World) : World × Res :=
  match w.wl with
  | none => (w, .notFound)
  | some wl =>
    if controlled br wl then (w, .ok) else
    match getSetting wl.saved with
    | none => (initBase kind w, .badRequest)
    | some s => ({ initBase kind w with wl := some (initPatch kind br (initSetting kind s wl) wl) }, .ok)

theorem init_direct (kind : Kind) (w : World) (br : BR) (o : CallOut) (h : cpInitialize kind w br noFault = .val o) :
    (o.world, o.res) = initGoal kind br w := by
  unfold initGoal
  rcases initialize_cases kind w br noFault o h with
    ⟨e, _, ⟨hg, _⟩ | ⟨hn, hr⟩ | ⟨hr, wl, hw, hc⟩⟩ | ⟨wl, hw, hc, ⟨_, _, _, hd⟩ | ⟨s, hgs, hr, _, e⟩⟩
  · cases hg
  · rw [hn, e, hr]
  · rw [hw, e, hr]; simp only [hc, if_true]
  · obtain ⟨hgs, hr, e⟩ := hd rfl
    rw [hw, e, hr]; simp only [hc, Bool.false_eq_true, if_false, hgs]
  · rw [hw, e, hr]; simp only [hc, Bool.false_eq_true, if_false, hgs]

/-- an attempt, however cut short, leaves a world with the same goal -/
theorem init_first (kind : Kind) (w : World) (br : BR) (f : Fault) (o : CallOut) (h : cpInitialize kind w br f = .val o) :
    initGoal kind br o.world = initGoal kind br w := by
  rcases initialize_cases kind w br f o h with ⟨e, _⟩ | ⟨wl, hw, hc, ⟨_, hX, _⟩ | ⟨s, hgs, _, _, e⟩⟩
  · rw [e]
  · obtain ⟨hwl, hb⟩ := initBase_stable kind w _ hX
    unfold initGoal
    rw [hwl, hw]; simp only [hc, Bool.false_eq_true, if_false, hb]
  · -- completed: the next attempt finds the workload controlled
    have hctl : controlled br (initPatch kind br (initSetting kind s wl) wl) = true := by
      cases kind <;> simp [controlled, initPatch]
    unfold initGoal
    rw [e, hw]; simp only [hctl, if_true, hc, Bool.false_eq_true, if_false, hgs]

theorem validate_upgradePatch (kind : Kind) (e : IntOrPct) (wl : Workload) (hv : validate kind wl = true) :
    validate kind (upgradePatch kind e wl) = true := by
  cases kind
  · simp only [validate, Bool.and_eq_true, decide_eq_true_eq, ne_eq, decide_not, Bool.not_eq_true',
      decide_eq_false_iff_not] at hv ⊢
    simp only [upgradePatch, Option.isSome_some, reduceCtorEq, not_false_eq_true, and_true]
    exact ⟨⟨hv.1.1.1.1, hv.1.2⟩, hv.2⟩
  · exact hv

theorem upgradePatch_idem (kind : Kind) (e : IntOrPct) (wl : Workload) :
    upgradePatch kind e (upgradePatch kind e wl) = upgradePatch kind e wl := by
  cases kind
  · rfl
  · simp [upgradePatch, ruUnavailable]

theorem upgradePatch_replicas (kind : Kind) (e : IntOrPct) (wl : Workload) :
    (upgradePatch kind e wl).replicas = wl.replicas := by
  cases kind <;> rfl

theorem upgrade_direct (kind : Kind) (w : World) (br : BR) (o : CallOut) (wl : Workload) (R : Int) (e : IntOrPct)
    (h : cpUpgradeBatch kind w br noFault = .val o) (hw : w.wl = some wl) (hR : wl.replicas = some R) (hR0 : R ≠ 0)
    (he : entryOf br = some e) (hv : validate kind wl = true) :
    (scaledV (curSurge wl) R true ≥ scaledV e R true ∧ o = ⟨w, .ok, 0, none⟩) ∨
    (scaledV (curSurge wl) R true < scaledV e R true ∧
      o = ⟨{ w with wl := some (upgradePatch kind e wl) }, .ok, 1, none⟩) := by
  have hg : noFault.get = false := rfl
  have hcw : canWrite noFault 0 = true := rfl
  simp only [cpUpgradeBatch, hg, hw, hR, hR0, he, hv, hcw, Bool.false_eq_true, if_false, not_true_eq_false,
    if_true] at h
  by_cases hge : scaledV (curSurge wl) R true ≥ scaledV e R true
  · rw [if_pos hge] at h; cases h; exact Or.inl ⟨hge, rfl⟩
  · rw [if_neg hge] at h; cases h; exact Or.inr ⟨by omega, rfl⟩

theorem upgrade_converges (kind : Kind) (w : World) (br : BR) (f : Fault) (o1 o2 o3 : CallOut)
    (h1 : cpUpgradeBatch kind w br f = .val o1) (h2 : cpUpgradeBatch kind o1.world br noFault = .val o2)
    (h3 : cpUpgradeBatch kind w br noFault = .val o3) :
    o2.world = o3.world ∧ o2.res = o3.res := by
  rcases upgrade_world kind w br f o1 h1 with ⟨e1, _⟩ | ⟨wl, R, e, p⟩
  · rw [e1] at h2
    rw [h2] at h3
    cases h3
    exact ⟨rfl, rfl⟩
  · -- the undisturbed call makes the same patch; after it the call finds the surge in place, or repeats the patch
    rcases upgrade_direct kind w br o3 wl R e h3 p.found p.replicas p.nonzero p.entry p.valid with ⟨hge, _⟩ | ⟨_, rfl⟩
    · exact absurd p.less (by omega)
    rcases upgrade_direct kind o1.world br o2 _ R e h2 (by rw [p.world]) (by rw [upgradePatch_replicas, p.replicas]) p.nonzero p.entry
      (validate_upgradePatch kind e wl p.valid) with ⟨_, rfl⟩ | ⟨_, rfl⟩
    · exact ⟨p.world, rfl⟩
    · exact ⟨by rw [p.world]; simp only [upgradePatch_idem], rfl⟩

theorem with_wl_id (W : World) (a : Workload) (h : W.wl = some a) : { W with wl := some a } = W := by
  cases W; simp_all

theorem forget_id (W : World) (a : Workload) (h : W.wl = some a) (hs : a.saved = .none) : forget W = W := by
  cases W; cases a; simp_all [forget]

theorem forget_idem (W : World) : forget (forget W) = forget W := by
  cases W with
  | mk wl rss v2 v1 => cases wl <;> simp [forget]

theorem enabledW_forget (W : World) : enabledW (forget W) = forget (enabledW W) := by
  have h1 : forget W = { W with wl := (forget W).wl } := rfl
  unfold enabledW
  rw [h1, hpaW_with_wl]
  simp only [forget, (hpaW_frame _ _ W).1]

/-- world and result of an undisturbed `Finalize` -/
def finGoal (kind : Kind) (br : BR) (w : World) : World × Res :=
  match w.wl with
  | none => (w, .ok)
  | some wl =>
    if br.partitioned then (w, .ok) else
    if restored wl then
      match waitStep kind wl emptyDeployment with
      | .val true => (enabledW w, .ok)
      | _ => (w, .retry)
    else
      match getSetting wl.saved with
      | none => (w, .err)
      | some s =>
        match waitStep kind wl (finalizePatch kind s wl) with
        | .val true => (forget (enabledW { w with wl := some (finalizePatch kind s wl) }), .ok)
        | _ => ({ w with wl := some (finalizePatch kind s wl) }, .retry)

theorem finalize_direct (kind : Kind) (w : World) (br : BR) (o : CallOut) (h : cpFinalize kind w br noFault = .val o) :
    (o.world, o.res) = finGoal kind br w := by
  unfold finGoal
  rcases finalize_cases kind w br noFault o h with
    ⟨e, _, ⟨hr, hn | hp⟩ | ⟨hr, hd⟩⟩ | ⟨wl, d, w1, n, oo, hw, hp, hfw, hc⟩
  · rw [hn, e, hr]
  · rw [e, hr]; cases w.wl <;> simp only [hp, if_true]
  · obtain ⟨wl, hw, hp, hres, hgs⟩ := hd rfl
    rw [hw, e, hr]; simp only [hp, hres, Bool.false_eq_true, if_false, hgs]
  rw [hw]; simp only [hp, Bool.false_eq_true, if_false]
  rcases hc with ⟨hr, rfl, rfl, rfl, rfl⟩ | ⟨hr, s, hgs, rfl, rfl, rfl, rfl⟩
  · simp only [hr, if_true]
    rcases hfw with ⟨hwt, rfl⟩ | ⟨hwt, rfl⟩ <;> rw [hwt]
    rw [(finishHPA_noFault _ 0).1, (finishHPA_noFault _ 0).2]
  · simp only [hr, Bool.false_eq_true, if_false, hgs]
    rcases hfw with ⟨hwt, rfl⟩ | ⟨hwt, rfl⟩ <;> rw [hwt]
    · cases kind <;> rfl
    · obtain ⟨hfw, hfr⟩ := finishHPA_noFault { w with wl := some (finalizePatch kind s wl) } 1
      rcases finishForget_cases kind noFault (finishHPA { w with wl := some (finalizePatch kind s wl) } noFault 1) with
        ⟨e, rfl | hne⟩ | ⟨_, _, e | ⟨hf, _⟩⟩
      · rw [e, hfw, hfr, forget_id _ (finalizePatch .cloneSet s wl) (hpaW_frame _ _ _).1 rfl]
      · exact absurd hfr hne
      · rw [e, hfw]
      · exact absurd rfl hf

theorem finalizePatch_idem (kind : Kind) (s : Setting) (wl : Workload) :
    finalizePatch kind s (finalizePatch kind s wl) = finalizePatch kind s wl := by
  cases kind <;> rfl

/-- The goal from a world that carries the restoring patch of `wl`: the Deployment still has the saved annotation,
    so the patch is made again (it changes nothing); the CloneSet has lost it and is only waited for. Either way the
    wait looks at what it looked at after the first patch. -/
theorem finGoal_of_patched (kind : Kind) (br : BR) (wl : Workload) (s : Setting) (X : World)
    (hp : br.partitioned = false) (hr : restored wl = false) (hgs : getSetting wl.saved = some s)
    (hX : X.wl = some (finalizePatch kind s wl)) :
    finGoal kind br X =
      match waitStep kind wl (finalizePatch kind s wl) with
      | .val true => (forget (enabledW X), .ok)
      | _ => (X, .retry) := by
  unfold finGoal
  rw [hX]; simp only [hp, Bool.false_eq_true, if_false]
  cases kind
  · have hr' : restored (finalizePatch .deployment s wl) = false := hr
    have hgs' : getSetting (finalizePatch .deployment s wl).saved = some s := hgs
    simp only [hr', Bool.false_eq_true, if_false, hgs', finalizePatch_idem, with_wl_id X _ hX]
    rfl
  · have hr' : restored (finalizePatch .cloneSet s wl) = true := by simp [restored, finalizePatch]
    simp only [hr', if_true]
    rw [forget_id (enabledW X) _ ((hpaW_frame _ _ X).1.trans hX) rfl]
    rfl

theorem restored_forgetWl (a : Workload) : restored (forgetWl a) = true := by
  simp [restored, forgetWl]

/-- an attempt, however cut short, leaves a world with the same goal -/
theorem finalize_first (kind : Kind) (w : World) (br : BR) (f : Fault) (o : CallOut) (h : cpFinalize kind w br f = .val o) :
    finGoal kind br o.world = finGoal kind br w := by
  rcases finalize_cases kind w br f o h with ⟨e, _⟩ | ⟨wl, d, w1, n, oo, hw, hp, hfw, hc⟩
  · rw [e]
  -- the tail leaves its world alone, or the wait has passed and the HPA is restored: always so when it succeeds
  have htail : (oo.world = w1 ∧ oo.res ≠ .ok) ∨ (waitStep kind wl d = .val true ∧ oo.world = enabledW w1) := by
    rcases hfw with ⟨_, rfl⟩ | ⟨hwt, rfl⟩
    · exact Or.inl ⟨rfl, nofun⟩
    · obtain ⟨w', b, n', hT, _, ho⟩ := finishHPA_eq w1 f n
      rw [ho]
      cases b
      · exact hT.world.imp (fun e => ⟨e, nofun⟩) (fun e => ⟨hwt, e⟩)
      · exact Or.inr ⟨hwt, hT.done rfl⟩
  rcases hc with ⟨hr, rfl, rfl, rfl, rfl⟩ | ⟨hr, s, hgs, rfl, rfl, rfl, rfl⟩
  · rcases htail with ⟨e, _⟩ | ⟨hwt, e⟩ <;> rw [e]
    have hEwl : (enabledW w1).wl = some wl := (hpaW_frame _ _ _).1.trans hw
    unfold finGoal
    rw [hEwl, hw]
    simp only [hp, Bool.false_eq_true, if_false, hr, if_true, hwt, enabledW_idem]
  · have hG := fun X => finGoal_of_patched kind br wl s X hp hr hgs
    have hEwl : (enabledW { w with wl := some (finalizePatch kind s wl) }).wl = some (finalizePatch kind s wl) :=
      (hpaW_frame _ _ _).1
    have hW1 := hG { w with wl := some (finalizePatch kind s wl) } rfl
    have hGw : finGoal kind br w = finGoal kind br { w with wl := some (finalizePatch kind s wl) } := by
      rw [hW1]; unfold finGoal; rw [hw]; simp only [hp, hr, hgs, Bool.false_eq_true, if_false]
    rw [hGw]
    rcases htail with ⟨e, hne⟩ | ⟨hwt, e⟩
    · rcases finishForget_cases kind f oo with ⟨e', _⟩ | ⟨_, hok, _⟩
      · rw [e', e]
      · exact absurd hok hne
    · have hE : finGoal kind br (enabledW { w with wl := some (finalizePatch kind s wl) }) =
          finGoal kind br { w with wl := some (finalizePatch kind s wl) } := by
        rw [hG _ hEwl, hW1, hwt, enabledW_idem]
      rcases finishForget_cases kind f oo with ⟨e', _⟩ | ⟨_, _, e' | ⟨_, e'⟩⟩ <;> rw [e', e]
      · exact hE
      · -- everything was done: the workload is restored and waited for as it was after the patch
        rw [hW1, hwt]
        unfold finGoal
        rw [forget_wl _ _ hEwl]
        have hwt' : waitStep kind (forgetWl (finalizePatch kind s wl)) emptyDeployment = .val true := by
          cases kind
          · exact waitStep_empty _ _ rfl
          · exact hwt
        simp only [hp, Bool.false_eq_true, if_false, restored_forgetWl, if_true, hwt', enabledW_forget, enabledW_idem]
      · exact hE

theorem call_converges (kind : Kind) (op : Op) (w : World) (br : BR) (f : Fault) (o1 o2 o3 : CallOut)
    (h1 : call kind op w br f = .val o1) (h2 : call kind op o1.world br noFault = .val o2)
    (h3 : call kind op w br noFault = .val o3) :
    o2.world = o3.world ∧ o2.res = o3.res := by
  cases op with
  | init =>
    exact Prod.mk.inj ((init_direct kind _ br o2 h2).trans ((init_first kind w br f o1 h1).trans
      (init_direct kind w br o3 h3).symm))
  | upgrade => exact upgrade_converges kind w br f o1 o2 o3 h1 h2 h3
  | fin =>
    exact Prod.mk.inj ((finalize_direct kind _ br o2 h2).trans ((finalize_first kind w br f o1 h1).trans
      (finalize_direct kind w br o3 h3).symm))

/-- a successful un-partitioned goal is a fixed point (restored, HPA enabled): why a repeated `Finalize` writes nothing -/
theorem finGoal_ok (kind : Kind) (br : BR) (w X : World) (wl' : Workload) (h : finGoal kind br w = (X, .ok))
    (hp : br.partitioned = false) (hX : X.wl = some wl') : restored wl' = true ∧ enabledW X = X := by
  unfold finGoal at h
  split at h
  · rename_i hw; cases h; rw [hw] at hX; cases hX
  rename_i wl hw
  simp only [hp, Bool.false_eq_true, if_false] at h
  split at h
  · rename_i hr
    split at h <;> cases h
    rw [enabledW_wl, hw] at hX; cases hX
    exact ⟨hr, enabledW_idem w⟩
  · split at h
    · cases h
    · split at h <;> cases h
      rw [forget_wl _ _ (enabledW_wl _)] at hX; cases hX
      exact ⟨restored_forgetWl _, by rw [enabledW_forget, enabledW_idem]⟩

theorem curSurge_upgradePatch (kind : Kind) (e : IntOrPct) (wl : Workload) :
    curSurge (upgradePatch kind e wl) = RV.BatchCtx.normSurge e := by
  cases kind <;> simp [curSurge, upgradePatch, ruSurge]

theorem idempotent_calls (kind : Kind) (op : Op) (w : World) (br : BR) (o3 o4 : CallOut)
    (h3 : call kind op w br noFault = .val o3) (h4 : call kind op o3.world br noFault = .val o4) :
    idempotent op br o3 o4 = true := by
  have hconv := call_converges kind op w br noFault o3 o4 o3 h3 h4 h3
  unfold idempotent
  simp only [Bool.and_eq_true, Bool.or_eq_true, decide_eq_true_eq, ne_eq, decide_not, Bool.not_eq_true',
    decide_eq_false_iff_not]
  refine ⟨hconv, ?_⟩
  by_cases hok : o3.res = .ok
  · cases op with
    | init =>
      left; right
      obtain ⟨wl, hw, hc⟩ : ∃ wl, o3.world.wl = some wl ∧ controlled br wl = true := by
        rcases initialize_wl kind w br noFault o3 h3 with ⟨hwl, hc⟩ | ⟨wl, s, _, _, _, _, hwl⟩
        · obtain ⟨wl, hw, hcc⟩ := hc hok; exact ⟨wl, hwl.trans hw, hcc⟩
        · exact ⟨_, hwl, by cases kind <;> simp [controlled, initPatch]⟩
      rcases initialize_cases kind o3.world br noFault o4 h4 with ⟨_, e, _⟩ | ⟨wl', hw', hc', _⟩
      · exact e
      · rw [hw] at hw'; cases hw'; rw [hc] at hc'; cases hc'
    | upgrade =>
      rcases upgrade_world kind w br noFault o3 h3 with ⟨e1, hw0⟩ | ⟨wl, R, e, p⟩
      · left; right
        rw [e1] at h4
        rw [h3] at h4
        cases h4
        exact hw0
      · rcases upgrade_direct kind o3.world br o4 _ R e h4 (by rw [p.world]) (by rw [upgradePatch_replicas, p.replicas]) p.nonzero p.entry
          (validate_upgradePatch kind e wl p.valid) with ⟨_, rfl⟩ | ⟨hlt, _⟩
        · left; right; rfl
        · -- a second write happens only for the batch `1` (read back as "initial value")
          right
          refine ⟨rfl, ?_⟩
          rw [curSurge_upgradePatch] at hlt
          rw [p.entry]
          unfold RV.BatchCtx.normSurge at hlt
          split at hlt
          · rename_i h1; rw [h1]
          · omega
    | fin =>
      left; right
      rcases finalize_cases kind o3.world br noFault o4 h4 with ⟨_, e, _⟩ | ⟨wl4, d, w1, n, oo, hw4, hp, hfw, hc⟩
      · exact e
      obtain ⟨hr4, hen⟩ := finGoal_ok kind br w o3.world wl4 (hok ▸ (finalize_direct kind w br o3 h3).symm) hp hw4
      rcases hc with ⟨_, rfl, rfl, rfl, rfl⟩ | ⟨hr, _⟩
      · rcases hfw with ⟨_, rfl⟩ | ⟨_, rfl⟩
        · rfl
        · -- `RestoreHPA` finds the HPA enabled
          obtain ⟨w', b, n', _, hidle, ho⟩ := finishHPA_eq o3.world noFault 0
          rw [ho]
          refine Decidable.byContradiction fun hn => ?_
          obtain ⟨v, k, hk, hk0⟩ := hidle hn
          rw [← hen] at hk
          exact hk0 (by simpa using hpaOf_hpaW _ 0 rfl o3.world v k hk)
      · rw [hr4] at hr; cases hr
  · left; left; exact hok

end RV.Lemmas.CtlBlueGreen
