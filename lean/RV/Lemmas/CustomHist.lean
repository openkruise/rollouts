/-
  The custom provider over sequences of calls.  In order: more of
  the pointwise relation `All2`; each loop under a write budget against the loop without one (`*_eq`: they agree when
  there is no budget or the loop got through; `*_rel`: in any case each ref is as before or as the loop leaves it);
  `ensureRoutes` in normal form (`ensureRoutes_unfold`); the invariant of a ref against the user's configuration of it
  (`St`, `HRel`, `HRelT`, `HInv`), kept by every call whether it dies or not; a successful call made again writes
  nothing (`*_fix`); statelessness; `Finalise` under a budget ref by ref (`finOne` of `Lemmas/Custom`), what it restores, and the stored
  originals.
  Core Lean only.
-/
import RV.Lemmas.Custom
import RV.Oracle.C15Hist
namespace RV.Custom
open RV.Oracle.C15

theorem All2.append {α β} {R : α → β → Prop} {l l' : List α} {m m' : List β}
    (h : All2 R l m) (h' : All2 R l' m') : All2 R (l ++ l') (m ++ m') := by
  induction h with
  | nil => exact h'
  | cons hab _ ih => exact .cons hab ih

theorem All2.comp {α β γ} {R : α → β → Prop} {S : β → γ → Prop} {T : α → γ → Prop}
    {l : List α} {m : List β} {n : List γ} (h : All2 R l m) (h' : All2 S m n)
    (hT : ∀ a b c, R a b → S b c → T a c) : All2 T l n := by
  induction h generalizing n with
  | nil => cases h'; exact .nil
  | cons hab _ ih =>
    cases h' with
    | cons hbc hrest => exact .cons (hT _ _ _ hab hbc) (ih hrest)

theorem All2.modifyAt {α β} {R : α → β → Prop} {f : α → α} {g : β → β} {l : List α} {m : List β}
    (h : All2 R l m) (hfg : ∀ a b, R a b → R (f a) (g b)) (i : Nat) :
    All2 R (modifyAt f i l) (modifyAt g i m) := by
  induction h generalizing i with
  | nil => cases i <;> exact .nil
  | cons hab hrest ih =>
    cases i with
    | zero => exact .cons (hfg _ _ hab) hrest
    | succ n => exact .cons hab (ih n)

theorem modifyAt_id {α} (i : Nat) (l : List α) : modifyAt id i l = l := by
  induction l generalizing i with
  | nil => cases i <;> rfl
  | cons a t ih =>
    cases i with
    | zero => rfl
    | succ n => simp [modifyAt, ih n]

theorem All2.removeAt {α β} {R : α → β → Prop} {l : List α} {m : List β}
    (h : All2 R l m) (i : Nat) : All2 R (removeAt i l) (removeAt i m) := by
  induction h generalizing i with
  | nil => cases i <;> exact .nil
  | cons hab hrest ih =>
    cases i with
    | zero => exact hrest
    | succ n => exact .cons hab (ih n)

theorem All2.getAt {α β} {R : α → β → Prop} {l : List α} {m : List β}
    (h : All2 R l m) (i : Nat) :
    (getAt i l = none ∧ getAt i m = none) ∨ ∃ a b, getAt i l = some a ∧ getAt i m = some b ∧ R a b := by
  induction h generalizing i with
  | nil => cases i <;> exact .inl ⟨rfl, rfl⟩
  | cons hab _ ih =>
    cases i with
    | zero => exact .inr ⟨_, _, rfl, rfl, hab⟩
    | succ n => exact ih n

theorem all3_of_All2 {α β γ} {p : α → β → γ → Bool} {f : β → γ} {l : List α} {m : List β}
    (h : All2 (fun a b => p a b (f b) = true) l m) : all3 p l m (m.map f) = true := by
  induction h with
  | nil => rfl
  | cons hab _ ih => simp [all3, hab, ih]

/-! ## the loops under a budget

A loop is given enough budget in two ways: there is no fault at all (`b = none`), or the loop got
through without a failed `Update`.  Either way it does what the unfaulted loop does; the lemmas
`*_eq` say so once for both, and pass on that an unlimited budget stays unlimited. -/

theorem spend_none : spend none = some none := rfl

theorem pay_of {b : Option Nat} {w : Bool} {r : Option (Option Nat)}
    (hr : (if w = true then spend b else some b) = r) (h : b = none ∨ r ≠ none) :
    ∃ b1, r = some b1 ∧ (b = none → b1 = none) := by
  subst hr
  cases w
  · exact ⟨b, rfl, id⟩
  · rcases b with _ | _ | k
    · exact ⟨none, rfl, id⟩
    · exact h.elim (fun e => nomatch e) fun h => absurd rfl h
    · exact ⟨some k, rfl, fun e => nomatch e⟩

theorem storeIfAbsentW_fst (c : Codec) (o : Obj) : (storeIfAbsentW c o).1 = storeIfAbsent c o := by
  have : (storeObjectW c o).1 = storeObject c o := by
    unfold storeObjectW storeObject
    simp only []
    split <;> rfl
  cases h : lookup origKey (o.annotations.getD []) <;> simp [storeIfAbsentW, storeIfAbsent, h, this]

/-- the objects as the unfaulted second loop leaves them. -/
def storedOf (c : Codec) (l : List PRef) : List PRef := l.map fun p => (p.1, storeIfAbsent c p.2)

theorem storeLoop_eq {c : Codec} {b : Option Nat} {l : List PRef} (h : b = none ∨ (storeLoop c b l).2 ≠ none) :
    ∃ b1, storeLoop c b l = (storedOf c l, some b1) ∧ (b = none → b1 = none) := by
  induction l generalizing b with
  | nil => exact ⟨b, rfl, id⟩
  | cons p r ih =>
    simp only [storeLoop] at h ⊢
    obtain ⟨b1, hb, hn⟩ := pay_of rfl (h.imp_right fun h e => h (by rw [e]))
    rw [hb] at h ⊢
    obtain ⟨b2, h2, hn2⟩ := ih (h.imp_left hn)
    exact ⟨b2, by simp only [h2, storedOf, List.map_cons, storeIfAbsentW_fst], fun e => hn2 (hn e)⟩

theorem storeLoop_rel (c : Codec) (b : Option Nat) (l : List PRef) :
    All2 (fun p p' => p'.1 = p.1 ∧ (p'.2 = p.2 ∨ p'.2 = storeIfAbsent c p.2)) l (storeLoop c b l).1 := by
  induction l generalizing b with
  | nil => exact .nil
  | cons p r ih =>
    simp only [storeLoop]
    split
    · exact All2.refl_of _ fun a _ => ⟨rfl, .inl rfl⟩
    · exact .cons ⟨rfl, .inr (storeIfAbsentW_fst c p.2)⟩ (ih _)

theorem applyLoop_eq {b : Option Nat} {ds : List Data} {l : List PRef}
    (h : b = none ∨ (applyLoop b ds l).2 ≠ none) :
    applyLoop b ds l = ((applyAll ds l).map (·.1), some ((applyAll ds l).all fun r => !r.2)) := by
  induction ds generalizing l b with
  | nil => cases l <;> rfl
  | cons d ds ih =>
    cases l with
    | nil => rfl
    | cons p r =>
      simp only [applyLoop] at h ⊢
      obtain ⟨b1, hb, hn⟩ := pay_of rfl (h.imp_right fun h e => h (by rw [e]))
      simp only [hb] at h ⊢
      rw [ih (h.imp hn fun h e => h (by rw [e]; rfl))]
      rfl

theorem applyLoop_rel (c : Codec) (s : Strategy) {l : List PRef} {ds : List Data}
    (h : planAll c s l = some ds) (b : Option Nat) :
    All2 (fun p r => r.script = p.1 ∧ (r.obj = some p.2 ∨ ∃ d, r.obj = some (compareAndUpdate d p.2).1))
      l (applyLoop b ds l).1 := by
  induction l generalizing ds b with
  | nil => cases h; exact .nil
  | cons p r ih =>
    obtain ⟨d, ds', _, hr, rfl⟩ := planAll_cons_some h
    simp only [applyLoop]
    split
    · exact (All2.refl_of _ fun _ _ => rfl).map_right fun _ _ e => e ▸ ⟨rfl, .inl rfl⟩
    · exact .cons ⟨rfl, .inr ⟨d, rfl⟩⟩ (ih hr _)

theorem mkRef_eq_refOf : mkRef = refOf := rfl

theorem ensureRoutes_unfold (c : Codec) (s : Strategy) (st : List Ref) :
    ensureRoutes c s st =
      match getAll st with
      | none => (st, .err)
      | some objs =>
        match planAll c s (storedOf c objs) with
        | none => ((storedOf c objs).map refOf, .err)
        | some ds => ((applyAll ds (storedOf c objs)).map (·.1), .ok ((applyAll ds (storedOf c objs)).all fun r => !r.2)) := by
  have hs : ∀ objs : List PRef,
      (objs.map fun x => match x with | (f, o) => (f, storeIfAbsent c o)) = storedOf c objs := fun _ => rfl
  have hr : ∀ objs : List PRef,
      (objs.map fun x => match x with | (f, o) => (⟨f, some o⟩ : Ref)) = objs.map refOf := fun _ => rfl
  unfold ensureRoutes
  cases getAll st with
  | none => rfl
  | some objs =>
    simp only [hs, hr]
    cases planAll c s (storedOf c objs) <;> rfl

theorem ensureRoutesF_eq {c : Codec} {b : Option Nat} {s : Strategy} {st : List Ref}
    (h : b = none ∨ (ensureRoutesF c b s st).2 ≠ .err) : ensureRoutesF c b s st = ensureRoutes c s st := by
  rw [ensureRoutes_unfold]
  unfold ensureRoutesF at h ⊢
  cases hg : getAll st with
  | none => rfl
  | some objs =>
    simp only [hg] at h ⊢
    obtain ⟨b1, hs, hn⟩ := storeLoop_eq (c := c) (l := objs) (h.imp_right fun h e => h (by rw [e]))
    simp only [hs] at h ⊢
    cases hp : planAll c s (storedOf c objs) with
    | none => rfl
    | some ds =>
      simp only [hp] at h ⊢
      rw [applyLoop_eq (h.imp hn fun h e => h (by rw [e]))]

theorem ensureRoutesF_none (c : Codec) (s : Strategy) (st : List Ref) :
    ensureRoutesF c none s st = ensureRoutes c s st := ensureRoutesF_eq (.inl rfl)

theorem ensureRoutesF_ok {c : Codec} {b : Option Nat} {s : Strategy} {st : List Ref}
    (h : (ensureRoutesF c b s st).2 ≠ .err) : ensureRoutesF c b s st = ensureRoutes c s st :=
  ensureRoutesF_eq (.inr h)

/-- applying the plans of a call leaves objects for which the same call has nothing to do: the annotation
    is bound (nothing to store), the plans are the same (`origOf` is kept), and nothing is to be updated. -/
theorem applyAll_spec {c : Codec} {s : Strategy} {l : List PRef} {ds : List Data}
    (h : planAll c s l = some ds) :
    ∃ l', (applyAll ds l).map (·.1) = l'.map refOf
      ∧ All2 (fun p p' => p'.1 = p.1 ∧ ∃ d, p'.2 = (compareAndUpdate d p.2).1) l l'
      ∧ storedOf c l' = l' ∧ planAll c s l' = some ds
      ∧ applyAll ds l' = l'.map fun p => (refOf p, false) := by
  induction l generalizing ds with
  | nil => cases h; exact ⟨[], rfl, .nil, rfl, rfl, rfl⟩
  | cons p r ih =>
    obtain ⟨d, ds', hd, hr, rfl⟩ := planAll_cons_some h
    obtain ⟨l', h1, h2, h3, h4, h5⟩ := ih hr
    obtain ⟨f, x⟩ := p
    -- a plan exists only for an object that carries the annotation, and `compareAndUpdate` keeps it
    obtain ⟨v, hv⟩ : ∃ v, lookup origKey (x.annotations.getD []) = some v := by
      cases hl : lookup origKey (x.annotations.getD []) with
      | none => simp [plan, origOf, hl] at hd
      | some v => exact ⟨v, rfl⟩
    have hst := storeIfAbsent_of_bound (c := c) (compareAndUpdate_bound d x hv)
    have hplan : plan c s f (compareAndUpdate d x).1 = some d := by
      simpa only [plan, origOf_compareAndUpdate] using hd
    refine ⟨(f, (compareAndUpdate d x).1) :: l', ?_, .cons ⟨rfl, d, rfl⟩ h2, ?_, ?_, ?_⟩
    · simp [applyAll, h1, refOf]
    · simp only [storedOf, List.map_cons, hst]; exact congrArg _ h3
    · simp [planAll, hplan, h4]
    · simp [applyAll, compareAndUpdate_idem, h5, refOf]

/-- `u` qualifies as a user's manifest: no provider annotation; the Env assumption on `encoding/json`. -/
def Good (c : Codec) (u : Obj) : Prop := noOrig u = true ∧ c.LawfulOn (dataOf u)

/-- the object `x` of a ref whose user's last configuration is `u`: it is that configuration (as
    written, or as Finalise restores it), or it carries `u` as its stored original. -/
def St (c : Codec) (u x : Obj) : Prop := x = u ∨ x = normalise u ∨ Tracked c u x

/-- the invariant of a ref whose object exists, against the user's configuration `p0` of it (script and manifest): the manifest
    qualifies, the script is the user's, the object is in one of the states `St` -/
structure HRel (c : Codec) (p0 p : PRef) : Prop where
  good : Good c p0.2
  script : p.1 = p0.1
  state : St c p0.2 p.2

/-- … with the object known to carry its original (after the store loop of `EnsureRoutes`) -/
structure HRelT (c : Codec) (p0 p : PRef) : Prop where
  good : Good c p0.2
  script : p.1 = p0.1
  tracked : Tracked c p0.2 p.2

/-- the invariant of a ref as the provider holds it: as `HRel`, of the object if there is one -/
def HInv (c : Codec) (p0 : PRef) (r : Ref) : Prop :=
  Good c p0.2 ∧ r.script = p0.1 ∧ ∀ x, r.obj = some x → St c p0.2 x

theorem dataOf_normalise (o : Obj) : dataOf (normalise o) = dataOf o := by
  simp [dataOf, normalise, getD_bind_optOfList]

theorem noOrig_normalise {o : Obj} (h : noOrig o = true) : noOrig (normalise o) = true := by
  simpa [noOrig, normalise, getD_bind_optOfList] using h

theorem store_tracked_of_St {c : Codec} {u x : Obj} (hg : Good c u) (h : St c u x) :
    Tracked c u (storeIfAbsent c x) := by
  rcases h with rfl | rfl | h
  · exact storeIfAbsent_tracked hg.2 hg.1
  · simpa [Tracked, dataOf_normalise] using
      storeIfAbsent_tracked (c := c) (o0 := normalise u) (by rw [dataOf_normalise]; exact hg.2) (noOrig_normalise hg.1)
  · rw [storeIfAbsent_of_bound h]; exact h

theorem restore_of_St {c : Codec} {u x : Obj} (hg : Good c u) (h : St c u x) :
    (noOrig x = true ∧ restoreObject c x = (x, false) ∧ (x = u ∨ x = normalise u))
    ∨ (noOrig x = false ∧ restoreObject c x = (normalise u, true)) := by
  rcases h with rfl | rfl | h
  · exact .inl ⟨hg.1, restore_of_noOrig c hg.1, .inl rfl⟩
  · exact .inl ⟨noOrig_normalise hg.1, restore_of_noOrig c (noOrig_normalise hg.1), .inr rfl⟩
  · exact .inr ⟨by simp [noOrig, h.lookup], restore_of_tracked hg.2 hg.1 h⟩

/-- once the store loop has run, every object carries its original -/
theorem stored_tracked {c : Codec} {l0 l : List PRef} (h : All2 (HRel c) l0 l) : All2 (HRelT c) l0 (storedOf c l) :=
  h.map_right fun _ _ hr => ⟨hr.good, hr.script, store_tracked_of_St hr.good hr.state⟩

theorem HInv_of_HRel {c : Codec} {p0 p : PRef} (h : HRel c p0 p) : HInv c p0 (refOf p) :=
  ⟨h.good, h.script, fun _ hx => Option.some.inj hx ▸ h.state⟩

theorem HRel_of_HInv_present {c : Codec} {us l : List PRef} (h : All2 (HInv c) us (l.map refOf)) :
    All2 (HRel c) us l := by
  induction l generalizing us with
  | nil => cases h; exact .nil
  | cons p r ih =>
    cases h with
    | cons hab hrest => exact .cons ⟨hab.1, hab.2.1, hab.2.2 p.2 rfl⟩ (ih hrest)

theorem ensureRoutesF_inv {c : Codec} (b : Option Nat) (s : Strategy) {us : List PRef} {st : List Ref}
    (h : All2 (HInv c) us st) : All2 (HInv c) us (ensureRoutesF c b s st).1 := by
  unfold ensureRoutesF
  cases hg : getAll st with
  | none => exact h
  | some objs =>
    rw [getAll_some hg, mkRef_eq_refOf] at h
    have hrel := HRel_of_HInv_present h
    -- after the second loop: still the invariant; when the loop completed, every object is tracked
    have hstored : All2 (HRel c) us (storeLoop c b objs).1 :=
      hrel.comp (storeLoop_rel c b objs) fun p0 p p' hr hs => by
        refine ⟨hr.good, hs.1.trans hr.script, ?_⟩
        rcases hs.2 with e | e <;> rw [e]
        · exact hr.state
        · exact .inr (.inr (store_tracked_of_St hr.good hr.state))
    have hInvStored : All2 (HInv c) us ((storeLoop c b objs).1.map refOf) :=
      hstored.map_right fun _ _ => HInv_of_HRel
    simp only []
    cases hs : (storeLoop c b objs).2 with
    | none => exact hInvStored
    | some b1 =>
      simp only []
      cases hp : planAll c s (storeLoop c b objs).1 with
      | none => exact hInvStored
      | some ds =>
        have htr : All2 (HRelT c) us (storeLoop c b objs).1 := by
          obtain ⟨_, e, _⟩ := storeLoop_eq (c := c) (l := objs) (.inr (by rw [hs]; exact nofun))
          rw [e]
          exact stored_tracked hrel
        have hfin : All2 (HInv c) us (applyLoop b1 ds (storeLoop c b objs).1).1 :=
          htr.comp (applyLoop_rel c s hp b1) fun p0 p r hr ha => by
            refine ⟨hr.good, ha.1.trans hr.script, fun x hx => .inr (.inr ?_)⟩
            rcases ha.2 with e | ⟨d, e⟩ <;> cases e.symm.trans hx
            · exact hr.tracked
            · exact compareAndUpdate_bound d _ hr.tracked
        simp only []
        cases (applyLoop b1 ds (storeLoop c b objs).1).2 <;> exact hfin

theorem ensureRoutes_tracked {c : Codec} (s : Strategy) {l0 l : List PRef} (h : All2 (HRel c) l0 l) :
    ∃ l', (ensureRoutes c s (l.map mkRef)).1 = l'.map mkRef ∧ All2 (HRelT c) l0 l' := by
  have htr := stored_tracked h
  simp only [ensureRoutes_unfold, getAll_map_mkRef]
  cases hp : planAll c s (storedOf c l) with
  | none => exact ⟨_, rfl, htr⟩
  | some ds =>
    obtain ⟨l', h1, h2, _⟩ := applyAll_spec hp
    refine ⟨l', h1, htr.comp h2 fun _ _ _ ha hb => ⟨ha.good, hb.1.trans ha.script, ?_⟩⟩
    obtain ⟨d, e⟩ := hb.2
    rw [e]; exact compareAndUpdate_bound d _ ha.tracked

theorem ensureSeq_rel {c : Codec} (steps : List Strategy) {l0 l : List PRef} (h : All2 (HRel c) l0 l) :
    ∃ l', ensureSeq c steps (l.map mkRef) = l'.map mkRef ∧ All2 (HRel c) l0 l'
      ∧ (steps ≠ [] ∨ All2 (HRelT c) l0 l → All2 (HRelT c) l0 l') := by
  induction steps generalizing l with
  | nil => exact ⟨l, rfl, h, fun hh => hh.elim (fun hne => absurd rfl hne) id⟩
  | cons s ss ih =>
    obtain ⟨l1, hl1, h1⟩ := ensureRoutes_tracked s h
    obtain ⟨l', hl', h2, h3⟩ := ih (h1.imp fun _ _ h => ⟨h.good, h.script, .inr (.inr h.tracked)⟩)
    exact ⟨l', by rw [← hl', ensureSeq, hl1], h2, fun _ => h3 (.inr h1)⟩

theorem hrel_init (c : Codec) (l0 : List PRef) (hno : ∀ p, p ∈ l0 → noOrig p.2 = true)
    (hc : ∀ p, p ∈ l0 → c.LawfulOn (dataOf p.2)) :
    All2 (HRel c) l0 l0 :=
  All2.refl_of l0 fun p hp => ⟨⟨hno p hp, hc p hp⟩, rfl, .inl rfl⟩

theorem storeIfAbsentW_snd {c : Codec} {o : Obj} (h : storeIfAbsent c o = o) : (storeIfAbsentW c o).2 = false := by
  cases hl : lookup origKey (o.annotations.getD []) with
  | some v => simp [storeIfAbsentW, hl]
  | none =>
    simp only [storeIfAbsent, hl, storeObject] at h
    simp only [storeIfAbsentW, hl, storeObjectW]
    by_cases he : origOf o = c.enc (dataOf o)
    · simp [he]
    · simp only [he, if_false] at h
      have := congrArg (fun x => lookup origKey (x.annotations.getD [])) h
      simp only [Option.getD_some, lookup_setKey_self, hl] at this
      cases this

/-- a list the store loop leaves as it is: no object of it is written -/
theorem storedOf_cons_fix {c : Codec} {p : PRef} {r : List PRef} (h : storedOf c (p :: r) = p :: r) :
    storeIfAbsentW c p.2 = (p.2, false) ∧ storedOf c r = r := by
  simp only [storedOf, List.map_cons, List.cons.injEq] at h
  have hp : storeIfAbsent c p.2 = p.2 := congrArg Prod.snd h.1
  exact ⟨Prod.ext ((storeIfAbsentW_fst c p.2).trans hp) (storeIfAbsentW_snd hp), h.2⟩

theorem storeLoop_fix {c : Codec} {l : List PRef} (h : storedOf c l = l) (b : Option Nat) :
    storeLoop c b l = (l, some b) := by
  induction l generalizing b with
  | nil => rfl
  | cons p r ih =>
    obtain ⟨hp, hr⟩ := storedOf_cons_fix h
    simp [storeLoop, hp, ih hr]

theorem applyLoop_fix (c : Codec) (s : Strategy) {l : List PRef} {ds : List Data}
    (hp : planAll c s l = some ds) (h : ((applyAll ds l).all fun r => !r.2) = true) (b : Option Nat) :
    applyLoop b ds l = (l.map refOf, some true) ∧ (applyAll ds l).map (·.1) = l.map refOf := by
  induction l generalizing ds b with
  | nil => cases hp; exact ⟨rfl, rfl⟩
  | cons p r ih =>
    obtain ⟨d, ds', _, hr, rfl⟩ := planAll_cons_some hp
    simp only [applyAll, List.all_cons, Bool.and_eq_true, Bool.not_eq_eq_eq_not, Bool.not_true] at h
    obtain ⟨hu, hrest⟩ := h
    obtain ⟨ih1, ih2⟩ := ih hr hrest b
    simp [applyLoop, applyAll, hu, ih1, ih2, compareAndUpdate_unchanged hu, refOf]

theorem refOf_injective : ∀ {l l' : List PRef}, l.map refOf = l'.map refOf → l = l' := by
  intro l l' h
  have := congrArg getAll h
  rwa [← mkRef_eq_refOf, getAll_map_mkRef, getAll_map_mkRef, Option.some.injEq] at this

/-- what it means that a call changes nothing and reports `done`: every object exists, carries its annotation,
    has a plan, and none of the plans asks for an `Update` -/
theorem ensureRoutes_noop {c : Codec} {s : Strategy} {st : List Ref} (h : ensureRoutes c s st = (st, .ok true)) :
    ∃ l ds, getAll st = some l ∧ st = l.map refOf ∧ storedOf c l = l ∧ planAll c s l = some ds ∧
      ((applyAll ds l).all fun r => !r.2) = true := by
  rw [ensureRoutes_unfold] at h
  cases hg : getAll st with
  | none => simp [hg] at h
  | some l =>
    have hst := getAll_some hg
    rw [mkRef_eq_refOf] at hst
    simp only [hg] at h
    cases hp : planAll c s (storedOf c l) with
    | none => simp [hp] at h
    | some ds =>
      simp only [hp, Prod.mk.injEq, Res.ok.injEq] at h
      have hsto : storedOf c l = l := refOf_injective (by rw [← (applyLoop_fix c s hp h.2 none).2, h.1, hst])
      exact ⟨l, ds, rfl, hst, hsto, hsto ▸ hp, hsto ▸ h.2⟩

/-- a call that changes nothing and reports `done` issues no `Update` at all: it succeeds even when the
    API server refuses every write. -/
theorem ensureRoutesF_fix {c : Codec} {s : Strategy} {st : List Ref}
    (h : ensureRoutes c s st = (st, .ok true)) (b : Option Nat) : ensureRoutesF c b s st = (st, .ok true) := by
  obtain ⟨l, ds, hg, rfl, hsto, hp, hall⟩ := ensureRoutes_noop h
  simp [ensureRoutesF, hg, storeLoop_fix hsto b, hp, (applyLoop_fix c s hp hall b).1]

theorem stateless_of_HRel {c : Codec} (s : Strategy) {l0 l : List PRef} {ds : List Data}
    (h : All2 (HRel c) l0 l) (hp : planAll c s (storedOf c l) = some ds) :
    freshAll s l0 = some ds ∧
      statelessOK c (l0.map (·.2)) ds (((applyAll ds (storedOf c l)).map (·.1)).map (·.obj)) = true := by
  unfold statelessOK
  induction h generalizing ds with
  | nil => cases hp; exact ⟨rfl, rfl⟩
  | @cons p0 p r0 r hab _ ih =>
    obtain ⟨d, ds', hd, hr, rfl⟩ := planAll_cons_some (p := (p.1, storeIfAbsent c p.2)) hp
    obtain ⟨hds, hall⟩ := ih hr
    obtain ⟨f0, o0⟩ := p0
    obtain ⟨f, x⟩ := p
    have ht := store_tracked_of_St hab.good hab.state
    obtain rfl : f = f0 := hab.script
    -- the plan is the script on the user's object alone
    rw [plan_of_tracked hab.good.2 s f ht] at hd
    cases f with
    | none => cases hd
    | some g =>
      have heqv := compareAndUpdate_eqv d (storeIfAbsent c x)
      rw [origOf_of_tracked ht] at heqv
      simp only at hd
      refine ⟨by simp only [freshAll, hd, hds], ?_⟩
      simp only [storedOf, List.map_cons, applyAll, all3, heqv, Bool.true_and]
      exact hall

theorem ensureRoutes_stateless {c : Codec} (s : Strategy) {us : List PRef} {st : List Ref}
    (h : All2 (HInv c) us st) (hok : (ensureRoutes c s st).2 ≠ .err) :
    ∃ ds, freshAll s us = some ds ∧
      statelessOK c (us.map (·.2)) ds ((ensureRoutes c s st).1.map (·.obj)) = true := by
  rw [ensureRoutes_unfold] at hok ⊢
  cases hg : getAll st with
  | none => simp [hg] at hok
  | some l =>
    rw [getAll_some hg, mkRef_eq_refOf] at h
    cases hp : planAll c s (storedOf c l) with
    | none => simp [hg, hp] at hok
    | some ds =>
      simp only [hp]
      exact ⟨ds, stateless_of_HRel s (HRel_of_HInv_present h) hp⟩

theorem finaliseLoop_eq {c : Codec} {b : Option Nat} {st : List Ref}
    (h : b = none ∨ (finaliseLoop c b st).2.2 = false) :
    finaliseLoop c b st = ((st.map (finOne c)).map (·.1), (st.map (finOne c)).any (·.2), false) := by
  induction st generalizing b with
  | nil => rfl
  | cons r rs ih =>
    unfold finaliseLoop at h ⊢
    cases ho : r.obj with
    | none =>
      simp only [ho] at h ⊢
      simp [ih h, finOne_none ho]
    | some o =>
      simp only [ho] at h ⊢
      cases hw : (restoreObject c o).2 with
      | false =>
        simp only [hw, Bool.false_eq_true, if_false] at h ⊢
        simp [ih h, finOne_some ho, hw]
      | true =>
        simp only [hw, if_true] at h ⊢
        obtain ⟨b1, hb, hn⟩ := pay_of (w := true) (b := b) rfl
          (h.imp_right fun h e => by simp [show spend b = none from e] at h)
        simp only [if_true] at hb
        simp only [hb] at h ⊢
        simp [ih (h.imp_left hn), finOne_some ho, hw]

theorem finaliseF_eq {c : Codec} {b : Option Nat} {st : List Ref}
    (h : b = none ∨ (finaliseF c b st).2 ≠ .err) : finaliseF c b st = finalise c st := by
  have hl := finaliseLoop_eq (c := c) (st := st) <| h.imp_right fun h => by
    cases hh : (finaliseLoop c b st).2.2 with
    | false => rfl
    | true => simp [finaliseF, hh] at h
  simp [finaliseF, finalise_eq, hl]

/-- what a `Finalise` loop does to one ref, whatever fails: it restores it (`finOne`) or leaves it alone -/
def FinRel (c : Codec) (r r' : Ref) : Prop := r' = r ∨ r' = (finOne c r).1

theorem finaliseLoop_rel (c : Codec) (b : Option Nat) (st : List Ref) : All2 (FinRel c) st (finaliseLoop c b st).1 := by
  induction st generalizing b with
  | nil => exact .nil
  | cons r rs ih =>
    unfold finaliseLoop
    cases ho : r.obj with
    | none => exact .cons (.inl rfl) (ih b)
    | some o =>
      simp only []
      split
      · cases spend b with
        | none => exact .cons (.inl rfl) (ih b)
        | some b1 => exact .cons (.inr (by rw [finOne_some ho])) (ih b1)
      · exact .cons (.inr (by rw [finOne_some ho])) (ih b)

theorem finOne_inv {c : Codec} {p0 : PRef} {r : Ref} (h : HInv c p0 r) : HInv c p0 (finOne c r).1 := by
  cases ho : r.obj with
  | none => rwa [finOne_none ho]
  | some o =>
    rw [finOne_some ho]
    refine ⟨h.1, h.2.1, fun _ hx => Option.some.inj hx ▸ ?_⟩
    rcases restore_of_St h.1 (h.2.2 o ho) with ⟨_, h2, _⟩ | ⟨_, h2⟩ <;> rw [h2]
    · exact h.2.2 o ho
    · exact .inr (.inl rfl)

/-- a `Finalise` loop that restores each ref or leaves it alone keeps the invariant: `finaliseLoop` under any budget,
    and the clean-up loop of `RV.TrafficX`, whose reads may fail as well -/
theorem HInv_of_finRel {c : Codec} {us : List PRef} {st st' : List Ref} (h : All2 (HInv c) us st)
    (hr : All2 (FinRel c) st st') : All2 (HInv c) us st' :=
  h.comp hr fun _ _ _ hab hbc => by
    rcases hbc with e | e <;> rw [e]
    · exact hab
    · exact finOne_inv hab

theorem finaliseF_inv {c : Codec} (b : Option Nat) {us : List PRef} {st : List Ref}
    (h : All2 (HInv c) us st) : All2 (HInv c) us (finaliseF c b st).1 :=
  HInv_of_finRel h (finaliseLoop_rel c b st)

theorem histRestore1_of_HInv {c : Codec} {p0 : PRef} {r : Ref} (h : HInv c p0 r) :
    histRestore1 p0.2 r.obj (finOne c r).1.obj = true
    ∧ (finOne c r).2 = (match r.obj with | some x => !noOrig x | none => false) := by
  cases ho : r.obj with
  | none => simp [finOne_none ho, ho, histRestore1]
  | some x =>
    rw [finOne_some ho]
    rcases restore_of_St h.1 (h.2.2 x ho) with ⟨hn, hr, hx⟩ | ⟨hn, hr⟩
    · have hxu : (decide (x = p0.2) || decide (x = normalise p0.2)) = true := by
        rcases hx with e | e <;> simp [← e]
      simp [histRestore1, hr, hn, hxu]
    · simp [histRestore1, hr, hn, noOrig_normalise h.1.1]

theorem finalise_restores_of_inv {c : Codec} {us : List PRef} {st : List Ref} (h : All2 (HInv c) us st) :
    histRestoreOK (us.map (·.2)) (st.map (·.obj)) ((finalise c st).1.map (·.obj)) = true
    ∧ (finalise c st).2 = .ok (anyAnnotated (st.map (·.obj))) := by
  rw [finalise_eq]
  simp only [histRestoreOK, anyAnnotated, Res.ok.injEq]
  induction h with
  | nil => exact ⟨rfl, rfl⟩
  | cons hab _ ih =>
    obtain ⟨h1, h2⟩ := histRestore1_of_HInv hab
    simp only [List.map_cons, all3, List.any_cons, h1, h2, Bool.true_and]
    exact ⟨ih.1, by rw [ih.2]; rfl⟩

theorem origKept1_of_HInv {c : Codec} {p0 : PRef} {r : Ref} (h : HInv c p0 r) :
    origKept1 c p0.2 r.obj = true := by
  unfold origKept1
  cases ho : r.obj with
  | none => rfl
  | some x =>
    simp only []
    rcases h.2.2 x ho with rfl | rfl | e
    · simp [lookup_of_noOrig h.1.1]
    · simp [lookup_of_noOrig (noOrig_normalise h.1.1)]
    · simp [e.lookup]

theorem origKeptOK_of_inv {c : Codec} {us : List PRef} {st : List Ref} (h : All2 (HInv c) us st) :
    origKeptOK c (us.map (·.2)) (st.map (·.obj)) = true := by
  unfold origKeptOK
  induction h with
  | nil => rfl
  | cons hab _ ih => simp [all2, origKept1_of_HInv hab, ih]

theorem noOrig_origOf {o : Obj} (h : noOrig o = true) : origOf o = "" := by
  unfold noOrig at h
  unfold origOf
  cases hl : lookup origKey (o.annotations.getD []) with
  | none => rfl
  | some v => rw [hl] at h; cases h

theorem finOne_noOrig {c : Codec} {p0 : PRef} {r : Ref} (h : HInv c p0 r) (o : Obj)
    (ho : (finOne c r).1.obj = some o) : noOrig o = true := by
  cases hr : r.obj with
  | none => rw [finOne_none hr, hr] at ho; cases ho
  | some x =>
    rw [finOne_some hr] at ho
    simp only [Option.some.injEq] at ho
    subst ho
    rcases restore_of_St h.1 (h.2.2 x hr) with ⟨hn, he, _⟩ | ⟨_, he⟩
    · rw [he]; exact hn
    · rw [he]; exact noOrig_normalise h.1.1

theorem finAll_noOrig {c : Codec} {us : List PRef} {st : List Ref} (h : All2 (HInv c) us st) :
    ∀ r, r ∈ (st.map (finOne c)).map (·.1) → ∀ o, r.obj = some o → noOrig o = true := by
  induction h with
  | nil => intro r hr; cases hr
  | cons hab _ ih =>
    intro r hr o ho
    simp only [List.map_cons, List.mem_cons] at hr
    rcases hr with e | e
    · subst e; exact finOne_noOrig hab o ho
    · exact ih r e o ho

end RV.Custom
