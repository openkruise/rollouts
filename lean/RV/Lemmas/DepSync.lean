import RV.Lemmas.BatchCtx
import RV.Lemmas.InsertSort
import RV.Oracle.C17
/-!
Lemmas about the model of one `syncDeployment` (`RV.Model.DepSync`) and the predicates of `RV.Oracle.C17`. `inv` (`I` in
`RV.Props.C17`) is well-formedness only — sizes and status numbers ≥ 0, available ≤ pods, fenceposts and annotations ≥ 0; per
ReplicaSet it says `Q` — so every clause is a one-step fact about `post s`, and the work is to write `post s` out.
Rolling path: both scale-down loops are instances of one relation `Lowered` (a budget and a per-ReplicaSet floor);
`reconcileOldReplicaSets` is read by its stages (`reconcileOld_cases`) and from then on only between totals (`OldOutcome`);
the new ReplicaSet goes from `startSize` to `newTarget`; the whole sync is the equation `rolloutRolling_eq` / `post_inScope`,
restated in the oracle's totals as `Rolled` (`post_rolled`), over which a clause is linear arithmetic.
Scaling path: it only has to preserve `inv`; what a scale write can do to a ReplicaSet is `WriteStable`.
For the controller around `syncDeployment`: sizes that add up are left alone, no ReplicaSet is created, the new one is not lost.
Convergence: the variant does not grow, falls strictly from a settled non-final state, no scaling event arises on the
rolling path, environment steps keep all of it.
-/
namespace RV.DepSync
open RV.Arith RV.Oracle.C17

/-! ### sums, sorting, filtering -/

@[simp] theorem sumBy_nil (f : RS → Int) : sumBy f [] = 0 := rfl
@[simp] theorem sumBy_cons (f : RS → Int) (r : RS) (l : List RS) : sumBy f (r :: l) = f r + sumBy f l := rfl

theorem sumBy_append (f : RS → Int) (l₁ l₂ : List RS) : sumBy f (l₁ ++ l₂) = sumBy f l₁ + sumBy f l₂ := by
  induction l₁ with
  | nil => simp
  | cons r l ih => simp [ih]; omega

theorem perm_insertBy (lt : RS → RS → Bool) (x : RS) (l : List RS) : (insertBy lt x l).Perm (x :: l) :=
  InsertSort.perm_insert (insertBy lt) (fun _ => rfl) (fun x y ys => by rw [insertBy]; split <;> simp) x l

theorem perm_sortBy (lt : RS → RS → Bool) (l : List RS) : (sortBy lt l).Perm l :=
  InsertSort.perm_sort (perm_insertBy lt) (sortBy lt) rfl (fun _ _ => rfl) l

theorem sumBy_perm (f : RS → Int) {l l' : List RS} (h : l.Perm l') : sumBy f l = sumBy f l' := by
  induction h with
  | nil => rfl
  | cons _ _ ih => simp only [sumBy_cons, ih]
  | swap => simp only [sumBy_cons]; omega
  | trans _ _ ih₁ ih₂ => exact ih₁.trans ih₂

theorem sumBy_sortBy (f : RS → Int) (lt : RS → RS → Bool) (l : List RS) :
    sumBy f (sortBy lt l) = sumBy f l :=
  sumBy_perm f (perm_sortBy lt l)

theorem mem_sortBy {lt : RS → RS → Bool} {r : RS} {l : List RS} : r ∈ sortBy lt l ↔ r ∈ l :=
  (perm_sortBy lt l).mem_iff

theorem length_sortBy (lt : RS → RS → Bool) (l : List RS) : (sortBy lt l).length = l.length :=
  (perm_sortBy lt l).length_eq

theorem sumBy_active_inactive (f : RS → Int) (l : List RS) :
    sumBy f (active l) + sumBy f (inactive l) = sumBy f l := by
  induction l with
  | nil => rfl
  | cons r rs ih =>
    simp only [active, inactive, List.filter_cons] at *
    by_cases h : 0 < r.spec <;> simp [h] <;> omega

theorem sumSpec_inactive_nonpos (l : List RS) : sumSpec (inactive l) ≤ 0 := by
  induction l with
  | nil => simp [inactive, sumSpec]
  | cons r rs ih =>
    simp only [inactive, sumSpec, List.filter_cons] at *
    by_cases h : 0 < r.spec <;> simp [h] <;> omega

theorem sumSpec_inactive_zero (l : List RS) (h : ∀ r ∈ l, 0 ≤ r.spec) : sumSpec (inactive l) = 0 := by
  induction l with
  | nil => simp [inactive, sumSpec]
  | cons r rs ih =>
    have h1 := h r (by simp)
    have ih := ih (fun x hx => h x (by simp [hx]))
    simp only [inactive, sumSpec, List.filter_cons] at *
    by_cases hp : 0 < r.spec <;> simp [hp] <;> omega

theorem sumSpec_active (l : List RS) (h : ∀ r ∈ l, 0 ≤ r.spec) : sumSpec (active l) = sumSpec l := by
  have := sumBy_active_inactive (·.spec) l
  have := sumSpec_inactive_zero l h
  simp only [sumSpec] at *; omega

theorem sumBy_nonneg (f : RS → Int) (l : List RS) (h : ∀ r ∈ l, 0 ≤ f r) : 0 ≤ sumBy f l := by
  induction l with
  | nil => simp
  | cons r rs ih =>
    have := h r (by simp)
    have := ih (fun x hx => h x (by simp [hx]))
    simp; omega

theorem mem_active {r : RS} {l : List RS} : r ∈ active l → r ∈ l := by
  simp only [active, List.mem_filter]; exact fun h => h.1
theorem mem_inactive {r : RS} {l : List RS} : r ∈ inactive l → r ∈ l := by
  simp only [inactive, List.mem_filter]; exact fun h => h.1

theorem roundDiv_nonneg (a b : Int) (ha : 0 ≤ a) (hb : 0 < b) : 0 ≤ roundDiv a b := by
  unfold roundDiv
  have h1 : decide (a < 0) = false := by simp; omega
  have h2 : decide (b < 0) = false := by simp; omega
  simp only [h1, h2, bne_self_eq_false, Bool.false_eq_true, if_false]
  exact Int.natCast_nonneg _

/-! ### the invariant -/

theorem rsOk_iff (r : RS) : rsOk r = true ↔ 0 ≤ r.spec ∧ 0 ≤ r.avail ∧ r.avail ≤ r.pods := by
  simp [rsOk, and_assoc]

structure AllRS (P : RS → Prop) (nw : Option RS) (olds : List RS) : Prop where
  olds : ∀ r ∈ olds, P r
  new : ∀ r, nw = some r → P r

/-- per-RS part of the invariant -/
def Q (r : RS) : Prop := rsOk r = true ∧ annoOk r = true

theorem Q_of (r : RS) (h1 : rsOk r = true) (h2 : annoOk r = true) : Q r := ⟨h1, h2⟩

theorem inv_iff (s : State) :
    inv s = true ↔ 0 ≤ s.replicas ∧ fenceOk s.maxSurge = true ∧ fenceOk s.maxUnavailable = true ∧
      AllRS Q s.new s.olds ∧ 0 ≤ s.statusReplicas := by
  simp only [inv, invCore, invAnno, Bool.and_eq_true, decide_eq_true_eq, List.all_eq_true, Option.all_eq_true, Q]
  constructor
  · rintro ⟨⟨⟨⟨⟨h1, h2⟩, h3⟩, h4⟩, h5⟩, ⟨⟨h6, h7⟩, h8⟩⟩
    exact ⟨h1, h2, h3, ⟨fun r hr => ⟨h4 r hr, h7 r hr⟩, fun r hr => ⟨h5 r hr, h8 r hr⟩⟩, h6⟩
  · rintro ⟨h1, h2, h3, ⟨q1, q2⟩, h6⟩
    exact ⟨⟨⟨⟨⟨h1, h2⟩, h3⟩, fun r hr => (q1 r hr).1⟩, fun r hr => (q2 r hr).1⟩,
      ⟨⟨h6, fun r hr => (q1 r hr).2⟩, fun r hr => (q2 r hr).2⟩⟩

theorem inv_replicas (s : State) (h : inv s = true) : 0 ≤ s.replicas := ((inv_iff s).mp h).1

theorem inv_olds (s : State) (h : inv s = true) : ∀ r ∈ s.olds, rsOk r = true :=
  fun r hr => (((inv_iff s).mp h).2.2.2.1.olds r hr).1

theorem inv_new (s : State) (h : inv s = true) : ∀ r, s.new = some r → rsOk r = true :=
  fun r hr => (((inv_iff s).mp h).2.2.2.1.new r hr).1

theorem inv_of_parts (s t : State) (h : inv s = true) (e1 : t.replicas = s.replicas)
    (e2 : t.maxSurge = s.maxSurge) (e3 : t.maxUnavailable = s.maxUnavailable)
    (ha : AllRS Q t.new t.olds) (hst : 0 ≤ t.statusReplicas) :
    inv t = true := by
  obtain ⟨h1, h2, h3, _⟩ := (inv_iff s).mp h
  exact (inv_iff t).mpr ⟨e1 ▸ h1, e2 ▸ h2, e3 ▸ h3, ha, hst⟩

/-! ### the oracle's clauses and guards -/

theorem guard_intro {g x : Bool} (h : g = true → x = true) : (!g || x) = true := by
  cases g
  · rfl
  · exact h rfl

theorem clause_intro {g : Bool} {C : Prop} [Decidable C] (h : g = true → C) : (!g || decide C) = true :=
  guard_intro fun hg => decide_eq_true (h hg)

theorem not_stale (s : State) (h : stale s = false) :
    (∀ r ∈ s.olds, r.avail ≤ r.spec) ∧ (∀ r, s.new = some r → r.avail ≤ r.spec) := by
  simp only [stale, List.any_eq_false, List.mem_append, decide_eq_true_eq, Int.not_lt] at h
  exact ⟨fun r hr => h r (.inl hr), fun r hr => h r (.inr (by simp [hr]))⟩

/-! ### configuration -/

theorem limit_bounds (s : State) (h : 0 ≤ s.replicas) : 0 ≤ limit s ∧ limit s ≤ s.replicas :=
  ⟨BatchCtx.newRSLimit_nonneg _ _ h, BatchCtx.newRSLimit_le _ _ h⟩

theorem scaled_nonneg (v : Option IntOrPct) (R : Int) (up : Bool) (hv : fenceOk v = true) (hR : 0 ≤ R) :
    0 ≤ (scaled (v.getD (.int 0)) R up).1 := by
  match v with
  | none => simp [scaled]
  | some (.int n) => simpa [scaled, fenceOk] using hv
  | some (.pct p) =>
    have := Int.mul_nonneg (by simpa [fenceOk] using hv : 0 ≤ p) hR
    cases up
    · show 0 ≤ p * R / 100
      omega
    · exact ceilDiv100_nonneg this
  | some .bad => simp [scaled]

theorem resolveFenceposts_some {ms mu : Option IntOrPct} {R a u : Int}
    (h : resolveFenceposts ms mu R = some (a, u)) :
    a = (scaled (ms.getD (.int 0)) R true).1 ∧
    (u = (scaled (mu.getD (.int 0)) R false).1 ∧ ¬ (a = 0 ∧ u = 0) ∨ a = 0 ∧ u = 1) := by
  unfold resolveFenceposts at h
  generalize scaled (ms.getD (.int 0)) R true = x at *
  generalize scaled (mu.getD (.int 0)) R false = y at *
  obtain ⟨x1, x2⟩ := x
  obtain ⟨y1, y2⟩ := y
  simp only [] at h
  split at h
  · cases h
  · split at h
    · cases h
    · split at h <;> rename_i hz <;> cases h <;> simp only [Bool.and_eq_true, beq_iff_eq] at hz
      · exact ⟨rfl, .inr ⟨hz.1, rfl⟩⟩
      · exact ⟨rfl, .inl ⟨rfl, hz⟩⟩

theorem fenceposts_nonneg (s : State) (h : inv s = true) {a u : Int}
    (hr : resolveFenceposts s.maxSurge s.maxUnavailable s.replicas = some (a, u)) : 0 ≤ a ∧ 0 ≤ u ∧ 1 ≤ a + u := by
  obtain ⟨hR, hs, hu, _⟩ := (inv_iff s).mp h
  have h1 := scaled_nonneg s.maxSurge s.replicas true hs hR
  have h2 := scaled_nonneg s.maxUnavailable s.replicas false hu hR
  have := resolveFenceposts_some hr
  omega

theorem maxSurgeV_nonneg (s : State) (h : inv s = true) : 0 ≤ maxSurgeV s := by
  unfold maxSurgeV
  split
  · omega
  · split
    · omega
    · rename_i a u hr; exact (fenceposts_nonneg s h hr).1

theorem maxUnavailV_bounds (s : State) (h : inv s = true) : 0 ≤ maxUnavailV s ∧ maxUnavailV s ≤ s.replicas := by
  have hR := inv_replicas s h
  unfold maxUnavailV
  split
  · omega
  · simp only []
    split
    · split <;> omega
    · rename_i a u hr
      have := fenceposts_nonneg s h hr
      split <;> omega

theorem all_sortBy {lt : RS → RS → Bool} {l : List RS} {p : RS → Prop} (h : ∀ r ∈ l, p r) :
    ∀ r ∈ sortBy lt l, p r := fun r hr => h r (mem_sortBy.mp hr)

theorem all_active {l : List RS} {p : RS → Prop} (h : ∀ r ∈ l, p r) : ∀ r ∈ active l, p r :=
  fun r hr => h r (mem_active hr)

theorem all_inactive {l : List RS} {p : RS → Prop} (h : ∀ r ∈ l, p r) : ∀ r ∈ inactive l, p r :=
  fun r hr => h r (mem_inactive hr)

theorem append_all {P : RS → Prop} {l₁ l₂ : List RS} (h₁ : ∀ r ∈ l₁, P r) (h₂ : ∀ r ∈ l₂, P r) :
    ∀ r ∈ l₁ ++ l₂, P r :=
  List.forall_mem_append.mpr ⟨h₁, h₂⟩

theorem sumAvail_nonneg {l : List RS} (h : ∀ r ∈ l, rsOk r = true) : 0 ≤ sumAvail l :=
  sumBy_nonneg _ l (fun r hr => ((rsOk_iff r).mp (h r hr)).2.1)

theorem sumSpec_nonneg {l : List RS} (h : ∀ r ∈ l, rsOk r = true) : 0 ≤ sumSpec l :=
  sumBy_nonneg _ l (fun r hr => ((rsOk_iff r).mp (h r hr)).1)

theorem sumPods_nonneg {l : List RS} (h : ∀ r ∈ l, rsOk r = true) : 0 ≤ sumPods l :=
  sumBy_nonneg _ l (fun r hr => by have := (rsOk_iff r).mp (h r hr); omega)

/-- `unhealthyOld` of `RV.Oracle.C17` over any list (the stage lemmas need it of `active l`);
    `unhealthyOld s = unhealthy s.olds` by `rfl` -/
def unhealthy (l : List RS) : Int := sumBy (fun r => max 0 (r.spec - r.avail)) l

theorem unhealthy_nonneg (l : List RS) : 0 ≤ unhealthy l := sumBy_nonneg _ l (fun x _ => by omega)

theorem unhealthy_active_le (l : List RS) : unhealthy (active l) ≤ unhealthy l := by
  have h1 := sumBy_active_inactive (fun r => max 0 (r.spec - r.avail)) l
  have h2 := unhealthy_nonneg (inactive l)
  simp only [unhealthy] at *; omega

theorem kept_eq_avail (l : List RS) (h : ∀ r ∈ l, r.avail ≤ r.spec) : sumBy keptAvail l = sumAvail l := by
  induction l with
  | nil => rfl
  | cons r rs ih =>
    have := h r (by simp)
    have := ih (fun x hx => h x (by simp [hx]))
    simp only [sumAvail, sumBy_cons, keptAvail] at *; omega

/-! ### scaling one ReplicaSet -/

theorem scaleAndRecord_fst (s : State) (r : RS) (n : Int) :
    (scaleAndRecord s r n).1 = r ∨
    (scaleAndRecord s r n).1 = { r with spec := n, desired := some s.replicas, maxAnno := some (s.replicas + maxSurgeV s) } := by
  unfold scaleAndRecord scaleReplicaSet
  split
  · left; rfl
  · simp only []; split
    · right; rfl
    · left; rfl

theorem scaleAndRecord_spec (s : State) (r : RS) (n : Int) : (scaleAndRecord s r n).1.spec = n := by
  unfold scaleAndRecord scaleReplicaSet
  split
  · rename_i h; simpa using h
  · rename_i h
    have : (r.spec != n) = true := by simpa using h
    simp [this]

theorem scaleAndRecord_avail (s : State) (r : RS) (n : Int) : (scaleAndRecord s r n).1.avail = r.avail := by
  rcases scaleAndRecord_fst s r n with h | h <;> rw [h]
theorem scaleAndRecord_pods (s : State) (r : RS) (n : Int) : (scaleAndRecord s r n).1.pods = r.pods := by
  rcases scaleAndRecord_fst s r n with h | h <;> rw [h]

theorem scaleAndRecord_self (s : State) (r : RS) : scaleAndRecord s r r.spec = (r, []) := by
  simp [scaleAndRecord]

/-- `P` survives every scale write that gives an admissible ReplicaSet a non-negative size -/
def WriteStable (s : State) (P : RS → Prop) : Prop :=
  ∀ r n, (rsOk r = true → 0 ≤ n) → P r →
    P { r with spec := n, desired := some s.replicas, maxAnno := some (s.replicas + maxSurgeV s) }

theorem scaleAndRecord_stable {s : State} {P : RS → Prop} (hP : WriteStable s P) (r : RS) (n : Int)
    (hn : rsOk r = true → 0 ≤ n) (h : P r) : P (scaleAndRecord s r n).1 := by
  rcases scaleAndRecord_fst s r n with e | e <;> rw [e]
  · exact h
  · exact hP r n hn h

theorem scaleReplicaSet_stable {s : State} {P : RS → Prop} (hP : WriteStable s P) (r : RS) (n : Int)
    (hn : rsOk r = true → 0 ≤ n) (h : P r) : P (scaleReplicaSet s r n).1 := by
  unfold scaleReplicaSet
  simp only []
  split
  · exact hP r n hn h
  · exact h

theorem rsOk_stable (s : State) : WriteStable s (fun r => rsOk r = true) := by
  intro r n hn h
  have := hn h
  rw [rsOk_iff] at *
  exact ⟨this, h.2⟩

theorem annoOk_stable (s : State) (h : 0 ≤ s.replicas + maxSurgeV s) :
    WriteStable s (fun r => annoOk r = true) := by
  intro r n _ _; simp [annoOk, h]

theorem Q_stable (s : State) (h : 0 ≤ s.replicas + maxSurgeV s) : WriteStable s Q :=
  fun r n hn hq => ⟨rsOk_stable s r n hn hq.1, annoOk_stable s h r n hn hq.2⟩

/-! ### the two loops over old ReplicaSets -/

/-- `l'` arises from `l` by scale writes, front to back, that lower the sizes by at most `b` in total and no
    ReplicaSet `r` below `f r`. The loop of `cleanupUnhealthyReplicas` does this with `f` = available pods,
    the loop of `scaleDownOldReplicaSetsForRollingUpdate` with `f` = 0. -/
inductive Lowered (s : State) (f : RS → Int) : Int → List RS → List RS → Prop
  | stop (b : Int) (l : List RS) : Lowered s f b l l
  | step {b d : Int} {r : RS} {l l' : List RS} : 0 ≤ d → d ≤ max 0 b → d ≤ max 0 (r.spec - f r) →
      Lowered s f (b - d) l l' → Lowered s f b (r :: l) ((scaleAndRecord s r (r.spec - d)).1 :: l')

theorem Lowered.skip {s : State} {f : RS → Int} {b : Int} {r : RS} {l l' : List RS} (h : Lowered s f b l l') :
    Lowered s f b (r :: l) (r :: l') := by
  have := Lowered.step (r := r) (Int.le_refl 0) (by omega) (by omega) (show Lowered s f (b - 0) l l' by simpa using h)
  simpa [scaleAndRecord_self] using this

theorem Lowered.sums {s : State} {f : RS → Int} {b : Int} {l l' : List RS} (h : Lowered s f b l l') :
    sumAvail l' = sumAvail l ∧ sumPods l' = sumPods l ∧
    sumSpec l' ≤ sumSpec l ∧ sumSpec l - sumSpec l' ≤ max 0 b ∧
    sumSpec l - sumSpec l' ≤ sumBy (fun r => max 0 (r.spec - f r)) l ∧
    sumBy keptAvail l - (sumSpec l - sumSpec l') ≤ sumBy keptAvail l' := by
  induction h with
  | stop b l =>
    have := sumBy_nonneg (fun r => max 0 (r.spec - f r)) l (fun x _ => by omega)
    omega
  | step _ _ _ _ ih =>
    simp only [sumAvail, sumPods, sumSpec, sumBy_cons, keptAvail,
      scaleAndRecord_spec, scaleAndRecord_avail, scaleAndRecord_pods] at *
    omega

theorem Lowered.kept {s : State} {f : RS → Int} {b : Int} {l l' : List RS} (h : Lowered s f b l l')
    (hf : ∀ r, r.avail ≤ f r) : sumBy keptAvail l' = sumBy keptAvail l := by
  induction h with
  | stop => rfl
  | @step _ _ r _ _ _ _ _ _ ih =>
    have := hf r
    simp only [sumBy_cons, keptAvail, scaleAndRecord_spec, scaleAndRecord_avail] at *
    omega

theorem Lowered.all {s : State} {f : RS → Int} {b : Int} {l l' : List RS} (h : Lowered s f b l l')
    (hf : ∀ r, rsOk r = true → 0 ≤ f r) {P : RS → Prop} (hP : WriteStable s P) (hl : ∀ r ∈ l, P r) :
    ∀ r ∈ l', P r := by
  induction h with
  | stop => exact hl
  | @step _ _ r _ _ _ _ _ _ ih =>
    rw [List.forall_mem_cons] at hl ⊢
    refine ⟨scaleAndRecord_stable hP r _ (fun ok => ?_) hl.1, ih hl.2⟩
    have := hf r ok
    rw [rsOk_iff] at ok
    omega

theorem cleanupLoop_lowered (s : State) (m : Int) : ∀ (l : List RS) (total : Int),
    Lowered s (·.avail) (m - total) l (cleanupLoop s m l total).olds := by
  intro l
  induction l with
  | nil => intro total; exact .stop _ _
  | cons r rest ih =>
    intro total
    simp only [cleanupLoop]
    by_cases h1 : total ≥ m
    · rw [if_pos h1]; exact .stop _ _
    rw [if_neg h1]
    by_cases h2 : (r.spec == 0) = true
    · rw [if_pos h2]; exact (ih total).skip
    rw [if_neg h2]
    by_cases h3 : (r.spec == r.avail) = true
    · rw [if_pos h3]; exact (ih total).skip
    rw [if_neg h3]
    by_cases h4 : r.spec - min (m - total) (r.spec - r.avail) > r.spec
    · rw [if_pos h4]; exact .stop _ _
    rw [if_neg h4]
    have := ih (total + min (m - total) (r.spec - r.avail))
    exact .step (by omega) (by omega) (by omega) (by rwa [Int.sub_sub])

theorem scaleDownLoop_lowered (s : State) (c : Int) : ∀ (l : List RS) (total : Int),
    Lowered s (fun _ => 0) (c - total) l (scaleDownLoop s c l total).olds := by
  intro l
  induction l with
  | nil => intro total; exact .stop _ _
  | cons r rest ih =>
    intro total
    simp only [scaleDownLoop]
    by_cases h1 : total ≥ c
    · rw [if_pos h1]; exact .stop _ _
    rw [if_neg h1]
    by_cases h2 : (r.spec == 0) = true
    · rw [if_pos h2]; exact (ih total).skip
    rw [if_neg h2]
    by_cases h3 : r.spec - min r.spec (c - total) > r.spec
    · rw [if_pos h3]; exact .stop _ _
    rw [if_neg h3]
    have := ih (total + min r.spec (c - total))
    exact .step (by omega) (by omega) (by omega) (by rwa [Int.sub_sub])

theorem cleanup_facts (s : State) (l : List RS) (m : Int) :
    sumAvail (cleanup s l m).olds = sumAvail l ∧
    sumPods (cleanup s l m).olds = sumPods l ∧
    sumBy keptAvail (cleanup s l m).olds = sumBy keptAvail l ∧
    sumSpec (cleanup s l m).olds ≤ sumSpec l ∧
    sumSpec l - sumSpec (cleanup s l m).olds ≤ max 0 m ∧
    sumSpec l - sumSpec (cleanup s l m).olds ≤ unhealthy l := by
  have h := cleanupLoop_lowered s m (sortBy byCreation l) 0
  have := h.sums
  have := h.kept (fun _ => Int.le_refl _)
  simp only [cleanup, sumAvail, sumPods, sumSpec, unhealthy, sumBy_sortBy] at *
  omega

theorem cleanup_all (s : State) {P : RS → Prop} (hP : WriteStable s P) (l : List RS) (m : Int)
    (h : ∀ r ∈ l, P r) : ∀ r ∈ (cleanup s l m).olds, P r :=
  (cleanupLoop_lowered s m _ 0).all (fun r ok => ((rsOk_iff r).mp ok).2.1) hP (all_sortBy h)

theorem scaleDownOld_facts (s : State) (l : List RS) (nw : RS) :
    sumAvail (scaleDownOld s l nw).olds = sumAvail l ∧
    sumPods (scaleDownOld s l nw).olds = sumPods l ∧
    sumSpec (scaleDownOld s l nw).olds ≤ sumSpec l ∧
    sumSpec l - sumSpec (scaleDownOld s l nw).olds ≤
      max 0 (min (sumAvail l + nw.avail - (s.replicas - maxUnavailV s)) (scaleDownLimitForOld s l nw.spec)) ∧
    sumBy keptAvail l - (sumSpec l - sumSpec (scaleDownOld s l nw).olds)
      ≤ sumBy keptAvail (scaleDownOld s l nw).olds := by
  unfold scaleDownOld
  simp only []
  split
  · simp; omega
  · have := (scaleDownLoop_lowered s
      (min (sumAvail l + nw.avail - (s.replicas - maxUnavailV s))
        (scaleDownLimitForOld s (sortBy bySmallerRevision l) nw.spec)) (sortBy bySmallerRevision l) 0).sums
    simp only [scaleDownLimitForOld, sumAvail, sumPods, sumSpec, sumBy_sortBy] at *
    omega

theorem scaleDownOld_all (s : State) {P : RS → Prop} (hP : WriteStable s P) (l : List RS) (nw : RS)
    (h : ∀ r ∈ l, P r) : ∀ r ∈ (scaleDownOld s l nw).olds, P r := by
  unfold scaleDownOld
  simp only []
  split
  · exact h
  · exact (scaleDownLoop_lowered s _ _ 0).all (fun _ _ => Int.le_refl 0) hP (all_sortBy h)

theorem scaleUpOld_facts (s : State) (l : List RS) (n : Int) (hl : l ≠ []) :
    sumAvail (scaleUpOld s l n).2.1 = sumAvail l ∧
    sumPods (scaleUpOld s l n).2.1 = sumPods l ∧
    sumSpec (scaleUpOld s l n).2.1 = sumSpec l + max 0 n ∧
    sumBy keptAvail l ≤ sumBy keptAvail (scaleUpOld s l n).2.1 := by
  unfold scaleUpOld
  split
  · rename_i h
    have : n ≤ 0 := by simpa [hl] using h
    refine ⟨rfl, rfl, ?_, Int.le_refl _⟩
    show sumSpec l = _
    omega
  · rename_i h
    have hn : ¬ n ≤ 0 := fun h0 => h (by simp [h0])
    have hlen := length_sortBy bySizeOlder l
    have h1 := sumBy_sortBy (·.avail) bySizeOlder l
    have h2 := sumBy_sortBy (·.pods) bySizeOlder l
    have h3 := sumBy_sortBy (·.spec) bySizeOlder l
    have h4 := sumBy_sortBy keptAvail bySizeOlder l
    split
    · rename_i heq
      rw [heq] at hlen
      exact absurd (List.eq_nil_of_length_eq_zero hlen.symm) hl
    · rename_i r rest heq
      rw [heq] at h1 h2 h3 h4
      simp only [sumAvail, sumPods, sumSpec, sumBy_cons, keptAvail,
        scaleAndRecord_spec, scaleAndRecord_avail, scaleAndRecord_pods] at *
      omega

theorem scaleUpOld_all (s : State) {P : RS → Prop} (hP : WriteStable s P) (l : List RS) (n : Int)
    (h : ∀ r ∈ l, P r) : ∀ r ∈ (scaleUpOld s l n).2.1, P r := by
  unfold scaleUpOld
  split
  · exact h
  · rename_i hc
    split
    · exact h
    · rename_i r rest heq
      have hs : ∀ x ∈ r :: rest, P x := by rw [← heq]; exact all_sortBy h
      rw [List.forall_mem_cons] at hs ⊢
      refine ⟨scaleAndRecord_stable hP r _ (fun ok => ?_) hs.1, hs.2⟩
      have hn : ¬ n ≤ 0 := fun h0 => hc (by simp [h0])
      rw [rsOk_iff] at ok
      omega

/-! ### `reconcileOldReplicaSets` -/

/-- `maxScaledDown` of `reconcileOldReplicaSets`: what clean-up and scale-down together may remove -/
def maxScaledDown (s : State) (l : List RS) (nw : RS) : Int :=
  min (sumSpec l + nw.spec - (s.replicas - maxUnavailV s) - (nw.spec - nw.avail))
    (scaleDownLimitForOld s (active l) nw.spec)

theorem reconcileOld_cases (s : State) (l : List RS) (nw : RS) :
    ((sumSpec (active l) = 0 ∨ 0 < scaleDownLimitForOld s (active l) nw.spec ∧ maxScaledDown s l nw ≤ 0) ∧
      (reconcileOld s l nw).2.1 = l) ∨
    (sumSpec (active l) ≠ 0 ∧ scaleDownLimitForOld s (active l) nw.spec ≤ 0 ∧
      (reconcileOld s l nw).2.1 =
        (scaleUpOld s (active l) (-scaleDownLimitForOld s (active l) nw.spec)).2.1 ++ inactive l) ∨
    (0 < scaleDownLimitForOld s (active l) nw.spec ∧ 0 < maxScaledDown s l nw ∧
      ((cleanup s (active l) (maxScaledDown s l nw)).err = true ∧
        (reconcileOld s l nw).2.1 = (cleanup s (active l) (maxScaledDown s l nw)).olds ++ inactive l ∨
       (cleanup s (active l) (maxScaledDown s l nw)).err = false ∧
        (reconcileOld s l nw).2.1 =
          (scaleDownOld s (cleanup s (active l) (maxScaledDown s l nw)).olds nw).olds ++ inactive l)) := by
  unfold reconcileOld maxScaledDown
  simp only []
  by_cases h : (sumSpec (active l) == 0) = true
  · rw [if_pos h]; exact .inl ⟨.inl (by simpa using h), rfl⟩
  rw [if_neg h]
  by_cases hlim : scaleDownLimitForOld s (active l) nw.spec ≤ 0
  · rw [if_pos hlim]; exact .inr (.inl ⟨by simpa using h, hlim, rfl⟩)
  rw [if_neg hlim]
  by_cases hm : min (sumSpec l + nw.spec - (s.replicas - maxUnavailV s) - (nw.spec - nw.avail))
      (scaleDownLimitForOld s (active l) nw.spec) ≤ 0
  · rw [if_pos hm]; exact .inl ⟨.inr ⟨by omega, hm⟩, rfl⟩
  rw [if_neg hm]
  refine .inr (.inr ⟨by omega, by omega, ?_⟩)
  cases he : (cleanup s (active l) (min (sumSpec l + nw.spec - (s.replicas - maxUnavailV s) - (nw.spec - nw.avail))
      (scaleDownLimitForOld s (active l) nw.spec))).err
  · refine .inr ⟨rfl, ?_⟩
    simp only [Bool.false_eq_true, if_false]
    split <;> rfl
  · exact .inl ⟨rfl, rfl⟩

theorem reconcileOld_all (s : State) {P : RS → Prop} (hP : WriteStable s P) (l : List RS) (nw : RS)
    (h : ∀ r ∈ l, P r) : ∀ r ∈ (reconcileOld s l nw).2.1, P r := by
  have ha := all_active h
  have hi := all_inactive h
  rcases reconcileOld_cases s l nw with ⟨_, e⟩ | ⟨_, _, e⟩ | ⟨_, _, ⟨_, e⟩ | ⟨_, e⟩⟩ <;> rw [e]
  · exact h
  · exact append_all (scaleUpOld_all s hP _ _ ha) hi
  · exact append_all (cleanup_all s hP _ _ ha) hi
  · exact append_all (scaleDownOld_all s hP _ _ (cleanup_all s hP _ _ ha)) hi

theorem reconcileOld_status (s : State) (l : List RS) (nw : RS) :
    sumAvail (reconcileOld s l nw).2.1 = sumAvail l ∧ sumPods (reconcileOld s l nw).2.1 = sumPods l := by
  have a2 := sumBy_active_inactive (·.avail) l
  have a3 := sumBy_active_inactive (·.pods) l
  rcases reconcileOld_cases s l nw with ⟨_, e⟩ | ⟨hne, _, e⟩ | ⟨_, _, ⟨_, e⟩ | ⟨_, e⟩⟩ <;> rw [e]
  · exact ⟨rfl, rfl⟩
  · have up := scaleUpOld_facts s (active l) (-scaleDownLimitForOld s (active l) nw.spec)
      (fun h0 => hne (by rw [h0]; rfl))
    simp only [sumAvail, sumPods, sumBy_append] at *
    omega
  · have c := cleanup_facts s (active l) (maxScaledDown s l nw)
    simp only [sumAvail, sumPods, sumBy_append] at *
    omega
  · have c := cleanup_facts s (active l) (maxScaledDown s l nw)
    have d := scaleDownOld_facts s (cleanup s (active l) (maxScaledDown s l nw)).olds nw
    simp only [sumAvail, sumPods, sumBy_append] at *
    omega

/-- What `reconcileOldReplicaSets` does to the totals of the old ReplicaSets. Before: `O` their spec total, `H` their
    unhealthy pods, `K` their available pods that the specs keep; after: `O'`, `K'`. `res` is what the partition reserves
    for them (replicas − max(limit, new size)), `a` the available pods of the new ReplicaSet, `At` those of all
    ReplicaSets, `m` = replicas − maxUnavailable. The cases are those of the Go code: no scale-down needed (no old pods,
    or `maxScaledDown <= 0`); `scaleUpOldReplicaSets` when the limit was rolled back and the old ReplicaSets are below
    their reserve; `cleanupUnhealthyReplicas` followed by `scaleDownOldReplicaSetsForRollingUpdate`. -/
inductive OldOutcome (res a m O H At K O' K' : Int) : Prop
  | keep : O' = O → K' = K → (O = 0 ∨ res < O) → OldOutcome res a m O H At K O' K'
  | up : O ≤ res → O' = res → K ≤ K' → OldOutcome res a m O H At K O' K'
  | down : res ≤ O' → O' ≤ O → 0 < O + a - m → O - O' ≤ H + max 0 (At - m) → K - max 0 (At - m) ≤ K' →
      OldOutcome res a m O H At K O' K'

theorem reconcileOld_outcome (s : State) (l : List RS) (nw : RS) (hok : ∀ r ∈ l, rsOk r = true) :
    OldOutcome (s.replicas - max (limit s) nw.spec) nw.avail (s.replicas - maxUnavailV s)
      (sumSpec l) (unhealthy l) (sumAvail l + nw.avail) (sumBy keptAvail l)
      (sumSpec (reconcileOld s l nw).2.1) (sumBy keptAvail (reconcileOld s l nw).2.1) := by
  have a1 := sumBy_active_inactive (·.spec) l
  have a4 := sumBy_active_inactive keptAvail l
  have i0 := sumSpec_inactive_zero l (fun r hr => ((rsOk_iff r).mp (hok r hr)).1)
  rcases reconcileOld_cases s l nw with ⟨hg, e⟩ | ⟨hne, hlim, e⟩ | ⟨hlim, hm, ⟨_, e⟩ | ⟨_, e⟩⟩ <;> rw [e]
  · refine .keep rfl rfl ?_
    simp only [maxScaledDown, scaleDownLimitForOld, sumSpec] at *
    omega
  · have up := (scaleUpOld_facts s (active l) (-scaleDownLimitForOld s (active l) nw.spec)
      (fun h0 => hne (by rw [h0]; rfl))).2.2
    simp only [scaleDownLimitForOld, sumSpec, sumBy_append] at *
    exact .up (by omega) (by omega) (by omega)
  · obtain ⟨_, _, c⟩ := cleanup_facts s (active l) (maxScaledDown s l nw)
    have u1 := unhealthy_active_le l
    simp only [maxScaledDown, scaleDownLimitForOld, sumSpec, sumBy_append] at *
    exact .down (by omega) (by omega) (by omega) (by omega) (by omega)
  · obtain ⟨c1, _, c3, c4, c5, c6⟩ := cleanup_facts s (active l) (maxScaledDown s l nw)
    obtain ⟨_, _, d3, d4, d5⟩ := scaleDownOld_facts s (cleanup s (active l) (maxScaledDown s l nw)).olds nw
    have u1 := unhealthy_active_le l
    have a2 := sumBy_active_inactive (·.avail) l
    have ia := sumAvail_nonneg (all_inactive hok)
    generalize (cleanup s (active l) (maxScaledDown s l nw)).olds = co at *
    simp only [maxScaledDown, scaleDownLimitForOld, sumSpec, sumAvail, sumBy_append] at *
    -- `omega` splits on every `min` / `max` in its context, needed or not: each budget is turned into linear facts
    -- by a step that sees only that budget, and is cleared before the next.
    -- The clean-up stays above the reserve,
    have e1 : 0 ≤ sumBy (·.spec) co - (s.replicas - max (limit s) nw.spec) ∧
        0 < sumBy (·.spec) l + nw.avail - (s.replicas - maxUnavailV s) := by clear d4; omega
    clear c5 hm
    -- so the scale-down takes at most the availability surplus and what is left above the reserve.
    have e2 : sumBy (·.spec) co - sumBy (·.spec) (scaleDownOld s co nw).olds
          ≤ max 0 (sumBy (·.avail) l + nw.avail - (s.replicas - maxUnavailV s)) ∧
        sumBy (·.spec) co - sumBy (·.spec) (scaleDownOld s co nw).olds
          ≤ sumBy (·.spec) co - (s.replicas - max (limit s) nw.spec) := by omega
    clear d4 a2 ia
    exact .down (by omega) (by omega) (by omega) (by omega) (by omega)

/-- when the spec-based availability budget is spent (`allPods − minAvailable − newUnavailable ≤ 0`, the early
    exit `maxScaledDown <= 0` of `reconcileOldReplicaSets`) the old ReplicaSets are not lowered, whatever their
    (possibly stale) status says -/
theorem reconcileOld_spent (s : State) (l : List RS) (nw : RS) (hok : ∀ r ∈ l, rsOk r = true)
    (hb : sumSpec l + nw.avail - (s.replicas - maxUnavailV s) ≤ 0) :
    sumSpec l ≤ sumSpec (reconcileOld s l nw).2.1 := by
  cases reconcileOld_outcome s l nw hok <;> omega

/-! ### the new ReplicaSet -/

/-- size `reconcileNewReplicaSet` gives to a new RS of size `n` when the old RSs total `oldSum` -/
def newTarget (s : State) (oldSum n : Int) : Int :=
  if n = s.replicas then n else if n > s.replicas then s.replicas else newRSNewReplicas s (oldSum + n) n

theorem reconcileNew_eq (s : State) (olds : List RS) (nw : RS) :
    reconcileNew s olds nw =
      (nw.spec != newTarget s (sumSpec olds) nw.spec, scaleAndRecord s nw (newTarget s (sumSpec olds) nw.spec)) := by
  unfold reconcileNew newTarget
  by_cases h1 : nw.spec = s.replicas
  · rw [if_pos (beq_iff_eq.mpr h1), if_pos h1, scaleAndRecord_self]; simp
  · rw [if_neg (mt beq_iff_eq.mp h1), if_neg h1]
    by_cases h2 : nw.spec > s.replicas
    · rw [if_pos h2, if_pos h2]; simp [h1]
    · rw [if_neg h2, if_neg h2]

theorem newRSNewReplicas_default (s : State) (cur n : Int) (h : ¬ cur > n) :
    newRSNewReplicas s cur n = s.replicas := by
  unfold newRSNewReplicas; simp [h]

/-- `NewRSNewReplicas` when other ReplicaSets hold pods (`cur > n`): it does not lower the new ReplicaSet, does not raise
    it above the partition limit, a raise stays within the surge, and it leaves the size alone below the limit only when
    the surge is used up -/
structure NewRSBounds (s : State) (cur n : Int) : Prop where
  ge : limit s ≤ s.replicas → n ≤ newRSNewReplicas s cur n
  le : newRSNewReplicas s cur n ≤ max n (limit s)
  surge : n < newRSNewReplicas s cur n → (cur - n) + newRSNewReplicas s cur n ≤ s.replicas + maxSurgeV s
  stuck : newRSNewReplicas s cur n = n → n < limit s → limit s ≤ s.replicas → s.replicas + maxSurgeV s ≤ cur

theorem newRSNewReplicas_bounds (s : State) (cur n : Int) (h : cur > n) : NewRSBounds s cur n := by
  by_cases h1 : n ≥ limit s
  · have e : newRSNewReplicas s cur n = n := by unfold newRSNewReplicas; rw [if_pos h, if_pos h1]
    constructor <;> omega
  by_cases h2 : cur ≥ s.replicas + maxSurgeV s
  · have e : newRSNewReplicas s cur n = n := by unfold newRSNewReplicas; rw [if_pos h, if_neg h1, if_pos h2]
    constructor <;> omega
  have e : newRSNewReplicas s cur n =
      min (n + min (s.replicas + maxSurgeV s - cur) (s.replicas - n)) (limit s) := by
    unfold newRSNewReplicas; rw [if_pos h, if_neg h1, if_neg h2]
  constructor <;> omega

theorem newTarget_between (s : State) (o n : Int) (hl : limit s ≤ s.replicas) :
    min n s.replicas ≤ newTarget s o n ∧ newTarget s o n ≤ max n s.replicas := by
  unfold newTarget
  split
  · omega
  · split
    · omega
    · by_cases h : o + n > n
      · have b := newRSNewReplicas_bounds s (o + n) n h
        have := b.ge hl
        have := b.le
        omega
      · rw [newRSNewReplicas_default s _ _ h]; omega

theorem newTarget_le (s : State) (o n : Int) (ho : 0 < o) : newTarget s o n ≤ max n (limit s) := by
  unfold newTarget
  split
  · omega
  · split
    · omega
    · exact (newRSNewReplicas_bounds s _ _ (by omega)).le

theorem newTarget_surge (s : State) (o n : Int) (hs : 0 ≤ maxSurgeV s)
    (hup : n < newTarget s o n) : o + newTarget s o n ≤ s.replicas + maxSurgeV s := by
  unfold newTarget at *
  split at hup
  · omega
  · split at hup
    · omega
    · by_cases h : o + n > n
      · have := (newRSNewReplicas_bounds s _ _ h).surge hup; omega
      · rw [newRSNewReplicas_default s _ _ h]; omega

theorem newTarget_zero_old (s : State) (n : Int) : newTarget s 0 n = s.replicas := by
  unfold newTarget
  split
  · omega
  · split
    · rfl
    · exact newRSNewReplicas_default s _ _ (by omega)

/-- size `getNewReplicaSet` creates the new RS with -/
def createdSize (s : State) : Int := max (newRSNewReplicas s (sumSpec s.olds + 0) 0) (lowerBound s)

theorem lowerBound_bounds (s : State) (hR : 0 ≤ s.replicas) :
    0 ≤ lowerBound s ∧ lowerBound s ≤ 1 ∧ lowerBound s ≤ s.replicas := by
  unfold lowerBound; split <;> omega

theorem createdSize_bounds (s : State) (h : inv s = true) : 0 ≤ createdSize s ∧ createdSize s ≤ s.replicas := by
  have hR := inv_replicas s h
  have hl := limit_bounds s hR
  have hlb := lowerBound_bounds s hR
  unfold createdSize
  by_cases hc : sumSpec s.olds + 0 > 0
  · have := (newRSNewReplicas_bounds s _ 0 hc).le
    omega
  · rw [newRSNewReplicas_default s _ _ hc]; omega

theorem createdSize_le (s : State) (h : inv s = true) :
    (0 < sumSpec s.olds → createdSize s ≤ max (limit s) (lowerBound s)) ∧
    (lowerBound s < createdSize s → sumSpec s.olds + createdSize s ≤ s.replicas + maxSurgeV s) := by
  have hR := inv_replicas s h
  have hl := limit_bounds s hR
  have hs := maxSurgeV_nonneg s h
  have hlb := lowerBound_bounds s hR
  unfold createdSize
  by_cases hc : sumSpec s.olds + 0 > 0
  · have b := newRSNewReplicas_bounds s _ 0 hc
    have := b.le
    have := b.surge
    omega
  · rw [newRSNewReplicas_default s _ _ hc]
    have := sumSpec_nonneg (inv_olds s h)
    omega

theorem lowerBound_zero (s : State) (h : inv s = true) (hn : s.new = none) (hg : lowerBoundRegion s = false) :
    lowerBound s = 0 := by
  have hR := inv_replicas s h
  have hs := maxSurgeV_nonneg s h
  simp only [lowerBoundRegion, hn, Option.isNone_none, Bool.true_and, Bool.and_eq_false_iff,
    beq_eq_false_iff_ne, ne_eq, decide_eq_false_iff_not] at hg
  unfold lowerBound
  split
  · rfl
  · omega

/-- size of the new RS when the rolling path starts to reconcile: its own, or the one it is created with -/
def startSize (s : State) : Int :=
  match s.new with
  | some r => r.spec
  | none => createdSize s

/-- `getNewReplicaSet` on a new ReplicaSet that exists: its revision is brought up to one above the old ones' -/
def bumped (s : State) (r : RS) : RS :=
  { r with revision := if r.revision < maxRevision s.olds + 1 then maxRevision s.olds + 1 else r.revision }

/-- the ReplicaSet `getNewReplicaSet` creates -/
def createdRS (s : State) : RS :=
  { idx := -1, name := createdName, created := s.now, revision := maxRevision s.olds + 1, spec := createdSize s, pods := 0,
    avail := 0, desired := some s.replicas, maxAnno := some (s.replicas + maxSurgeV s) }

theorem getNewRS_eq (s : State) (c : Bool) :
    getNewRS s c = match s.new with
      | some r => (some (bumped s r), [])
      | none => if c then (some (createdRS s), [⟨-1, createdSize s⟩]) else (none, []) := by
  unfold getNewRS
  cases s.new <;> cases c <;> rfl

theorem getNewRS_false (s : State) : getNewRS s false = (s.new.map (bumped s), []) := by
  rw [getNewRS_eq]; cases s.new <;> rfl

theorem optSpec_getNewRS_false (s : State) : optSpec (getNewRS s false).1 = optSpec s.new := by
  rw [getNewRS_false]; cases s.new <;> rfl

theorem optPods_getNewRS_false (s : State) : optPods (getNewRS s false).1 = optPods s.new := by
  rw [getNewRS_false]; cases s.new <;> rfl

theorem getNewRS_false_Q (s : State) (hn : ∀ r, s.new = some r → Q r) : ∀ r, (getNewRS s false).1 = some r → Q r := by
  rw [getNewRS_false]
  intro r hr
  obtain ⟨x, hx, rfl⟩ := Option.map_eq_some_iff.mp hr
  exact hn x hx

theorem getNewRS_isSome (s : State) (c : Bool) (h : s.new.isSome = true) : (getNewRS s c).1.isSome = true := by
  rw [getNewRS_eq]
  cases hn : s.new with
  | none => simp [hn] at h
  | some r => rfl

/-- the new ReplicaSet the rolling path reconciles: the present one, or the one it creates -/
def startRS (s : State) : RS :=
  match s.new with
  | some r => bumped s r
  | none => createdRS s

theorem startRS_spec (s : State) : (startRS s).spec = startSize s := by
  unfold startRS startSize; cases s.new <;> rfl
theorem startRS_avail (s : State) : (startRS s).avail = optAvail s.new := by
  unfold startRS; cases s.new <;> rfl
theorem startRS_pods (s : State) : (startRS s).pods = optPods s.new := by
  unfold startRS; cases s.new <;> rfl

/-- The rolling path: the new ReplicaSet goes from the size it starts with to its target; if that is a change the old
    ReplicaSets are left alone, otherwise they are reconciled (`rolloutRolling` returns as soon as
    `reconcileNewReplicaSet` has scaled). -/
theorem rolloutRolling_eq (s : State) :
    rolloutRolling s =
      { path := .rolling, err := false, undef := false,
        writes := (getNewRS s true).2 ++
          if newTarget s (sumSpec s.olds) (startSize s) = startSize s then (reconcileOld s s.olds (startRS s)).2.2
          else (scaleAndRecord s (startRS s) (newTarget s (sumSpec s.olds) (startSize s))).2,
        new := some (scaleAndRecord s (startRS s) (newTarget s (sumSpec s.olds) (startSize s))).1,
        olds := if newTarget s (sumSpec s.olds) (startSize s) = startSize s then (reconcileOld s s.olds (startRS s)).2.1
          else s.olds,
        statusReplicas := sumPods s.olds + optPods s.new } := by
  obtain ⟨w, hg⟩ : ∃ w, getNewRS s true = (some (startRS s), w) := by
    rw [getNewRS_eq]; unfold startRS; cases s.new <;> exact ⟨_, rfl⟩
  unfold rolloutRolling
  rw [hg]
  simp only []
  rw [reconcileNew_eq, startRS_pods, startRS_spec]
  by_cases h : newTarget s (sumSpec s.olds) (startSize s) = startSize s
  · rw [if_neg (by rw [h]; simp), if_pos h, if_pos h, h, ← startRS_spec, scaleAndRecord_self]
  · rw [if_pos (bne_iff_ne.mpr (Ne.symm h)), if_neg h, if_neg h]

theorem rolling_status (s : State) :
    (rolloutRolling s).err = false ∧ (rolloutRolling s).statusReplicas = sumPods s.olds + optPods s.new := by
  rw [rolloutRolling_eq]; exact ⟨rfl, rfl⟩

/-- a rolling sync writes sizes only: the pods it counted are the pods the ReplicaSets have afterwards -/
theorem rolling_pods (s : State) :
    sumPods (rolloutRolling s).olds + optPods (rolloutRolling s).new = sumPods s.olds + optPods s.new := by
  rw [rolloutRolling_eq]
  show sumPods (ite _ _ _) + (scaleAndRecord ..).1.pods = _
  rw [scaleAndRecord_pods, startRS_pods]
  split
  · rw [(reconcileOld_status ..).2]
  · rfl

theorem sync_inScope (s : State) (h : inScope s = true) : sync s = rolloutRolling s := by
  simp only [inScope, Bool.and_eq_true, Bool.not_eq_true'] at h
  unfold sync
  simp [h.1.1, h.1.2, h.2]

theorem post_inScope (s : State) (hsc : inScope s = true) :
    post s =
      { s with
        new := some (scaleAndRecord s (startRS s) (newTarget s (sumSpec s.olds) (startSize s))).1
        olds := if newTarget s (sumSpec s.olds) (startSize s) = startSize s then (reconcileOld s s.olds (startRS s)).2.1
          else s.olds
        statusReplicas := sumPods s.olds + optPods s.new
        now := if s.new.isNone then s.now + 1 else s.now } := by
  simp only [post, sync_inScope s hsc, rolloutRolling_eq, Option.isSome_some, Bool.and_true]

/-! ### a rolling sync in the totals of the oracle's clauses -/

theorem startSize_cases (s : State) (h : inv s = true) :
    (∃ r, s.new = some r ∧ startSize s = newSpec s ∧ optAvail s.new = r.avail ∧ 0 ≤ r.avail ∧ newSpec s = r.spec) ∨
    (s.new = none ∧ newSpec s = 0 ∧ optAvail s.new = 0 ∧ 0 ≤ startSize s ∧ startSize s ≤ s.replicas) := by
  cases hn : s.new with
  | none =>
    have := createdSize_bounds s h
    simp [newSpec, optSpec, optAvail, startSize, hn, this]
  | some r => simp [newSpec, optSpec, optAvail, startSize, hn, ((rsOk_iff r).mp (inv_new s h r hn)).2.1]

theorem floorAvail_eq (t : State) :
    floorAvail t = sumBy keptAvail t.olds + min (optAvail t.new) (newSpec t) := by
  cases h : t.new <;> simp [floorAvail, optAvail, newSpec, optSpec, h, keptAvail]

/-- `rolloutRolling_eq` in the names of the oracle, so that a clause of `RV.Oracle.C17` is linear arithmetic over the fields. -/
structure Rolled (s : State) : Prop where
  target : newSpec (post s) = newTarget s (oldTotal s) (startSize s)
  isSome : (post s).new.isSome = true
  avail : optAvail (post s).new = optAvail s.new
  oldsCase : newSpec (post s) ≠ startSize s ∧ oldTotal (post s) = oldTotal s ∧
        sumBy keptAvail (post s).olds = sumBy keptAvail s.olds ∨
      newSpec (post s) = startSize s ∧
        OldOutcome (reserve s (startSize s)) (optAvail s.new) (minAvailable s) (oldTotal s) (unhealthyOld s)
          (availTotal s) (sumBy keptAvail s.olds) (oldTotal (post s)) (sumBy keptAvail (post s).olds)

theorem post_rolled (s : State) (h : inv s = true) (hsc : inScope s = true) : Rolled s := by
  have hn : newSpec (post s) = newTarget s (oldTotal s) (startSize s) := by
    rw [post_inScope s hsc]; exact scaleAndRecord_spec ..
  refine ⟨hn, by rw [post_inScope s hsc]; rfl,
    by rw [post_inScope s hsc]; exact (scaleAndRecord_avail ..).trans (startRS_avail s), ?_⟩
  rw [hn]
  simp only [oldTotal, post_inScope s hsc]
  by_cases ht : newTarget s (sumSpec s.olds) (startSize s) = startSize s
  · have ro := reconcileOld_outcome s s.olds (startRS s) (inv_olds s h)
    rw [startRS_spec, startRS_avail] at ro
    rw [if_pos ht]
    exact .inr ⟨ht, ro⟩
  · rw [if_neg ht]
    exact .inl ⟨ht, rfl, rfl⟩

theorem startSize_le (s : State) (h : inv s = true) (hpos : 0 < oldTotal s) :
    startSize s ≤ max (newSpec s) (max (limit s) (lowerBound s)) := by
  have := (createdSize_le s h).1 hpos
  cases hnew : s.new <;> simp only [startSize, newSpec, optSpec, hnew] <;> omega

theorem raised_within_surge (s : State) (h : inv s = true) (hsc : inScope s = true)
    (hup : startSize s < newSpec (post s) ∨ s.new = none ∧ lowerBound s < newSpec (post s)) :
    oldTotal s + newSpec (post s) ≤ s.replicas + maxSurgeV s := by
  rw [(post_rolled s h hsc).target] at hup ⊢
  by_cases hlt : startSize s < newTarget s (oldTotal s) (startSize s)
  · exact newTarget_surge s (oldTotal s) (startSize s) (maxSurgeV_nonneg s h) hlt
  · have tb := newTarget_between s (oldTotal s) (startSize s) (limit_bounds s (inv_replicas s h)).2
    have cs := createdSize_bounds s h
    have cl := (createdSize_le s h).2
    rcases hup with hup | ⟨hnew, hup⟩
    · omega
    · simp only [startSize, hnew, oldTotal] at *
      omega

/-! ### every write-stable predicate survives a rolling sync; so does `inv` -/

theorem post_stable (s : State) (hsc : inScope s = true) (hR : 0 ≤ s.replicas) {P : RS → Prop} (hP : WriteStable s P)
    (hnw : P (startRS s)) (holds : ∀ r ∈ s.olds, P r) :
    AllRS P (post s).new (post s).olds := by
  rw [post_inScope s hsc]
  refine ⟨?_, fun r hr => Option.some.inj hr ▸ scaleAndRecord_stable hP _ _ (fun ok => ?_) hnw⟩
  · show ∀ r ∈ ite _ _ _, P r
    split
    · exact reconcileOld_all s hP _ _ holds
    · exact holds
  · have := (newTarget_between s (sumSpec s.olds) (startSize s) (limit_bounds s hR).2).1
    have := ((rsOk_iff _).mp ok).1
    rw [startRS_spec] at this
    omega

theorem statusSum_nonneg (s : State) (h : inv s = true) : 0 ≤ sumPods s.olds + optPods s.new := by
  have h5 := inv_new s h
  have := sumPods_nonneg (inv_olds s h)
  cases hn : s.new with
  | none => simp only [optPods]; omega
  | some r => have := (rsOk_iff r).mp (h5 r hn); simp only [optPods]; omega

theorem inv_post_rolling (s : State) (h : inv s = true) (hsc : inScope s = true) : inv (post s) = true := by
  obtain ⟨hR, _, _, ⟨q1, q2⟩, _⟩ := (inv_iff s).mp h
  have h0 : 0 ≤ s.replicas + maxSurgeV s := by have := maxSurgeV_nonneg s h; omega
  have hq : Q (startRS s) := by
    unfold startRS
    cases hn : s.new with
    | none => exact ⟨(rsOk_iff _).mpr ⟨(createdSize_bounds s h).1, Int.le_refl 0, Int.le_refl 0⟩, by simp [createdRS, annoOk, h0]⟩
    | some r => exact q2 r hn
  apply inv_of_parts s (post s) h rfl rfl rfl (post_stable s hsc hR (Q_stable s h0) hq q1)
  rw [post_inScope s hsc]
  exact statusSum_nonneg s h

/-! ### the scaling path preserves `inv` -/

theorem rsFraction_nonneg (s : State) (r : RS) (f : Int) (hR : 0 ≤ s.replicas) (hs : 0 ≤ maxSurgeV s)
    (hst : 0 ≤ s.statusReplicas) (hq : Q r) (h : rsFraction s r = some f) : 0 ≤ r.spec + f := by
  have hr := (rsOk_iff r).mp hq.1
  unfold rsFraction at h
  by_cases hz : (s.replicas == 0) = true
  · simp only [hz, if_true, Option.some.injEq] at h; omega
  · simp only [hz, Bool.false_eq_true, if_false] at h
    have key : ∀ b : Int, 0 ≤ b →
        (if (b == 0) = true then none else some (roundDiv (r.spec * (s.replicas + maxSurgeV s)) b - r.spec)) = some f →
        0 ≤ r.spec + f := by
      intro b hge hh
      by_cases hb0 : (b == 0) = true
      · simp [hb0] at hh
      · simp only [hb0, Bool.false_eq_true, if_false, Option.some.injEq] at hh
        have hbne : b ≠ 0 := by simpa using hb0
        have := roundDiv_nonneg (r.spec * (s.replicas + maxSurgeV s)) b (Int.mul_nonneg hr.1 (by omega)) (by omega)
        omega
    cases hm : r.maxAnno with
    | none => rw [hm] at h; exact key _ hst h
    | some m =>
      rw [hm] at h
      have := hq.2; simp [annoOk, hm] at this
      exact key m this h

theorem getProportion_bounds (s : State) (r : RS) (toAdd added p : Int) (hR : 0 ≤ s.replicas)
    (hs : 0 ≤ maxSurgeV s) (hst : 0 ≤ s.statusReplicas) (hq : Q r) (hadd : 0 < toAdd → added ≤ toAdd)
    (hp : getProportion s r toAdd added = some p) : 0 ≤ r.spec + p ∧ (0 < toAdd → added + p ≤ toAdd) := by
  have hspec := ((rsOk_iff r).mp hq.1).1
  unfold getProportion at hp
  split at hp
  · cases hp; exact ⟨by omega, fun h' => by have := hadd h'; omega⟩
  · split at hp
    · cases hp
    · rename_i f hf
      have hfn := rsFraction_nonneg s r f hR hs hst hq hf
      simp only [] at hp
      split at hp
      · rename_i hpos
        cases hp
        have := hadd hpos
        exact ⟨by omega, fun _ => by omega⟩
      · rename_i hnpos
        cases hp
        exact ⟨by omega, fun h' => absurd h' hnpos⟩

theorem proportionLoop_cons {s : State} {toAdd added a : Int} {r : RS} {rest : List RS} {plan : List (RS × Int)}
    (h : proportionLoop s toAdd (r :: rest) added = some (plan, a)) :
    ∃ p l', (toAdd = 0 ∧ p = 0 ∨ getProportion s r toAdd added = some p) ∧
      proportionLoop s toAdd rest (added + p) = some (l', a) ∧ plan = (r, r.spec + p) :: l' := by
  simp only [proportionLoop] at h
  split at h
  · split at h
    · cases h
    · rename_i p hp
      split at h
      · cases h
      · rename_i l' a' hrec
        cases h
        exact ⟨p, l', .inr hp, hrec, rfl⟩
  · rename_i h0
    split at h
    · cases h
    · rename_i l' a' hrec
      cases h
      exact ⟨0, l', .inl ⟨by simpa using h0, rfl⟩, by simpa using hrec, by simp⟩

theorem proportionLoop_fst (s : State) (toAdd : Int) : ∀ (l : List RS) (added : Int) (plan : List (RS × Int)) (a : Int),
    proportionLoop s toAdd l added = some (plan, a) → plan.map (·.1) = l := by
  intro l
  induction l with
  | nil => intro added plan a h; cases h; rfl
  | cons r rest ih =>
    intro added plan a h
    obtain ⟨p, l', _, hrec, rfl⟩ := proportionLoop_cons h
    rw [List.map_cons, ih _ _ _ hrec]

theorem proportionLoop_nonneg (s : State) (toAdd : Int) (hR : 0 ≤ s.replicas) (hs : 0 ≤ maxSurgeV s)
    (hst : 0 ≤ s.statusReplicas) :
    ∀ (l : List RS) (added : Int) (plan : List (RS × Int)) (a : Int),
      (∀ r ∈ l, Q r) → (0 < toAdd → added ≤ toAdd) →
      proportionLoop s toAdd l added = some (plan, a) → ∀ p ∈ plan, 0 ≤ p.2 := by
  intro l
  induction l with
  | nil => intro added plan a _ _ h; cases h; simp
  | cons r rest ih =>
    intro added plan a hq hadd h
    rw [List.forall_mem_cons] at hq
    obtain ⟨p, l', hp, hrec, rfl⟩ := proportionLoop_cons h
    have hsize : 0 ≤ r.spec + p ∧ (0 < toAdd → added + p ≤ toAdd) := by
      rcases hp with ⟨h0, rfl⟩ | hp
      · exact ⟨by have := ((rsOk_iff r).mp hq.1.1).1; omega, fun h' => by omega⟩
      · exact getProportion_bounds s r toAdd added p hR hs hst hq.1 hadd hp
    rw [List.forall_mem_cons]
    exact ⟨hsize.1, ih _ _ _ hq.2 hsize.2 hrec⟩

/-- `scale` gives what rounding left over to the first ReplicaSet of the plan, without going below 0 -/
def leftover (toAdd added : Int) : List (RS × Int) → List (RS × Int)
  | [] => []
  | (r, n) :: rest =>
    if toAdd != 0 then (r, if n + (toAdd - added) < 0 then 0 else n + (toAdd - added)) :: rest
    else (r, n) :: rest

theorem leftover_fst (toAdd added : Int) (plan : List (RS × Int)) :
    (leftover toAdd added plan).map (·.1) = plan.map (·.1) := by
  unfold leftover
  split
  · rfl
  · split <;> rfl

theorem leftover_nonneg (toAdd added : Int) (plan : List (RS × Int)) (h : ∀ p ∈ plan, 0 ≤ p.2) :
    ∀ p ∈ leftover toAdd added plan, 0 ≤ p.2 := by
  unfold leftover
  split
  · exact h
  · rw [List.forall_mem_cons] at h
    split
    · rw [List.forall_mem_cons]
      refine ⟨?_, h.2⟩
      show 0 ≤ ite _ _ _
      split <;> omega
    · rw [List.forall_mem_cons]; exact h

/-- the order in which `scale` distributes: largest first, newer first when adding, older first when removing -/
def sizeOrder (toAdd : Int) (l : List RS) : List RS :=
  if toAdd > 0 then sortBy bySizeNewer l else if toAdd < 0 then sortBy bySizeOlder l else l

theorem mem_sizeOrder {toAdd : Int} {l : List RS} {r : RS} : r ∈ sizeOrder toAdd l ↔ r ∈ l := by
  unfold sizeOrder
  split
  · exact mem_sortBy
  · split
    · exact mem_sortBy
    · exact Iff.rfl

theorem updateLoop_fst (s : State) (plan : List (RS × Int)) :
    (updateLoop s plan).1 = plan.map fun p => (scaleReplicaSet s p.1 p.2).1 := by
  induction plan with
  | nil => rfl
  | cons p rest ih => simp only [updateLoop, List.map_cons, ih]

theorem scaleAllTo_fst (s : State) (n : Int) (l : List RS) :
    (scaleAllTo s n l).1 = l.map fun r => (scaleAndRecord s r n).1 := by
  induction l with
  | nil => rfl
  | cons r rest ih => simp only [scaleAllTo, List.map_cons, ih]

theorem distribute_cases (s : State) (nw : Option RS) (cOlds : List RS) (cWrites : List Write) (toAdd : Int)
    (allRSs : List RS) :
    ((distribute s nw cOlds cWrites toAdd allRSs).olds = cOlds ∧
      (distribute s nw cOlds cWrites toAdd allRSs).new = nw ∧
      (distribute s nw cOlds cWrites toAdd allRSs).writes = cWrites) ∨
    ∃ plan added, proportionLoop s toAdd (sizeOrder toAdd allRSs) 0 = some (plan, added) ∧
      (distribute s nw cOlds cWrites toAdd allRSs).olds =
        (splitNew (updateLoop s (leftover toAdd added plan)).1).2 ++ inactive cOlds ∧
      (distribute s nw cOlds cWrites toAdd allRSs).new =
        (match (splitNew (updateLoop s (leftover toAdd added plan)).1).1 with
          | some x => some x
          | none => nw) ∧
      (distribute s nw cOlds cWrites toAdd allRSs).writes = cWrites ++ (updateLoop s (leftover toAdd added plan)).2 := by
  unfold distribute
  simp only []
  split
  · exact .inl ⟨rfl, rfl, rfl⟩
  · rename_i plan added h
    exact .inr ⟨plan, added, h, rfl, rfl, rfl⟩

theorem splitNew_mem (l : List RS) :
    (∀ r, (splitNew l).1 = some r → r ∈ l) ∧ (∀ r ∈ (splitNew l).2, r ∈ l) := by
  induction l with
  | nil => simp [splitNew]
  | cons x rest ih =>
    simp only [splitNew]
    split
    · exact ⟨fun r hr => by simp_all, fun r hr => List.mem_cons_of_mem _ (ih.2 r hr)⟩
    · exact ⟨fun r hr => List.mem_cons_of_mem _ (ih.1 r hr),
        fun r hr => (List.mem_cons.mp hr).elim (fun e => e ▸ List.mem_cons_self ..) fun e => List.mem_cons_of_mem _ (ih.2 r e)⟩

theorem replaceIdx_all {P : RS → Prop} (r' : RS) (h' : P r') :
    ∀ (l : List RS), (∀ r ∈ l, P r) → ∀ r ∈ replaceIdx r' l, P r := by
  intro l
  induction l with
  | nil => intro _ r hr; simp [replaceIdx] at hr
  | cons x rest ih =>
    intro h
    rw [List.forall_mem_cons] at h
    simp only [replaceIdx]
    split
    · exact List.forall_mem_cons.mpr ⟨h', h.2⟩
    · exact List.forall_mem_cons.mpr ⟨h.1, ih h.2⟩

theorem findActiveOrLatest_mem (nw : Option RS) (olds : List RS) (r : RS)
    (h : findActiveOrLatest nw olds = some r) : r ∈ olds ∨ nw = some r := by
  unfold findActiveOrLatest at h
  split at h
  · cases h
  · simp only [] at h
    split at h
    · split at h
      · exact .inr h
      · exact .inl (mem_sortBy.mp (List.mem_of_mem_head? h))
    · rename_i x heq
      cases h
      have : r ∈ active (sortBy byCreationDesc olds ++ nw.toList) := by rw [heq]; simp
      rcases List.mem_append.mp (mem_active this) with e | e
      · exact .inl (mem_sortBy.mp e)
      · exact .inr (by simpa [Option.mem_toList, eq_comm] using e)
    · cases h

theorem all_toList {P : RS → Prop} {nw : Option RS} (hn : ∀ r, nw = some r → P r) : ∀ r ∈ nw.toList, P r := by
  intro r hr
  cases nw with
  | none => simp at hr
  | some x => simp at hr; exact hn r (by rw [hr])

theorem distribute_Q (s : State) (hR : 0 ≤ s.replicas) (hs : 0 ≤ maxSurgeV s) (hst : 0 ≤ s.statusReplicas)
    (nw : Option RS) (cOlds : List RS) (cWrites : List Write) (toAdd : Int) (allRSs : List RS)
    (hc : ∀ r ∈ cOlds, Q r) (hn : ∀ r, nw = some r → Q r) (ha : ∀ r ∈ allRSs, Q r) :
    AllRS Q (distribute s nw cOlds cWrites toAdd allRSs).new (distribute s nw cOlds cWrites toAdd allRSs).olds := by
  rcases distribute_cases s nw cOlds cWrites toAdd allRSs with ⟨e1, e2, _⟩ | ⟨plan, added, hpl, e1, e2, _⟩ <;>
    rw [e1, e2]
  · exact ⟨hc, hn⟩
  · have hsorted : ∀ r ∈ sizeOrder toAdd allRSs, Q r := fun r hr => ha r (mem_sizeOrder.mp hr)
    have hsz := leftover_nonneg toAdd added plan
      (proportionLoop_nonneg s toAdd hR hs hst _ 0 plan added hsorted (fun h => by omega) hpl)
    have hup : ∀ r ∈ (updateLoop s (leftover toAdd added plan)).1, Q r := by
      rw [updateLoop_fst]
      intro r hr
      obtain ⟨p, hp, rfl⟩ := List.mem_map.mp hr
      refine scaleReplicaSet_stable (Q_stable s (by omega)) _ _ (fun _ => hsz p hp) (hsorted _ ?_)
      rw [← proportionLoop_fst s toAdd _ _ _ _ hpl, ← leftover_fst toAdd added]
      exact List.mem_map_of_mem hp
    have hsp := splitNew_mem (updateLoop s (leftover toAdd added plan)).1
    refine ⟨append_all (fun r hr => hup r (hsp.2 r hr)) (all_inactive hc), fun r hr => ?_⟩
    split at hr
    · rename_i x hx
      cases hr
      exact hup r (hsp.1 r hx)
    · exact hn r hr

theorem scaleProportional_cases (s : State) (nw : Option RS) (olds : List RS) :
    (∃ m, scaleProportional s nw olds = ⟨nw, (cleanup s olds m).olds, (cleanup s olds m).writes, true, false⟩) ∨
    (∃ m t, scaleProportional s nw olds = distribute s nw (cleanup s olds m).olds (cleanup s olds m).writes t
      (active ((cleanup s olds m).olds ++ nw.toList))) ∨
    (∃ t, scaleProportional s nw olds = distribute s nw olds [] t (active (sortBy byCreationDesc olds ++ nw.toList))) := by
  unfold scaleProportional
  simp only []
  generalize (if s.replicas > 0 then s.replicas else 0) -
    sumSpec (active (sortBy byCreationDesc olds ++ nw.toList)) = toAdd
  by_cases h1 : toAdd < 0
  · by_cases h2 : (cleanup s olds (-toAdd)).err = true
    · exact .inl ⟨_, by simp only [h1, h2, if_true]; rfl⟩
    · exact .inr (.inl ⟨_, _, by simp only [h1, h2, if_true, Bool.false_eq_true, if_false]; rfl⟩)
  · exact .inr (.inr ⟨_, by simp only [h1, if_false]; rfl⟩)

theorem scaleProportional_Q (s : State) (hR : 0 ≤ s.replicas) (hs : 0 ≤ maxSurgeV s) (hst : 0 ≤ s.statusReplicas)
    (nw : Option RS) (olds : List RS) (hq : ∀ r ∈ olds, Q r) (hn : ∀ r, nw = some r → Q r) :
    AllRS Q (scaleProportional s nw olds).new (scaleProportional s nw olds).olds := by
  have hc := fun m => cleanup_all s (Q_stable s (by omega)) olds m hq
  rcases scaleProportional_cases s nw olds with ⟨m, e⟩ | ⟨m, t, e⟩ | ⟨t, e⟩ <;> rw [e]
  · exact ⟨hc m, hn⟩
  · exact distribute_Q s hR hs hst nw _ _ _ _ (hc m) hn (all_active (append_all (hc m) (all_toList hn)))
  · exact distribute_Q s hR hs hst nw _ _ _ _ hq hn (all_active (append_all (all_sortBy hq) (all_toList hn)))

theorem scale_Q (s : State) (hR : 0 ≤ s.replicas) (hs : 0 ≤ maxSurgeV s) (hst : 0 ≤ s.statusReplicas)
    (nw : Option RS) (olds : List RS) (hq : ∀ r ∈ olds, Q r) (hn : ∀ r, nw = some r → Q r) :
    AllRS Q (scale s nw olds).new (scale s nw olds).olds := by
  have hQ := Q_stable s (show 0 ≤ s.replicas + maxSurgeV s by omega)
  unfold scale
  split
  · rename_i r hf
    have hr : Q r := by
      rcases findActiveOrLatest_mem nw olds r hf with e | e
      · exact hq r e
      · exact hn r e
    split
    · exact ⟨hq, hn⟩
    · have hr' := scaleAndRecord_stable hQ r s.replicas (fun _ => hR) hr
      simp only []
      split
      · exact ⟨hq, fun x hx => Option.some.inj hx ▸ hr'⟩
      · exact ⟨replaceIdx_all _ hr' olds hq, hn⟩
  · split
    · refine ⟨append_all ?_ (all_inactive hq), hn⟩
      rw [scaleAllTo_fst]
      intro r hr
      obtain ⟨x, hx, rfl⟩ := List.mem_map.mp hr
      exact scaleAndRecord_stable hQ x 0 (fun _ => Int.le_refl 0) (all_active (all_sortBy hq) x hx)
    · exact scaleProportional_Q s hR hs hst nw olds hq hn

theorem syncScale_parts (s : State) (h : inv s = true) :
    AllRS Q (syncScale s).new (syncScale s).olds ∧ 0 ≤ (syncScale s).statusReplicas := by
  obtain ⟨h1, _, _, ⟨q1, q2⟩, h6⟩ := (inv_iff s).mp h
  have hs0 := maxSurgeV_nonneg s h
  refine ⟨scale_Q s h1 hs0 h6 (getNewRS s false).1 s.olds q1 (getNewRS_false_Q s q2), ?_⟩
  simp only [syncScale]
  split
  · exact h6
  · rw [optPods_getNewRS_false]; exact statusSum_nonneg s h

theorem sync_cases (s : State) :
    inScope s = true ∨
    sync s = ⟨.statusOnly, false, false, [], (getNewRS s false).1, s.olds, sumPods s.olds + optPods (getNewRS s false).1⟩ ∨
    sync s = syncScale s := by
  unfold sync inScope
  cases s.deleting
  · cases s.paused
    · cases isScalingEvent s
      · exact .inl rfl
      · exact .inr (.inr rfl)
    · exact .inr (.inr rfl)
  · exact .inr (.inl rfl)

theorem inv_post (s : State) (h : inv s = true) : inv (post s) = true := by
  rcases sync_cases s with hsc | e | e
  · exact inv_post_rolling s h hsc
  · obtain ⟨_, _, _, ⟨q1, q2⟩, _⟩ := (inv_iff s).mp h
    refine inv_of_parts s (post s) h rfl rfl rfl ?_ ?_ <;> simp only [post, e]
    · exact ⟨q1, getNewRS_false_Q s q2⟩
    · rw [optPods_getNewRS_false]; exact statusSum_nonneg s h
  · obtain ⟨p1, p2⟩ := syncScale_parts s h
    refine inv_of_parts s (post s) h rfl rfl rfl ?_ ?_ <;> simp only [post, e]
    · exact p1
    · exact p2

/-! ### `scale` leaves sizes alone when they add up to `spec.replicas` -/

theorem le_sumSpec_of_mem {l : List RS} (h : ∀ r ∈ l, 0 ≤ r.spec) {r : RS} (hr : r ∈ l) : r.spec ≤ sumSpec l := by
  induction l with
  | nil => cases hr
  | cons a t ih =>
    have ht : ∀ x ∈ t, 0 ≤ x.spec := fun x hx => h x (by simp [hx])
    have hnn : 0 ≤ sumSpec t := sumBy_nonneg _ _ ht
    simp only [sumSpec, sumBy_cons] at *
    rcases List.mem_cons.mp hr with rfl | hr'
    · omega
    · have := ih ht hr'; have := h a (by simp); omega

theorem active_nil_of_sum_zero {l : List RS} (h : ∀ r ∈ l, 0 ≤ r.spec) (h0 : sumSpec l = 0) : active l = [] := by
  refine List.filter_eq_nil_iff.mpr fun r hr => ?_
  have := le_sumSpec_of_mem h hr
  have := h r hr
  simp only [decide_eq_true_eq]; omega

theorem sumSpec_toList (nw : Option RS) : sumSpec nw.toList = optSpec nw := by
  cases nw <;> simp [sumSpec, optSpec]

theorem sumSpec_activeAll (nw : Option RS) (olds : List RS) (ho : ∀ r ∈ olds, 0 ≤ r.spec)
    (hn : ∀ r, nw = some r → 0 ≤ r.spec) :
    sumSpec (active (sortBy byCreationDesc olds ++ nw.toList)) = sumSpec olds + optSpec nw := by
  rw [sumSpec_active]
  · simp only [sumSpec, sumBy_append, sumBy_sortBy]
    have := sumSpec_toList nw
    simp only [sumSpec] at this
    rw [this]
  · intro r hr
    rcases List.mem_append.mp hr with h | h
    · exact ho r (mem_sortBy.mp h)
    · exact all_toList hn r h

theorem findActiveOrLatest_spec (nw : Option RS) (olds : List RS) (ho : ∀ r ∈ olds, 0 ≤ r.spec)
    (hn : ∀ r, nw = some r → 0 ≤ r.spec) (r : RS) (h : findActiveOrLatest nw olds = some r) :
    r.spec = sumSpec olds + optSpec nw := by
  have hsum := sumSpec_activeAll nw olds ho hn
  unfold findActiveOrLatest at h
  split at h
  · cases h
  · simp only at h
    split at h
    · rename_i hA
      rw [hA] at hsum
      have h0 : sumSpec ([] : List RS) = 0 := rfl
      rw [h0] at hsum
      have hnn : 0 ≤ sumSpec olds := sumBy_nonneg _ _ ho
      cases nw with
      | some x =>
        simp only [Option.some.injEq] at h; subst h
        have := hn _ rfl
        simp only [optSpec] at *; omega
      | none =>
        simp only [optSpec] at *
        have hr : r ∈ sortBy byCreationDesc olds := List.mem_of_mem_head? h
        have hr' := mem_sortBy.mp hr
        have h1 := le_sumSpec_of_mem ho hr'
        have h2 := ho r hr'
        omega
    · rename_i x hA
      rw [hA] at hsum
      simp only [Option.some.injEq] at h; subst h
      have h1 : sumSpec [x] = x.spec := by simp [sumSpec]
      omega
    · cases h

theorem proportionLoop_zero (s : State) : ∀ (l : List RS) (a : Int),
    proportionLoop s 0 l a = some (l.map (fun r => (r, r.spec)), a) := by
  intro l
  induction l with
  | nil => intro a; rfl
  | cons r t ih => intro a; simp [proportionLoop, ih]

theorem updateLoop_same (s : State) : ∀ (l : List RS), (updateLoop s (l.map (fun r => (r, r.spec)))).2 = [] := by
  intro l
  induction l with
  | nil => rfl
  | cons r t ih =>
    simp only [List.map, updateLoop]
    have : (scaleReplicaSet s r r.spec).2 = [] := by
      unfold scaleReplicaSet
      simp only [bne_self_eq_false, Bool.false_or, Bool.false_eq_true, if_false]
      split <;> rfl
    rw [this, ih]; rfl

theorem distribute_zero (s : State) (nw : Option RS) (cOlds : List RS) (l : List RS) :
    (distribute s nw cOlds [] 0 l).writes = [] := by
  unfold distribute
  simp only [Int.lt_irrefl, if_false, proportionLoop_zero]
  have h := updateLoop_same s l
  cases l with
  | nil => simp [updateLoop]
  | cons r t =>
    simp only [List.map, bne_self_eq_false, Bool.false_eq_true, if_false, List.nil_append]
    simpa using h

theorem scale_quiet (s : State) (nw : Option RS) (olds : List RS) (hR : 0 ≤ s.replicas)
    (ho : ∀ r ∈ olds, 0 ≤ r.spec) (hn : ∀ r, nw = some r → 0 ≤ r.spec)
    (ht : sumSpec olds + optSpec nw = s.replicas) : (scale s nw olds).writes = [] := by
  unfold scale
  split
  · rename_i r hf
    have := findActiveOrLatest_spec nw olds ho hn r hf
    have hr : (r.spec == s.replicas) = true := by simp only [beq_iff_eq]; omega
    simp [hr]
  · by_cases hsat : isSaturated s nw = true
    · simp only [hsat, if_true]
      have hz : sumSpec olds = 0 := by
        unfold isSaturated at hsat
        cases nw with
        | none => simp at hsat
        | some r =>
          simp only at hsat
          cases hd : r.desired with
          | none => simp [hd] at hsat
          | some d =>
            simp only [hd, Bool.and_eq_true, beq_iff_eq] at hsat
            simp only [optSpec] at ht; omega
      have hz' : sumSpec (sortBy byCreationDesc olds) = 0 := by
        simp only [sumSpec, sumBy_sortBy]; exact hz
      have : active (sortBy byCreationDesc olds) = [] :=
        active_nil_of_sum_zero (fun r hr => ho r (mem_sortBy.mp hr)) hz'
      rw [this]; rfl
    · simp only [hsat, Bool.false_eq_true, if_false]
      unfold scaleProportional
      have hsum := sumSpec_activeAll nw olds ho hn
      simp only [hsum, ht]
      have : (if s.replicas > 0 then s.replicas else 0) - s.replicas = 0 := by split <;> omega
      simp only [this, Int.lt_irrefl, if_false]
      exact distribute_zero s nw olds _

/-! ### a paused or deleting Deployment: sizes that add up are left alone -/

theorem syncScale_quiet (s : State) (hi : invCore s = true) (ht : sumSpec s.olds + optSpec s.new = s.replicas) :
    (syncScale s).writes = [] := by
  simp only [invCore, Bool.and_eq_true, decide_eq_true_eq, List.all_eq_true, Option.all_eq_true] at hi
  obtain ⟨⟨⟨⟨hR, _⟩, _⟩, ho⟩, hn⟩ := hi
  unfold syncScale
  simp only
  apply scale_quiet s _ s.olds hR (fun r hr => ((rsOk_iff r).mp (ho r hr)).1)
  · intro r hr
    rw [getNewRS_false] at hr
    obtain ⟨x, hx, rfl⟩ := Option.map_eq_some_iff.mp hr
    exact ((rsOk_iff x).mp (hn x hx)).1
  · rw [optSpec_getNewRS_false]; exact ht

theorem sync_paused (s : State) (hd : s.deleting = false) (hp : s.paused = true) : sync s = syncScale s := by
  simp [sync, hd, hp]

theorem sync_deleting_writes (s : State) (hd : s.deleting = true) : (sync s).writes = [] := by
  simp [sync, hd]

/-! ### the scaling path never creates a ReplicaSet, and no path loses the new one -/

/-- not the new ReplicaSet: in the mixed lists `scale` works on, the model marks the new ReplicaSet by index −1, and
    `splitNew` takes it out again by that index -/
def NotNew (r : RS) : Prop := r.idx ≠ -1

theorem NotNew_stable (s : State) : WriteStable s NotNew := fun _ _ _ h => h

theorem splitNew_fst_idx (l : List RS) : ∀ r, (splitNew l).1 = some r → r.idx = -1 := by
  induction l with
  | nil => intro r h; simp [splitNew] at h
  | cons x t ih =>
    intro r h
    simp only [splitNew] at h
    split at h
    · rename_i hx
      exact Option.some.inj h ▸ by simpa using hx
    · exact ih r h

theorem scaleReplicaSet_idx (s : State) (r : RS) (n : Int) : (scaleReplicaSet s r n).1.idx = r.idx := by
  unfold scaleReplicaSet
  simp only []
  split <;> rfl

theorem scaleAndRecord_idx (s : State) (r : RS) (n : Int) : (scaleAndRecord s r n).1.idx = r.idx := by
  rcases scaleAndRecord_fst s r n with e | e <;> rw [e]

theorem distribute_new (s : State) (nw : Option RS) (cOlds : List RS) (cW : List Write) (toAdd : Int) (l : List RS) :
    (nw.isSome = true → (distribute s nw cOlds cW toAdd l).new.isSome = true) ∧
    ((∀ r ∈ l, NotNew r) → nw = none → (distribute s nw cOlds cW toAdd l).new = none) := by
  rcases distribute_cases s nw cOlds cW toAdd l with ⟨_, e, _⟩ | ⟨plan, added, hpl, _, e, _⟩ <;> rw [e]
  · exact ⟨id, fun _ h => h⟩
  · refine ⟨fun h => ?_, fun hl hn => ?_⟩ <;> split
    · rfl
    · exact h
    · rename_i x hx
      -- `x` is a scaled member of the plan, hence of `l`, yet has the index −1 by which `splitNew` picked it: against `hl`
      have h1 := (splitNew_mem _).1 x hx
      rw [updateLoop_fst] at h1
      obtain ⟨p, hp, rfl⟩ := List.mem_map.mp h1
      have hm : p.1 ∈ sizeOrder toAdd l := by
        rw [← proportionLoop_fst s toAdd _ _ _ _ hpl, ← leftover_fst toAdd added]
        exact List.mem_map_of_mem hp
      exact absurd (scaleReplicaSet_idx s p.1 p.2 ▸ splitNew_fst_idx _ _ hx) (hl _ (mem_sizeOrder.mp hm))
    · exact hn

theorem scaleProportional_new (s : State) (nw : Option RS) (olds : List RS) :
    (nw.isSome = true → (scaleProportional s nw olds).new.isSome = true) ∧
    ((∀ r ∈ olds, NotNew r) → nw = none → (scaleProportional s nw olds).new = none) := by
  rcases scaleProportional_cases s nw olds with ⟨m, e⟩ | ⟨m, t, e⟩ | ⟨t, e⟩ <;> rw [e]
  · exact ⟨id, fun _ h => h⟩
  · refine ⟨(distribute_new ..).1, fun ho hn => (distribute_new ..).2 (fun r hr => ?_) hn⟩
    subst hn
    exact cleanup_all s (NotNew_stable s) olds _ ho r (by simpa using mem_active hr)
  · refine ⟨(distribute_new ..).1, fun ho hn => (distribute_new ..).2 (fun r hr => ?_) hn⟩
    subst hn
    exact ho r (mem_sortBy.mp (by simpa using mem_active hr))

theorem scale_new (s : State) (nw : Option RS) (olds : List RS) :
    (nw.isSome = true → (scale s nw olds).new.isSome = true) ∧
    ((∀ r ∈ olds, NotNew r) → nw = none → (scale s nw olds).new = none) := by
  unfold scale
  split
  · rename_i r hf
    split
    · exact ⟨id, fun _ h => h⟩
    · simp only
      split
      · rename_i hidx
        refine ⟨fun _ => rfl, fun ho hn => ?_⟩
        subst hn
        have hr : r ∈ olds := (findActiveOrLatest_mem none olds r hf).resolve_right (fun h => nomatch h)
        rw [scaleAndRecord_idx] at hidx
        exact absurd (by simpa using hidx) (ho r hr)
      · exact ⟨id, fun _ h => h⟩
  · split
    · exact ⟨id, fun _ h => h⟩
    · exact scaleProportional_new s nw olds

theorem syncScale_new_none (s : State) (hn : s.new = none) (ho : ∀ r ∈ s.olds, NotNew r) : (syncScale s).new = none := by
  unfold syncScale
  have : (getNewRS s false).1 = none := by rw [getNewRS_false, hn]; rfl
  simp only [this]
  exact (scale_new s none s.olds).2 ho rfl

theorem sync_new_isSome (s : State) (h : s.new.isSome = true) : (sync s).new.isSome = true := by
  rcases sync_cases s with hsc | e | e
  · rw [sync_inScope s hsc, rolloutRolling_eq]; rfl
  · rw [e]; exact getNewRS_isSome s false h
  · rw [e]; exact (scale_new s _ _).1 (getNewRS_isSome s false h)

/-! ### progress (used for convergence) -/

theorem scaleDownLoop_exact (s : State) (c : Int) : ∀ (l : List RS) (total : Int),
    (∀ r ∈ l, 0 ≤ r.spec) → total ≤ c →
    sumSpec l - sumSpec (scaleDownLoop s c l total).olds = min (c - total) (sumSpec l) := by
  intro l
  induction l with
  | nil => intro total _ _; simp [scaleDownLoop, sumSpec]; omega
  | cons r rest ih =>
    intro total h ht
    rw [List.forall_mem_cons] at h
    have hsum : 0 ≤ sumSpec rest := sumBy_nonneg _ _ h.2
    simp only [scaleDownLoop]
    by_cases h1 : total ≥ c
    · rw [if_pos h1]; simp only [sumSpec, sumBy_cons] at *; omega
    rw [if_neg h1]
    by_cases h2 : (r.spec == 0) = true
    · rw [if_pos h2]
      have h0' : r.spec = 0 := by simpa using h2
      have := ih total h.2 ht
      simp only [sumSpec, sumBy_cons] at *
      omega
    rw [if_neg h2, if_neg (by omega)]
    have := ih (total + min r.spec (c - total)) h.2 (by omega)
    simp only [sumSpec, sumBy_cons, scaleAndRecord_spec] at *
    omega

theorem cleanupLoop_healthy (s : State) (m : Int) : ∀ (l : List RS) (total : Int),
    (∀ r ∈ l, r.spec = r.avail) →
    (cleanupLoop s m l total).olds = l ∧ (cleanupLoop s m l total).err = false := by
  intro l
  induction l with
  | nil => intro total _; simp [cleanupLoop]
  | cons r rest ih =>
    intro total h
    rw [List.forall_mem_cons] at h
    have := ih total h.2
    simp only [cleanupLoop]
    by_cases h1 : total ≥ m
    · rw [if_pos h1]; exact ⟨rfl, rfl⟩
    rw [if_neg h1]
    by_cases h2 : (r.spec == 0) = true
    · rw [if_pos h2]; simp only [this.1, this.2]; exact ⟨trivial, trivial⟩
    rw [if_neg h2, if_pos (by simpa using h.1)]
    simp only [this.1, this.2]; exact ⟨trivial, trivial⟩

theorem sumAvail_eq_sumSpec (l : List RS) (h : ∀ r ∈ l, r.spec = r.avail) : sumAvail l = sumSpec l := by
  induction l with
  | nil => rfl
  | cons r rs ih =>
    have := h r (by simp)
    have := ih (fun x hx => h x (by simp [hx]))
    simp only [sumAvail, sumSpec, sumBy_cons] at *; omega

theorem scaleDownOld_exact (s : State) (l : List RS) (nw : RS) (hs : ∀ r ∈ l, 0 ≤ r.spec)
    (hA : 0 < sumAvail l + nw.avail - (s.replicas - maxUnavailV s))
    (hL : 0 ≤ scaleDownLimitForOld s l nw.spec) :
    sumSpec l - sumSpec (scaleDownOld s l nw).olds =
      min (min (sumAvail l + nw.avail - (s.replicas - maxUnavailV s)) (scaleDownLimitForOld s l nw.spec)) (sumSpec l) := by
  unfold scaleDownOld
  simp only []
  split
  · omega
  · have hl : scaleDownLimitForOld s (sortBy bySmallerRevision l) nw.spec = scaleDownLimitForOld s l nw.spec := by
      simp only [scaleDownLimitForOld, sumSpec, sumBy_sortBy]
    rw [hl]
    have := scaleDownLoop_exact s
      (min (sumAvail l + nw.avail - (s.replicas - maxUnavailV s)) (scaleDownLimitForOld s l nw.spec))
      (sortBy bySmallerRevision l) 0 (all_sortBy hs) (by omega)
    simp only [sumSpec, sumBy_sortBy] at *
    omega

theorem reconcileOld_progress (s : State) (l : List RS) (nw : RS) (hok : ∀ r ∈ l, rsOk r = true)
    (hset : ∀ r ∈ l, r.spec = r.avail) (hnw : nw.avail = nw.spec)
    (hpos : 0 < sumSpec l)
    (hres : s.replicas - max (limit s) nw.spec ≤ 0)
    (hM : 1 ≤ sumSpec l + nw.spec - (s.replicas - maxUnavailV s)) :
    sumSpec (reconcileOld s l nw).2.1 < sumSpec l := by
  have a1 := sumBy_active_inactive (·.spec) l
  have i0 := sumSpec_inactive_zero l (fun r hr => ((rsOk_iff r).mp (hok r hr)).1)
  have hact : ∀ r ∈ active l, 0 ≤ r.spec := fun r hr => ((rsOk_iff r).mp (hok r (mem_active hr))).1
  have hav := sumAvail_eq_sumSpec (active l) (all_active hset)
  -- all old pods are healthy: the clean-up changes nothing and does not fail
  have hc := cleanupLoop_healthy s (maxScaledDown s l nw) (sortBy byCreation (active l)) 0
    (all_sortBy (all_active hset))
  rcases reconcileOld_cases s l nw with ⟨hg, _⟩ | ⟨_, hlim, _⟩ | ⟨hlim, hm, ⟨he, _⟩ | ⟨_, e⟩⟩
  · simp only [maxScaledDown, scaleDownLimitForOld, sumSpec] at *; omega
  · simp only [scaleDownLimitForOld, sumSpec] at *; omega
  · rw [cleanup, hc.2] at he; cases he
  · rw [e, cleanup, hc.1]
    have hd := scaleDownOld_exact s (sortBy byCreation (active l)) nw (all_sortBy hact)
      (by simp only [maxScaledDown, sumAvail, sumSpec, sumBy_sortBy] at *; omega)
      (by simp only [scaleDownLimitForOld, sumSpec, sumBy_sortBy] at *; omega)
    simp only [maxScaledDown, scaleDownLimitForOld, sumSpec, sumAvail, sumBy_sortBy, sumBy_append] at *
    omega

theorem live_budget (s : State) (h : inv s = true) (hl : cfgLive s = true) (hR : 1 ≤ s.replicas) :
    1 ≤ maxSurgeV s + maxUnavailV s := by
  simp only [cfgLive, Bool.and_eq_true] at hl
  obtain ⟨hroll, hsome⟩ := hl
  cases hr : resolveFenceposts s.maxSurge s.maxUnavailable s.replicas with
  | none => rw [hr] at hsome; simp at hsome
  | some p =>
    have hn := fenceposts_nonneg s h hr
    have hz : ¬ s.replicas = 0 := by omega
    simp only [maxSurgeV, maxUnavailV, hroll, hr, Bool.not_true, Bool.false_eq_true, if_false,
      Bool.false_or, beq_iff_eq, hz]
    split <;> omega

theorem settled_elim (s : State) (h : settled s = true) :
    (∀ r ∈ s.olds, r.spec = r.avail) ∧ (∀ r, s.new = some r → r.avail = r.spec) := by
  simp only [settled, List.all_eq_true, List.mem_append, Bool.and_eq_true, beq_iff_eq] at h
  refine ⟨fun r hr => ((h r (Or.inl hr)).2).symm, fun r hr => (h r (Or.inr (by simp [hr]))).2⟩

theorem post_covers (s : State) (h : inv s = true) (hsc : inScope s = true) (hcov : covers s = true) :
    min (startSize s) s.replicas ≤ newSpec (post s) ∧ newSpec (post s) ≤ max (startSize s) s.replicas ∧
    0 ≤ oldTotal (post s) ∧ oldTotal (post s) ≤ oldTotal s := by
  have hcov' : limit s = s.replicas := by simpa [covers] using hcov
  have ho := sumSpec_nonneg (inv_olds s h)
  have ho' := sumSpec_nonneg (inv_olds _ (inv_post_rolling s h hsc))
  obtain ⟨hn, _, _, hc⟩ := post_rolled s h hsc
  have tb := newTarget_between s (oldTotal s) (startSize s) (by omega)
  simp only [oldTotal, reserve] at *
  rcases hc with ⟨_, e, _⟩ | ⟨_, ro⟩
  · omega
  · cases ro <;> omega

theorem variant_of_isSome {s : State} (h : s.new.isSome = true) :
    variant s = (s.replicas - newSpec s).natAbs + (oldTotal s).natAbs := by
  cases hn : s.new with
  | none => simp [hn] at h
  | some r => simp only [variant, newSpec, optSpec, hn]

theorem variant_towards {R n n' o o' : Int} (h1 : min n R ≤ n') (h2 : n' ≤ max n R) (h3 : 0 ≤ o') (h4 : o' ≤ o) :
    (R - n').natAbs + o'.natAbs ≤ (R - n).natAbs + o.natAbs ∧
    (n' ≠ n ∨ o' < o → (R - n').natAbs + o'.natAbs < (R - n).natAbs + o.natAbs) := by
  omega

theorem variant_post_le (s : State) (h : inv s = true) (hsc : inScope s = true) (hcov : covers s = true) :
    variant (post s) ≤ variant s ∧ (s.new = none → variant (post s) < variant s) := by
  obtain ⟨h1, h2, h3, h4⟩ := post_covers s h hsc hcov
  have vt := (variant_towards h1 h2 h3 h4).1
  rw [show variant (post s) = (s.replicas - _).natAbs + _ from variant_of_isSome (post_rolled s h hsc).isSome]
  cases hnew : s.new with
  | none =>
    have cs := createdSize_bounds s h
    simp only [variant, startSize, hnew] at vt ⊢
    exact ⟨by omega, fun _ => by omega⟩
  | some r =>
    simp only [variant, startSize, hnew] at vt ⊢
    exact ⟨vt, nofun⟩

theorem variant_post_lt (s : State) (h : inv s = true) (hsc : inScope s = true) (hcov : covers s = true)
    (hlive : cfgLive s = true) (hset : settled s = true) (hnf : final s = false) :
    variant (post s) < variant s := by
  cases hnew : s.new with
  | none => exact (variant_post_le s h hsc hcov).2 hnew
  | some r =>
    obtain ⟨h1, h2, h3, h4⟩ := post_covers s h hsc hcov
    rw [show variant (post s) = (s.replicas - _).natAbs + _ from variant_of_isSome (post_rolled s h hsc).isSome]
    have hs := (post_rolled s h hsc).target
    have e1 : (startRS s).spec = r.spec := by rw [startRS_spec, startSize, hnew]
    have e2 : (startRS s).avail = r.avail := by rw [startRS_avail, hnew]; rfl
    simp only [variant, hnew]
    simp only [startSize, hnew, oldTotal] at h1 h2 hs
    refine (variant_towards h1 h2 h3 h4).2 ?_
    -- the new RS moves, or else an old pod goes
    by_cases he : newSpec (post s) = r.spec
    case neg => exact .inl he
    right
    rw [he] at hs
    have hcov' : limit s = s.replicas := by simpa [covers] using hcov
    obtain ⟨st1, st2⟩ := settled_elim s hset
    have hok := inv_olds s h
    have ho := sumSpec_nonneg hok
    have hR := inv_replicas s h
    have hr := (rsOk_iff r).mp (inv_new s h r hnew)
    have hfin : ¬ (r.spec = s.replicas ∧ sumSpec s.olds = 0) := by
      intro hh
      simp [final, hnew, hh.1, oldTotal, hh.2] at hnf
    have st := st2 r hnew
    have hz : sumSpec s.olds ≠ 0 := by
      intro hz
      rw [hz, newTarget_zero_old] at hs; omega
    -- the new RS is left alone although it is below `replicas`: the surge is used up, so the
    -- availability budget is positive
    have hM : 1 ≤ sumSpec s.olds + r.spec - (s.replicas - maxUnavailV s) := by
      have hu := maxUnavailV_bounds s h
      by_cases hn1 : r.spec = s.replicas
      · omega
      · unfold newTarget at hs
        simp only [hn1, if_false] at hs
        split at hs
        · omega
        · have := (newRSNewReplicas_bounds s _ _ (show sumSpec s.olds + r.spec > r.spec by omega)).stuck
            hs.symm (by omega) (by omega)
          have := live_budget s h hlive (by omega)
          have := maxSurgeV_nonneg s h
          omega
    simp only [oldTotal, post_inScope s hsc, startSize, hnew, hs.symm, if_true]
    exact reconcileOld_progress s s.olds _ hok st1 (by omega) (by omega) (by omega) (e1 ▸ hM)

/-! ### no scaling event arises on the rolling path -/

/-- an active RS does not carry a stale desired-replicas annotation -/
def NoEv (R : Int) (r : RS) : Prop := 0 < r.spec → ∀ d, r.desired = some d → d = R

theorem isScalingEvent_false_iff (s : State) :
    isScalingEvent s = false ↔ AllRS (NoEv s.replicas) s.new s.olds := by
  have : isScalingEvent s = false ↔ ∀ r ∈ s.olds ++ s.new.toList, NoEv s.replicas r := by
    simp only [isScalingEvent, List.any_eq_false, active, List.mem_filter, decide_eq_true_eq, NoEv]
    constructor
    · intro h r hr hpos d hd
      have := h r ⟨hr, hpos⟩
      simp only [hd] at this
      simpa using this
    · intro h r hr
      have := h r hr.1 hr.2
      cases hd : r.desired with
      | none => simp
      | some d => simp [this d hd]
  rw [this, List.forall_mem_append]
  exact ⟨fun h => ⟨h.1, fun r hr => h.2 r (by simp [hr])⟩, fun h => ⟨h.olds, all_toList h.new⟩⟩

theorem NoEv_stable (s : State) : WriteStable s (NoEv s.replicas) := by
  intro r n _ _ _ d hd
  exact (Option.some.inj hd).symm

theorem inScope_post (s : State) (hR : 0 ≤ s.replicas) (hsc : inScope s = true) : inScope (post s) = true := by
  have hsc' := hsc
  simp only [inScope, Bool.and_eq_true, Bool.not_eq_true'] at hsc'
  obtain ⟨⟨hd, hp⟩, he⟩ := hsc'
  obtain ⟨ho, hn⟩ := (isScalingEvent_false_iff s).mp he
  have hnw : NoEv s.replicas (startRS s) := by
    unfold startRS
    cases hnew : s.new with
    | none => exact fun _ d hd => (Option.some.inj hd).symm
    | some r => exact hn r hnew
  have he' : isScalingEvent (post s) = false :=
    (isScalingEvent_false_iff _).mpr (post_stable s hsc hR (NoEv_stable s) hnw ho)
  simp only [inScope, Bool.and_eq_true, Bool.not_eq_true']
  exact ⟨⟨hd, hp⟩, he'⟩

theorem live_elim (s : State) (h : live s = true) :
    inv s = true ∧ inScope s = true ∧ covers s = true ∧ cfgLive s = true := by
  simp only [live, Bool.and_eq_true] at h
  exact ⟨h.1.1.1, h.1.1.2, h.1.2, h.2⟩

theorem live_post (s : State) (h : live s = true) : live (post s) = true := by
  obtain ⟨h1, h2, h3, h4⟩ := live_elim s h
  have a := inv_post s h1
  have b := inScope_post s (inv_replicas s h1) h2
  have c : covers (post s) = covers s := rfl
  have d : cfgLive (post s) = cfgLive s := rfl
  simp only [live, a, b, c, d, h3, h4, Bool.and_self]

/-- pointwise admissible status moves of a list of RSs -/
inductive EnvList : List RS → List RS → Prop
  | nil : EnvList [] []
  | cons {a b : RS} {l l' : List RS} : envOk a b = true → EnvList l l' → EnvList (a :: l) (b :: l')

/-- an environment step: the status of every RS moves admissibly (`envOk`: pods toward spec,
    availability anywhere within pods); specs, annotations and the deployment are untouched -/
def EnvStep (s t : State) : Prop :=
  t = { s with new := t.new, olds := t.olds } ∧
  EnvList s.olds t.olds ∧
  (match s.new, t.new with
    | none, none => True
    | some r, some r' => envOk r r' = true
    | _, _ => False)

theorem envOk_elim (r r' : RS) (h : envOk r r' = true) :
    r'.spec = r.spec ∧ r'.desired = r.desired ∧ r'.maxAnno = r.maxAnno ∧ 0 ≤ r'.avail ∧ r'.avail ≤ r'.pods := by
  simp only [envOk, Bool.and_eq_true, beq_iff_eq, decide_eq_true_eq] at h
  obtain ⟨⟨⟨e, h1⟩, h2⟩, _⟩ := h
  refine ⟨?_, ?_, ?_, h1, h2⟩ <;> (rw [e])

theorem envList_elim {l l' : List RS} (h : EnvList l l') :
    sumSpec l' = sumSpec l ∧ (∀ r' ∈ l', ∃ r ∈ l, envOk r r' = true) := by
  induction h with
  | nil => simp [sumSpec]
  | @cons a b l₁ l₂ hh _ ih =>
    have := (envOk_elim a b hh).1
    constructor
    · simp only [sumSpec, sumBy_cons] at *; omega
    · rw [List.forall_mem_cons]
      exact ⟨⟨a, by simp, hh⟩, fun r' e => let ⟨r, hr, he⟩ := ih.2 r' e; ⟨r, by simp [hr], he⟩⟩

theorem env_Q (r r' : RS) (h : envOk r r' = true) (hq : Q r) : Q r' := by
  obtain ⟨e1, _, e3, a1, a2⟩ := envOk_elim r r' h
  obtain ⟨q1, q2⟩ := hq
  rw [rsOk_iff] at q1
  constructor
  · rw [rsOk_iff]; omega
  · simpa [annoOk, e3] using q2

theorem env_NoEv (R : Int) (r r' : RS) (h : envOk r r' = true) (hq : NoEv R r) : NoEv R r' := by
  obtain ⟨e1, e2, _⟩ := envOk_elim r r' h
  intro hp d hd
  exact hq (by omega) d (by rw [← e2]; exact hd)

theorem env_new {s t : State} (h : EnvStep s t) :
    (∀ r', t.new = some r' → ∃ r, s.new = some r ∧ envOk r r' = true) ∧ (s.new = none ↔ t.new = none) := by
  have h3 := h.2.2
  cases hs : s.new <;> cases ht : t.new <;> simp_all

theorem env_all {s t : State} (h : EnvStep s t) {P : RS → Prop} (hP : ∀ r r', envOk r r' = true → P r → P r')
    (ha : AllRS P s.new s.olds) : AllRS P t.new t.olds := by
  refine ⟨fun r' hr' => ?_, fun r' hr' => ?_⟩
  · obtain ⟨r, hr, he⟩ := (envList_elim h.2.1).2 r' hr'
    exact hP r r' he (ha.olds r hr)
  · obtain ⟨r, hr, he⟩ := (env_new h).1 r' hr'
    exact hP r r' he (ha.new r hr)

theorem env_inv (s t : State) (h1 : inv s = true) (h : EnvStep s t) : inv t = true := by
  have hcfg := h.1
  obtain ⟨_, _, _, q, h6⟩ := (inv_iff s).mp h1
  refine inv_of_parts s t h1 (by rw [hcfg]) (by rw [hcfg]) (by rw [hcfg]) (env_all h env_Q q) ?_
  rw [show t.statusReplicas = s.statusReplicas by rw [hcfg]]; exact h6

theorem env_live (s t : State) (hl : live s = true) (h : EnvStep s t) : live t = true := by
  obtain ⟨h1, h2, h3, h4⟩ := live_elim s hl
  have hcfg := h.1
  simp only [inScope, Bool.and_eq_true, Bool.not_eq_true'] at h2
  have hev : isScalingEvent t = false := by
    rw [isScalingEvent_false_iff, show t.replicas = s.replicas by rw [hcfg]]
    exact env_all h (env_NoEv _) ((isScalingEvent_false_iff s).mp h2.2)
  have hsc : inScope t = true := by
    have e5 : t.deleting = s.deleting := by rw [hcfg]
    have e6 : t.paused = s.paused := by rw [hcfg]
    simp only [inScope, Bool.and_eq_true, Bool.not_eq_true', e5, e6]
    exact ⟨h2.1, hev⟩
  have hcov : covers t = true := by rw [hcfg]; exact h3
  have hlive : cfgLive t = true := by rw [hcfg]; exact h4
  simp only [live, env_inv s t h1 h, hsc, hcov, hlive, Bool.and_self]

theorem env_variant (s t : State) (h : EnvStep s t) : variant t = variant s := by
  obtain ⟨f1, _⟩ := envList_elim h.2.1
  obtain ⟨n1, n2⟩ := env_new h
  have e1 : t.replicas = s.replicas := by rw [h.1]
  simp only [variant, oldTotal, f1, e1]
  cases ht : t.new with
  | none => rw [n2.mpr ht]
  | some r' =>
    obtain ⟨r, hr, he⟩ := n1 r' ht
    rw [hr]
    simp only [(envOk_elim r r' he).1]

theorem envOk_settle (r : RS) (h : rsOk r = true) : envOk r (settle r) = true := by
  rw [rsOk_iff] at h
  have e : (settle r == { r with pods := (settle r).pods, avail := (settle r).avail }) = true := by
    simp [settle]
  have p1 : (settle r).pods = r.spec := rfl
  have p2 : (settle r).avail = r.spec := rfl
  unfold envOk
  rw [e, p1, p2]
  simp only [Bool.true_and, Bool.and_eq_true, Bool.or_eq_true, decide_eq_true_eq]
  omega

theorem envList_settle (l : List RS) (h : ∀ r ∈ l, rsOk r = true) : EnvList l (l.map settle) := by
  induction l with
  | nil => exact EnvList.nil
  | cons r rs ih =>
    exact EnvList.cons (envOk_settle r (h r (by simp))) (ih (fun x hx => h x (by simp [hx])))

theorem envAll_step (s : State) (h : inv s = true) : EnvStep s (envAll s) := by
  refine ⟨rfl, envList_settle s.olds (inv_olds s h), ?_⟩
  simp only [envAll]
  cases hn : s.new with
  | none => simp
  | some r => simpa using envOk_settle r (inv_new s h r hn)

theorem settled_envAll (s : State) : settled (envAll s) = true := by
  simp only [settled, envAll, List.all_eq_true, List.mem_append, List.mem_map, Bool.and_eq_true, beq_iff_eq]
  rintro r (⟨x, _, rfl⟩ | hr)
  · exact ⟨rfl, rfl⟩
  · cases hn : s.new <;> simp_all [settle]

theorem variant_zero_iff (s : State) (h : inv s = true) : variant s = 0 ↔ final s = true := by
  have ho := sumSpec_nonneg (inv_olds s h)
  simp only [variant, final, oldTotal]
  cases hn : s.new with
  | none => simp
  | some r => simp only [Bool.and_eq_true, beq_iff_eq]; omega

theorem live_round (s : State) (h : live s = true) :
    live (round s) = true ∧ settled (round s) = true ∧ variant (round s) ≤ variant s := by
  have h1 := live_post s h
  obtain ⟨i1, _, _, _⟩ := live_elim _ h1
  obtain ⟨i0, sc0, cv0, _⟩ := live_elim _ h
  have st := envAll_step (post s) i1
  refine ⟨env_live _ _ h1 st, settled_envAll _, ?_⟩
  have := env_variant _ _ st
  have := (variant_post_le s i0 sc0 cv0).1
  simp only [round]; omega

theorem round_lt (s : State) (h : live s = true) (hs : settled s = true) (hf : final s = false) :
    variant (round s) < variant s := by
  obtain ⟨i0, sc0, cv0, l0⟩ := live_elim _ h
  obtain ⟨i1, _, _, _⟩ := live_elim _ (live_post s h)
  have := env_variant _ _ (envAll_step (post s) i1)
  have := variant_post_lt s i0 sc0 cv0 l0 hs hf
  simp only [round]; omega

theorem rounds_converge : ∀ (n : Nat) (s : State), live s = true → settled s = true → variant s ≤ n →
    final (rounds n s) = true := by
  intro n
  induction n with
  | zero =>
    intro s h _ hv
    exact (variant_zero_iff s (live_elim s h).1).mp (by omega)
  | succ n ih =>
    intro s h hs hv
    obtain ⟨l1, s1, v1⟩ := live_round s h
    have hle : variant (round s) ≤ n := by
      cases hf : final s with
      | true =>
        have := (variant_zero_iff s (live_elim s h).1).mpr hf
        omega
      | false => have := round_lt s h hs hf; omega
    exact ih (round s) l1 s1 hle

end RV.DepSync

