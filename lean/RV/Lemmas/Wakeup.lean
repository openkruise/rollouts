/-
  Helper lemmas for `RV/Props/WakeupThms.lean`: list facts about the handler model and the handlers by cases (these declared in
  `RV.Props.Wakeup`, the namespace of that file, whose Part A consists of readings of them); what one quiet step of the
  executor / of the release manager looks like (building on `RV/Lemmas/Round.lean` and the dispatch of `RV/Lemmas/RolloutSM.lean`);
  and what the phase table of `calculateRolloutStatus` (`RV.RolloutSM.phaseAfter`) says outside a release (`cs_rest`: an unchanged
  phase means waiting).
-/
import RV.Lemmas.ExecutorX
import RV.Lemmas.ReconcileFrame
import RV.Oracle.Wakeup
import RV.Props.RolloutThms
namespace RV.Lemmas.Wakeup
open RV.Wakeup RV.Oracle.Wakeup

theorem annosEq_iff (a b : Option (List (String × String))) : annosEq a b = true ↔ a = b := by
  cases a <;> cases b <;> simp [annosEq]

theorem key_beq_self (k : Key) : (k == k) = true := by simp

theorem getRollout_mem_owners (rs : List Obj) (ns name : String) (g : GVK) (r : Obj)
    (h : getRolloutForWorkload rs ns name g = some r) : r ∈ owners rs ns name g := by
  unfold getRolloutForWorkload at h
  have hm := List.mem_of_find?_eq_some h
  have hp := List.find?_some h
  rw [List.mem_filter] at hm
  unfold owners
  rw [List.mem_filter]
  exact ⟨hm.1, by simp [hm.2, hp]⟩

theorem getRollout_none_owners (rs : List Obj) (ns name : String) (g : GVK)
    (h : getRolloutForWorkload rs ns name g = none) : owners rs ns name g = [] := by
  unfold getRolloutForWorkload at h
  rw [List.find?_eq_none] at h
  unfold owners
  rw [List.filter_eq_nil_iff]
  intro r hr hc
  simp only [Bool.and_eq_true] at hc
  exact h r (by rw [List.mem_filter]; exact ⟨hr, hc.1⟩) hc.2

theorem owners_eq_filter_filter (xs : List Obj) (ns name : String) (g : GVK) :
    owners xs ns name g = (xs.filter (fun b => b.ns == ns)).filter (fun b => refMatches b.ref g name) := by
  unfold owners
  rw [List.filter_filter]
  congr 1
  funext b
  exact Bool.and_comm _ _

theorem lastMatch_mem_owners (brs : List Obj) (ns name : String) (g : GVK) (b : Obj)
    (h : lastMatch brs ns name g = some b) : b ∈ owners brs ns name g := by
  unfold lastMatch at h
  rw [owners_eq_filter_filter]
  exact List.mem_of_getLast? h

theorem lastMatch_none_owners (brs : List Obj) (ns name : String) (g : GVK)
    (h : lastMatch brs ns name g = none) : owners brs ns name g = [] := by
  unfold lastMatch at h
  rw [owners_eq_filter_filter]
  exact List.getLast?_eq_none_iff.mp h

theorem owner_ns (xs : List Obj) (ns name : String) (g : GVK) (r : Obj) (h : r ∈ owners xs ns name g) :
    r.ns = ns ∧ refMatches r.ref g name = true ∧ r ∈ xs := by
  unfold owners at h
  rw [List.mem_filter] at h
  simp only [Bool.and_eq_true, beq_iff_eq] at h
  exact ⟨h.2.1, h.2.2, h.1⟩

end RV.Lemmas.Wakeup

/-! The handlers by cases, declared in `RV.Props.Wakeup`, the namespace of `Props/WakeupThms`, whose Part A consists of readings of these. -/
namespace RV.Props.Wakeup
open RV.Wakeup RV.Oracle.Wakeup RV.Lemmas.Wakeup

theorem roHandleWorkload_spec (rs : List Obj) (listErr : Bool) (ty : WlType) (ns name : String) (g : GVK) (hk : schemeKind ty = some g) :
    (roHandleWorkload rs listErr ty ns name = [] ∧ (listErr = true ∨ owners rs ns name g = [])) ∨
    ∃ r ∈ owners rs ns name g, roHandleWorkload rs listErr ty ns name = [r.key] := by
  unfold roHandleWorkload
  rw [hk]
  cases listErr
  · dsimp only
    rw [if_neg Bool.false_ne_true]
    cases hr : getRolloutForWorkload rs ns name g with
    | none => exact .inl ⟨rfl, .inr (getRollout_none_owners rs ns name g hr)⟩
    | some r => exact .inr ⟨r, getRollout_mem_owners rs ns name g r hr, rfl⟩
  · exact .inl ⟨rfl, .inl rfl⟩

theorem getBatchRelease_frame (brs : List Obj) (listErr : Bool) (ns name : String) (g : GVK) (c : Control) (k : Key)
    (h : k ∈ (getBatchRelease brs listErr ns name g c).keys) :
    k.ns = ns ∧ (controlledBy c = some k.name ∨ ∃ r ∈ owners brs ns name g, r.key = k) := by
  have viaList : k ∈ (if listErr then Found.err else match lastMatch brs ns name g with
      | some b => Found.key b.key | none => Found.noName).keys →
      k.ns = ns ∧ (controlledBy c = some k.name ∨ ∃ r ∈ owners brs ns name g, r.key = k) := by
    intro hk
    split at hk
    · cases hk
    · split at hk
      · rename_i b hb
        cases List.mem_singleton.mp hk
        have hm := lastMatch_mem_owners brs ns name g b hb
        exact ⟨(owner_ns brs ns name g b hm).1, .inr ⟨b, hm, rfl⟩⟩
      · cases hk
  unfold getBatchRelease at h
  cases c with
  | absent | empty | badSyntax => exact viaList h
  | partialRef a kd =>
    dsimp only at h
    split at h
    · cases h
    · exact viaList h
  | ref a kd n =>
    dsimp only at h
    split at h
    · rename_i hc
      split at h
      · cases h
      · rename_i hn
        cases List.mem_singleton.mp h
        exact ⟨rfl, .inl (by simp [controlledBy, hc.1, hc.2, hn])⟩
    · exact viaList h

theorem brWorkloadUpdate_unknown (brs : List Obj) (listErr : Bool) (old new : Wl) (h : switchKind new.ty = none) :
    brWorkloadUpdate brs listErr old new = .keys [] := by
  unfold brWorkloadUpdate; rw [h]

theorem brWorkloadUpdate_eq (brs : List Obj) (listErr : Bool) (old new : Wl) (g : GVK) (so sn : WlStatus)
    (hg : switchKind new.ty = some g) (hso : parseStatus old.ty old.status = some so) (hsn : parseStatus new.ty new.status = some sn) :
    brWorkloadUpdate brs listErr old new =
      .keys (if new.rv ≠ old.rv ∧ (old.generation ≠ new.generation ∨ so ≠ sn) then
        (getBatchRelease brs listErr new.ns new.name g new.control).keys else []) := by
  unfold brWorkloadUpdate
  simp only [hg, hso, hsn]
  by_cases h1 : new.rv = old.rv
  · simp [h1]
  · by_cases h2 : old.generation ≠ new.generation ∨ so ≠ sn
    · rw [if_neg h1, if_pos h2, if_pos ⟨h1, h2⟩]
    · rw [if_neg h1, if_neg h2, if_neg (fun h => h2 h.2)]

/-- `ParseWorkloadStatus` panics on a kind it does not know; the resource-version test comes first -/
theorem brWorkloadUpdate_unparsed (brs : List Obj) (listErr : Bool) (old new : Wl) (g : GVK) (hg : switchKind new.ty = some g)
    (h : parseStatus old.ty old.status = none ∨ parseStatus new.ty new.status = none) :
    brWorkloadUpdate brs listErr old new = if new.rv = old.rv then .keys [] else .panic := by
  unfold brWorkloadUpdate
  simp only [hg]
  split
  · rfl
  · rcases h with h | h <;> rw [h]
    cases parseStatus old.ty old.status <;> rfl

theorem parseStatus_pair (old new : Wl) :
    (parseStatus old.ty old.status = none ∨ parseStatus new.ty new.status = none) ∨
    ∃ so sn, parseStatus old.ty old.status = some so ∧ parseStatus new.ty new.status = some sn := by
  cases parseStatus old.ty old.status with
  | none => exact .inl (.inl rfl)
  | some so =>
    cases parseStatus new.ty new.status with
    | none => exact .inl (.inr rfl)
    | some sn => exact .inr ⟨so, sn, rfl, rfl⟩

/-- the size test of the predicate is subsumed: annotation maps of different size are different maps -/
theorem brPredUpdate_iff (old new : BrMeta) :
    brPredUpdate old new = true ↔ old.generation ≠ new.generation ∨ new.deleting = true ∨ old.annos ≠ new.annos := by
  unfold brPredUpdate
  by_cases h1 : old.generation ≠ new.generation ∨ new.deleting = true
  · rw [if_pos h1]
    exact iff_of_true rfl (h1.elim .inl (.inr ∘ .inl))
  · rw [if_neg h1]
    simp only [not_or] at h1
    by_cases h2 : old.annos = new.annos
    · simp [h1, h2, (annosEq_iff _ _).mpr rfl]
    · simp [h1, h2, mt (annosEq_iff _ _).mp h2]

end RV.Props.Wakeup

namespace RV.Lemmas.Wakeup
open RV.Wakeup RV.Oracle.Wakeup

section executor
open RV.Executor

theorem initialized_of_phase (s : Status) (h : s.phase ≠ .empty) : initializedStatus s = s := by
  exact initialized_id s h

theorem syncInfo_ptc (br : BR) (ns : Status) (wl : Option Workload) (h : (syncInfo br ns wl).1 = .podTemplateChanged) :
    ∃ w, (syncInfo br ns wl).2 = some w ∧ w.updateRevision ≠ ns.updateRevision := by
  cases hd : br.deleting <;> unfold syncInfo at h <;> rw [hd] at h
  case true => cases h
  cases wl with
  | none => cases h
  | some w =>
    refine ⟨w, syncInfo_info br ns w hd, fun he => ?_⟩
    · -- with equal revisions the test for `podTemplateChanged` fails, and no other test answers with that event
      simp only [Bool.false_eq_true, if_false, he, ne_eq, not_true_eq_false, and_false, apply_ite Prod.fst] at h
      split at h
      · cases h
      split at h
      · cases h
      split at h
      · cases h
      split at h <;> cases h

theorem brAwaits_completed (br : BR) (wl : Option Workload) (hc : br.status.phase = .completed) :
    brAwaits br wl = if br.deleting ∧ br.hasFinalizer then none else some .completed := by
  unfold brAwaits
  simp only [if_pos hc]

theorem brAwaits_isSome (br : BR) (wl : Option Workload) (hc : br.status.phase ≠ .completed)
    (h : StopCause br (syncInfo br (initializedStatus br.status) wl).1 ∨
      (br.status.phase = .progressing ∧ br.status.batchState = .ready ∧ isPartitioned br = true)) :
    (brAwaits br wl).isSome = true := by
  unfold brAwaits
  simp only [if_neg hc]
  split
  · rfl
  split
  · rfl
  split
  · rfl
  split
  · rfl
  · rcases h with (h | h | h) | h <;> contradiction

theorem execute_quiet (br1 : BR) (st ns' : Status) (wl wl' : Option Workload) (hnc : st.phase ≠ .completed)
    (h : execute br1 st wl = .val (ns', wl', false, false)) :
    (ns' = st ∧ wl' = wl ∧ st.phase = .progressing ∧ st.batchState = .ready ∧ isPartitioned br1 = true) ∨
    (ns'.phase = .completed) := by
  rw [RV.ExecutorX.execute_eq] at h
  -- the flags are part of a leaf's result: three leaves neither requeue nor fail
  cases RV.ExecutorX.executeX_exec h with
  | finalized => exact .inr rfl
  | idle hc => exact absurd hc hnc
  | progressing hp hpr =>
    cases hpr with
    | wait hr _ hpart =>
      have hid := normState_of_ne_upgrading st (by rw [hr]; exact BState.noConfusion)
      rw [hid] at hr ⊢
      exact .inl ⟨rfl, rfl, hp, hr, hpart⟩

theorem status_event (br : BR) (wl : Option Workload) (o : StepOut) (b' : BR) (hb : o.br = some b') (hw : b'.status ≠ br.status) :
    .brStatusUpdated br.deleting ∈ brStepEvents br wl o := by
  unfold brStepEvents
  rw [hb]
  simp [hw]

theorem finalizer_event (br : BR) (wl : Option Workload) (o : StepOut) (b' : BR) (hb : o.br = some b')
    (hf : b'.hasFinalizer ≠ br.hasFinalizer) : .brMetaUpdated br.deleting ∈ brStepEvents br wl o := by
  unfold brStepEvents
  rw [hb]
  simp [hf]

end executor

section rollout
open RV.Arith RV.Traffic RV.RolloutSM RV.Props.Rollout RV.Props.Reconcile

theorem normRo_fields (a b : Rollout) (h : normRo a = normRo b) :
    a.reason = b.reason ∧ a.phase = b.phase ∧ a.term = b.term ∧ a.steps = b.steps ∧
    a.sub.map (normSub a.steps.length) = b.sub.map (normSub b.steps.length) :=
  ⟨(congrArg Rollout.reason h :), (congrArg Rollout.phase h :), (congrArg Rollout.term h :), (congrArg Rollout.steps h :),
    (congrArg Rollout.sub h :)⟩

/-- `CheckNextBatchIndexWithCorrect` as the event model applies it to both statuses is the correction `doProgressingInRolling`
    applies before it calls the release manager -/
theorem normSub_eq_fixNext (ns : Rollout) (s : Sub) : normSub ns.steps.length s = fixNext ns s := rfl

theorem normSub_core (n : Int) (a : Sub) :
    (normSub n a).state = a.state ∧ (normSub n a).curIdx = a.curIdx ∧ (normSub n a).hash = a.hash ∧
    (normSub n a).canaryRev = a.canaryRev := by
  unfold normSub; split <;> exact ⟨rfl, rfl, rfl, rfl⟩

theorem normSub_next (n : Int) (a : Sub) :
    (normSub n a).nextIdx = a.nextIdx ∨ (normSub n a).nextIdx = nextBatchIndex n a.curIdx := by
  unfold normSub; split
  · exact Or.inr rfl
  · exact Or.inl rfl

theorem normSub_next_congr (n : Int) (a b : Sub) (hc : a.curIdx = b.curIdx) (hn : a.nextIdx = b.nextIdx) :
    (normSub n a).nextIdx = (normSub n b).nextIdx := by
  unfold normSub; rw [hc, hn]; split
  · rfl
  · exact hn

/-- what an unchanged Rollout object (`normRo`) says of its sub-status `s` against the one before, `os`, for a plan of `n` steps -/
structure SubUnchanged (n : Int) (s os : Sub) : Prop where
  state : s.state = os.state
  curIdx : s.curIdx = os.curIdx
  hash : s.hash = os.hash
  canaryRev : s.canaryRev = os.canaryRev
  nextIdx : (normSub n s).nextIdx = (normSub n os).nextIdx

theorem unchanged_sub {a b : Rollout} {s os : Sub} (h : normRo a = normRo b) (ha : a.sub = some s) (hb : b.sub = some os) :
    SubUnchanged b.steps.length s os := by
  obtain ⟨-, -, -, f4, f6⟩ := normRo_fields _ _ h
  rw [ha, hb, f4] at f6
  have e : normSub b.steps.length s = normSub b.steps.length os := Option.some.inj f6
  obtain ⟨a1, a2, a3, a4⟩ := normSub_core b.steps.length s
  obtain ⟨b1, b2, b3, b4⟩ := normSub_core b.steps.length os
  exact ⟨by rw [← a1, e, b1], by rw [← a2, e, b2], by rw [← a3, e, b3], by rw [← a4, e, b4], by rw [e]⟩

/-- a manual pause holds without a requeue; the timed ones ask to come back -/
theorem doCanaryPaused_rests {ro : Rollout} {s : Sub} {step : Step} (h : doCanaryPaused ro s step = some (false, false)) :
    step.pause = .manual := by
  unfold doCanaryPaused at h
  split at h
  · cases h
  · cases hpp : step.pause <;> simp only [hpp] at h
    · rfl
    · cases hl : s.lastUpdate <;> simp only [hl] at h <;> cases h
    · cases hl : s.lastUpdate <;> simp only [hl] at h <;> cases h

/-- the moves of the sub-state that neither ask to come back nor change the sub-state or the step index: `StepUpgrade` waiting for
    the BatchRelease, a manual pause, and the two sub-states in which nothing is done -/
theorem finish_quiet {ro : Rollout} {step : Step} {c1 c' : Ctx} (h : finish ro step c1 = .ok c' false) (hrq1 : c1.requeue = false)
    (hrq : c'.requeue = false) (hst : c'.sub.state = c1.sub.state) (hcur : c'.sub.curIdx = c1.sub.curIdx) :
    c'.sub.state = .upgrade ∨ (c'.sub.state = .paused ∧ step.pause = .manual) ∨ c'.sub.state = .completed ∨ c'.sub.state = .other := by
  cases (finish_inv h).1 with
  | toUpgrade hs | analysed hs | pauseDone hs | complete hs => cases hst.trans hs
  | enterUpgrade hs =>
    rcases upgradeOut_sub ro step { c1 with sub := { c1.sub with state := .upgrade, lastUpdate := .fresh } } with ⟨_, e⟩ | ⟨_, e⟩ <;>
      rw [e] at hst
    · cases hst.trans hs
    · dsimp only at hst
      split at hst <;> cases hst.trans hs
  | upgrade hs => exact .inl (hst.trans hs)
  | routed => cases hrq
  | pauseWait hs rq hp =>
    simp only [hrq1, Bool.false_or] at hrq
    subst hrq
    exact .inr (.inl ⟨hs, doCanaryPaused_rests hp⟩)
  | advance => simp only at hcur; omega
  | noop hs => exact .inr (.inr hs)

theorem runCanary_quiet (c0 c : Ctx) (h : runCanary c0 = .ok c false) (hrq0 : c0.requeue = false) (hrq : c.requeue = false)
    (hst : c.sub.state = c0.sub.state) (hcur : c.sub.curIdx = c0.sub.curIdx)
    (hnext : (normSub c0.ro.steps.length c.sub).nextIdx = c0.sub.nextIdx) :
    c.sub.state = .upgrade ∨
    (c.sub.state = .paused ∧ ∃ st, c0.ro.steps[(c.sub.curIdx - 1).toNat]? = some st ∧ st.pause = .manual) ∨
    c.sub.state = .completed ∨ c.sub.state = .other := by
  have y := syncStep_sameStep c0
  rcases runCanary_cases h with ⟨s2, hj, rfl, -⟩ | ⟨step, c1, hj, hstep, t, hx⟩
  · -- a jump: the current index becomes the requested one and the next index its successor, corrected or not; with the current and
    -- the normalised next index unchanged the request was the natural successor, which is no request (`j1`)
    exfalso
    obtain ⟨j1, -, -, j4, j5, -⟩ := (jump_spec _ _ _ _ hj).2 rfl
    rw [y.curIdx, y.nextIdx] at j1
    rw [y.nextIdx] at j4 j5
    dsimp only at hcur hnext
    rw [← hcur, j4] at j1
    rcases normSub_next c0.ro.steps.length s2 with e | e <;> rw [e] at hnext
    · exact j1 (hnext.symm.trans j5)
    · rw [j4] at hnext; exact j1 hnext.symm
  · -- the round's Manager call (if any) went through: the sub-state moves, on a context the call left
    rcases hx with ⟨_, he⟩ | ⟨rfl, _⟩ | hf
    · cases he
    · cases hrq
    have e1 : c1.sub.state = c0.sub.state := by rw [t.sub.facts.1]; exact y.state
    have e2 : c1.sub.curIdx = c0.sub.curIdx := by rw [t.sub.facts.1]; exact y.curIdx
    have e3 : c1.requeue = c0.requeue := by rw [t.eq, syncStep_frame]
    exact (finish_quiet hf (e3.trans hrq0) hrq (hst.trans e1.symm) (hcur.trans e2.symm)).imp_right
      (Or.imp_left fun ⟨hq, hm⟩ => ⟨hq, step, hcur ▸ hstep, hm⟩)

theorem continuousRelease_iff (os : Sub) (wl : WL) : continuousRelease os wl = true ↔ Continuous os wl := by
  simp [continuousRelease, Continuous, and_assoc]

theorem rollingNormally_iff (ro : Rollout) (os : Sub) (wl : WL) :
    rollingNormally ro os wl = true ↔ ro.paused = false ∧ ¬ Continuous os wl ∧ ¬ RolledBack os wl := by
  cases h : wl.inRollback <;> simp [rollingNormally, RolledBack, ← continuousRelease_iff, and_assoc, h]

theorem doCanaryJump_hash (ro : Rollout) (s s' : Sub) (j : Bool) (h : doCanaryJump ro s = some (s', j)) : s'.hash = s.hash := by
  cases j with
  | false => rw [(doCanaryJump_false h).1]
  | true => rw [(doCanaryJump_true h).2.2.1]

/-- every branch of `doProgressingInRolling` except `continuousBlueGreen` and `run` writes the reason, the hash, the canary revision or
    the sub-status itself, fails, or asks to be called again; so a quiet call that leaves `normRo` unchanged is in one of these two, and
    rests in a class of `roAwaits` or in a sub-state no controller writes (`roIllFormed`). The status dispatched on is
    `RV.Props.Reconcile.newStatus` on `liveSub`, the sub-status with the observed rollout-id and generation refreshed. -/
theorem inRolling_quiet (w : World) (os : Sub) (wl : WL)
    (r0 : StepResult) (hph : w.ro.phase = .progressing) (hreason : w.ro.reason = .inRolling) (hos : w.ro.sub = some os)
    (hwl : w.wl = some wl)
    (h : inRolling w w.ro (newStatus w.ro (liveSub w.ro wl os)) (liveSub w.ro wl os) wl = .val r0)
    (herr : r0.err = false) (hrq : r0.requeue = false) (hro : normRo r0.w.ro = normRo w.ro) :
    (roAwaits w).isSome = true ∨ roIllFormed w = true := by
  have hreas : r0.w.ro.reason = .inRolling := (normRo_fields _ _ hro).1.trans hreason
  unfold roAwaits roIllFormed
  simp only [hph, hreason, hos, hwl]
  cases inRolling_dispatch h hos with
  | cancelling | paused | completed => cases hreas
  | rollbackInBatch _ hrb => exact absurd (unchanged_sub hro rfl hos).canaryRev hrb.2
  | continuousBlueGreen _ _ hc hbg =>
    left
    rw [if_pos ⟨hbg, (continuousRelease_iff os wl).mpr hc⟩]
    rfl
  | reset _ _ _ _ c done err =>
    -- an error, a wait, or the sub-status dropped
    cases err
    · cases done
      · cases hrq
      · cases hreas
    · cases herr
  | planSame _ _ _ hh => exact absurd (unchanged_sub hro rfl hos).hash.symm hh.2
  | planJump _ _ _ hh _ _ _ s2 j hj =>
    exact absurd ((unchanged_sub hro rfl hos).hash.symm.trans (doCanaryJump_hash _ _ _ _ hj)) hh.2
  | run hp hrb hc _ hst c err hrun =>
    cases herr
    obtain ⟨g1, g2, -, -, g5⟩ := unchanged_sub hro rfl hos
    have hnorm : rollingNormally w.ro os wl = true := (rollingNormally_iff _ _ _).mpr ⟨Bool.eq_false_iff.mpr hp, hc, hrb⟩
    -- the round ran on `fixNext` of the status; the unchanged Rollout object is compared through `normSub`
    rw [← normSub_eq_fixNext] at hrun
    obtain ⟨n1, n2, -, -⟩ := normSub_core w.ro.steps.length (liveSub w.ro wl os)
    have hq := runCanary_quiet _ c hrun rfl hrq (g1.trans n1.symm) (g2.trans n2.symm)
      (g5.trans (normSub_next_congr _ _ _ rfl rfl))
    rw [g1, g2] at hq
    rw [if_neg (fun hh => hc ((continuousRelease_iff os wl).mp hh.2)), if_neg (not_not_intro hnorm)]
    rcases hq with hq | ⟨hq, st, hst', hm⟩ | hq | hq
    · left; rw [hq]; rfl
    · left; rw [hq]; dsimp only; rw [show w.ro.steps[(os.curIdx - 1).toNat]? = some st from hst']; dsimp only; rw [if_pos hm]; rfl
    · exact absurd hq hst
    · right; simp [hq]

/-- an unchanged phase means waiting -/
theorem cs_rest (ro ns : Rollout) (wl : Option WL) (h : calculateStatus ro wl = some ns) (hp : ns.phase = ro.phase) :
    (ro.phase = .initial → wl = none) ∧
    (ro.phase = .healthy → ∃ w, wl = some w ∧ w.inProgressAnno = false) ∧
    (ro.phase = .disabled → ro.disabled = true) ∧
    (ro.phase ≠ .empty) := by
  have key : ∀ (d dis : Bool) (a : Option Bool) (p : Phase), phaseAfter d dis a p = p →
      (p = .initial → a = none) ∧ (p = .healthy → a = some false) ∧ (p = .disabled → dis = true) ∧ p ≠ .empty := by decide
  obtain ⟨k1, k2, k3, k4⟩ := key _ _ _ _ ((cs_ctl h).1.symm.trans hp)
  refine ⟨fun hh => Option.map_eq_none_iff.mp (k1 hh), fun hh => ?_, k3, k4⟩
  have := k2 hh
  cases wl with
  | none => cases this
  | some w => exact ⟨w, rfl, Option.some.inj this⟩

theorem cs_progressing_nowl (ro ns : Rollout) (h : calculateStatus ro none = some ns) (hp : ro.phase = .progressing) :
    ns.phase ≠ .progressing := by
  have key : ∀ d dis : Bool, phaseAfter d dis none .progressing ≠ .progressing := by decide
  rw [(cs_ctl h).1, hp]
  exact key _ _

theorem cs_inconsistent (ro ns : Rollout) (wl : WL) (h : calculateStatus ro (some wl) = some ns) (hc : ¬ wl.consistent = true) :
    ns.phase = .terminating := by
  cases calculateStatus_inv h with
  | deleting _ hd => rw [(cs_ctl h).1, hd]; rfl
  | observed _ _ hc' => exact absurd hc' hc

end rollout

end RV.Lemmas.Wakeup
