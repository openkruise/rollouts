/-
  Progress of the closed loop, round-boundary classes 1, 2, 4, 30 and the terminal class 40 (no BatchRelease; the Rollout
  reconcile writes only its status: waiting for the CloneSet, Healthy → Initializing → step 1, Completed → Healthy): one fair
  round from a state of the class ends in the next class (`step_cls_X`); the terminal class is left unchanged (`round_cls_40`).
-/
import RV.Lemmas.ClosedLoopLiveRound
namespace RV.Lemmas.ClosedLoop
open RV.Arith RV.Traffic RV.RolloutSM RV.ClosedLoop RV.Oracle.ClosedLoop RV.Props.Reconcile

/-- the status calculation's refresh of the observed rollout-id / generation is a fixpoint after one application: approval and
    clock do not touch what it reads or writes -/
theorem csObserve_tail_fix (ro R : Rollout) (wl : WL) (sub0 : Sub) (hs0 : ro.sub = some sub0)
    (hR : R.sub = (csObserve ro wl).sub.map tailSub) :
    csObserve R wl = R := by
  rw [csObserve_sub_eq ro wl sub0 hs0] at hR
  refine csObserve_fix _ _ _ hR (fun hcond => ?_)
  have hc0 : sub0.canaryRev ≠ "" ∧ sub0.canaryRev = wl.canaryRev := hcond
  exact ⟨if_pos hc0, if_pos hc0⟩

theorem csPhase_anno (ro o : Rollout) (wl : WL) (h : o.phase = .healthy) (ha : wl.inProgressAnno = true) :
    csPhase ro o wl = { o with phase := .progressing, reason := .initializing, condAge := .fresh, succeeded := none } := by
  unfold csPhase; rw [h]; dsimp only; rw [if_pos ha]

theorem csPhase_idle (ro o : Rollout) (wl : WL) (h : o.phase = .healthy) (ha : wl.inProgressAnno = false)
    (hs : o.sub.isNone = false) : csPhase ro o wl = o := by
  unfold csPhase; rw [h]; dsimp only; rw [if_neg (by simp [ha]), if_neg (by simp [hs])]

/-- Initializing without traffic routing, the condition older than the grace period: start rolling at step 1 -/
theorem reconcile_init (w : World) (wl : WL) (hg : RoGood w.ro) (hwl : w.wl = some wl) (hc : wl.consistent = true)
    (hph : w.ro.phase = .progressing) (hr : w.ro.reason = .initializing) (htr : w.ro.hasTraffic = false)
    (hage : w.ro.condAge ≠ .fresh) :
    reconcile w = .val { w := { w with ro := { csObserve w.ro wl with sub := some (startSub w.ro wl), reason := .inRolling } }, roGone := false, requeue := false, err := false, writes := [] } := by
  rcases reconcile_initializing w wl hg hwl hc hph hr with ⟨⟨h, _⟩, _⟩ | ⟨_, h, _⟩ | ⟨_, _, k⟩
  · rw [htr] at h
    cases h
  · exact absurd h hage
  · exact k

theorem lG1_wl_R (w : CWl) (h : wlOK w = true) : 0 ≤ w.replicas := (wlOK_facts w h).1

/-- class 1 (right after the release): the Rollout controller waits for the CloneSet controller to observe the new
    generation; successor class 2.  The one class without the round-boundary facts -/
theorem step_cls_1 (s : CS) (w : CWl) (I : Inv s w 1) : LandsIn s 2 := by
  obtain ⟨hph, hanno, hne, hgen, hu⟩ := I.spec
  obtain ⟨hf, hcfg, _, _⟩ := (liveInv_iff s).1 I.live
  obtain ⟨w', hgone, hg, hw', _, _, _, hpi⟩ := fwd_at s hf
  rw [I.wl] at hw'; cases hw'
  rw [phaseInv_healthy s w hph] at hpi
  simp only [Bool.and_eq_true, Option.isNone_iff_eq_none, hanno, Bool.not_true, Bool.false_or] at hpi
  have hheld := (held_iff w).1 hpi.2
  have hcons : (roWl w).consistent = false := by unfold roWl; simp [hgen]
  have hro : stepRo s = some (mid s s.ro w s.br) :=
    stepRo_mid s w _ hgone I.wl (reconcile_wait (roWorld s) (roWl w) hg (world_wl s w I.wl) hcons) rfl rfl rfl rfl rfl
  rw [hpi.1] at hro
  obtain ⟨hround, hlive⟩ := round_mid hf hcfg I.wl hro (stepBr_none _ rfl) ⟨rfl, rfl, rfl, rfl, rfl⟩
  obtain ⟨_, c2, c3, _, c5, _⟩ := (liveCfg_iff s w I.wl).1 hcfg
  exact lands I hround rfl
    ⟨hph, (envWl_kept w).anno.trans hanno,
      by rw [(envWl_kept w).updateRevision, (envWl_lt w (Ne.symm hne) c3 hu _ hheld (by rw [scaledV_pct100]; omega)).2]; exact hne,
      by rw [(envWl_kept w).generation, (envWl_kept w).observed]⟩
    (by decide) hlive rfl (clsMu_lt rfl (by decide)) (fun _ _ hb => by cases hb) (fun h => absurd h (by decide))

/-- class 2: Healthy → Progressing / Initializing; successor class 4 -/
theorem step_cls_2 (s : CS) (w : CWl) (I : Inv s w 2) : LandsIn s 4 := by
  obtain ⟨hph, hanno, hne, hgen⟩ := I.spec
  have F := I.facts (by decide)
  have hpi := F.pi
  rw [phaseInv_healthy s w hph] at hpi
  simp only [Bool.and_eq_true, Option.isNone_iff_eq_none] at hpi
  have hsame := (csObserve_same s.ro (roWl w)).1
  have hro : stepRo s = some (mid s (csPhase s.ro (csObserve s.ro (roWl w)) (roWl w)) w s.br) :=
    stepRo_mid s w _ F.gone F.wl (reconcile_healthy (roWorld s) (roWl w) F.good (world_wl s w F.wl) F.consistent hph) rfl rfl
      rfl rfl rfl
  rw [csPhase_anno s.ro _ (roWl w) ((csObserve_same s.ro (roWl w)).2.2.trans hph) hanno, hpi.1] at hro
  exact round_lands 4 I F hro (stepBr_none _ rfl) ⟨hsame.1, hsame.2.1, rfl, rfl, rfl⟩
    F.env ⟨rfl, rfl, by show ageAge Age.fresh ≠ Age.fresh; decide, hne⟩ (by decide) (fun _ _ => clsMu_lt rfl (by decide))
    (fun _ _ hb => by cases hb) (fun h => absurd h (by decide))

/-- class 4: the grace period of the condition is over, the rollout starts rolling at step 1; successor class 5 -/
theorem step_cls_4 (s : CS) (w : CWl) (I : Inv s w 4) : LandsIn s 5 := by
  obtain ⟨hph, hr, hage, hne⟩ := I.spec
  have F := I.facts (by decide)
  have hpi := F.pi
  rw [phaseInv_init s w hph hr] at hpi
  simp only [Bool.and_eq_true, Option.isNone_iff_eq_none] at hpi
  have hsame := (csObserve_same s.ro (roWl w)).1
  have hro : stepRo s = some (mid s { csObserve s.ro (roWl w) with sub := some (startSub s.ro (roWl w)), reason := .inRolling } w s.br) :=
    stepRo_mid s w _ F.gone F.wl
      (reconcile_init (roWorld s) (roWl w) F.good (world_wl s w F.wl) F.consistent hph hr F.nt hage) rfl rfl rfl rfl rfl
  rw [hpi.1] at hro
  exact round_lands 5 I F hro (stepBr_none _ rfl) ⟨hsame.1, hsame.2.1, rfl, rfl, rfl⟩
    F.env (Or.inl ⟨_, ⟨(csObserve_same s.ro (roWl w)).2.2.trans hph, rfl, rfl⟩, rfl, rfl, rfl, hne⟩) (by decide)
    (fun _ h => by rw [h _ rfl]; exact clsMu_first_step (List.length_pos_iff.mpr F.good.steps)) (fun _ _ hb => by cases hb) (fun h => absurd h (by decide))

theorem approved_ne_paused (st : StepState) : (if st = .paused then StepState.ready else st) ≠ .paused := by
  split
  · decide
  · assumption

/-- class 30: Progressing / Completed → Healthy; successor the terminal class 40 -/
theorem step_cls_30 (s : CS) (w : CWl) (I : Inv s w 30) : LandsIn s 40 := by
  obtain ⟨hph, hr, hbr, hsub⟩ := I.spec
  have F := I.facts (by decide)
  have hpi := F.pi
  rw [phaseInv_completed s w hph hr] at hpi
  simp only [Bool.and_eq_true, Option.isNone_iff_eq_none, Bool.not_eq_true'] at hpi
  have hsame := (csObserve_same s.ro (roWl w)).1
  have hro : stepRo s = some (mid s { csObserve s.ro (roWl w) with phase := .healthy } w s.br) :=
    stepRo_mid s w _ F.gone F.wl
      (reconcile_completed (roWorld s) (roWl w) F.good (world_wl s w F.wl) F.consistent hph hr) rfl rfl rfl rfl rfl
  rw [hbr] at hro
  obtain ⟨sub0, hs0⟩ := Option.isSome_iff_exists.1 hsub
  have hrel := I.released (by decide) (by decide)
  refine round_lands_fin 40 I F hro (stepBr_none _ rfl) ⟨hsame.1, hsame.2.1, rfl, rfl, rfl⟩ F.env ?_ (by decide)
    (fun _ => ⟨hrel, fun _ => by
      rw [show _ = (csObserve s.ro (roWl w)).succeeded from rfl, csObserve_eq]; exact I.succeeded (by decide) (by decide)⟩)
  obtain ⟨x, hx⟩ : ∃ x, (csObserve s.ro (roWl w)).sub = some x := ⟨_, csObserve_sub_eq s.ro (roWl w) sub0 hs0⟩
  exact ⟨rfl, hpi.2, rfl, tailSub x, by show (csObserve s.ro (roWl w)).sub.map tailSub = _; rw [hx]; rfl, approved_ne_paused x.state,
    csObserve_tail_fix s.ro _ (roWl w) sub0 hs0 rfl⟩

/-- **no oscillation** — in the terminal class (Healthy, nothing in progress, no BatchRelease, at a round boundary) a further
    round changes nothing -/
theorem round_cls_40 (s : CS) (h : liveInv s = true) (hc : cls s = 40) : round s = some s ∧ mu s = 0 := by
  obtain ⟨w, hw, hph, hanno, hbr, sub0, hs0, hst0, hobs⟩ := cls_spec s 40 hc (by decide)
  have F := live_facts s w h hw (by rw [hc]; decide)
  have hro : stepRo s = some (mid s (csPhase s.ro (csObserve s.ro (roWl w)) (roWl w)) w s.br) :=
    stepRo_mid s w _ F.gone F.wl (reconcile_healthy (roWorld s) (roWl w) F.good (world_wl s w F.wl) F.consistent hph) rfl rfl
      rfl rfl rfl
  rw [hobs, csPhase_idle s.ro s.ro (roWl w) hph hanno (by rw [hs0]; rfl), hbr] at hro
  have e0 : mid s s.ro w none = s := by
    have hg := F.gone
    cases s
    simp only at hg hw hbr
    subst hg hw hbr
    rfl
  rw [e0] at hro
  obtain ⟨hr, _⟩ := round_of s s s F.fwd hro (stepBr_none s hbr)
  have henv := F.env
  have e1 : ({ s with wl := s.wl.map envWl } : CS) = s := by
    cases s; simp only at hw; subst hw; simp only [Option.map_some, henv]
  have e2 : approve s = s := by
    unfold approve
    rw [if_neg (by rw [F.gone]; decide), hs0]
    dsimp only
    rw [if_neg hst0]
  unfold roundTail at hr
  rw [e1, e2, F.tick] at hr
  exact ⟨hr, by rw [mu_healthy s w F.wl hph, hanno]; rfl⟩

theorem done_cls_40 (s : CS) (h : liveInv s = true) (hd : doneInv s = true) (hc : cls s = 40) :
    ∀ s', round s = some s' → doneInv s' = true := by
  intro s' hs'
  rw [(round_cls_40 s h hc).1] at hs'; cases hs'
  exact hd

theorem pol_cls_40 (s : CS) (h : liveInv s = true) (hp : polInv s = true) (hc : cls s = 40) :
    ∀ s', round s = some s' → polInv s' = true := by
  intro s' hs'
  rw [(round_cls_40 s h hc).1] at hs'; cases hs'
  exact hp

end RV.Lemmas.ClosedLoop
