/-
  Supersession, Rollout side: one Rollout reconcile of a rolling rollout whose workload has moved on to a newer revision
  (continuous release): the whole reconcile is one round of `doProgressingReset`.
-/
import RV.Lemmas.ClosedLoopRoll
import RV.Lemmas.Traffic
namespace RV.Lemmas.ClosedLoop
open RV.Arith RV.Traffic RV.RolloutSM RV.Props.Reconcile RV.Props.Rollout

/-- what a reset round may do to the BatchRelease: nothing, or mark it deleted -/
inductive BrDel : Option BR → Option BR → Prop
  | same (br : Option BR) : BrDel br br
  | deleted (b : BR) : BrDel (some b) (some { b with deleting := true })

theorem reset_remove (br : Option BR) :
    BrDel br (removeBatchRelease br).2.1 ∧ ((removeBatchRelease br).1 = false → (removeBatchRelease br).2.1 = none) := by
  cases br with
  | none => exact ⟨BrDel.same _, fun _ => rfl⟩
  | some b =>
    rw [removeBatchRelease_some]
    exact ⟨BrDel.deleted b, fun h => by cases h⟩

/-- a stage of the reset leaves the stable Service and Ingress in place and the canary Ingress as it is -/
def NetKept (n n' : Net) : Prop :=
  n'.stableExists = n.stableExists ∧ n'.stableIngress = n.stableIngress ∧ n'.canaryIng = n.canaryIng

theorem reset_call_rg (c c' : Ctx) (cb d e : Bool) (h : callTM restoreGateway c cb = some (c', d, e)) :
    Keep c c' ∧ e = false ∧ c'.net.stableExists = c.net.stableExists ∧ c'.net.stableIngress = c.net.stableIngress ∧
    (c.ro.hasTraffic = true → c'.net.canaryIng = none) := by
  obtain ⟨t, _, ht, rfl, hc, _, he⟩ := callTM_inv h
  have R := RV.Props.Traffic.rg_spec { t with hasRevKey := c.wlSeen } c.net c.mem
  have hnet : c'.net = (restoreGateway { t with hasRevKey := c.wlSeen } c.net c.mem).net := by rw [hc]
  rw [hnet]
  exact ⟨tm_keep (callTM_tm h), he.trans R.err, R.kept (·.stableExists) rfl, R.kept (·.stableIngress) rfl,
    fun hh => R.post ((trCtx_inv ht).1.trans hh)⟩

theorem reset_call_rc (c c' : Ctx) (cb d e : Bool) (h : callTM removeCanaryService c cb = some (c', d, e)) :
    Keep c c' ∧ e = false ∧ NetKept c.net c'.net := by
  obtain ⟨t, _, _, rfl, hc, _, he⟩ := callTM_inv h
  have R := RV.Props.Traffic.rc_spec { t with hasRevKey := c.wlSeen } c.net c.mem
  have hnet : c'.net = (removeCanaryService { t with hasRevKey := c.wlSeen } c.net c.mem).net := by rw [hc]
  unfold NetKept
  rw [hnet]
  exact ⟨tm_keep (callTM_tm h), he.trans R.err, R.kept (·.stableExists) rfl, R.kept (·.stableIngress) rfl, R.kept (·.canaryIng) rfl⟩

theorem reset_stage3 (c c' : Ctx) (d e : Bool) (h : prStage3 c = some (c', d, e)) : Keep c c' ∧ e = false ∧ NetKept c.net c'.net := by
  unfold prStage3 at h
  split at h
  · cases h
  · rename_i c1 _ e1 hc
    obtain ⟨hk, he, hn⟩ := reset_call_rc _ _ _ _ _ hc
    subst he
    cases h
    exact ⟨hk, rfl, hn⟩

theorem reset_stage2 (c c' : Ctx) (d e : Bool) (h : prStage2 c = some (c', d, e)) :
    c'.ro = c.ro ∧ c'.wl = c.wl ∧ BrDel c.br c'.br ∧ c'.sub.canaryRev = c.sub.canaryRev ∧ (d = true → c'.br = none) ∧
      (c'.br = none ∨ c'.sub.finStep = c.sub.finStep) ∧ e = false ∧ NetKept c.net c'.net := by
  obtain ⟨b1, b2⟩ := reset_remove c.br
  unfold prStage2 at h
  dsimp only at h
  split at h
  · cases h; exact ⟨rfl, rfl, b1, rfl, (fun hd => by cases hd), Or.inr rfl, rfl, rfl, rfl, rfl⟩
  · rename_i hrt
    obtain ⟨k, he, hn⟩ := reset_stage3 _ _ _ _ h
    have hbr : c'.br = (removeBatchRelease c.br).2.1 := k.br
    have hnone : c'.br = none := by rw [hbr]; exact b2 (by simpa using hrt)
    exact ⟨k.ro, k.wl, by rw [hbr]; exact b1, k.sub.rev, fun _ => hnone, Or.inl hnone, he, hn⟩

theorem reset_cursor (c : Ctx) :
    (prCursor c).ro = c.ro ∧ (prCursor c).wl = c.wl ∧ (prCursor c).br = c.br ∧ (prCursor c).net = c.net ∧
      (prCursor c).sub.canaryRev = c.sub.canaryRev ∧
      ((prCursor c).sub.finStep = .routeTrafficToStable ∨
        ((prCursor c).sub.finStep = .releaseWorkloadControl ∧ c.sub.finStep = .releaseWorkloadControl) ∨
        ((prCursor c).sub.finStep = .removeCanaryService ∧ c.sub.finStep = .removeCanaryService)) := by
  unfold prCursor
  split
  · rename_i he; exact ⟨rfl, rfl, rfl, rfl, rfl, Or.inl he⟩
  · rename_i he; exact ⟨rfl, rfl, rfl, rfl, rfl, Or.inr (Or.inl ⟨he, he⟩)⟩
  · rename_i he; exact ⟨rfl, rfl, rfl, rfl, rfl, Or.inr (Or.inr ⟨he, he⟩)⟩
  · exact ⟨rfl, rfl, rfl, rfl, rfl, Or.inl rfl⟩

/-- **one round of `doProgressingReset`** from `c`, leaving `c'` (done `d`, error `e`): rollout and workload are kept, the
    BatchRelease is left alone or marked deleted, the sub-status keeps the revision being released; the round is done only when
    no BatchRelease is left -- except when the cursor already stood at the last stage (traffic routing configured): then the
    BatchRelease is not looked at at all.  No stage fails or writes the stable Service / Ingress; with traffic routing the canary
    route is withdrawn by the first stage and left alone by the later ones -/
structure ResetRound (c c' : Ctx) (d e : Bool) : Prop where
  ro : c'.ro = c.ro
  wl : c'.wl = c.wl
  br : BrDel c.br c'.br
  rev : c'.sub.canaryRev = c.sub.canaryRev
  done : d = true → c'.br = none ∨ (c.ro.hasTraffic = true ∧ c.sub.finStep = .removeCanaryService ∧ c'.br = c.br)
  cursor : c'.sub.finStep = .removeCanaryService → c.ro.hasTraffic = true →
    (c'.br = none ∨ (c.sub.finStep = .removeCanaryService ∧ c'.br = c.br))
  err : e = false
  stableExists : c'.net.stableExists = c.net.stableExists
  stableIngress : c'.net.stableIngress = c.net.stableIngress
  noTraffic : c.ro.hasTraffic = false → c'.net = c.net
  route : c.ro.hasTraffic = true → c'.net.canaryIng = none ∨
    ((c.sub.finStep = .releaseWorkloadControl ∨ c.sub.finStep = .removeCanaryService) ∧ c'.net.canaryIng = c.net.canaryIng)

theorem reset_round (c c' : Ctx) (d e : Bool) (h : doProgressingReset c = some (c', d, e)) : ResetRound c c' d e := by
  obtain ⟨b1, b2⟩ := reset_remove c.br
  obtain ⟨p1, p2, p3, pn, p4, p5⟩ := reset_cursor c
  unfold doProgressingReset at h
  split at h
  -- no traffic routing: only the BatchRelease is removed
  · rename_i hnt
    cases h
    exact ⟨rfl, rfl, b1, rfl, fun hd => Or.inl (b2 (by simpa using hd)), fun _ ht => absurd ht hnt, rfl, rfl, rfl,
      fun _ => rfl, fun ht => absurd ht hnt⟩
  · rename_i htr
    have htr' : c.ro.hasTraffic = true := by simpa using htr
    have nt : c.ro.hasTraffic = false → c'.net = c.net := fun hf => by rw [hf] at htr'; cases htr'
    split at h
    · cases h
    · dsimp only at h
      split at h
      -- cursor at the first stage: `RestoreGateway`, and when it is through, the second stage in the same round
      · rename_i hq
        split at h
        · cases h
        · rename_i c2 rt er hc
          obtain ⟨k, a1, a2, a3, a4⟩ := reset_call_rg _ _ _ _ _ hc
          rw [pn] at a2 a3
          have a4' : c2.net.canaryIng = none := a4 (by rw [p1]; exact htr')
          split at h
          · cases h
            refine ⟨k.ro.trans p1, k.wl.trans p2, by rw [k.br, p3]; exact BrDel.same _, k.sub.rev.trans p4,
              (fun hd => by cases hd), fun hf _ => ?_, a1, a2, a3, nt, fun _ => Or.inl a4'⟩
            rw [k.sub.fin, hq] at hf
            cases hf
          · obtain ⟨x1, x2, x3, x4, x5, x6, x7, y1, y2, y3⟩ := reset_stage2 _ _ _ _ h
            have x3' : BrDel c2.br c'.br := x3
            rw [k.br, p3] at x3'
            refine ⟨x1.trans (k.ro.trans p1), x2.trans (k.wl.trans p2), x3', x4.trans (k.sub.rev.trans p4),
              fun hd => Or.inl (x5 hd), fun hf _ => ?_, x7, y1.trans a2, y2.trans a3, nt, fun _ => Or.inl (y3.trans a4')⟩
            rcases x6 with x6 | x6
            · exact Or.inl x6
            · have x6' : c'.sub.finStep = .releaseWorkloadControl := x6
              rw [x6'] at hf
              cases hf
      -- cursor at the second stage: the BatchRelease is removed
      · rename_i hq
        obtain ⟨x1, x2, x3, x4, x5, x6, x7, y1, y2, y3⟩ := reset_stage2 _ _ _ _ h
        rw [p3] at x3
        rw [pn] at y1 y2 y3
        have hf0 : c.sub.finStep = .releaseWorkloadControl := by
          rcases p5 with q | ⟨_, q⟩ | ⟨q, _⟩
          · rw [q] at hq; cases hq
          · exact q
          · rw [q] at hq; cases hq
        refine ⟨x1.trans p1, x2.trans p2, x3, x4.trans p4, fun hd => Or.inl (x5 hd), fun hf _ => ?_, x7, y1, y2, nt,
          fun _ => Or.inr ⟨Or.inl hf0, y3⟩⟩
        rcases x6 with x6 | x6
        · exact Or.inl x6
        · rw [x6, hq] at hf
          cases hf
      -- cursor at the last stage: `RemoveCanaryService`; the BatchRelease is not looked at
      · rename_i n1 n2
        obtain ⟨k, he, y1, y2, y3⟩ := reset_stage3 _ _ _ _ h
        rw [pn] at y1 y2 y3
        have hfin : c.sub.finStep = .removeCanaryService := by
          rcases p5 with q | ⟨q, _⟩ | ⟨_, q⟩
          · exact absurd q n1
          · exact absurd q n2
          · exact q
        exact ⟨k.ro.trans p1, k.wl.trans p2, by rw [k.br, p3]; exact BrDel.same _, k.sub.rev.trans p4,
          fun _ => Or.inr ⟨htr', hfin, k.br.trans p3⟩, fun _ _ => Or.inr ⟨hfin, k.br.trans p3⟩, he, y1, y2, nt,
          fun _ => Or.inr ⟨Or.inr hfin, y3⟩⟩

/-- `doProgressingInRolling` of an un-paused canary rollout whose workload moved on to another revision (no rollback)
    is one round of `doProgressingReset` -/
theorem reset_inRolling (w : World) (ns : Rollout) (s os : Sub) (wl : WL) (hos : w.ro.sub = some os)
    (hnr : wl.inRollback = false) (hp : ns.paused = false) (hst : ns.style = .canary)
    (hrev : os.canaryRev ≠ "") (hne : wl.canaryRev ≠ os.canaryRev) :
    inRolling w w.ro ns s wl =
      match doProgressingReset (toCtx { w with ro := ns } s wl) with
      | none => .panic
      | some (c, done, err) =>
        if err then .val { w := ofCtx w c ns, roGone := false, requeue := false, err := true, writes := c.writes }
        else if done then
          .val { w := { (ofCtx w c ns) with ro := { (ofCtx w c ns).ro with sub := none, reason := .initializing } },
                 roGone := false, requeue := false, err := false, writes := c.writes }
        else .val { w := ofCtx w c ns, roGone := false, requeue := true, err := false, writes := c.writes } := by
  unfold inRolling
  dsimp only
  rw [hos]
  dsimp only
  rw [if_neg (by simp [hnr]), if_neg (by simp [hp]), if_neg (by simp [hnr]), if_pos ⟨hrev, hne, by simp [hnr]⟩,
    if_neg (by simp [hst])]
  rfl

theorem reset_brdel_none {b : Option BR} (h : BrDel none b) : b = none := by
  cases h; rfl

/-- **the body of a reconcile of a rolling rollout whose workload moved on to a newer revision** is one round of
    `doProgressingReset` on the status as it is; a round that is done hands the rollout back to Initializing -/
theorem reconcile_reset (w : World) (wl : WL) (os : Sub)
    (hg : RoGood w.ro) (hph : w.ro.phase = .progressing) (hr : w.ro.reason = .inRolling)
    (hwl : w.wl = some wl) (hc : wl.consistent = true) (hnr : wl.inRollback = false)
    (hs : w.ro.sub = some os) (hrev : os.canaryRev ≠ "") (hne : wl.canaryRev ≠ os.canaryRev) :
    ∃ c done err, doProgressingReset (toCtx w os wl) = some (c, done, err) ∧
      reconcile w = .val
        { w := if err then { ofCtx w c w.ro with ro := w.ro }
               else if done then { ofCtx w c w.ro with ro := { (ofCtx w c w.ro).ro with sub := none, reason := .initializing } }
               else ofCtx w c w.ro,
          roGone := false, requeue := !err && !done, err := err, writes := c.writes } := by
  have hobs := csObserve_fix w.ro wl os hs (fun h => absurd h.2.symm hne)
  have hs1 : (csObserve w.ro wl).sub = some os := by rw [hobs]; exact hs
  rw [reconcile_roll w wl os hg hph hr hwl hc hs1, hobs,
    reset_inRolling w w.ro os os wl hs hnr hg.unpaused hg.canary hrev hne]
  cases hd : doProgressingReset (toCtx { w with ro := w.ro } os wl) with
  | none => exact absurd hd (doProgressingReset_total _ hg.steps)
  | some p =>
    obtain ⟨c, done, err⟩ := p
    refine ⟨c, done, err, rfl, ?_⟩
    cases err
    · cases done <;> rfl
    · rfl

/-- **the reset reconcile** of a rolling rollout whose workload moved on to a newer revision.  When the rollout is handed
    back to the initialising state, either no BatchRelease is left, or the cursor already stood at the last stage and the
    BatchRelease was not looked at; while it keeps rolling, the cursor clause (with traffic routing, a clean-up
    cursor at the last stage means the BatchRelease is gone) carries over to the new sub-status: the implication in the conclusion -/
theorem reset_step_cursor (w : World) (wl : WL) (os : Sub)
    (hg : RoGood w.ro) (hph : w.ro.phase = .progressing) (hr : w.ro.reason = .inRolling)
    (hwl : w.wl = some wl) (hc : wl.consistent = true) (hnr : wl.inRollback = false)
    (hs : w.ro.sub = some os) (hrev : os.canaryRev ≠ "") (hne : wl.canaryRev ≠ os.canaryRev) :
    ∃ r, reconcile w = .val r ∧ r.roGone = false ∧ SpecKept w.ro r.w.ro ∧ r.w.ro.phase = .progressing ∧ r.w.wl = some wl ∧
      BrDel w.br r.w.br ∧
      ((r.w.ro.reason = .inRolling ∧ ∃ s', r.w.ro.sub = some s' ∧ s'.canaryRev = os.canaryRev ∧
          ((w.ro.hasTraffic = true → os.finStep = .removeCanaryService → w.br = none) →
            r.w.ro.hasTraffic = true → s'.finStep = .removeCanaryService → r.w.br = none)) ∨
       (r.w.ro.reason = .initializing ∧ r.w.ro.sub = none ∧
         (r.w.br = none ∨ (w.ro.hasTraffic = true ∧ os.finStep = .removeCanaryService ∧ r.w.br = w.br)))) := by
  obtain ⟨c, done, err, hd, hrec⟩ := reconcile_reset w wl os hg hph hr hwl hc hnr hs hrev hne
  have R := reset_round _ c done err hd
  have r3' : BrDel w.br c.br := R.br
  have r4' : c.sub.canaryRev = os.canaryRev := R.rev
  have r5' : done = true → c.br = none ∨ (w.ro.hasTraffic = true ∧ os.finStep = .removeCanaryService ∧ c.br = w.br) := R.done
  have r6' : c.sub.finStep = .removeCanaryService → w.ro.hasTraffic = true →
      (c.br = none ∨ (os.finStep = .removeCanaryService ∧ c.br = w.br)) := R.cursor
  have hwl' : some c.wl = some wl := congrArg some R.wl
  -- the reconcile writes at most sub-status and reason
  have hk : ∀ sub reason, SpecKept w.ro { w.ro with sub := sub, reason := reason } := fun _ _ =>
    ⟨⟨rfl, rfl, rfl, rfl, rfl, rfl, rfl, rfl, rfl, rfl⟩, rfl⟩
  rw [hrec]
  cases err with
  | true =>
    -- the status is not written: the old cursor, over a BatchRelease that was at most marked deleted
    refine ⟨_, rfl, rfl, hk _ _, hph, hwl', r3', Or.inl ⟨hr, os, hs, rfl, fun hfin ht hf => ?_⟩⟩
    have hb : w.br = none := hfin ht hf
    rw [hb] at r3'
    exact reset_brdel_none r3'
  | false =>
    cases done with
    | true => exact ⟨_, rfl, rfl, hk _ _, hph, hwl', r3', Or.inr ⟨rfl, rfl, r5' rfl⟩⟩
    | false =>
      refine ⟨_, rfl, rfl, hk _ _, hph, hwl', r3', Or.inl ⟨hr, c.sub, rfl, r4', fun hfin ht hf => ?_⟩⟩
      rcases r6' hf ht with a | ⟨t2, t3⟩
      · exact a
      · exact t3.trans (hfin ht t2)

/-- `reset_step_cursor` without the cursor clause.  The hypothesis `hfin` cannot be dropped: for a rollout with traffic routing
    whose clean-up cursor stands at `removeCanaryService` over an existing BatchRelease, `doProgressingReset` runs
    `prStage3` only, reports done without looking at the BatchRelease, and the reconcile returns reason `initializing`
    with the BatchRelease unchanged (the last disjunct of `reset_step_cursor`). -/
theorem reset_step_partial (w : World) (wl : WL) (os : Sub)
    (hg : RoGood w.ro) (hph : w.ro.phase = .progressing) (hr : w.ro.reason = .inRolling)
    (hwl : w.wl = some wl) (hc : wl.consistent = true) (hnr : wl.inRollback = false)
    (hs : w.ro.sub = some os) (hrev : os.canaryRev ≠ "") (hne : wl.canaryRev ≠ os.canaryRev)
    (hfin : w.ro.hasTraffic = true → os.finStep = .removeCanaryService → w.br = none) :
    ∃ r, reconcile w = .val r ∧ r.roGone = false ∧ SpecKept w.ro r.w.ro ∧ r.w.ro.phase = .progressing ∧ r.w.wl = some wl ∧
      BrDel w.br r.w.br ∧
      ((r.w.ro.reason = .inRolling ∧ ∃ s', r.w.ro.sub = some s' ∧ s'.canaryRev = os.canaryRev) ∨
       (r.w.ro.reason = .initializing ∧ r.w.ro.sub = none ∧ r.w.br = none)) := by
  obtain ⟨r, h1, h2, h3, h4, h5, h6, h7⟩ := reset_step_cursor w wl os hg hph hr hwl hc hnr hs hrev hne
  refine ⟨r, h1, h2, h3, h4, h5, h6, ?_⟩
  rcases h7 with ⟨a1, s', a2, a3, _⟩ | ⟨a1, a2, a3⟩
  · exact Or.inl ⟨a1, s', a2, a3⟩
  · refine Or.inr ⟨a1, a2, ?_⟩
    rcases a3 with a3 | ⟨t1, t2, t3⟩
    · exact a3
    · rw [t3]; exact hfin t1 t2

end RV.Lemmas.ClosedLoop
