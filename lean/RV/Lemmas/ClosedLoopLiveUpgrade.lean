/-
  Progress of the closed loop, round-boundary classes 8 – 12 (the rollout waits in `StepUpgrade` while the executor works through
  the batch: `Preparing`, `Upgrading`, `Verifying` with stale counters, `Verifying` in step, `Ready`, on which the rollout leaves
  `StepUpgrade`): one fair round from a state of the class ends in the next class.  The rounds need the carried invariant
  `polInv`; the witnesses show what happens without it.
-/
import RV.Lemmas.ClosedLoopLiveRoRolling
import RV.Lemmas.ClosedLoopLiveExec
namespace RV.Lemmas.ClosedLoop
open RV.Arith RV.Traffic RV.RolloutSM RV.ClosedLoop RV.Oracle.ClosedLoop

/-- a round of a rollout that keeps waiting in `StepUpgrade` (classes 8 – 11), from what the executor's reconcile does
    (`st1`, `ew`): the successor waits on the same step over the BatchRelease `landSt b st1`; `hs'` says in which class -/
theorem round_upgrading {s : CS} {w : CWl} {k : Nat} {sub : Sub} {b : CBr} (I : Inv s w k) (F : LiveFacts s w)
    (hup : Upgrading s sub b) (hc : BrCore b w) (hpol : b.policy = "") (hnr : b.st.batchState ≠ .ready) (st1 : Executor.Status)
    (ew : Executor.Workload) (rq er : Bool)
    (hrec : Executor.reconcile (exBr b) (some (exWl w)) =
      .val { br := some { Executor.withFinalizer (exBr b) with status := st1 }, wl := some ew, requeue := rq, err := er })
    (e1 : (landW w ew).paused = w.paused) (k' : Nat)
    (hs' : ∀ t sub2, Upgrading t sub2 (landSt b st1) → sub2.curIdx = sub.curIdx → ClsSpec t (envWl (landW w ew)) k')
    (hk' : k' ≠ 0 ∧ 5 ≤ k' ∧ k' < 20 ∧ 5 ≤ k ∧ k < 20) (hr : clsRank k' < clsRank k) : LandsIn s k' := by
  obtain ⟨step, _, hro⟩ := stepRo_upgrading s w sub b F hup hc hpol
  rw [upgradedSub, if_neg (fun h => hnr h.1), hup.br] at hro
  have hst' : (tailSub (fillSub (obsSub sub (roWl w)) w.updateRevision)).state = .upgrade :=
    tailSub_state hup.st (by decide)
  exact round_lands_step k' I F hro (stepBr_eq _ b w _ rfl rfl hrec) ⟨rfl, rfl, rfl, e1, rfl⟩ rfl
    (hs' _ _ ⟨⟨hup.roll.ph, hup.roll.re, rfl⟩, hst', rfl, hup.part⟩ rfl) hup.roll.sub ⟨_, rfl, rfl⟩
    ⟨⟨hk'.2.1, hk'.2.2.1⟩, hk'.2.2.2, hr⟩ (fun b' hb' => by cases hb'; exact hpol)

theorem partLow_intro (b1 : CBr) (w2 : CWl) (e kp : IntOrPct) (hp : w2.partition = some kp)
    (hcb : 0 ≤ b1.st.currentBatch) (he : b1.batches[b1.st.currentBatch.toNat]? = some e)
    (hle : scaledV kp w2.replicas true ≤ scaledV (RV.BatchCtx.desKnob .cloneSet w2.replicas e none) w2.replicas true) :
    partLow b1 w2 = true := by
  unfold partLow
  rw [hp, if_neg (by omega), he]
  exact decide_eq_true hle

/-- class 8 (the executor is `Preparing`): it claims the workload; successor class 9 -/
theorem step_cls_8 (s : CS) (w : CWl) (I : Inv s w 8) : LandsIn s 9 := by
  obtain ⟨sub, b, hup, hs, c1, c2, c3, c4, c5, c6, c7⟩ := I.spec
  obtain ⟨F, hpol, hbrok⟩ := I.upgrading hup (by decide)
  obtain ⟨⟨y1, y2⟩, hcore⟩ := (brSync_iff b w).1 hs
  have hrec := exec_preparing (exBr b) (exWl w)
    (sync_quiet b w hs hbrok (by rw [hup.part]; rfl) (by rw [c3]; have := (hup.in_plan F).2; omega) F.cons (Or.inl ⟨c1, c4, c5⟩)) c1 hcore.del ((brOK_iff b).1 hbrok).2.2.2.1
  obtain ⟨ew, hew⟩ : ∃ ew : Executor.Workload, ew = (if (exWl w).owner = .this then exWl w else
      { exWl w with owner := .this, paused := false, partition := some (.pct 100) }) := ⟨_, rfl⟩
  obtain ⟨st1, hst1⟩ : ∃ st1 : Executor.Status, st1 = { (exBr b).status with stableRevision := (exWl w).currentRevision, updateRevision := (exWl w).updateRevision, observedReplicas := (exWl w).replicas, phase := .progressing } := ⟨_, rfl⟩
  rw [← hew, ← hst1] at hrec
  have w1c : (landW w ew).paused = w.paused := by
    rw [hew, F.unp]
    show (if (exWl w).owner = .this then exWl w else _).paused = false
    split
    · exact F.unp
    · rfl
  have w1d : (landW w ew).owner = .this := by
    rw [hew]
    show (if (exWl w).owner = .this then exWl w else _).owner = .this
    split
    · assumption
    · rfl
  have w1e : (envWl (landW w ew)).updated = w.updated ∧ (envWl (landW w ew)).updatedReady = w.updatedReady := by
    by_cases ho : w.owner = .this
    · rw [hew, show (if (exWl w).owner = .this then exWl w else _) = exWl w from if_pos ho, landW_id, F.env]
      exact ⟨rfl, rfl⟩
    · rw [hew, show (if (exWl w).owner = .this then exWl w else _) = _ from if_neg ho]
      exact envWl_claim w _ F.env c7 F.unp F.wok
  have E := envWl_kept (landW w ew)
  have hcoreT : BrCore (landSt b st1) (envWl (landW w ew)) :=
    landSt_core b _ st1 ⟨hcore.gen, hcore.fin, hcore.del, hcore.oid, hcore.rid.trans E.updateRevision.symm, hcore.so, hcore.ft, hcore.hash⟩
      (by rw [hst1]; exact hcore.hash) (by rw [hst1]; exact decide_eq_true hcore.oid)
  have hsync1 : brSync (landSt b st1) (envWl (landW w ew)) = true :=
    (brSync_iff _ _).2 ⟨⟨by rw [w1e.1, hst1]; exact y1, by rw [w1e.2, hst1]; exact y2⟩, hcoreT⟩
  have hinit1 : brInit (landSt b st1) (envWl (landW w ew)) = true :=
    (brInit_iff _ _).2 ⟨by rw [E.updateRevision, hst1]; rfl, by rw [E.replicas, hst1]; rfl, by rw [E.owner]; exact w1d, by rw [hst1]; rfl⟩
  have hbs1 : (landSt b st1).st.batchState = .empty := by rw [hst1]; exact c2
  exact round_upgrading I F hup hcore hpol (by rw [c2]; decide) st1 ew _ _ hrec w1c 9
    (fun t sub2 hupT hcur => ⟨sub2, _, hupT, hsync1, hinit1, by rw [hcur, c6, hst1]; exact c3, Or.inl hbs1⟩)
    (by decide) (by decide)

/-- class 9 (the executor is `Upgrading`): it writes the partition of the batch, the CloneSet controller follows; successor
    class 10 when the executor's counters lag behind the workload, else 11 -/
theorem step_cls_9 (s : CS) (w : CWl) (I : Inv s w 9) : LandsIn s 10 ∨ LandsIn s 11 := by
  obtain ⟨sub, b, hup, hs, hin, c3, c4⟩ := I.spec
  obtain ⟨F, hpol, hbrok⟩ := I.upgrading hup (by decide)
  obtain ⟨⟨y1, y2⟩, hcore⟩ := (brSync_iff b w).1 hs
  obtain ⟨i1, i2, i3, i4⟩ := (brInit_iff b w).1 hin
  obtain ⟨_, k2, _, _, k5⟩ := (brOK_iff b).1 hbrok
  obtain ⟨hp0, hplen⟩ := hup.in_plan F
  obtain ⟨e, he⟩ : ∃ e, b.batches[b.st.currentBatch.toNat]? = some e := by
    have hlt : b.st.currentBatch.toNat < b.batches.length := by omega
    exact ⟨_, List.getElem?_eq_getElem hlt⟩
  obtain ⟨kp, hkp⟩ : ∃ kp, w.partition = some kp := by
    have := (F.roll hup.roll).2.2
    unfold withinCur at this
    cases hpw : w.partition with
    | none => rw [hpw] at this; simp at this
    | some kp => exact ⟨kp, rfl⟩
  obtain ⟨ew, hrec, hew⟩ := exec_upgrading (exBr b) (exWl w) e
    (sync_quiet b w hs hbrok (by rw [hup.part]; rfl) (by rw [c3]; exact hplen) F.cons (Or.inr hin))
    i4 c4 hcore.del (by show w.replicas ≠ 0; have := F.rpos; omega) k2 he k5
  have w1f : (landW w ew).paused = w.paused ∧ (landW w ew).owner = .this ∧
      ∃ kp1, (landW w ew).partition = some kp1 ∧
        scaledV kp1 w.replicas true ≤ scaledV (RV.BatchCtx.desKnob .cloneSet w.replicas e none) w.replicas true := by
    rcases hew with ⟨hew, hle⟩ | hew
    · rw [hew, landW_id]
      refine ⟨rfl, i3, kp, hkp, ?_⟩
      have : scaledV (w.partition.getD (.int 0)) w.replicas true ≤
          scaledV (RV.BatchCtx.desKnob .cloneSet w.replicas e none) w.replicas true := hle
      rw [hkp] at this
      exact this
    · rw [hew]
      exact ⟨rfl, i3, _, rfl, Int.le_refl _⟩
  obtain ⟨w1c, w1d, kp1, w1p, w1le⟩ := w1f
  obtain ⟨st1, hst1⟩ : ∃ st1 : Executor.Status, st1 = { (exBr b).status with batchState := .verifying } := ⟨_, rfl⟩
  rw [← hst1] at hrec
  have hnr : b.st.batchState ≠ .ready := by rcases c4 with c4 | c4 <;> rw [c4] <;> decide
  have E := envWl_kept (landW w ew)
  have hcoreT : BrCore (landSt b st1) (envWl (landW w ew)) :=
    landSt_core b _ st1 ⟨hcore.gen, hcore.fin, hcore.del, hcore.oid, hcore.rid.trans E.updateRevision.symm, hcore.so, hcore.ft, hcore.hash⟩
      (by rw [hst1]; exact hcore.hash) (by rw [hst1]; exact decide_eq_true hcore.oid)
  have hinit1 : brInit (landSt b st1) (envWl (landW w ew)) = true :=
    (brInit_iff _ _).2 ⟨by rw [E.updateRevision, hst1]; exact i1, by rw [E.replicas, hst1]; exact i2, by rw [E.owner]; exact w1d,
      by rw [hst1]; exact i4⟩
  have hlow : partLow (landSt b st1) (envWl (landW w ew)) = true :=
    partLow_intro _ _ e kp1 (by rw [E.partition]; exact w1p) (by rw [hst1]; exact k2) (by rw [hst1]; exact he)
      (by rw [E.replicas]; exact w1le)
  have hcb : ∀ sub2 : Sub, sub2.curIdx = sub.curIdx → (landSt b st1).st.currentBatch = sub2.curIdx - 1 :=
    fun sub2 hcur => by rw [hcur, hst1]; exact c3
  have hbs1 : (landSt b st1).st.batchState = .verifying := by rw [hst1]; rfl
  by_cases hd : (landSt b st1).st.updated ≠ (envWl (landW w ew)).updated ∨
      (landSt b st1).st.updatedReady ≠ (envWl (landW w ew)).updatedReady
  · exact Or.inl (round_upgrading I F hup hcore hpol hnr st1 ew _ _ hrec w1c 10
      (fun t sub2 hupT hcur => ⟨sub2, _, hupT, (brSyncLag_iff _ _).2 ⟨hd, hcoreT⟩, hinit1, hcb sub2 hcur, hbs1, hlow⟩)
      (by decide) (by decide))
  · have hd' : (landSt b st1).st.updated = (envWl (landW w ew)).updated ∧
        (landSt b st1).st.updatedReady = (envWl (landW w ew)).updatedReady :=
      ⟨Decidable.not_not.mp (fun h => hd (Or.inl h)), Decidable.not_not.mp (fun h => hd (Or.inr h))⟩
    exact Or.inr (round_upgrading I F hup hcore hpol hnr st1 ew _ _ hrec w1c 11
      (fun t sub2 hupT hcur => ⟨sub2, _, hupT, (brSync_iff _ _).2 ⟨hd', hcoreT⟩, hinit1, hcb sub2 hcur, hbs1, hlow⟩)
      (by decide) (by decide))

/-! ### why `polInv` is carried: classes 8, 9

  `cls` (through `brSync`) does not constrain the BatchRelease's policy, so `step_cls_8` and `step_cls_9` need the carried
  invariant `polInv` (in classes 8, 9 the measure is above 32, so it says `b.policy = ""`).  With another policy the Rollout
  reconcile finds `brSpecEq` false, rewrites the BatchRelease (generation bumped, plan hash `differs`) and the executor
  re-calculates: from class 8 the round ends outside every class, from class 9 it ends in class 9 again with the same measure.
  Witnesses `lG3_cex8`, `lG3_cex9` (states of a real walk with only the policy changed; they satisfy `liveInv` but not `polInv`),
  printed by the `#eval`s (their output stands in the comment above them and is not checked; the `example`s at the end of this
  file check the same kind of fact for classes 10 – 12 by kernel evaluation).
-/

def lG3_cexRo : Rollout :=
  { style := .canary, steps := [⟨.pct 20, none, .manual⟩, ⟨.pct 100, none, .short⟩], paused := false, disabled := false,
    deleting := false, hasFinalizer := true, hasTraffic := false, disableGen := false, rollbackInBatch := false, grace := 3,
    phase := .progressing, reason := .inRolling, condAge := .elapsed, succeeded := none, term := .none,
    sub := some { curIdx := 1, nextIdx := 2, state := .upgrade, finStep := .empty, canaryRev := "v2", stableRev := "v1",
                  podHash := "v2", hash := .same, observedRolloutID := "v2", observedGen := 2, lastUpdate := .elapsed },
    realPartition := true }

def lG3_cexNet : Net := { stableExists := true, stableSel := none, canarySvc := none, stableIngress := true, canaryIng := none }

/-- class 8 with `policy := "WaitResume"` -/
def lG3_cex8 : CS :=
  { gone := false, ro := lG3_cexRo,
    wl := some { replicas := 10, generation := 2, observedGeneration := 2, statusReplicas := 10, updated := 0, updatedReady := 0,
                 updateRevision := "v2", currentRevision := "v1", partition := some (.pct 100), paused := false, owner := .none,
                 inProgressAnno := true },
    br := some { batches := [.pct 20, .pct 100], partition := some 0, rolloutID := "v2", policy := "WaitResume",
                 rollbackAnno := false, specOther := true, failureThreshold := none, deleting := false, hasFinalizer := true,
                 generation := 1, observedGeneration := 1, observedRolloutID := "v2",
                 st := { phase := .preparing, currentBatch := 0, batchState := .empty, hasReadyTime := false, hash := .same,
                         rolloutIDSame := true, observedReplicas := -1, updateRevision := "", stableRevision := "",
                         noNeedUpdate := none, updated := 0, updatedReady := 0 } },
    net := lG3_cexNet, mem := Mem.empty }

/-- class 9 with `policy := "WaitResume"` -/
def lG3_cex9 : CS :=
  { gone := false, ro := lG3_cexRo,
    wl := some { replicas := 10, generation := 2, observedGeneration := 2, statusReplicas := 10, updated := 0, updatedReady := 0,
                 updateRevision := "v2", currentRevision := "v1", partition := some (.pct 100), paused := false, owner := .this,
                 inProgressAnno := true },
    br := some { batches := [.pct 20, .pct 100], partition := some 0, rolloutID := "v2", policy := "WaitResume",
                 rollbackAnno := false, specOther := true, failureThreshold := none, deleting := false, hasFinalizer := true,
                 generation := 1, observedGeneration := 1, observedRolloutID := "v2",
                 st := { phase := .progressing, currentBatch := 0, batchState := .empty, hasReadyTime := false, hash := .same,
                         rolloutIDSame := true, observedReplicas := 10, updateRevision := "wl-v2", stableRevision := "wl-v1",
                         noNeedUpdate := none, updated := 0, updatedReady := 0 } },
    net := lG3_cexNet, mem := Mem.empty }

-- (class, liveInv, polInv, mu) of the state, then (class, liveInv, mu) of its successor:
-- (8, true, false, 122) ↦ (0, false, 121); (9, true, false, 118) ↦ (9, true, 118)
#eval (cls lG3_cex8, liveInv lG3_cex8, polInv lG3_cex8, mu lG3_cex8, (round lG3_cex8).map fun s' => (cls s', liveInv s', mu s'))
#eval (cls lG3_cex9, liveInv lG3_cex9, polInv lG3_cex9, mu lG3_cex9, (round lG3_cex9).map fun s' => (cls s', liveInv s', mu s'))

theorem lG3_succ8 (s : CS) (h : liveInv s = true) (hp : polInv s = true) (hc : cls s = 8) :
    ∃ s', round s = some s' ∧ cls s' = 9 := by
  obtain ⟨w, hw, hs⟩ := cls_spec s 8 hc (by decide)
  obtain ⟨s', h1, _, _, _, _, h6⟩ := step_cls_8 s w (Inv.of_step h hp hw hs (by decide))
  exact ⟨s', h1, h6⟩

theorem lG3_succ9 (s : CS) (h : liveInv s = true) (hp : polInv s = true) (hc : cls s = 9) :
    ∃ s', round s = some s' ∧ (cls s' = 10 ∨ cls s' = 11) := by
  obtain ⟨w, hw, hs⟩ := cls_spec s 9 hc (by decide)
  rcases step_cls_9 s w (Inv.of_step h hp hw hs (by decide)) with ⟨s', h1, _, _, _, _, h6⟩ | ⟨s', h1, _, _, _, _, h6⟩
  · exact ⟨s', h1, Or.inl h6⟩
  · exact ⟨s', h1, Or.inr h6⟩

macro "lG4_kill " h:ident : tactic => `(tactic| ((repeat' (split at $h:ident)) <;> omega))

/-- a partition `k` at or below the batch's makes the batch ready once the CloneSet controller is at rest: the rest gives
    `updated ≥ R − kept(k)` (`hupd`), `hlow` gives `kept(k) ≤ kept(desKnob)`, and `stepReady` gives `desired ≤ R − kept(desKnob)` -/
theorem batchReadyNow_of_low (b : CBr) (w : CWl) (k e : IntOrPct) (hR : 0 < w.replicas)
    (hentry : (if b.st.currentBatch < 0 then none else b.batches[b.st.currentBatch.toNat]?) = some e)
    (hlow : scaledV k w.replicas true ≤ scaledV (RV.BatchCtx.desKnob .cloneSet w.replicas e none) w.replicas true)
    (hk0 : 0 ≤ scaledV k w.replicas true) (hsr : stepReady w.replicas e = true) (hnn : b.st.noNeedUpdate = none)
    (hft : b.failureThreshold = none)
    (hupd : w.replicas - (if scaledV k w.replicas true > w.replicas then w.replicas else scaledV k w.replicas true) ≤ w.updated)
    (hrdy : w.updatedReady = w.updated) : RV.Oracle.Executor.batchReadyNow (exBr b) (some (exWl w)) = true := by
  unfold stepReady at hsr
  simp only [Bool.and_eq_true, decide_eq_true_eq] at hsr
  obtain ⟨s1, s2⟩ := hsr
  unfold exposure keptStable at s1 s2
  unfold RV.Oracle.Executor.batchReadyNow
  dsimp only
  rw [if_neg (by show ¬ w.replicas = 0; omega)]
  have hentry' : (if (exBr b).status.currentBatch < 0 then none
      else (exBr b).batches[(exBr b).status.currentBatch.toNat]?) = some e := hentry
  unfold RV.BatchCtx.calcCtx RV.Executor.obsOf
  dsimp only
  rw [hentry']
  dsimp only [exBr, exWl, stOf]
  unfold RV.BatchCtx.isBatchReady
  dsimp only
  rw [hnn, hft]
  unfold allowedUnavailable
  dsimp only
  generalize RV.BatchCtx.desiredOf .cloneSet w.replicas e none = d at s1 s2 ⊢
  generalize scaledV (RV.BatchCtx.desKnob .cloneSet w.replicas e none) w.replicas true = kd at s1 s2 hlow ⊢
  generalize scaledV k w.replicas true = kk at hlow hk0 hupd ⊢
  have hu : d ≤ w.updated := by split at hupd <;> omega
  have hpos : 0 < d → 0 < w.updated := by intro h; have := s2 h; split at hupd <;> omega
  rw [if_neg (by omega), if_neg (by omega), if_neg (by intro hh; have := hpos hh.1; omega)]
  rfl

theorem batchReadyNow_congr' (eb eb' : Executor.BR) (ew : Executor.Workload) (h1 : eb'.batches = eb.batches)
    (h2 : eb'.status.currentBatch = eb.status.currentBatch) (h3 : eb'.status.noNeedUpdate = eb.status.noNeedUpdate)
    (h4 : eb'.failureThreshold = eb.failureThreshold) :
    RV.Oracle.Executor.batchReadyNow eb' (some ew) = RV.Oracle.Executor.batchReadyNow eb (some ew) := by
  unfold RV.Oracle.Executor.batchReadyNow RV.Executor.obsOf
  rw [h1, h2, h3, h4]

theorem batchReadyNow_congr (b b' : CBr) (w : CWl) (h1 : b'.batches = b.batches) (h2 : b'.st.currentBatch = b.st.currentBatch)
    (h3 : b'.st.noNeedUpdate = b.st.noNeedUpdate) (h4 : b'.failureThreshold = b.failureThreshold) :
    RV.Oracle.Executor.batchReadyNow (exBr b') (some (exWl w)) = RV.Oracle.Executor.batchReadyNow (exBr b) (some (exWl w)) :=
  batchReadyNow_congr' (exBr b) (exBr b') (exWl w) h1 h2 h3 h4

theorem batchReadyNow_of_partLow (s : CS) (w : CWl) (sub : Sub) (b : CBr) (F : LiveFacts s w) (hup : Upgrading s sub b)
    (hft : b.failureThreshold = none) (hpl : partLow b w = true) :
    RV.Oracle.Executor.batchReadyNow (exBr b) (some (exWl w)) = true := by
  obtain ⟨hR, hk0⟩ := wlOK_facts w F.wok
  have hlink := (F.roll hup.roll).2.1
  rw [hup.br] at hlink
  obtain ⟨_, b2, _, _, b5⟩ := (brOK_iff b).1 (F.brOK hup.br)
  unfold partLow at hpl
  split at hpl
  · rename_i k e hk he
    have he' := he
    rw [if_neg (by omega)] at he'
    have hmem : e ∈ planOf s.ro := by rw [← ((linkOK_iff s.ro sub b).1 hlink).1]; exact List.mem_of_getElem? he'
    obtain ⟨e2, e3, _⟩ := envWl_fixed w F.wok F.env
    unfold envAllowed at e3
    rw [F.unp, hk] at e3
    exact batchReadyNow_of_low b w k e F.rpos he (of_decide_eq_true hpl) (hk0 k hk) (List.all_eq_true.1 F.plan e hmem) b5 hft e3 e2
  · cases hpl

/-! ### classes 10, 11, 12

  As in classes 8, 9 the rounds need the carried invariant `polInv` (`b.policy = ""`): with another policy the rewrite of the
  BatchRelease leads from class 10 / 11 / 12 back to class 9 with a larger measure (116 / 114 / 112 → 118 on the witnesses
  `lG4_cex` below). -/

/-- class 10 (verifying, counters lag): the executor refreshes its counters; successor class 11 -/
theorem step_cls_10 (s : CS) (w : CWl) (I : Inv s w 10) : LandsIn s 11 := by
  obtain ⟨sub, b, hup, hlag, hin, hcb, hbs, hpl⟩ := I.spec
  obtain ⟨F, hpol, hbrok⟩ := I.upgrading hup (by decide)
  obtain ⟨hne, hcore⟩ := (brSyncLag_iff b w).1 hlag
  obtain ⟨i1, i2, i3, i4⟩ := (brInit_iff b w).1 hin
  have hrne : Executor.refreshStatus (exBr b).status (some (exWl w)) ≠ (exBr b).status := by
    intro he
    rw [RV.Executor.refresh_some] at he
    rcases hne with hne | hne
    · exact hne (congrArg Executor.Status.updated he).symm
    · exact hne (congrArg Executor.Status.updatedReady he).symm
  have hrec := exec_stopped_of_ne (exBr b) (some (exWl w)) _ hcore.del
    (by rw [sync_steady b w hcore hbrok (by rw [hup.part]; rfl) (by rw [hcb]; exact (hup.in_plan F).2) F.cons (Or.inr hin)]) hrne
  have hcoreT := landSt_core b w (Executor.refreshStatus (exBr b).status (some (exWl w))) hcore
    (by rw [RV.Executor.refresh_some]; show (if b.st.hash = .empty then Executor.HashObs.same else b.st.hash) = .same
        rw [hcore.hash]; rfl) rfl
  refine round_upgrading I F hup hcore hpol (by rw [hbs]; decide) _ (exWl w) _ _ hrec (by rw [landW_id]) 11
    (fun t sub2 hupT hcur => ?_) (by decide) (by decide)
  rw [landW_id, F.env]
  exact ⟨sub2, _, hupT, (brSync_iff _ w).2 ⟨⟨rfl, rfl⟩, hcoreT⟩, (brInit_iff _ w).2 ⟨i1, i2, i3, i4⟩, by rw [hcur]; exact hcb, hbs, hpl⟩

/-- class 11 (verifying, in sync, partition low enough): the executor finds the batch ready; successor class 12 -/
theorem step_cls_11 (s : CS) (w : CWl) (I : Inv s w 11) : LandsIn s 12 := by
  obtain ⟨sub, b, hup, hsync, hin, hcb, hbs, hpl⟩ := I.spec
  obtain ⟨F, hpol, hbrok⟩ := I.upgrading hup (by decide)
  obtain ⟨⟨hu1, hu2⟩, hcore⟩ := (brSync_iff b w).1 hsync
  obtain ⟨i1, i2, i3, i4⟩ := (brInit_iff b w).1 hin
  have hready := batchReadyNow_of_partLow s w sub b F hup hcore.ft hpl
  have hrec := exec_verify (exBr b) (exWl w)
    (sync_quiet b w hsync hbrok (by rw [hup.part]; rfl) (by rw [hcb]; exact (hup.in_plan F).2) F.cons (Or.inr hin))
    hcore.del i4 hbs hready
  have hcoreT := landSt_core b w { (exBr b).status with batchState := .ready, hasReadyTime := true } hcore hcore.hash
    (decide_eq_true hcore.oid)
  refine round_upgrading I F hup hcore hpol (by rw [hbs]; decide) _ (exWl w) _ _ hrec (by rw [landW_id]) 12
    (fun t sub2 hupT hcur => ?_) (by decide) (by decide)
  rw [landW_id, F.env]
  exact ⟨sub2, _, hupT.roll, hupT.st, hupT.br, (brSync_iff _ w).2 ⟨⟨hu1, hu2⟩, hcoreT⟩, (brInit_iff _ w).2 ⟨i1, i2, i3, i4⟩, rfl, rfl,
    hupT.part, by rw [hcur]; exact hcb, (batchReadyNow_congr b _ w rfl rfl rfl rfl).trans hready⟩

/-- class 12 (batch ready): the Rollout controller leaves `StepUpgrade`; successor class 13, or 14 when the step replaces
    every pod -/
theorem step_cls_12 (s : CS) (w : CWl) (I : Inv s w 12) : LandsIn s 13 ∨ LandsIn s 14 := by
  obtain ⟨sub, b, hroll, hst, hb, R⟩ := I.spec
  have hup : Upgrading s sub b := ⟨hroll, hst, hb, R.part⟩
  obtain ⟨F, hpol, hbrok⟩ := I.upgrading hup (by decide)
  obtain ⟨_, hcore⟩ := (brSync_iff b w).1 R.sync
  obtain ⟨step, _, hro⟩ := stepRo_upgrading s w sub b F hup hcore hpol
  rw [upgradedSub, if_pos ⟨R.ready, by rw [R.cb]; omega⟩, hb] at hro
  have hbr := fun ro => stepBr_ready (s := s) (ro := ro) w w b rfl R.finReady hbrok F.rpos F.cons
  have hpolT : ∀ b', some ({ b with st := stOf b } : CBr) = some b' → b'.policy = "" :=
    fun b' hb' => by cases hb'; exact hpol
  have hnext : upgradeNext s.ro step w.replicas = .trafficRouting ∨ upgradeNext s.ro step w.replicas = .metricsAnalysis := by
    unfold upgradeNext
    split
    · exact Or.inr rfl
    · exact Or.inl rfl
  rcases hnext with e | e
  · refine Or.inl (round_lands_step 13 I F hro (hbr _) ⟨rfl, rfl, rfl, rfl, rfl⟩ F.env ?_ hroll.sub ⟨_, rfl, rfl⟩ (by decide) hpolT)
    exact ⟨_, _, ⟨hroll.ph, hroll.re, rfl⟩, by show (if upgradeNext s.ro step w.replicas = .paused then _ else _) = _; rw [e]; rfl,
      rfl, R.stOf⟩
  · refine Or.inr (round_lands_step 14 I F hro (hbr _) ⟨rfl, rfl, rfl, rfl, rfl⟩ F.env ?_ hroll.sub ⟨_, rfl, rfl⟩ (by decide) hpolT)
    exact ⟨_, _, ⟨hroll.ph, hroll.re, rfl⟩, by show (if upgradeNext s.ro step w.replicas = .paused then _ else _) = _; rw [e]; rfl,
      rfl, R.stOf⟩

def lG4_cexRo : Rollout :=
  { style := .canary, steps := [⟨.pct 50, none, .manual⟩, ⟨.pct 100, none, .manual⟩], paused := false, disabled := false,
    deleting := false, hasFinalizer := true, hasTraffic := false, disableGen := false, rollbackInBatch := false, grace := 3,
    phase := .progressing, reason := .inRolling, condAge := .elapsed, succeeded := none, term := .none,
    sub := some { curIdx := 1, nextIdx := 2, state := .upgrade, finStep := .empty, canaryRev := "v2", stableRev := "v1", podHash := "v2", hash := .same, observedRolloutID := "v2", observedGen := 3, lastUpdate := .elapsed },
    realPartition := true }

def lG4_cexWl : CWl :=
  { replicas := 10, generation := 3, observedGeneration := 3, statusReplicas := 10, updated := 5, updatedReady := 5,
    updateRevision := "v2", currentRevision := "v1", partition := some (.pct 50), paused := false, owner := .this, inProgressAnno := true }

def lG4_cexBr (pol : String) (bs : RV.Executor.BState) (u : Int) (rt : Bool) : CBr :=
  { batches := [.pct 50, .pct 100], partition := some 0, rolloutID := "v2", policy := pol, rollbackAnno := false, specOther := true,
    failureThreshold := none, deleting := false, hasFinalizer := true, generation := 1, observedGeneration := 1,
    observedRolloutID := "v2",
    st := { phase := .progressing, currentBatch := 0, batchState := bs, hasReadyTime := rt, hash := .same, rolloutIDSame := true, observedReplicas := 10, updateRevision := "wl-v2", stableRevision := "wl-v1", noNeedUpdate := none, updated := u, updatedReady := u } }

/-- a state of class 10 / 11 / 12 (by batch state, counters, ready time) whose BatchRelease carries policy `pol` -/
def lG4_cex (pol : String) (bs : RV.Executor.BState) (u : Int) (rt : Bool) : CS :=
  { gone := false, ro := lG4_cexRo, wl := some lG4_cexWl, br := some (lG4_cexBr pol bs u rt),
    net := { stableExists := true, stableSel := none, canarySvc := none, stableIngress := true, canaryIng := none }, mem := Mem.empty }

/-- (invariant, class, measure) of a state, and of the state after one round -/
def lG4_cexRep (s : CS) : Bool × Nat × Nat × Option (Bool × Nat × Nat) :=
  (liveInv s, cls s, mu s, (round s).map (fun t => (liveInv t, cls t, mu t)))

/-- with the policy `createBatchRelease` writes the round goes 10 → 11 → 12 → 13 and the measure falls -/
example : lG4_cexRep (lG4_cex "" .verifying 0 false) = (true, 10, 116, some (true, 11, 114)) := by decide +kernel
example : lG4_cexRep (lG4_cex "" .verifying 5 false) = (true, 11, 114, some (true, 12, 112)) := by decide +kernel
example : lG4_cexRep (lG4_cex "" .ready 5 true) = (true, 12, 112, some (true, 13, 104)) := by decide +kernel

/-- with another policy the state is in the invariant and in class 10 / 11 / 12 all the same, but the round leads to class 9
    with a larger measure: `step_cls_10`, `step_cls_11`, `step_cls_12` without `polInv` fail on these states -/
example : lG4_cexRep (lG4_cex "X" .verifying 0 false) = (true, 10, 116, some (true, 9, 118)) := by decide +kernel
example : lG4_cexRep (lG4_cex "X" .verifying 5 false) = (true, 11, 114, some (true, 9, 118)) := by decide +kernel
example : lG4_cexRep (lG4_cex "X" .ready 5 true) = (true, 12, 112, some (true, 9, 118)) := by decide +kernel

end RV.Lemmas.ClosedLoop
