/-
  Progress of the closed loop, round-boundary classes 13, 14, 16, 17 (the batch of the step is ready, the rollout goes through
  the sub-states after the upgrade): one fair round from a state of the class ends in the next class.
-/
import RV.Lemmas.ClosedLoopLiveRoRolling
import RV.Lemmas.ClosedLoopLiveExec
namespace RV.Lemmas.ClosedLoop
open RV.Arith RV.Traffic RV.RolloutSM RV.ClosedLoop RV.Oracle.ClosedLoop

/-- a round from a state whose BatchRelease reports the batch of the step ready, and stays so: the sub-state action only moves
    the sub-status (to `x`), the executor's reconcile changes nothing -/
theorem round_ready {s : CS} {w : CWl} {k : Nat} {sub : Sub} {b : CBr} (I : Inv s w k) (hk : 5 ≤ k ∧ k < 20 ∧ 0 < clsRank k)
    (hroll : Rolling s sub) (hb : s.br = some b) (R : ReadyAt b w (sub.curIdx - 1)) (hnc : sub.state ≠ .completed) (x : Sub)
    (rq : Bool) (hss : ∀ step, finish { s.ro with sub := some (obsSub sub (roWl w)) } step (ctxOf s w sub) =
      .ok { ctxOf s w sub with sub := x, requeue := rq } false)
    (k' : Nat) (hs' : ClsSpec (mid s (tailRo { s.ro with sub := some x }) w (some { b with st := stOf b })) w k')
    (hk' : k' ≠ 0 ∧ k' < 26) (hlt : clsMu s.ro.steps.length x.curIdx k' < clsMu s.ro.steps.length sub.curIdx k) : LandsIn s k' := by
  have F := I.facts (by omega)
  have hbok := F.brOK hb
  obtain ⟨step, hstep, hwt⟩ := F.step_exists (F.roll hroll).1
  have hro := stepRo_rolling_status s w sub step F hroll hnc hstep hwt
    (fun b' hb' => by rw [hb] at hb'; cases hb'; exact ((brSync_iff b w).1 R.sync).2.rid) _ (hss step) rfl rfl rfl rfl
  rw [hb] at hro
  refine round_lands k' I F hro (stepBr_ready w w b rfl R.finReady hbok F.rpos F.cons) ⟨rfl, rfl, rfl, rfl, rfl⟩
    F.env hs' hk'.1 (fun _ h => by rw [h _ rfl, curOf_eq hroll.sub]; exact hlt)
    (fun _ b' hb' => by cases hb'; exact (I.policy hb hk.2.1 hk.2.2 : b.policy = ""))
    (fun h => absurd h (by omega))

/-- class 13 (`StepTrafficRouting` of a step without weight): nothing to route, the rollout passes to `StepMetricsAnalysis`;
    successor class 14 -/
theorem step_cls_13 (s : CS) (w : CWl) (I : Inv s w 13) : LandsIn s 14 := by
  obtain ⟨sub, b, hroll, hst, hb, R⟩ := I.spec
  exact round_ready I (by decide) hroll hb R (by rw [hst]; decide)
    { (ctxOf s w sub).sub with state := .metricsAnalysis, lastUpdate := .fresh } true (fun step => by
      unfold finish
      rw [show (ctxOf s w sub).sub.state = .trafficRouting from hst])
    14 ⟨_, _, ⟨hroll.ph, hroll.re, rfl⟩, rfl, rfl, R.stOf⟩ (by decide) (clsMu_lt rfl (by decide))

/-- class 14: `StepMetricsAnalysis` → `StepPaused`; the round's `approve` turns that into `StepReady` (`tailSub`), which is why
    there is no class 15; successor class 16 -/
theorem step_cls_14 (s : CS) (w : CWl) (I : Inv s w 14) : LandsIn s 16 := by
  obtain ⟨sub, b, hroll, hst, hb, R⟩ := I.spec
  exact round_ready I (by decide) hroll hb R (by rw [hst]; decide)
    { (ctxOf s w sub).sub with state := .paused } (ctxOf s w sub).requeue (fun step => by
      unfold finish
      rw [show (ctxOf s w sub).sub.state = .metricsAnalysis from hst])
    16 ⟨_, _, ⟨hroll.ph, hroll.re, rfl⟩, rfl, rfl, R.stOf⟩ (by decide) (clsMu_lt rfl (by decide))

/-- class 16 (`StepReady`): on to `BeforeStepUpgrade` of the next step — class 5, second disjunct: the BatchRelease still reports
    batch `curIdx − 2` — or, on the last step, to sub-state `Completed`: class 17 -/
theorem step_cls_16 (s : CS) (w : CWl) (I : Inv s w 16) : LandsIn s 5 ∨ LandsIn s 17 := by
  obtain ⟨sub, b, hroll, hst, hb, R⟩ := I.spec
  have hlo := ((I.facts (by decide)).roll hroll).1.lo
  by_cases hlt : (s.ro.steps.length : Int) > sub.curIdx
  · refine Or.inl (round_ready I (by decide) hroll hb R (by rw [hst]; decide)
      { (ctxOf s w sub).sub with curIdx := sub.curIdx + 1, nextIdx := nextBatchIndex (s.ro.steps.length : Int) (sub.curIdx + 1),
                                 state := .init, lastUpdate := .fresh } (ctxOf s w sub).requeue (fun step => by
        unfold finish
        rw [show (ctxOf s w sub).sub.state = .ready from hst]
        dsimp only
        rw [if_pos (show ((s.ro.steps.length : Int) > (ctxOf s w sub).sub.curIdx) from hlt)]
        rfl)
      5 (Or.inr ⟨_, _, ⟨hroll.ph, hroll.re, rfl⟩, rfl, rfl, (show sub.curIdx - 1 = sub.curIdx + 1 - 2 by omega) ▸ R.stOf⟩)
      (by decide) (clsMu_next_step hlo hlt))
  · refine Or.inr (round_ready I (by decide) hroll hb R (by rw [hst]; decide)
      { (ctxOf s w sub).sub with state := .completed, lastUpdate := .fresh } (ctxOf s w sub).requeue (fun step => by
        unfold finish
        rw [show (ctxOf s w sub).sub.state = .ready from hst]
        dsimp only
        rw [if_neg (show ¬ ((s.ro.steps.length : Int) > (ctxOf s w sub).sub.curIdx) from hlt)])
      17 ⟨_, _, ⟨hroll.ph, hroll.re, rfl⟩, rfl, rfl, R.stOf⟩ (by decide) (clsMu_lt rfl (by decide)))

/-- the Rollout reconcile of class 17: the reason becomes Finalising -/
theorem stepRo_completed (s : CS) (w : CWl) (sub : Sub) (F : LiveFacts s w) (hroll : Rolling s sub)
    (hst : sub.state = .completed) :
    stepRo s = some (mid s { s.ro with sub := some (obsSub sub (roWl w)), reason := .finalising } w s.br) := by
  have hsg := (F.roll hroll).1
  have hC : sub.canaryRev ≠ "" ∧ sub.canaryRev = (roWl w).canaryRev := ⟨by rw [hsg.rev]; exact F.rev, hsg.rev⟩
  obtain ⟨s', hs', _, _, _, ⟨_, e⟩ | ⟨hn, _⟩⟩ :=
    stepRo_roll s w sub F.gone F.good F.wl F.wok F.consistent hroll.ph hroll.re hroll.sub hsg
  · rw [hs', e, csObserve_rolling s.ro (roWl w) sub hroll.sub hC.1 hC.2, csSub_pos hC, ← mid_of s w _ F.wl, ← F.gone]
  · exact absurd hst hn

/-- class 17: the reason becomes Finalising, the clean-up starts at the empty cursor; successor class 20 -/
theorem step_cls_17 (s : CS) (w : CWl) (I : Inv s w 17) : LandsIn s 20 := by
  obtain ⟨sub, b, hroll, hst, hb, R⟩ := I.spec
  have F := I.facts (by decide)
  have hbok := F.brOK hb
  have hro := stepRo_completed s w sub F hroll hst
  rw [hb] at hro
  exact round_lands 20 I F hro (stepBr_ready w w b rfl R.finReady hbok F.rpos F.cons) ⟨rfl, rfl, rfl, rfl, rfl⟩
    F.env ⟨_, _, ⟨hroll.ph, rfl, rfl⟩, (F.roll hroll).1.fin, rfl, R.finReady.stOf⟩ (by decide)
    (fun _ _ => clsMu_to_cleanup) (fun h => absurd h (by decide)) (fun h => absurd h (by decide))

end RV.Lemmas.ClosedLoop
