import RV.Lemmas.Arith
import RV.Lemmas.OneWrite
import RV.Lemmas.Webhook
import RV.Oracle.CtlPDeploy
/-!
Lemmas about the partition-style Deployment control plane (`RV.Model.CtlPDeploy`), for the theorems of
`RV/Props/CtlPDeployThms.lean`: `NewRSReplicasLimit` and `SetDefaultDeploymentStrategy`; a controller call as a
one-write call (`step_ran`, into `RV.OneWrite.Ran` with `writeOf` for what the call would write) and what each of the three calls
writes; the webhook branch a user's update goes through (`admit_cases`); the limit along one step of a walk; and the
invariant `Inv` behind the round trip of the user's strategy (C05), kept by every write and by the webhook.
-/
namespace RV.CtlPDeploy
open RV.Arith IntOrPct RV.Webhook RV.Oracle.CtlPDeploy

theorem limit_int0 (r : Int) : newRSReplicasLimit (int 0) r = 0 := by
  have := newRSLimit_kept (int 0) r
  rw [keptStable_int] at this
  omega

theorem limit_le_calc (e : IntOrPct) (r : Int) : newRSReplicasLimit e r ≤ max 0 (calcBatchReplicas r e) :=
  keptStable_eq_calc e r ▸ (newRSLimit_kept e r).2

theorem limitOf_eq {d : Dep} {r : Int} (h : d.replicas = some r) :
    limitOf d = newRSReplicasLimit (getStrategy d).partition r := by
  simp only [limitOf, h]

theorem limitOf_nonneg (d : Dep) : 0 ≤ limitOf d := by
  unfold limitOf
  split
  · exact (newRSLimit_kept _ _).1
  · exact Int.le_refl 0

theorem sameButAnno_self (d : Dep) : sameButAnno d d = true := beq_self_eq_true d

theorem isPartitionStyle_Partition (s : DepStrategy) (h : s.rollingStyle = "Partition") : isPartitionStyle s = true := by
  unfold isPartitionStyle; rw [h]; decide +kernel

theorem isPartitionStyle_zero : isPartitionStyle DepStrategy.zero = false := by
  unfold isPartitionStyle DepStrategy.zero; decide +kernel

theorem setDefault_frame (s : DepStrategy) :
    (setDefaultDeploymentStrategy s).partition = s.partition ∧
    (setDefaultDeploymentStrategy s).rollingStyle = s.rollingStyle ∧
    (setDefaultDeploymentStrategy s).paused = s.paused := by
  unfold setDefaultDeploymentStrategy
  split
  · exact ⟨rfl, rfl, rfl⟩
  · refine ⟨?_, ?_, ?_⟩
    · rw [apply_ite DepStrategy.partition]; exact ite_self _
    · rw [apply_ite DepStrategy.rollingStyle]; exact ite_self _
    · rw [apply_ite DepStrategy.paused]; exact ite_self _

theorem ruValid_isSome {u : RU} (hu : ruValid u = true) : ∃ a b, u = { maxUnavailable := some a, maxSurge := some b } := by
  obtain ⟨mu, ms⟩ := u
  simp only [ruValid, Bool.and_eq_true] at hu
  obtain ⟨⟨h1, h2⟩, _⟩ := hu
  cases mu with
  | none => simp at h1
  | some a =>
    cases ms with
    | none => simp at h2
    | some b => exact ⟨a, b, rfl⟩

/-- a valid block (`ruValid`: both fields present, not both zero) is left alone by `SetDefaultDeploymentStrategy`, through which
    `Initialize` and the webhook write the annotation: this is why C05 speaks of valid blocks only -/
theorem setDefault_valid (s : DepStrategy) (u : RU) (hs : s.rollingStyle = "Partition") (hr : s.ru = some u)
    (hu : ruValid u = true) : setDefaultDeploymentStrategy s = s := by
  obtain ⟨a, b, rfl⟩ := ruValid_isSome hu
  obtain ⟨st, ru, pa, pt⟩ := s
  simp only at hs hr
  subst hs hr
  simp only [ruValid, Option.isSome_some, Bool.true_and, Bool.not_eq_true'] at hu
  simp only [setDefaultDeploymentStrategy, bne_self_eq_false, Bool.false_eq_true, if_false,
    Option.isNone_some, hu]

theorem mergeRU_full (cur : Option RU) (u : RU) (hu : ruValid u = true) : mergeRU cur (some u) = some u := by
  obtain ⟨a, b, rfl⟩ := ruValid_isSome hu
  cases cur <;> rfl

/-- what the controller call of step `s` would write on Deployment `d` of size `r` (`none`: nothing).  For `UpgradeBatch` the
    `none` on a missing plan entry is never run (the call panics, `step_ctrl`); `r = 0` is the early return on an empty workload -/
def writeOf (rel : Rel) (s : Step) (d : Dep) (r : Int) : Option Dep :=
  match s.call with
  | .initialize => ctrlInitialize d
  | .upgradeBatch =>
    if r = 0 then none else
    match entryOf rel s.batch with
    | some e => ctrlUpgradeBatch d r e
    | none => none
  | .finalize => ctrlFinalize d s.bpNil
  | .submit => none

theorem res_ne : Res.ok ≠ Res.err := nofun

/-- the controller call of step `s` as a one-write call: the size is `*spec.replicas`, nothing is read after the Get, and
    only `Finalize` ignores NotFound -/
abbrev Ctl (rel : Rel) (s : Step) : Option Dep → Res → Option Dep → Nat → Prop :=
  OneWrite.Ran .ok .err Dep.replicas (writeOf rel s) (s.fault = .get) (fun _ => False) (s.fault = .write)
    (s.call = .finalize)

theorem commit_ran {rel : Rel} {s : Step} {d : Dep} {r : Int} (hg : s.fault ≠ .get) (hr : d.replicas = some r)
    (obs : Option InitObs) :
    Ctl rel s (some d) (commit d (writeOf rel s d r) s.fault obs).res
      (commit d (writeOf rel s d r) s.fault obs).dep (commit d (writeOf rel s d r) s.fault obs).writes := by
  cases hw : writeOf rel s d r with
  | none => exact .noop hg hr not_false hw
  | some d' =>
    by_cases hf : s.fault = .write
    · rw [show commit d (some d') s.fault obs = _ from if_pos hf]; exact .failed hg hr not_false hw hf
    · rw [show commit d (some d') s.fault obs = _ from if_neg hf]; exact .written hg hr not_false hw hf

theorem build_cases (d : Option Dep) (f : Fault) :
    (f = .get ∧ build d f = .err) ∨ (f ≠ .get ∧ d = none ∧ build d f = .notFound) ∨
    ∃ d0, f ≠ .get ∧ d = some d0 ∧
      ((d0.replicas = none ∧ build d f = .panic) ∨ ∃ r, d0.replicas = some r ∧ build d f = .ok d0 r) := by
  unfold build
  by_cases hg : f = .get
  · exact .inl ⟨hg, if_pos hg⟩
  · rw [if_neg hg]
    cases d with
    | none => exact .inr (.inl ⟨hg, rfl, rfl⟩)
    | some d0 =>
      refine .inr (.inr ⟨d0, hg, rfl, ?_⟩)
      simp only
      cases d0.replicas with
      | none => exact .inl ⟨rfl, rfl⟩
      | some r => exact .inr ⟨r, rfl, rfl⟩

/-- the three `plane*` functions as one match on `build`: they differ only in the NotFound answer (`client.IgnoreNotFound`
    in `Finalize`), in the observation `Initialize` returns, and in `writeOf`. The only panic after `build` is
    `CalculateBatchContext` under `UpgradeBatch` indexing a plan entry that is not there (`Batches[currentBatch]`), which an
    empty workload (`r = 0`) never reaches; it is pulled out here so that `writeOf` need not speak of it -/
theorem step_ctrl (c : Cfg) (d : Option Dep) (s : Step) (hc : s.call ≠ .submit) :
    step c d s =
      match build d s.fault with
      | .panic => .panic
      | .err => .val { res := .err, dep := d, writes := 0, obs := none }
      | .notFound => .val { res := if s.call = .finalize then .ok else .err, dep := d, writes := 0, obs := none }
      | .ok d0 r =>
        if s.call = .upgradeBatch ∧ r ≠ 0 ∧ entryOf c.rel s.batch = none then .panic
        else .val (commit d0 (writeOf c.rel s d0 r) s.fault
          (if s.call = .initialize then
             some { observedReplicas := r, stableRevision := d0.stableRev, noNeedUpdate := noNeedUpdate c.rel }
           else none)) := by
  cases hcall : s.call
  · simp only [step, hcall, planeInitialize, writeOf, reduceCtorEq, false_and, if_false, if_true]
    cases build d s.fault <;> rfl
  · simp only [step, hcall, planeUpgradeBatch, writeOf, reduceCtorEq, true_and, if_false]
    cases build d s.fault with
    | ok d0 r =>
      simp only [entryOf]
      by_cases hr0 : r = 0
      · simp only [hr0, if_true, ne_eq, not_true, false_and, if_false, commit]
      · by_cases hb : s.batch < 0
        · simp only [hr0, hb, if_true, if_false, ne_eq, not_false_eq_true, and_self]
        · simp only [hr0, hb, if_false, ne_eq, not_false_eq_true, true_and]
          cases c.rel.batches[s.batch.toNat]? <;> rfl
    | _ => rfl
  · simp only [step, hcall, planeFinalize, writeOf, reduceCtorEq, false_and, if_false, if_true]
    cases build d s.fault <;> rfl
  · exact absurd hcall hc

/-- the one inversion of `step`: everything proved about a controller call here and in the two Props files goes through `Ran`'s
    lemmas (`obj`, `ok_cases`, `safe`, `rel`, `again`), never through `step` again -/
theorem step_ran {c : Cfg} {d : Option Dep} {s : Step} {o : StepOut} (hc : s.call ≠ .submit) (h : step c d s = .val o) :
    Ctl c.rel s d o.res o.dep o.writes := by
  rw [step_ctrl c d s hc] at h
  rcases build_cases d s.fault with ⟨hg, hb⟩ | ⟨hg, rfl, hb⟩ | ⟨d0, hg, rfl, ⟨_, hb⟩ | ⟨r, hr, hb⟩⟩ <;>
    rw [hb] at h <;> simp only at h
  · cases h; exact .getErr hg
  · cases h
    by_cases hf : s.call = .finalize
    · rw [if_pos hf]; exact .absentOk hg hf
    · rw [if_neg hf]; exact .absentErr hg hf
  · cases h
  · split at h
    · cases h
    · cases h; exact commit_ran hg hr _

/-- the strategy `Initialize` writes -/
def initStrategy (d : Dep) : DepStrategy :=
  setDefaultDeploymentStrategy
    { paused := false, partition := int 0, rollingStyle := "Partition",
      ru := match d.stratRU with
            | some r => some r
            | none => (getStrategy d).ru }

/-- the Deployment `Initialize` writes -/
def initialized (d : Dep) : Dep :=
  { d with ctrlLabel := true, stratAnno := .valid (initStrategy d), control := .this,
           paused := true, stratType := "Recreate" }

theorem ctrlInitialize_some {d d' : Dep} (h : ctrlInitialize d = some d') :
    isUnderRolloutControl d = false ∧ d' = initialized d := by
  unfold ctrlInitialize at h
  cases hu : isUnderRolloutControl d
  · rw [hu] at h; exact ⟨rfl, (Option.some.inj h).symm⟩
  · rw [hu] at h; cases h

theorem ctrlInitialize_none {d : Dep} (h : ctrlInitialize d = none) : isUnderRolloutControl d = true := by
  unfold ctrlInitialize at h
  cases hu : isUnderRolloutControl d
  · rw [hu] at h; cases h
  · rfl

theorem initialized_strategy (d : Dep) :
    (getStrategy (initialized d)).partition = int 0 ∧ (getStrategy (initialized d)).rollingStyle = "Partition" ∧
    (getStrategy (initialized d)).paused = false :=
  setDefault_frame _

theorem initialized_limit (d : Dep) : limitOf (initialized d) = 0 := by
  unfold limitOf
  split
  · exact (congrArg (newRSReplicasLimit · _) (initialized_strategy d).1).trans (limit_int0 _)
  · rfl

theorem initialized_under (d : Dep) : isUnderRolloutControl (initialized d) = true := rfl

/-- the Deployment `UpgradeBatch` writes for plan entry `e` -/
def upgraded (d : Dep) (e : IntOrPct) : Dep :=
  { d with stratAnno := .valid { getStrategy d with partition := e } }

theorem ctrlUpgradeBatch_some {d d' : Dep} {r : Int} {e : IntOrPct} (h : ctrlUpgradeBatch d r e = some d') :
    isUnderRolloutControl d = true ∧
    newRSReplicasLimit (getStrategy d).partition r < newRSReplicasLimit e r ∧ d' = upgraded d e := by
  unfold ctrlUpgradeBatch at h
  cases hu : isUnderRolloutControl d
  · rw [hu] at h; cases h
  · simp only [hu, Bool.not_true, Bool.false_eq_true, if_false] at h
    by_cases hge : newRSReplicasLimit (getStrategy d).partition r ≥ newRSReplicasLimit e r
    · rw [if_pos hge] at h; cases h
    · rw [if_neg hge] at h; exact ⟨rfl, by omega, (Option.some.inj h).symm⟩

theorem ctrlUpgradeBatch_none {d : Dep} {r : Int} {e : IntOrPct} (h : ctrlUpgradeBatch d r e = none) :
    isUnderRolloutControl d = false ∨ newRSReplicasLimit e r ≤ newRSReplicasLimit (getStrategy d).partition r := by
  unfold ctrlUpgradeBatch at h
  cases hu : isUnderRolloutControl d
  · exact .inl rfl
  · simp only [hu, Bool.not_true, Bool.false_eq_true, if_false] at h
    by_cases hge : newRSReplicasLimit (getStrategy d).partition r ≥ newRSReplicasLimit e r
    · exact .inr hge
    · rw [if_neg hge] at h; cases h

/-- the Deployment `Finalize` produces when it acts -/
def finalized (d : Dep) (bpNil : Bool) : Dep :=
  if bpNil then
    { d with paused := false,
             stratType := if d.stratType == "Recreate" then "RollingUpdate" else d.stratType,
             stratRU := if d.stratType == "Recreate" then mergeRU d.stratRU (getStrategy d).ru else d.stratRU,
             stratAnno := .absent, extraStatus := false, stableRev := "", ctrlLabel := false, control := .none }
  else { d with control := .none }

theorem ctrlFinalize_some {d d' : Dep} {bpNil : Bool} (h : ctrlFinalize d bpNil = some d') :
    claimed d = true ∧ d' = finalized d bpNil := by
  unfold ctrlFinalize at h
  cases hcl : claimed d
  · simp only [show (d.control != .none && d.paused) = false from hcl, Bool.not_false, if_true] at h
    cases h
  · simp only [show (d.control != .none && d.paused) = true from hcl, Bool.not_true, Bool.false_eq_true, if_false,
      Option.some.injEq] at h
    refine ⟨rfl, ?_⟩
    subst h
    unfold finalized
    cases bpNil
    · rfl
    · cases (d.stratType == "Recreate") <;> rfl

theorem ctrlFinalize_none {d : Dep} {bpNil : Bool} (h : ctrlFinalize d bpNil = none) : claimed d = false := by
  unfold ctrlFinalize at h
  cases hcl : claimed d
  · rfl
  · simp only [show (d.control != .none && d.paused) = true from hcl, Bool.not_true, Bool.false_eq_true, if_false] at h
    cases h

theorem writeOf_init {s : Step} (rel : Rel) (d : Dep) (r : Int) (h : s.call = .initialize) :
    writeOf rel s d r = ctrlInitialize d := by
  simp only [writeOf, h]

theorem writeOf_fin {s : Step} (rel : Rel) (d : Dep) (r : Int) (h : s.call = .finalize) :
    writeOf rel s d r = ctrlFinalize d s.bpNil := by
  simp only [writeOf, h]

/-- when `UpgradeBatch` writes: the plan entry `e` raises the limit of a non-empty Deployment under rollout control -/
structure Upgrades (rel : Rel) (s : Step) (d : Dep) (r : Int) (e : IntOrPct) : Prop where
  nonzero : r ≠ 0
  entry : entryOf rel s.batch = some e
  under : isUnderRolloutControl d = true
  less : newRSReplicasLimit (getStrategy d).partition r < newRSReplicasLimit e r

theorem upgrade_write {rel : Rel} {s : Step} {d d' : Dep} {r : Int} (hcall : s.call = .upgradeBatch)
    (h : writeOf rel s d r = some d') : ∃ e, Upgrades rel s d r e ∧ d' = upgraded d e := by
  simp only [writeOf, hcall] at h
  split at h
  · cases h
  · split at h
    · rename_i hr0 _ e he
      obtain ⟨hu, hlt, hd⟩ := ctrlUpgradeBatch_some h
      exact ⟨e, ⟨hr0, he, hu, hlt⟩, hd⟩
    · cases h

theorem upgrade_nowrite {rel : Rel} {s : Step} {d : Dep} {r : Int} {e : IntOrPct} (hcall : s.call = .upgradeBatch)
    (hr0 : r ≠ 0) (he : entryOf rel s.batch = some e) (h : writeOf rel s d r = none) :
    isUnderRolloutControl d = false ∨ newRSReplicasLimit e r ≤ newRSReplicasLimit (getStrategy d).partition r := by
  simp only [writeOf, hcall, hr0, if_false, he] at h
  exact ctrlUpgradeBatch_none h

theorem initialize_ok {c : Cfg} {d : Option Dep} {s : Step} {o : StepOut} (hcall : s.call = .initialize)
    (h : step c d s = .val o) (hok : o.res = .ok) :
    ∃ d0, d = some d0 ∧ ((isUnderRolloutControl d0 = true ∧ o.dep = some d0) ∨
      (isUnderRolloutControl d0 = false ∧ o.dep = some (initialized d0))) := by
  rcases (step_ran (by rw [hcall]; decide) h).ok_cases res_ne hok with ⟨_, _, hf⟩ | ⟨d0, r, rfl, _, hrest⟩
  · rw [hcall] at hf; cases hf
  · rw [writeOf_init c.rel d0 r hcall] at hrest
    refine ⟨d0, rfl, ?_⟩
    rcases hrest with ⟨hn, hdep⟩ | ⟨d', hsome, hdep⟩
    · exact .inl ⟨ctrlInitialize_none hn, hdep⟩
    · obtain ⟨hu, rfl⟩ := ctrlInitialize_some hsome
      exact .inr ⟨hu, hdep⟩

/-- the test is `claimed` (control-info ∧ paused), not `isUnderRolloutControl`: the local test of `realController.Finalize` does
    not look at `strategy.type` -/
theorem finalize_ok {c : Cfg} {d : Option Dep} {s : Step} {o : StepOut} (hcall : s.call = .finalize)
    (h : step c d s = .val o) (hok : o.res = .ok) :
    (d = none ∧ o.dep = none) ∨
    ∃ d0, d = some d0 ∧ ((claimed d0 = false ∧ o.dep = some d0) ∨
      (claimed d0 = true ∧ o.dep = some (finalized d0 s.bpNil))) := by
  rcases (step_ran (by rw [hcall]; decide) h).ok_cases res_ne hok with ⟨hd, hdep, _⟩ | ⟨d0, r, rfl, _, hrest⟩
  · exact .inl ⟨hd, hdep⟩
  · rw [writeOf_fin c.rel d0 r hcall] at hrest
    refine .inr ⟨d0, rfl, ?_⟩
    rcases hrest with ⟨hn, hdep⟩ | ⟨d', hsome, hdep⟩
    · exact .inl ⟨ctrlFinalize_none hn, hdep⟩
    · obtain ⟨hcl, rfl⟩ := ctrlFinalize_some hsome
      exact .inr ⟨hcl, hdep⟩

theorem writeOf_frame {rel : Rel} {s : Step} {d d' : Dep} {r : Int} (h : writeOf rel s d r = some d') :
    d'.rest = d.rest ∧ d'.replicas = d.replicas ∧ d'.tmpl = d.tmpl ∧ d'.inProgress = d.inProgress := by
  cases hcall : s.call
  · obtain ⟨_, rfl⟩ := ctrlInitialize_some (writeOf_init rel d r hcall ▸ h)
    exact ⟨rfl, rfl, rfl, rfl⟩
  · obtain ⟨e, -, rfl⟩ := upgrade_write hcall h
    exact ⟨rfl, rfl, rfl, rfl⟩
  · obtain ⟨_, rfl⟩ := ctrlFinalize_some (writeOf_fin rel d r hcall ▸ h)
    unfold finalized
    cases s.bpNil <;> exact ⟨rfl, rfl, rfl, rfl⟩
  · simp only [writeOf, hcall] at h; cases h

/-- after its own write a call finds nothing to write: `Initialize` finds the Deployment under rollout control, `UpgradeBatch`
    the partition already in the annotation, `Finalize` no control-info -/
theorem writeOf_idem {rel : Rel} {s : Step} {d d' : Dep} {r : Int} (h : writeOf rel s d r = some d') :
    writeOf rel s d' r = none := by
  cases hcall : s.call
  · obtain ⟨_, rfl⟩ := ctrlInitialize_some (writeOf_init rel d r hcall ▸ h)
    rw [writeOf_init rel _ r hcall, ctrlInitialize, initialized_under]; rfl
  · obtain ⟨e, p, rfl⟩ := upgrade_write hcall h
    have hu' : isUnderRolloutControl (upgraded d e) = true := p.under
    simp only [writeOf, hcall, p.nonzero, if_false, p.entry, ctrlUpgradeBatch, hu', Bool.not_true, Bool.false_eq_true]
    exact if_pos (Int.le_refl _)
  · obtain ⟨_, rfl⟩ := ctrlFinalize_some (writeOf_fin rel d r hcall ▸ h)
    have : (finalized d s.bpNil).control = .none := by unfold finalized; cases s.bpNil <;> rfl
    rw [writeOf_fin rel _ r hcall]
    simp only [ctrlFinalize, this, bne_self_eq_false, Bool.false_and, Bool.not_false, if_true]
  · simp only [writeOf, hcall] at h; cases h

theorem writeOf_congr {a b : Step} (rel : Rel) (d : Dep) (r : Int) (hcall : a.call = b.call)
    (hb : a.call ≠ .upgradeBatch ∨ a.batch = b.batch) (hf : a.call ≠ .finalize ∨ a.bpNil = b.bpNil) :
    writeOf rel a d r = writeOf rel b d r := by
  unfold writeOf
  rw [← hcall]
  cases hc : a.call
  · rfl
  · rw [hb.resolve_left (fun h => h hc)]
  · rw [hf.resolve_left (fun h => h hc)]
  · rfl

/-- what the not-in-progress branch of `handleDeployment` may answer: the submitted object as it is, or paused,
    marked in-progress and (possibly) with the stable revision recorded -/
def Keeps (new : Obj) : HRes → Prop
  | .panic => True
  | .ok _ o => o = new ∨ ∃ name sr, o = { new with stableRev := sr, paused := true, inProgress := .rollout name }

theorem Keeps.ite {new : Obj} {p : Prop} [Decidable p] {a b : HRes} (ha : Keeps new a) (hb : Keeps new b) :
    Keeps new (if p then a else b) := by
  split <;> assumption

theorem handleDeployment_keeps (new old : Obj) (ros : List Rollout) (rss : List RS) (hip : new.inProgress = .absent) :
    Keeps new (handleDeployment new old ros rss) := by
  have k : Keeps new (.ok false new) := .inl rfl
  rw [handleDeployment_gated new old ros rss hip]
  refine .ite k (gated_cases k fun ro _ => .ite k ?_)
  cases hasTrafficRoutings ro with
  | none => trivial
  | some ht =>
    refine .ite k ?_
    rcases findCanaryAndStableReplicaSet (getReplicaSetsForDeployment rss) new with _ | ⟨_, _ | s⟩
    · trivial
    · exact .inr ⟨_, new.stableRev, rfl⟩
    · exact .inr ⟨_, _, rfl⟩

theorem ofObj_toObj (n : Dep) (hip : n.inProgress = false) : ofObj n (toObj n) = n := by
  cases n; simp only at hip; subst hip; rfl

/-- the strategy the partition-style in-progress branch writes back; `m4` is `isEffectiveDeploymentRevisionChange(oldObj, newObj)`,
    which pauses the parked strategy (`admit_cases` leaves it open) -/
def admitStrategy (n : Dep) (m4 : Bool) : DepStrategy :=
  let s := getStrategy n
  let s := if n.stratRU.isSome then { s with ru := n.stratRU } else s
  let s := if m4 then { s with paused := true } else s
  setDefaultDeploymentStrategy s

/-- inversion of `submit` (`handleDeployment` on the edited object), by the in-progress annotation and the rolling style of the
    submitted strategy annotation.  In progress and partition-style: `spec.strategy` is parked (`RollingUpdate` becomes
    `Recreate`, the block moves into the annotation).  In progress otherwise: a `Recreate` is reverted to the stored strategy.
    Not in progress: the edited object as it is, or a release starts (paused, marked in progress) -/
theorem admit_cases (w : World) (d : Dep) (e : Edit) (d' : Dep) (h : submit w d e = .val d') :
    ((applyEdit d e).inProgress = true ∧ isPartitionStyle (getStrategy (applyEdit d e)) = true ∧ ∃ m4 : Bool,
        d' = { applyEdit d e with
                 paused := true,
                 stratType := if (applyEdit d e).stratType == "RollingUpdate" then "Recreate" else (applyEdit d e).stratType,
                 stratRU := none,
                 stratAnno := .valid (admitStrategy (applyEdit d e) m4) }) ∨
    ((applyEdit d e).inProgress = true ∧ isPartitionStyle (getStrategy (applyEdit d e)) = false ∧
        d' = if (applyEdit d e).stratType == "Recreate"
             then { applyEdit d e with paused := true, stratType := d.stratType, stratRU := d.stratRU }
             else { applyEdit d e with paused := true }) ∨
    ((applyEdit d e).inProgress = false ∧
        (d' = applyEdit d e ∨
         ∃ sr, d' = { applyEdit d e with paused := true, inProgress := true, stableRev := sr })) := by
  unfold submit at h
  simp only at h
  generalize applyEdit d e = n at h ⊢
  cases hip : n.inProgress
  · refine .inr (.inr ⟨rfl, ?_⟩)
    have hk := handleDeployment_keeps (toObj n) (toObj d) (worldRollouts w) (worldRSs w)
      (by simp only [toObj, hip]; rfl)
    revert h hk
    cases handleDeployment (toObj n) (toObj d) (worldRollouts w) (worldRSs w) with
    | panic => intro h; cases h
    | ok c o =>
      intro h hk
      cases h
      rcases hk with rfl | ⟨name, sr', rfl⟩
      · exact .inl (ofObj_toObj n hip)
      · exact .inr ⟨sr', rfl⟩
  · rw [handleDeployment_inProgress (by simp [toObj, hip])] at h
    unfold handleDeploymentInProgress at h
    simp only [show getDeploymentStrategy (toObj n) = getStrategy n from rfl,
      show (toObj n).hasOrigStrategy = false from rfl, Bool.false_eq_true, if_false] at h
    cases hps : isPartitionStyle (getStrategy n)
    · refine .inr (.inl ⟨rfl, rfl, ?_⟩)
      simp only [hps, Bool.false_eq_true, if_false, Out.val.injEq] at h
      subst h
      obtain ⟨rep, pa, st, ru, an, co, cl, sr, es, ip, tm, rs⟩ := n
      cases hip
      cases ht : (st == "Recreate") <;> simp only [toObj, ht] <;> rfl
    · refine .inl ⟨rfl, rfl, ?_⟩
      simp only [hps, if_true] at h
      generalize isEffectiveRevisionChange _ _ = m4 at h
      simp only [Out.val.injEq] at h
      subst h
      obtain ⟨rep, pa, st, ru, an, co, cl, sr, es, ip, tm, rs⟩ := n
      cases hip
      refine ⟨m4, ?_⟩
      cases ht : (st == "RollingUpdate") <;> simp only [toObj, ht] <;> rfl

theorem applyEdit_eq (d : Dep) (e : Edit) :
    applyEdit d e =
      { d with tmpl := e.tmpl.getD d.tmpl,
               stratType := match e.strat with
                            | some (t, _) => t
                            | none => d.stratType,
               stratRU := match e.strat with
                          | some (_, ru) => ru
                          | none => d.stratRU,
               paused := e.paused.getD d.paused,
               replicas := match e.replicas with
                           | some r => some r
                           | none => d.replicas } := by
  unfold applyEdit
  rcases e.strat with _ | ⟨t, ru⟩ <;> cases e.tmpl <;> cases e.paused <;> cases e.replicas <;> rfl

theorem applyEdit_frame (d : Dep) (e : Edit) :
    (applyEdit d e).stratAnno = d.stratAnno ∧ (applyEdit d e).inProgress = d.inProgress ∧
    (applyEdit d e).control = d.control ∧ (applyEdit d e).ctrlLabel = d.ctrlLabel ∧
    (applyEdit d e).extraStatus = d.extraStatus ∧ (applyEdit d e).stableRev = d.stableRev ∧
    (applyEdit d e).rest = d.rest := by
  rw [applyEdit_eq]
  exact ⟨rfl, rfl, rfl, rfl, rfl, rfl, rfl⟩

theorem getStrategy_congr {a b : Dep} (h : a.stratAnno = b.stratAnno) : getStrategy a = getStrategy b := by
  unfold getStrategy; rw [h]

theorem admitStrategy_eq (n : Dep) (m4 : Bool) :
    ∃ s, admitStrategy n m4 = setDefaultDeploymentStrategy s ∧ s.partition = (getStrategy n).partition ∧
      s.rollingStyle = (getStrategy n).rollingStyle ∧
      s.ru = if n.stratRU.isSome then n.stratRU else (getStrategy n).ru := by
  unfold admitStrategy
  cases m4 <;> cases n.stratRU.isSome <;> exact ⟨_, rfl, rfl, rfl, rfl⟩

theorem admitStrategy_partition (n : Dep) (m4 : Bool) : (admitStrategy n m4).partition = (getStrategy n).partition := by
  obtain ⟨s, hs, hp, _⟩ := admitStrategy_eq n m4
  rw [hs, (setDefault_frame s).1, hp]

theorem admitStrategy_style (n : Dep) (m4 : Bool) : (admitStrategy n m4).rollingStyle = (getStrategy n).rollingStyle := by
  obtain ⟨s, hs, _, hp, _⟩ := admitStrategy_eq n m4
  rw [hs, (setDefault_frame s).2.1, hp]

theorem submit_frame {w : World} {d d' : Dep} {e : Edit} (h : submit w d e = .val d') :
    d'.rest = d.rest ∧ d'.control = d.control ∧ d'.ctrlLabel = d.ctrlLabel ∧ d'.extraStatus = d.extraStatus ∧
    d'.replicas = (applyEdit d e).replicas ∧ (getStrategy d').partition = (getStrategy d).partition := by
  obtain ⟨fa, _, fc, fl, fe, _, fr⟩ := applyEdit_frame d e
  have fp := congrArg DepStrategy.partition (getStrategy_congr fa)
  rcases admit_cases w d e d' h with ⟨_, _, m4, rfl⟩ | ⟨_, _, rfl⟩ | ⟨_, rfl | ⟨sr, rfl⟩⟩
  · exact ⟨fr, fc, fl, fe, rfl, (admitStrategy_partition _ m4).trans fp⟩
  · split <;> exact ⟨fr, fc, fl, fe, rfl, fp⟩
  · exact ⟨fr, fc, fl, fe, rfl, fp⟩
  · exact ⟨fr, fc, fl, fe, rfl, fp⟩

theorem stepAllow_nonneg (rel : Rel) (r : Int) (s : Step) : 0 ≤ stepAllow rel r s := by
  unfold stepAllow
  split
  · split
    · exact Int.le_max_left _ _
    · exact Int.le_refl 0
  · exact Int.le_refl 0

theorem allowedMax_nonneg (rel : Rel) (r : Int) (ss : List Step) : 0 ≤ allowedMax rel r ss := by
  cases ss with
  | nil => exact Int.le_refl 0
  | cons s ss => exact Int.le_trans (stepAllow_nonneg rel r s) (Int.le_max_left _ _)

theorem step_limit {c : Cfg} {d : Dep} {r : Int} {s : Step} {o : StepOut}
    (hrep : d.replicas = some r) (hns : s.edit.replicas = none) (h : step c (some d) s = .val o) :
    ∃ d', o.dep = some d' ∧ d'.replicas = some r ∧ limitOf d' ≤ max (limitOf d) (stepAllow c.rel r s) := by
  have h0 := limitOf_nonneg d
  by_cases hc : s.call = .submit
  · simp only [step, hc] at h
    cases ha : submit c.world d s.edit with
    | panic => rw [ha] at h; cases h
    | val d' =>
      rw [ha] at h; cases h
      obtain ⟨_, _, _, _, fr, fp⟩ := submit_frame ha
      have hr' : d'.replicas = some r := by rw [fr, applyEdit_eq, hns]; exact hrep
      exact ⟨d', rfl, hr', by rw [limitOf_eq hr', limitOf_eq hrep, fp]; exact Int.le_max_left _ _⟩
  · rcases (step_ran hc h).obj with ⟨hdep, _⟩ | ⟨d0, r0, d', hd, hrep0, hsome, hdep, _⟩
    · exact ⟨d, hdep, hrep, Int.le_max_left _ _⟩
    · cases hd
      rw [hrep] at hrep0; cases hrep0
      refine ⟨d', hdep, ?_⟩
      cases hcall : s.call
      · obtain ⟨_, rfl⟩ := ctrlInitialize_some (writeOf_init c.rel d r hcall ▸ hsome)
        exact ⟨hrep, by rw [initialized_limit]; omega⟩
      · obtain ⟨e, p, rfl⟩ := upgrade_write hcall hsome
        have hr' : (upgraded d e).replicas = some r := hrep
        have h1 := limit_le_calc e r
        have h2 : stepAllow c.rel r s = max 0 (calcBatchReplicas r e) := by simp only [stepAllow, hcall, p.entry, if_true]
        refine ⟨hr', ?_⟩
        rw [limitOf_eq hr', h2]
        show newRSReplicasLimit e r ≤ _
        omega
      · obtain ⟨_, rfl⟩ := ctrlFinalize_some (writeOf_fin c.rel d r hcall ▸ hsome)
        cases s.bpNil
        · exact ⟨hrep, Int.le_max_left _ _⟩
        · have hr' : (finalized d true).replicas = some r := hrep
          exact ⟨hr', by rw [limitOf_eq hr']; show newRSReplicasLimit (int 0) r ≤ _; rw [limit_int0]; omega⟩
      · exact absurd hcall hc

/-! ### the round-trip invariant: "the user's `rollingUpdate` block `u` is still recoverable" -/

/-- no mark of a rollout on the Deployment.  It serves the un-paused case of `Inv`: every write that puts a rollout's marks on
    the Deployment also pauses it -/
def Clean (d : Dep) : Prop :=
  d.control = .none ∧ d.ctrlLabel = false ∧ d.extraStatus = false ∧ d.stableRev = ""

/-- where the user's strategy lives -/
inductive Shape (d : Dep) (u : RU) : Prop where
  /-- in `spec.strategy`, nothing parked -/
  | user : d.stratType = "RollingUpdate" → d.stratRU = some u → d.stratAnno = .absent → Shape d u
  /-- parked in the annotation by `Initialize` / the webhook; a block left in `spec.strategy.rollingUpdate` must be `u` itself,
      because a re-`Initialize` prefers it over the annotation (`initStrategy`) -/
  | parked (s : DepStrategy) : d.stratType = "Recreate" → d.paused = true → d.stratAnno = .valid s →
      s.rollingStyle = "Partition" → s.ru = some u → (d.stratRU = none ∨ d.stratRU = some u) → Shape d u
  /-- re-submitted by the user into `spec.strategy` while an (older) copy is parked -/
  | resubmitted (s : DepStrategy) : d.stratType = "RollingUpdate" → d.stratRU = some u → d.paused = true →
      d.stratAnno = .valid s → s.rollingStyle = "Partition" → Shape d u

/-- from `d`, a complete `Finalize` of a claimed Deployment gives back `RollingUpdate` + `u` (`inv_finalize`); if `d` is not
    paused, where `Finalize` writes nothing, `d` carries no mark of a rollout (`clean`) -/
structure Inv (d : Dep) (u : RU) : Prop where
  clean : d.paused = false → Clean d
  shape : Shape d u

theorem clean_of_paused {d : Dep} (h : d.paused = true) : d.paused = false → Clean d := by
  intro hp; rw [h] at hp; cases hp

theorem getStrategy_valid {d : Dep} {s : DepStrategy} (h : d.stratAnno = .valid s) : getStrategy d = s := by
  simp only [getStrategy, h]

theorem inv_initialize {d d' : Dep} {u : RU} (hu : ruValid u = true) (hi : Inv d u)
    (h : ctrlInitialize d = some d') : Inv d' u := by
  obtain ⟨_, rfl⟩ := ctrlInitialize_some h
  refine ⟨clean_of_paused rfl, ?_⟩
  have key : ∀ ru, (match d.stratRU with
        | some r => some r
        | none => (getStrategy d).ru) = some u → d.stratRU = ru → (ru = none ∨ ru = some u) → Shape (initialized d) u := by
    intro ru hru h1 h2
    have hs : initStrategy d = { paused := false, partition := int 0, rollingStyle := "Partition", ru := some u } := by
      unfold initStrategy
      rw [hru]
      exact setDefault_valid _ u rfl rfl hu
    exact Shape.parked _ rfl rfl rfl (by rw [hs]) (by rw [hs]) (h1 ▸ h2)
  rcases hi.shape with ⟨_, h2, _⟩ | ⟨s, _, _, h3, _, h5, h6⟩ | ⟨s, _, h2, _, _, _⟩
  · exact key (some u) (by rw [h2]) h2 (.inr rfl)
  · rcases h6 with h6 | h6
    · exact key none (by rw [h6, getStrategy_valid h3]; exact h5) h6 (.inl rfl)
    · exact key (some u) (by rw [h6]) h6 (.inr rfl)
  · exact key (some u) (by rw [h2]) h2 (.inr rfl)

theorem inv_upgrade {d : Dep} {u : RU} (e : IntOrPct) (hi : Inv d u) (hund : isUnderRolloutControl d = true) :
    Inv (upgraded d e) u := by
  have ht : d.stratType = "Recreate" ∧ d.paused = true := by
    unfold isUnderRolloutControl at hund
    split at hund
    · cases hund
    · split at hund
      · cases hund
      · next ht => exact ⟨by simpa using ht, hund⟩
  refine ⟨clean_of_paused ht.2, ?_⟩
  rcases hi.shape with ⟨h1, _, _⟩ | ⟨s, h1, h2, h3, h4, h5, h6⟩ | ⟨s, h1, _⟩
  · exact absurd (ht.1.symm.trans h1) (by decide)
  · exact Shape.parked { s with partition := e } h1 h2 (by rw [upgraded, getStrategy_valid h3]) h4 h5 h6
  · exact absurd (ht.1.symm.trans h1) (by decide)

theorem inv_finalize {d : Dep} {u : RU} {bpNil : Bool} (hu : ruValid u = true) (hi : Inv d u)
    (hcl : claimed d = true) : Inv (finalized d bpNil) u ∧ (bpNil = true → restored (finalized d bpNil) u = true) := by
  have hpa : d.paused = true := (Bool.and_eq_true _ _ ▸ hcl).2
  cases bpNil
  · -- only the control-info goes
    refine ⟨⟨clean_of_paused hpa, ?_⟩, fun hh => by cases hh⟩
    rcases hi.shape with ⟨h1, h2, h3⟩ | ⟨s, h1, h2, h3, h4, h5, h6⟩ | ⟨s, h1, h2, h3, h4, h5⟩
    · exact Shape.user h1 h2 h3
    · exact Shape.parked s h1 h2 h3 h4 h5 h6
    · exact Shape.resubmitted s h1 h2 h3 h4 h5
  · have hshape : (finalized d true).stratType = "RollingUpdate" ∧ (finalized d true).stratRU = some u := by
      simp only [finalized, if_true]
      rcases hi.shape with ⟨h1, h2, _⟩ | ⟨s, h1, _, h3, _, h5, _⟩ | ⟨s, h1, h2, _⟩
      · rw [h1, h2]; exact ⟨rfl, rfl⟩
      · rw [h1, getStrategy_valid h3, h5]
        exact ⟨rfl, mergeRU_full _ u hu⟩
      · rw [h1, h2]; exact ⟨rfl, rfl⟩
    obtain ⟨t1, t2⟩ := hshape
    refine ⟨⟨fun _ => ⟨rfl, rfl, rfl, rfl⟩, Shape.user t1 t2 rfl⟩, fun _ => ?_⟩
    simp only [restored, t1, t2, beq_self_eq_true, Bool.true_and]
    rfl

theorem inv_applyEdit {d : Dep} {u : RU} {e : Edit} (hu : ruValid u = true) (hi : Inv d u) (he : editOK e = true) :
    Inv (applyEdit d e) (editRU u e) ∧ ruValid (editRU u e) = true := by
  obtain ⟨fa, _, fc, fl, fe, fs, _⟩ := applyEdit_frame d e
  simp only [editOK, Bool.and_eq_true] at he
  obtain ⟨hp, hst⟩ := he
  have fp : (applyEdit d e).paused = d.paused := by
    rw [applyEdit_eq, Option.isNone_iff_eq_none.mp hp]; rfl
  have hclean : (applyEdit d e).paused = false → Clean (applyEdit d e) := by
    intro h; rw [fp] at h
    obtain ⟨c1, c2, c3, c4⟩ := hi.clean h
    exact ⟨fc.trans c1, fl.trans c2, fe.trans c3, fs.trans c4⟩
  cases hs : e.strat with
  | none =>
    obtain ⟨ft, fr⟩ : (applyEdit d e).stratType = d.stratType ∧ (applyEdit d e).stratRU = d.stratRU := by
      rw [applyEdit_eq, hs]; exact ⟨rfl, rfl⟩
    have : editRU u e = u := by simp only [editRU, hs]
    rw [this]
    refine ⟨⟨hclean, ?_⟩, hu⟩
    rcases hi.shape with ⟨h1, h2, h3⟩ | ⟨s, h1, h2, h3, h4, h5, h6⟩ | ⟨s, h1, h2, h3, h4, h5⟩
    · exact Shape.user (ft.trans h1) (fr.trans h2) (fa.trans h3)
    · exact Shape.parked s (ft.trans h1) (fp.trans h2) (fa.trans h3) h4 h5 (fr ▸ h6)
    · exact Shape.resubmitted s (ft.trans h1) (fr.trans h2) (fp.trans h3) (fa.trans h4) h5
  | some tr =>
    obtain ⟨t, ru⟩ := tr
    rw [hs] at hst
    cases ru with
    | none => cases hst
    | some u' =>
      simp only [Bool.and_eq_true, beq_iff_eq] at hst
      obtain ⟨rfl, hu'⟩ := hst
      obtain ⟨ft, fr⟩ : (applyEdit d e).stratType = "RollingUpdate" ∧ (applyEdit d e).stratRU = some u' := by
        rw [applyEdit_eq, hs]; exact ⟨rfl, rfl⟩
      have : editRU u e = u' := by simp only [editRU, hs]
      rw [this]
      refine ⟨⟨hclean, ?_⟩, hu'⟩
      rcases hi.shape with ⟨_, _, h3⟩ | ⟨s, _, h2, h3, h4, _, _⟩ | ⟨s, _, _, h3, h4, h5⟩
      · exact Shape.user ft fr (fa.trans h3)
      · exact Shape.resubmitted s ft fr (fp.trans h2) (fa.trans h3) h4
      · exact Shape.resubmitted s ft fr (fp.trans h3) (fa.trans h4) h5

theorem admitStrategy_ru {n : Dep} {u : RU} (m4 : Bool) (hu : ruValid u = true)
    (hs : (getStrategy n).rollingStyle = "Partition")
    (hru : (if n.stratRU.isSome then n.stratRU else (getStrategy n).ru) = some u) :
    (admitStrategy n m4).ru = some u := by
  obtain ⟨s, he, _, h1, h2⟩ := admitStrategy_eq n m4
  rw [he, setDefault_valid s u (h1.trans hs) (h2.trans hru) hu]
  exact h2.trans hru

theorem inv_webhook {w : World} {d d' : Dep} {u : RU} {e : Edit} (hu : ruValid u = true) (hi : Inv (applyEdit d e) u)
    (h : submit w d e = .val d') : Inv d' u := by
  have hc := admit_cases w d e d' h
  -- `n`: the submitted object
  generalize applyEdit d e = n at hc hi
  rcases hc with ⟨_, hps, m4, rfl⟩ | ⟨_, hps, rfl⟩ | ⟨_, rfl | ⟨sr, rfl⟩⟩
  · -- partition-style in-progress branch: the block moves into the annotation
    refine ⟨clean_of_paused rfl, ?_⟩
    obtain ⟨s, h3, h4, hru, ht⟩ : ∃ s, n.stratAnno = .valid s ∧ s.rollingStyle = "Partition" ∧
        (if n.stratRU.isSome then n.stratRU else s.ru) = some u ∧
        (n.stratType = "Recreate" ∨ n.stratType = "RollingUpdate") := by
      rcases hi.shape with ⟨_, _, h3⟩ | ⟨s, h1, _, h3, h4, h5, h6⟩ | ⟨s, h1, h2, _, h4, h5⟩
      · have : getStrategy n = DepStrategy.zero := by simp only [getStrategy, h3]
        rw [this, isPartitionStyle_zero] at hps; cases hps
      · exact ⟨s, h3, h4, by rcases h6 with h6 | h6 <;> simp [h6, h5], .inl h1⟩
      · exact ⟨s, h4, h5, by simp [h2], .inr h1⟩
    have hgs := getStrategy_valid h3
    refine Shape.parked (admitStrategy n m4) ?_ rfl rfl ((admitStrategy_style n m4).trans (hgs ▸ h4))
      (admitStrategy_ru m4 hu (hgs ▸ h4) (hgs ▸ hru)) (.inl rfl)
    rcases ht with ht | ht <;> simp [ht]
  · -- other in-progress branch: only possible when nothing is parked
    rcases hi.shape with ⟨h1, h2, h3⟩ | ⟨s, _, _, h3, h4, _, _⟩ | ⟨s, _, _, _, h4, h5⟩
    · rw [if_neg (by rw [h1]; decide)]
      exact ⟨clean_of_paused rfl, Shape.user h1 h2 h3⟩
    · rw [getStrategy_valid h3, isPartitionStyle_Partition s h4] at hps; cases hps
    · rw [getStrategy_valid h4, isPartitionStyle_Partition s h5] at hps; cases hps
  · exact hi
  · refine ⟨clean_of_paused rfl, ?_⟩
    rcases hi.shape with ⟨h1, h2, h3⟩ | ⟨s, h1, h2, h3, h4, h5, h6⟩ | ⟨s, h1, h2, h3, h4, h5⟩
    · exact Shape.user h1 h2 h3
    · exact Shape.parked s h1 rfl h3 h4 h5 h6
    · exact Shape.resubmitted s h1 h2 rfl h4 h5

theorem inv_write {rel : Rel} {s : Step} {d d' : Dep} {r : Int} {u : RU} (hu : ruValid u = true) (hi : Inv d u)
    (h : writeOf rel s d r = some d') : Inv d' u := by
  cases hcall : s.call
  · exact inv_initialize hu hi (writeOf_init rel d r hcall ▸ h)
  · obtain ⟨e, p, rfl⟩ := upgrade_write hcall h
    exact inv_upgrade e hi p.under
  · obtain ⟨hcl, rfl⟩ := ctrlFinalize_some (writeOf_fin rel d r hcall ▸ h)
    exact (inv_finalize hu hi hcl).1
  · simp only [writeOf, hcall] at h; cases h

end RV.CtlPDeploy
