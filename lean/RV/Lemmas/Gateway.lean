/-
  Lemmas for the Gateway model (C13).  After three facts about `filterMap` and `all2`: the index-based Go helpers
  (`getServiceBackendRef`, `setServiceBackendRef`, `filterOutServiceBackendRef`) are characterised by structural
  equations and by the core `List` functions of the oracle; then come the rule-level facts (finalise; the match step,
  whose header loop is `keptLoop` and whose generated rules are `genRules`, each related to the user rule it came from
  by `GenFrom`; the weight step), the three builders behind `buildDesired` (each keeps `inv`, leaves what Finalise
  restores, is idempotent), the two provider calls, and (section `semantics`) that a narrow match accepts only
  requests the user's rule and match accept.
-/
import RV.Oracle.C13
namespace RV.Gateway
open RV.Oracle.C13

theorem filterMap_ite {α β} (p : α → Bool) (f : α → β) (l : List α) :
    l.filterMap (fun a => if p a then none else some (f a)) = (l.filter (fun a => !p a)).map f := by
  induction l with
  | nil => rfl
  | cons a as ih =>
    cases h : p a <;> simp [h, ih]

theorem filterMap_idem {α} (f : α → Option α) (l : List α)
    (h : ∀ x ∈ l, ∀ x', f x = some x' → f x' = some x') : (l.filterMap f).filterMap f = l.filterMap f := by
  induction l with
  | nil => rfl
  | cons a as ih =>
    have ih := ih fun x hx => h x (List.mem_cons_of_mem _ hx)
    cases ha : f a with
    | none => simpa [List.filterMap_cons, ha] using ih
    | some a' => simp [ha, h a (List.mem_cons_self ..) a' ha, ih]

theorem all2_map {α β} (p : α → β → Bool) (f : α → β) (l : List α)
    (h : ∀ a ∈ l, p a (f a) = true) : all2 p l (l.map f) = true := by
  induction l with
  | nil => rfl
  | cons a as ih =>
    simp only [List.map_cons, all2, Bool.and_eq_true]
    exact ⟨h a (List.mem_cons_self ..), ih (fun b hb => h b (List.mem_cons_of_mem _ hb))⟩

theorem isSvc_iff {r : Ref} {n : String} :
    isSvc r n = true ↔ r.kind = some "Service" ∧ r.name = n := by
  simp [isSvc]

theorem isSvc_name {r : Ref} {n : String} (h : isSvc r n = true) : r.name = n :=
  (isSvc_iff.1 h).2

theorem isSvc_kind {r : Ref} {n : String} (h : isSvc r n = true) : r.kind = some "Service" :=
  (isSvc_iff.1 h).1

theorem isSvc_self {r : Ref} (h : r.kind = some "Service") : isSvc r r.name = true :=
  isSvc_iff.2 ⟨h, rfl⟩

theorem isSvc_ne {r : Ref} {n m : String} (h : isSvc r n = true) (hnm : n ≠ m) :
    isSvc r m = false := by
  cases hm : isSvc r m with
  | false => rfl
  | true => exact absurd ((isSvc_name h).symm.trans (isSvc_name hm)) hnm

theorem isSvc_other {x : Ref} {n : String} (hn : n ≠ x.name) : isSvc x n = false := by
  cases h : isSvc x n with
  | false => rfl
  | true => exact absurd (isSvc_name h).symm hn

@[simp] theorem isSvc_setW (r : Ref) (w : Int) (n : String) : isSvc (setW r w) n = isSvc r n := rfl

@[simp] theorem isSvc_withWeight (r : Ref) (w : Option Int) (n : String) :
    isSvc { r with weight := w } n = isSvc r n := rfl

@[simp] theorem findSvc_nil (n : String) : findSvc [] n = none := rfl
@[simp] theorem hasSvc_nil (n : String) : hasSvc [] n = false := rfl
@[simp] theorem eraseSvc_nil (n : String) : eraseSvc [] n = [] := rfl

theorem findSvc_cons (r : Ref) (rs : List Ref) (n : String) :
    findSvc (r :: rs) n = if isSvc r n then some r else findSvc rs n := by
  simp only [findSvc, List.find?_cons]
  cases isSvc r n <;> rfl

theorem hasSvc_cons (r : Ref) (rs : List Ref) (n : String) :
    hasSvc (r :: rs) n = (isSvc r n || hasSvc rs n) := List.any_cons

theorem eraseSvc_cons (r : Ref) (rs : List Ref) (n : String) :
    eraseSvc (r :: rs) n = if isSvc r n then rs else r :: eraseSvc rs n := by
  simp only [eraseSvc, List.eraseP_cons]
  cases isSvc r n <;> rfl

theorem findSvc_isSome (refs : List Ref) (n : String) :
    (findSvc refs n).isSome = hasSvc refs n := by
  induction refs with
  | nil => rfl
  | cons r rs ih => rw [findSvc_cons, hasSvc_cons, ← ih]; cases isSvc r n <;> rfl

theorem findSvc_some_isSvc {refs : List Ref} {n : String} {s : Ref}
    (h : findSvc refs n = some s) : isSvc s n = true :=
  List.find?_some (p := (isSvc · n)) h

theorem findSvc_eq_none {refs : List Ref} {n : String} :
    findSvc refs n = none ↔ hasSvc refs n = false := by
  rw [← findSvc_isSome]; cases findSvc refs n <;> simp

theorem hasSvc_of_findSvc {refs : List Ref} {n : String} {s : Ref}
    (h : findSvc refs n = some s) : hasSvc refs n = true := by
  rw [← findSvc_isSome, h]; rfl

theorem getRef_snd (refs : List Ref) (n : String) :
    (getRef refs n).map (·.2) = findSvc refs n := by
  induction refs with
  | nil => rfl
  | cons r rs ih =>
    rw [findSvc_cons, getRef, ← ih]
    cases isSvc r n
    · cases getRef rs n <;> rfl
    · rfl

theorem getRef_eq_none {refs : List Ref} {n : String} :
    getRef refs n = none ↔ findSvc refs n = none := by
  rw [← getRef_snd]; cases getRef refs n <;> simp

theorem getRef_eq_some {refs : List Ref} {n : String} {i : Nat} {s : Ref}
    (h : getRef refs n = some (i, s)) : findSvc refs n = some s := by
  rw [← getRef_snd, h]; rfl

theorem getRef_isSome (refs : List Ref) (n : String) :
    (getRef refs n).isSome = hasSvc refs n := by
  rw [← findSvc_isSome, ← getRef_snd]; cases getRef refs n <;> rfl

theorem filterOut_eq (refs : List Ref) (n : String) : filterOut refs n = eraseSvc refs n := by
  induction refs with
  | nil => rfl
  | cons r rs ih =>
    rw [eraseSvc_cons, ← ih]
    simp only [filterOut, getRef]
    cases isSvc r n
    · cases getRef rs n <;> rfl
    · rfl

section setRef
variable {x : Ref} {n : String} (hx : isSvc x n = true)
include hx

theorem setRef_nil : setRef [] x = [x] := by
  simp [setRef, isSvc_kind hx, getRef]

theorem setRef_cons (r : Ref) (rs : List Ref) :
    setRef (r :: rs) x = if isSvc r n then x :: rs else r :: setRef rs x := by
  obtain ⟨hk, rfl⟩ := isSvc_iff.1 hx
  simp only [setRef, hk, bne_self_eq_false, Bool.false_eq_true, if_false, getRef]
  cases isSvc r x.name
  · cases getRef rs x.name <;> rfl
  · rfl

theorem findSvc_setRef_self (refs : List Ref) : findSvc (setRef refs x) n = some x := by
  induction refs with
  | nil => simp [setRef_nil hx, findSvc_cons, hx]
  | cons r rs ih => rw [setRef_cons hx]; split <;> simp [findSvc_cons, *]

theorem findSvc_setRef_other (refs : List Ref) {m : String} (hm : m ≠ n) :
    findSvc (setRef refs x) m = findSvc refs m := by
  induction refs with
  | nil => simp [setRef_nil hx, findSvc_cons, isSvc_ne hx hm.symm]
  | cons r rs ih =>
    rw [setRef_cons hx]
    split
    · simp [findSvc_cons, isSvc_ne hx hm.symm, isSvc_ne ‹_› hm.symm]
    · simp [findSvc_cons, ih]

theorem hasSvc_setRef (refs : List Ref) (m : String) :
    hasSvc (setRef refs x) m = (hasSvc refs m || m == n) := by
  rw [← findSvc_isSome, ← findSvc_isSome]
  by_cases hm : m = n
  · subst hm; simp [findSvc_setRef_self hx]
  · simp [findSvc_setRef_other hx refs hm, hm]

theorem eraseSvc_setRef_self (refs : List Ref) : eraseSvc (setRef refs x) n = eraseSvc refs n := by
  induction refs with
  | nil => simp [setRef_nil hx, eraseSvc_cons, hx]
  | cons r rs ih => rw [setRef_cons hx]; split <;> simp [eraseSvc_cons, *]

theorem eraseSvc_setRef_other (refs : List Ref) {m : String} (hm : m ≠ n) :
    eraseSvc (setRef refs x) m = setRef (eraseSvc refs m) x := by
  induction refs with
  | nil => simp [setRef_nil hx, eraseSvc_cons, isSvc_ne hx hm.symm]
  | cons r rs ih =>
    rw [setRef_cons hx]
    split
    · simp [eraseSvc_cons, isSvc_ne hx hm.symm, isSvc_ne ‹_› hm.symm, setRef_cons hx, *]
    · rw [eraseSvc_cons, eraseSvc_cons]
      split <;> simp [setRef_cons hx, *]

theorem setRef_same (refs : List Ref) (h : findSvc refs n = some x) : setRef refs x = refs := by
  induction refs with
  | nil => simp at h
  | cons r rs ih =>
    rw [setRef_cons hx]
    rw [findSvc_cons] at h
    split <;> simp_all

end setRef

theorem findSvc_eraseSvc_other (refs : List Ref) {n m : String} (hnm : n ≠ m) :
    findSvc (eraseSvc refs m) n = findSvc refs n := by
  induction refs with
  | nil => rfl
  | cons r rs ih =>
    rw [eraseSvc_cons]
    split
    · rw [findSvc_cons, isSvc_ne ‹_› (Ne.symm hnm)]; rfl
    · rw [findSvc_cons, findSvc_cons, ih]

theorem hasSvc_eraseSvc_other (refs : List Ref) {n m : String} (hnm : n ≠ m) :
    hasSvc (eraseSvc refs m) n = hasSvc refs n := by
  rw [← findSvc_isSome, ← findSvc_isSome, findSvc_eraseSvc_other refs hnm]

theorem eraseSvc_of_not_has {refs : List Ref} {n : String} (h : hasSvc refs n = false) :
    eraseSvc refs n = refs := by
  induction refs with
  | nil => rfl
  | cons r rs ih =>
    simp only [hasSvc_cons, Bool.or_eq_false_iff] at h
    simp [eraseSvc_cons, h.1, ih h.2]

theorem hasSvc_setFirstW (refs : List Ref) (n : String) (w : Int) (m : String) :
    hasSvc (setFirstW refs n w) m = hasSvc refs m := by
  induction refs with
  | nil => rfl
  | cons r rs ih => simp only [setFirstW]; split <;> simp [hasSvc_cons, ih]

theorem length_setFirstW (refs : List Ref) (n : String) (w : Int) :
    (setFirstW refs n w).length = refs.length := by
  induction refs with
  | nil => rfl
  | cons r rs ih => simp only [setFirstW]; split <;> simp [ih]

theorem setFirstW_of_not_has {refs : List Ref} {n : String} (w : Int) (h : hasSvc refs n = false) :
    setFirstW refs n w = refs := by
  induction refs with
  | nil => rfl
  | cons r rs ih =>
    simp only [hasSvc_cons, Bool.or_eq_false_iff] at h
    simp [setFirstW, h.1, ih h.2]

theorem setFirstW_setFirstW (refs : List Ref) (n : String) (a b : Int) :
    setFirstW (setFirstW refs n a) n b = setFirstW refs n b := by
  induction refs with
  | nil => rfl
  | cons r rs ih => simp only [setFirstW]; split <;> simp [setFirstW, setW, *]

/-- `stableRef.Weight = 1; setServiceBackendRef(&rule, *stableRef)` sets the weight of the
    first stable ref, wherever the copy `s` of it was taken from. -/
theorem setRef_weight_eq_setFirstW (refs : List Ref) {n : String} {s : Ref} (w : Int)
    (h : findSvc refs n = some s) :
    setRef refs { s with weight := some w } = setFirstW refs n w := by
  have hx : isSvc { s with weight := some w } n = true := (findSvc_some_isSvc h : isSvc s n = true)
  induction refs with
  | nil => simp at h
  | cons r rs ih =>
    rw [setRef_cons hx]
    rw [findSvc_cons] at h
    split <;> simp_all [setFirstW, setW]

theorem resetStable_eq (c : Conf) (refs : List Ref) :
    resetStable c refs = setFirstW refs c.stable 1 := by
  unfold resetStable
  cases hg : getRef refs c.stable with
  | none =>
    have := findSvc_eq_none.1 (getRef_eq_none.1 hg)
    rw [setFirstW_of_not_has 1 this]
  | some p =>
    obtain ⟨i, s⟩ := p
    exact setRef_weight_eq_setFirstW _ 1 (getRef_eq_some hg)

theorem finaliseRule_eq (c : Conf) (r : Rule) :
    finaliseRule c r =
      if hasSvc r.refs c.canary && (eraseSvc r.refs c.canary).length == 0 then none
      else some (normaliseRule c (dropCanary c r)) := by
  unfold finaliseRule
  simp only [getRef_isSome, filterOut_eq, resetStable_eq, length_setFirstW, normaliseRule, dropCanary]

theorem ruleInv_erase {c : Conf} {r : Rule} (hi : ruleInv c r = true) :
    hasSvc (eraseSvc r.refs c.canary) c.canary = false := by
  cases hk : hasSvc r.refs c.canary with
  | false => rwa [eraseSvc_of_not_has hk]
  | true =>
    simp only [ruleInv, hk, Bool.not_true, Bool.false_or, Bool.and_eq_true, Bool.not_eq_eq_eq_not] at hi
    exact hi.1

theorem dropped_iff_generated {c : Conf} (hc : c.stable ≠ c.canary) {r : Rule}
    (hi : ruleInv c r = true) :
    (hasSvc r.refs c.canary && (eraseSvc r.refs c.canary).length == 0) = isGenerated c r := by
  unfold isGenerated
  cases hk : hasSvc r.refs c.canary with
  | false => rfl
  | true =>
    cases hst : hasSvc r.refs c.stable with
    | true =>
      -- a stable ref is still there after erasing the canary ref
      have : hasSvc (eraseSvc r.refs c.canary) c.stable = true := by rwa [hasSvc_eraseSvc_other _ hc]
      cases he : eraseSvc r.refs c.canary with
      | nil => rw [he] at this; cases this
      | cons => rfl
    | false =>
      -- the canary ref is the only ref
      obtain ⟨a, ha, hp⟩ := List.any_eq_true.1 hk
      have hl : r.refs.length = 1 := by
        simp only [ruleInv, hk, hst, Bool.not_true, Bool.false_or, Bool.and_eq_true, beq_iff_eq] at hi
        exact hi.2
      have := List.length_eraseP_of_mem (p := (isSvc · c.canary)) ha hp
      rw [hl] at this
      simp [eraseSvc, this]

theorem finaliseRules_eq {c : Conf} (hc : c.stable ≠ c.canary) {rules : List Rule}
    (hi : inv c rules = true) :
    finaliseRules c rules =
      (rules.filter (fun r => !isGenerated c r)).map
        (fun r => normaliseRule c (dropCanary c r)) := by
  rw [← filterMap_ite]
  unfold finaliseRules
  induction rules with
  | nil => rfl
  | cons r rs ih =>
    have hi' := List.all_eq_true.1 hi
    have hr : ruleInv c r = true := hi' r (List.mem_cons_self ..)
    have hrs : inv c rs = true := List.all_eq_true.2 (fun x hx => hi' x (List.mem_cons_of_mem _ hx))
    simp only [List.filterMap_cons]
    rw [ih hrs, finaliseRule_eq c, dropped_iff_generated hc hr]

theorem matchKeep_eq {c : Conf} (hc : c.stable ≠ c.canary) (r : Rule) :
    matchKeep c r = if isGenerated c r then none else some (restoreRule c r) := by
  unfold matchKeep isGenerated restoreRule
  cases hk : getRef r.refs c.canary with
  | none =>
    have : hasSvc r.refs c.canary = false := findSvc_eq_none.1 (getRef_eq_none.1 hk)
    simp [this]
  | some p =>
    have hk' : hasSvc r.refs c.canary = true := hasSvc_of_findSvc (getRef_eq_some (i := p.1) (s := p.2) hk)
    cases hs : getRef r.refs c.stable with
    | none =>
      have : hasSvc r.refs c.stable = false := findSvc_eq_none.1 (getRef_eq_none.1 hs)
      simp [hk', this]
    | some q =>
      obtain ⟨i, s⟩ := q
      have hf := getRef_eq_some hs
      have : hasSvc r.refs c.stable = true := hasSvc_of_findSvc hf
      have hf' : findSvc (eraseSvc r.refs c.canary) c.stable = some s := by
        rw [findSvc_eraseSvc_other _ hc]; exact hf
      simp only [hk', this, Bool.not_true, Bool.and_false, Bool.false_eq_true, if_false, if_true,
        normaliseRule, filterOut_eq, dropCanary]
      rw [setRef_weight_eq_setFirstW _ 1 hf']

theorem restoreRule_canaryFree {c : Conf} {r : Rule} (hi : ruleInv c r = true) :
    hasSvc (restoreRule c r).refs c.canary = false := by
  unfold restoreRule
  split
  · simp only [normaliseRule, hasSvc_setFirstW]; exact ruleInv_erase hi
  · exact Bool.eq_false_iff.2 ‹_›

theorem matchKeep_of_canaryFree {c : Conf} {r : Rule} (h : hasSvc r.refs c.canary = false) :
    matchKeep c r = some r := by
  unfold matchKeep
  rw [getRef_eq_none.2 (findSvc_eq_none.2 h)]

/-- the loop of `buildCanaryHeaderHttpRoutes` over rules that `matchKeep` has let through: the generated rules -/
def keptLoop (c : Conf) (np : List UMatch) : List UMatch → List Rule → List Rule
  | _, [] => []
  | pm, rule :: rest =>
    match findSvc rule.refs c.stable with
    | none => keptLoop c np pm rest
    | some s =>
      match canaryRuleFor c np pm rule s with
      | none => keptLoop c np [] rest
      | some k => k :: keptLoop c np [] rest

theorem headerLoop_eq (c : Conf) (np : List UMatch) (rules : List Rule) :
    ∀ pm, headerLoop c np pm rules =
      (rules.filterMap (matchKeep c), keptLoop c np pm (rules.filterMap (matchKeep c))) := by
  induction rules with
  | nil => intro pm; rfl
  | cons r rs ih =>
    intro pm
    unfold headerLoop
    cases hk : matchKeep c r with
    | none => simp only [List.filterMap_cons, hk, ih]
    | some rule =>
      simp only [List.filterMap_cons, hk, keptLoop]
      cases hs : getRef rule.refs c.stable with
      | none => simp only [getRef_eq_none.1 hs, ih]
      | some q =>
        obtain ⟨i, s⟩ := q
        simp only [getRef_eq_some hs, ih]
        cases canaryRuleFor c np pm rule s <;> rfl

/-- `k` is a lawful canary rule for the user rule `orig`: what `Oracle.C13.canaryRuleOk` asks of some rule of the
    route, as a proposition about this one -/
def GenFrom (c : Conf) (ms : List UMatch) (orig k : Rule) : Prop :=
  ∃ s, findSvc orig.refs c.stable = some s ∧ k.filters = orig.filters ∧
    k.refs = [{ s with name := c.canary }] ∧ k.mts ≠ [] ∧
    ∀ m' ∈ k.mts, narrowMatch ms orig m' = true

theorem subAtoms_append_right (a b : List Atom) : subAtoms a (b ++ a) = true := by
  simp only [subAtoms, List.all_eq_true, List.contains_iff_mem, List.mem_append]
  exact fun x hx => Or.inr hx

theorem subAtoms_append_left (a b : List Atom) : subAtoms a (a ++ b) = true := by
  simp only [subAtoms, List.all_eq_true, List.contains_iff_mem, List.mem_append]
  exact fun x hx => Or.inl hx

theorem refinesU_extend (m : Match) (u : UMatch) (hu : u.path = none) :
    refinesU (extend m u) u = true := by
  simp [refinesU, extend, hu, subAtoms_append_right]

theorem refinesM_extend (m : Match) (u : UMatch) : refinesM (extend m u) m = true := by
  simp [refinesM, extend, subAtoms_append_left]

theorem combine_ne_nil (base : List Match) {np : List UMatch} (h : np ≠ []) : combine base np ≠ [] := by
  obtain ⟨u, us, rfl⟩ := List.exists_cons_of_ne_nil h
  unfold combine
  cases base <;> simp

theorem canaryRuleFor_spec {c : Conf} {ms np pm : List UMatch} {rule k : Rule} {s : Ref}
    (hpm : ∀ u ∈ pm, u ∈ ms ∧ u.path.isSome = true)
    (hnp : ∀ u ∈ np, u ∈ ms ∧ u.path = none)
    (hs : findSvc rule.refs c.stable = some s)
    (h : canaryRuleFor c np pm rule s = some k) : GenFrom c ms rule k := by
  simp only [canaryRuleFor] at h
  split at h
  · cases h
  · rename_i hE
    cases h
    refine ⟨s, hs, rfl, rfl, ?_, ?_⟩
    · simp only [Bool.and_eq_true, List.isEmpty_iff, List.map_eq_nil_iff, not_and] at hE
      intro hnil
      obtain ⟨h1, h2⟩ := List.append_eq_nil_iff.1 hnil
      by_cases hnp' : np = []
      · exact hE hnp' (List.map_eq_nil_iff.1 h1)
      · exact combine_ne_nil _ hnp' h2
    · intro m' hm'
      simp only [List.mem_append, List.mem_map] at hm'
      simp only [narrowMatch, Bool.or_eq_true, List.any_eq_true, Bool.and_eq_true, beq_iff_eq]
      rcases hm' with ⟨u, hu, rfl⟩ | hm'
      · exact Or.inl ⟨u, (hpm u hu).1, (hpm u hu).2, rfl⟩
      · simp only [combine, List.mem_flatMap, List.mem_map] at hm'
        obtain ⟨m, hm, u, hu, rfl⟩ := hm'
        have := hnp u hu
        refine Or.inr ⟨u, this.1, ⟨by simp [this.2], refinesU_extend m u this.2⟩, ?_⟩
        by_cases hb : rule.mts.isEmpty = true
        · exact Or.inl hb
        · simp only [hb, Bool.false_eq_true, if_false] at hm
          exact Or.inr ⟨m, hm, refinesM_extend m u⟩

theorem keptLoop_spec {c : Conf} {ms np : List UMatch}
    (hnp : ∀ u ∈ np, u ∈ ms ∧ u.path = none) (kept : List Rule) :
    ∀ pm, (∀ u ∈ pm, u ∈ ms ∧ u.path.isSome = true) →
      ∀ k ∈ keptLoop c np pm kept, ∃ orig ∈ kept, GenFrom c ms orig k := by
  induction kept with
  | nil => intro pm _ k hk; cases hk
  | cons rule rs ih =>
    intro pm hpm k hk
    have tl : ∀ pm', (∀ u ∈ pm', u ∈ ms ∧ u.path.isSome = true) → k ∈ keptLoop c np pm' rs →
        ∃ orig ∈ rule :: rs, GenFrom c ms orig k := fun pm' hpm' hk' =>
      let ⟨o, ho, hg⟩ := ih pm' hpm' k hk'
      ⟨o, List.mem_cons_of_mem _ ho, hg⟩
    have hnil : ∀ u ∈ ([] : List UMatch), u ∈ ms ∧ u.path.isSome = true := fun _ h => nomatch h
    unfold keptLoop at hk
    cases hs : findSvc rule.refs c.stable with
    | none => rw [hs] at hk; exact tl pm hpm hk
    | some s =>
      simp only [hs] at hk
      cases hcr : canaryRuleFor c np pm rule s with
      | none => rw [hcr] at hk; exact tl [] hnil hk
      | some k0 =>
        simp only [hcr, List.mem_cons] at hk
        rcases hk with rfl | hk
        · exact ⟨rule, List.mem_cons_self .., canaryRuleFor_spec hpm hnp hs hcr⟩
        · exact tl [] hnil hk

theorem canaryRuleOk_of_genFrom {c : Conf} {ms : List UMatch} {users : List Rule} {orig k : Rule}
    (ho : orig ∈ users) (h : GenFrom c ms orig k) : canaryRuleOk c ms users k = true := by
  obtain ⟨s, hs, hf, hr, hne, hm⟩ := h
  unfold canaryRuleOk
  simp only [Bool.and_eq_true, Bool.not_eq_eq_eq_not, Bool.not_true, List.isEmpty_eq_false_iff,
    List.any_eq_true]
  refine ⟨hne, orig, ho, ?_⟩
  simp only [hs, Bool.and_eq_true, beq_iff_eq, List.all_eq_true]
  exact ⟨⟨hf, hr⟩, hm⟩

theorem isGenerated_of_genFrom {c : Conf} (hc : c.stable ≠ c.canary) {ms : List UMatch} {orig k : Rule}
    (h : GenFrom c ms orig k) : isGenerated c k = true ∧ ruleInv c k = true := by
  obtain ⟨s, hs, _, hr, _, _⟩ := h
  have hss := findSvc_some_isSvc hs
  have h1 : isSvc { s with name := c.canary } c.canary = true :=
    isSvc_iff.2 ⟨(isSvc_kind hss : s.kind = some "Service"), rfl⟩
  have h2 : isSvc { s with name := c.canary } c.stable = false :=
    isSvc_ne h1 (Ne.symm hc)
  unfold isGenerated ruleInv
  simp [hr, hasSvc_cons, eraseSvc_cons, h1, h2]

theorem isSvc_canaryOr {c : Conf} (refs : List Ref) {s : Ref} (hs : isSvc s c.stable = true) :
    isSvc (canaryOr c refs s) c.canary = true := by
  unfold canaryOr
  cases h : findSvc refs c.canary with
  | none => exact isSvc_iff.2 ⟨(isSvc_kind hs : s.kind = _), rfl⟩
  | some k => exact findSvc_some_isSvc h

theorem weightRule_noStable {c : Conf} {w : Int} {r : Rule} (h : findSvc r.refs c.stable = none) :
    weightRule c w r = r := by
  unfold weightRule
  rw [getRef_eq_none.2 h]

theorem weightRule_stable {c : Conf} {w : Int} {r : Rule} {s : Ref}
    (h : findSvc r.refs c.stable = some s) :
    weightRule c w r =
      { r with refs := setRef (setRef r.refs (setW s (100 - w))) (setW (canaryOr c r.refs s) w) } := by
  unfold weightRule canaryOr
  cases hg : getRef r.refs c.stable with
  | none => rw [getRef_eq_none.1 hg] at h; cases h
  | some p =>
    obtain ⟨i, s'⟩ := p
    have := getRef_eq_some hg
    rw [h] at this
    cases this
    cases hk : getRef r.refs c.canary with
    | none => simp only [getRef_eq_none.1 hk]; rfl
    | some q =>
      obtain ⟨j, k⟩ := q
      simp only [getRef_eq_some hk]; rfl

section weight
variable {c : Conf} (hc : c.stable ≠ c.canary) (w : Int) (r : Rule)
include hc

omit hc in
theorem isSvc_written {s : Ref} (hs : findSvc r.refs c.stable = some s) :
    isSvc (setW s (100 - w)) c.stable = true ∧ isSvc (setW (canaryOr c r.refs s) w) c.canary = true :=
  have hss := findSvc_some_isSvc hs
  ⟨hss, isSvc_canaryOr r.refs hss⟩

theorem findSvc_weightRule {s : Ref} (hs : findSvc r.refs c.stable = some s) :
    findSvc (weightRule c w r).refs c.stable = some (setW s (100 - w)) ∧
    findSvc (weightRule c w r).refs c.canary = some (setW (canaryOr c r.refs s) w) := by
  obtain ⟨hs', hk'⟩ := isSvc_written w r hs
  rw [weightRule_stable hs]
  exact ⟨by rw [findSvc_setRef_other hk' _ hc, findSvc_setRef_self hs'], findSvc_setRef_self hk' _⟩

theorem ruleWeightOk_weightRule : ruleWeightOk c w r (weightRule c w r) = true := by
  unfold ruleWeightOk
  cases hs : findSvc r.refs c.stable with
  | none => simp [weightRule_noStable hs]
  | some s =>
    obtain ⟨hs', hk'⟩ := isSvc_written w r hs
    simp only [findSvc_weightRule hc w r hs, beq_self_eq_true, Bool.and_true]
    simp only [weightRule_stable hs, Bool.and_eq_true, beq_iff_eq, true_and]
    rw [eraseSvc_setRef_other hk' _ hc, eraseSvc_setRef_self hs', eraseSvc_setRef_self hk']

theorem weightRule_share (hs : hasSvc r.refs c.stable = true) :
    (findSvc (weightRule c w r).refs c.stable).map (·.weight) = some (some (100 - w)) ∧
    (findSvc (weightRule c w r).refs c.canary).map (·.weight) = some (some w) := by
  cases hf : findSvc r.refs c.stable with
  | none => rw [findSvc_eq_none.1 hf] at hs; cases hs
  | some s => rw [(findSvc_weightRule hc w r hf).1, (findSvc_weightRule hc w r hf).2]; exact ⟨rfl, rfl⟩

theorem hasSvc_weightRule_stable : hasSvc (weightRule c w r).refs c.stable = hasSvc r.refs c.stable := by
  cases hs : findSvc r.refs c.stable with
  | none => rw [weightRule_noStable hs]
  | some s => rw [hasSvc_of_findSvc (findSvc_weightRule hc w r hs).1, hasSvc_of_findSvc hs]

theorem isGenerated_weightRule : isGenerated c (weightRule c w r) = isGenerated c r := by
  cases hs : findSvc r.refs c.stable with
  | none => rw [weightRule_noStable hs]
  | some s => simp [isGenerated, hasSvc_weightRule_stable hc, hasSvc_of_findSvc hs]

theorem eraseSvc_weightRule {s : Ref} (hs : findSvc r.refs c.stable = some s) :
    eraseSvc (weightRule c w r).refs c.canary
      = setRef (eraseSvc r.refs c.canary) { s with weight := some (100 - w) } := by
  obtain ⟨hs', hk'⟩ := isSvc_written w r hs
  simp only [weightRule_stable hs, eraseSvc_setRef_self hk', eraseSvc_setRef_other hs' _ (Ne.symm hc)]
  rfl

theorem normalise_dropCanary_weightRule :
    normaliseRule c (dropCanary c (weightRule c w r))
      = normaliseRule c (dropCanary c r) := by
  cases hs : findSvc r.refs c.stable with
  | none => rw [weightRule_noStable hs]
  | some s =>
    have hs' : findSvc (eraseSvc r.refs c.canary) c.stable = some s := by
      rw [findSvc_eraseSvc_other _ hc]; exact hs
    simp only [normaliseRule, dropCanary, eraseSvc_weightRule hc w r hs,
      setRef_weight_eq_setFirstW _ _ hs', setFirstW_setFirstW]
    rw [weightRule_stable hs]

theorem ruleInv_weightRule (hi : ruleInv c r = true) : ruleInv c (weightRule c w r) = true := by
  cases hs : findSvc r.refs c.stable with
  | none => rw [weightRule_noStable hs]; exact hi
  | some s =>
    have hs' : isSvc ({ s with weight := some (100 - w) } : Ref) c.stable = true :=
      (findSvc_some_isSvc hs : isSvc s _ = true)
    simp [ruleInv, eraseSvc_weightRule hc w r hs, hasSvc_weightRule_stable hc, hasSvc_of_findSvc hs,
      hasSvc_setRef hs', ruleInv_erase hi, Ne.symm hc]

theorem weightRule_idem : weightRule c w (weightRule c w r) = weightRule c w r := by
  cases hs : findSvc r.refs c.stable with
  | none => rw [weightRule_noStable hs, weightRule_noStable hs]
  | some s =>
    obtain ⟨hst, hca⟩ := findSvc_weightRule hc w r hs
    obtain ⟨hs', hk'⟩ := isSvc_written w r hs
    -- second application: the stable and canary refs found are the ones just written
    rw [weightRule_stable (r := weightRule c w r) hst, canaryOr, hca]
    have e : setRef (setRef (weightRule c w r).refs (setW s (100 - w))) (setW (canaryOr c r.refs s) w)
        = (weightRule c w r).refs := by
      rw [setRef_same hs' _ hst, setRef_same hk' _ hca]
    exact congrArg (fun x => { weightRule c w r with refs := x }) e

end weight

theorem dropCanary_of_canaryFree {c : Conf} {r : Rule} (h : hasSvc r.refs c.canary = false) :
    dropCanary c r = r := by
  unfold dropCanary; rw [eraseSvc_of_not_has h]

theorem normalise_restoreRule {c : Conf} (r : Rule) :
    normaliseRule c (restoreRule c r) = normaliseRule c (dropCanary c r) := by
  unfold restoreRule
  cases hk : hasSvc r.refs c.canary with
  | false => simp only [Bool.false_eq_true, if_false, dropCanary]; rw [eraseSvc_of_not_has hk]
  | true => simp only [if_true, normaliseRule, setFirstW_setFirstW]

theorem normaliseRule_idem (c : Conf) (r : Rule) :
    normaliseRule c (normaliseRule c r) = normaliseRule c r := by
  simp only [normaliseRule, setFirstW_setFirstW]

theorem hasSvc_normaliseRule (c : Conf) (r : Rule) (n : String) :
    hasSvc (normaliseRule c r).refs n = hasSvc r.refs n := by
  simp only [normaliseRule, hasSvc_setFirstW]

theorem ruleInv_of_canaryFree {c : Conf} {r : Rule} (h : hasSvc r.refs c.canary = false) :
    ruleInv c r = true := by
  unfold ruleInv; simp [h]

theorem ne_of_confOk {c : Conf} (h : confOk c = true) : c.stable ≠ c.canary := by
  simpa [confOk] using h

theorem canaryFree_iff {c : Conf} {rules : List Rule} :
    canaryFree c rules = true ↔ ∀ r ∈ rules, hasSvc r.refs c.canary = false := by
  simp [canaryFree]

theorem inv_of_canaryFree {c : Conf} {rules : List Rule} (h : canaryFree c rules = true) :
    inv c rules = true :=
  List.all_eq_true.2 fun r hr => ruleInv_of_canaryFree (canaryFree_iff.1 h r hr)

theorem isGenerated_of_canaryFree {c : Conf} {r : Rule} (h : hasSvc r.refs c.canary = false) :
    isGenerated c r = false := by
  unfold isGenerated; simp [h]

theorem userRules_eq_filterMap {c : Conf} (hc : c.stable ≠ c.canary) (rules : List Rule) :
    rules.filterMap (matchKeep c) = userRules c rules := by
  unfold userRules
  rw [← filterMap_ite, show matchKeep c = _ from funext (matchKeep_eq hc)]

theorem userRules_of_canaryFree {c : Conf} {rules : List Rule} (h : canaryFree c rules = true) :
    userRules c rules = rules := by
  have hf := canaryFree_iff.1 h
  unfold userRules
  rw [List.filter_eq_self.2 (fun r hr => by simp [isGenerated_of_canaryFree (hf r hr)])]
  conv => rhs; rw [← List.map_id rules]
  exact List.map_congr_left fun r hr => by simp [restoreRule, hf r hr]

/-- the rules a match step appends to the user's -/
def genRules (c : Conf) (rules : List Rule) (ms : List UMatch) : List Rule :=
  keptLoop c (ms.filter fun u => u.path.isNone) (ms.filter fun u => u.path.isSome) (userRules c rules)

theorem buildHeader_filterMap (c : Conf) (rules : List Rule) (ms : List UMatch) :
    buildHeader c rules ms = rules.filterMap (matchKeep c) ++
      keptLoop c (ms.filter fun u => u.path.isNone) (ms.filter fun u => u.path.isSome)
        (rules.filterMap (matchKeep c)) := by
  simp only [buildHeader, headerLoop_eq]

theorem buildHeader_eq {c : Conf} (hc : c.stable ≠ c.canary) (rules : List Rule)
    (ms : List UMatch) : buildHeader c rules ms = userRules c rules ++ genRules c rules ms := by
  rw [buildHeader_filterMap, genRules, userRules_eq_filterMap hc]

theorem genRules_spec {c : Conf} (rules : List Rule) (ms : List UMatch) :
    ∀ k ∈ genRules c rules ms, ∃ orig ∈ userRules c rules, GenFrom c ms orig k :=
  keptLoop_spec (fun u hu => by simpa using List.mem_filter.1 hu) _ _
    (fun u hu => List.mem_filter.1 hu)

theorem userRules_canaryFree {c : Conf} {rules : List Rule} (hi : inv c rules = true) :
    ∀ r ∈ userRules c rules, hasSvc r.refs c.canary = false := by
  intro r hr
  unfold userRules at hr
  simp only [List.mem_map, List.mem_filter] at hr
  obtain ⟨x, ⟨hx, _⟩, rfl⟩ := hr
  exact restoreRule_canaryFree (List.all_eq_true.1 hi x hx)

theorem finaliseRules_of_canaryFree {c : Conf} (hc : c.stable ≠ c.canary) {rules : List Rule}
    (h : canaryFree c rules = true) : finaliseRules c rules = rules.map (normaliseRule c) := by
  have hf := canaryFree_iff.1 h
  rw [finaliseRules_eq hc (inv_of_canaryFree h),
    List.filter_eq_self.2 (fun r hr => by simp [isGenerated_of_canaryFree (hf r hr)])]
  exact List.map_congr_left fun r hr => by rw [dropCanary_of_canaryFree (hf r hr)]

theorem canaryFree_finaliseRules {c : Conf} (hc : c.stable ≠ c.canary) {rules : List Rule}
    (hi : inv c rules = true) : canaryFree c (finaliseRules c rules) = true := by
  rw [finaliseRules_eq hc hi, canaryFree_iff]
  simp only [List.mem_map, List.mem_filter]
  rintro _ ⟨x, ⟨hx, _⟩, rfl⟩
  rw [hasSvc_normaliseRule]
  exact ruleInv_erase (List.all_eq_true.1 hi x hx)

theorem buildDesired_finalise (c : Conf) (r : List Rule) (ms : List UMatch) :
    buildDesired c r (some (-1)) ms = .ok (finaliseRules c r) := by
  simp [buildDesired]

theorem buildDesired_match (c : Conf) (r : List Rule) {w : Option Int} (hw : w ≠ some (-1))
    {ms : List UMatch} (hms : ms ≠ []) : buildDesired c r w ms = .ok (buildHeader c r ms) := by
  have h1 : (w == some (-1 : Int)) = false := by simpa using hw
  have h2 : ms.isEmpty = false := by simpa using hms
  simp [buildDesired, h1, h2]

theorem buildDesired_weight (c : Conf) (r : List Rule) {w : Int} (hw : w ≠ -1) :
    buildDesired c r (some w) [] = .ok (r.map (weightRule c w)) := by
  have : (some w == some (-1 : Int)) = false := by simpa using hw
  simp [buildDesired, this, buildWeight]

theorem buildDesired_nil (c : Conf) (r : List Rule) :
    buildDesired c r none [] = if r.any fun x => (getRef x.refs c.stable).isSome then .panic else .ok r :=
  rfl

theorem step_cases (w : Option Int) (ms : List UMatch) :
    w = some (-1) ∨ (w ≠ some (-1) ∧ ms ≠ []) ∨ (w = none ∧ ms = []) ∨ ∃ v, w = some v ∧ v ≠ -1 ∧ ms = [] := by
  by_cases hw : w = some (-1)
  · exact .inl hw
  · by_cases hms : ms = []
    · cases w with
      | none => exact .inr (.inr (.inl ⟨rfl, hms⟩))
      | some v => exact .inr (.inr (.inr ⟨v, rfl, fun h => hw (h ▸ rfl), hms⟩))
    · exact .inr (.inl ⟨hw, hms⟩)

section builders
variable {c : Conf} (hc : c.stable ≠ c.canary) {r : List Rule} (hi : inv c r = true)
include hc hi

theorem finaliseRules_idem : finaliseRules c (finaliseRules c r) = finaliseRules c r := by
  rw [finaliseRules_of_canaryFree hc (canaryFree_finaliseRules hc hi), finaliseRules_eq hc hi, List.map_map]
  exact List.map_congr_left fun x _ => normaliseRule_idem c _

theorem buildHeader_preserves (ms : List UMatch) :
    inv c (buildHeader c r ms) = true ∧ finaliseRules c (buildHeader c r ms) = finaliseRules c r := by
  have hu := userRules_canaryFree hi
  have hgen : ∀ k ∈ genRules c r ms, isGenerated c k = true ∧ ruleInv c k = true := fun k hk =>
    let ⟨_, _, hg⟩ := genRules_spec r ms k hk
    isGenerated_of_genFrom hc hg
  have hinv' : inv c (userRules c r ++ genRules c r ms) = true := by
    simp only [inv, List.all_append, Bool.and_eq_true, List.all_eq_true]
    exact ⟨fun x hx => ruleInv_of_canaryFree (hu x hx), fun k hk => (hgen k hk).2⟩
  rw [buildHeader_eq hc]
  refine ⟨hinv', ?_⟩
  -- Finalise drops the generated rules; on the user rules `restoreRule` has done its work already
  rw [finaliseRules_eq hc hinv', finaliseRules_eq hc hi, List.filter_append,
    List.filter_eq_self.2 (fun x hx => by simp [isGenerated_of_canaryFree (hu x hx)]),
    List.filter_eq_nil_iff.2 (fun k hk => by simp [(hgen k hk).1]), List.append_nil, userRules, List.map_map]
  refine List.map_congr_left fun x hx => ?_
  have hx' := List.all_eq_true.1 hi x (List.mem_filter.1 hx).1
  simp only [Function.comp, dropCanary_of_canaryFree (restoreRule_canaryFree hx'), normalise_restoreRule]

theorem buildHeader_idem (ms : List UMatch) : buildHeader c (buildHeader c r ms) ms = buildHeader c r ms := by
  -- second run: `matchKeep` drops the generated rules and keeps the user rules as they are
  have hdrop : (genRules c r ms).filterMap (matchKeep c) = [] :=
    List.filterMap_eq_nil_iff.2 fun k hk => by
      obtain ⟨o, _, hg⟩ := genRules_spec r ms k hk
      rw [matchKeep_eq hc, (isGenerated_of_genFrom hc hg).1]; rfl
  have hkeep : (r.filterMap (matchKeep c)).filterMap (matchKeep c) = r.filterMap (matchKeep c) :=
    filterMap_idem _ _ fun x hx x' hx' => by
      rw [matchKeep_eq hc] at hx'
      split at hx' <;> cases hx'
      exact matchKeep_of_canaryFree (restoreRule_canaryFree (List.all_eq_true.1 hi x hx))
  have e : (buildHeader c r ms).filterMap (matchKeep c) = r.filterMap (matchKeep c) := by
    rw [buildHeader_eq hc, ← userRules_eq_filterMap hc, List.filterMap_append, hdrop, hkeep, List.append_nil]
  rw [buildHeader_filterMap, e, ← buildHeader_filterMap]

theorem weightRule_preserves (v : Int) :
    inv c (r.map (weightRule c v)) = true ∧ finaliseRules c (r.map (weightRule c v)) = finaliseRules c r := by
  have hinv' : inv c (r.map (weightRule c v)) = true := by
    simp only [inv, List.all_map, List.all_eq_true, Function.comp]
    exact fun x hx => ruleInv_weightRule hc v x (List.all_eq_true.1 hi x hx)
  refine ⟨hinv', ?_⟩
  rw [finaliseRules_eq hc hinv', finaliseRules_eq hc hi, List.filter_map, List.map_map]
  simp only [Function.comp_def, isGenerated_weightRule hc, normalise_dropCanary_weightRule hc]

end builders

/-- the two things `Props/C13.reachable` carries along a run: the shape `inv`, and what `Finalise` would restore -/
theorem step_preserves {c : Conf} (hc : c.stable ≠ c.canary) {r r' : List Rule}
    {w : Option Int} {ms : List UMatch} (hi : inv c r = true)
    (h : buildDesired c r w ms = .ok r') :
    inv c r' = true ∧ finaliseRules c r' = finaliseRules c r := by
  rcases step_cases w ms with rfl | ⟨hw, hms⟩ | ⟨rfl, rfl⟩ | ⟨v, rfl, hv, rfl⟩
  · cases (buildDesired_finalise c r ms).symm.trans h
    exact ⟨inv_of_canaryFree (canaryFree_finaliseRules hc hi), finaliseRules_idem hc hi⟩
  · cases (buildDesired_match c r hw hms).symm.trans h
    exact buildHeader_preserves hc hi ms
  · -- nil weight: unchanged (or panic)
    rw [buildDesired_nil] at h
    split at h <;> cases h
    exact ⟨hi, rfl⟩
  · cases (buildDesired_weight c r hv).symm.trans h
    exact weightRule_preserves hc hi v

theorem step_idem {c : Conf} (hc : c.stable ≠ c.canary) {r r' : List Rule}
    {w : Option Int} {ms : List UMatch} (hi : inv c r = true)
    (h : buildDesired c r w ms = .ok r') : buildDesired c r' w ms = .ok r' := by
  rcases step_cases w ms with rfl | ⟨hw, hms⟩ | ⟨rfl, rfl⟩ | ⟨v, rfl, hv, rfl⟩
  · cases (buildDesired_finalise c r ms).symm.trans h
    rw [buildDesired_finalise, finaliseRules_idem hc hi]
  · cases (buildDesired_match c r hw hms).symm.trans h
    rw [buildDesired_match c _ hw hms, buildHeader_idem hc hi]
  · rw [buildDesired_nil] at h ⊢
    split at h <;> cases h
    rw [if_neg ‹_›]
  · cases (buildDesired_weight c r hv).symm.trans h
    rw [buildDesired_weight c _ hv, List.map_map]
    exact congrArg _ (List.map_congr_left fun x _ => weightRule_idem hc v x)

theorem ensureRoutes_ok {c : Conf} {r d : List Rule} {s : Step}
    (hb : buildDesired c r s.weight s.ms = .ok d) :
    ensureRoutes c (some r) s =
      if r == d then { ret := true, err := "ok", store := some r }
      else { ret := false, err := "ok", store := some d } := by
  simp only [ensureRoutes, hb]

theorem ensureRoutes_panic {c : Conf} {r : List Rule} {s : Step}
    (hb : buildDesired c r s.weight s.ms = .panic) :
    ensureRoutes c (some r) s = { ret := false, err := "panic", store := some r } := by
  simp only [ensureRoutes, hb]

theorem finalise_some (c : Conf) (r : List Rule) :
    finalise c (some r) =
      if r == finaliseRules c r then { ret := false, err := "ok", store := some r }
      else { ret := true, err := "ok", store := some (finaliseRules c r) } := by
  simp only [finalise, buildDesired_finalise]

theorem ensureRoutes_store {c : Conf} {r d : List Rule} {s : Step}
    (hb : buildDesired c r s.weight s.ms = .ok d) :
    (ensureRoutes c (some r) s).store = some d := by
  rw [ensureRoutes_ok hb]
  by_cases he : (r == d) = true
  · rw [if_pos he, beq_iff_eq.1 he]
  · rw [if_neg he]

theorem finalise_store (c : Conf) (r : List Rule) :
    (finalise c (some r)).store = some (finaliseRules c r) := by
  rw [finalise_some]
  by_cases he : (r == finaliseRules c r) = true
  · rw [if_pos he]; exact congrArg some (beq_iff_eq.1 he)
  · rw [if_neg he]

theorem ensureRoutes_ok_inv {c : Conf} {st : Option (List Rule)} {s : Step} (h : (ensureRoutes c st s).err = "ok") :
    ∃ r d, st = some r ∧ buildDesired c r s.weight s.ms = .ok d ∧ (ensureRoutes c st s).ret = (r == d) ∧
      (ensureRoutes c st s).store = some d := by
  cases st with
  | none => simp [ensureRoutes] at h
  | some r =>
    cases hb : buildDesired c r s.weight s.ms with
    | panic => rw [ensureRoutes_panic hb] at h; simp at h
    | ok d =>
      refine ⟨r, d, rfl, hb, ?_⟩
      rw [ensureRoutes_ok hb]
      by_cases hrd : r = d
      · subst hrd; simp
      · simp [hrd]

theorem finalise_cases (c : Conf) (st : Option (List Rule)) :
    (finalise c st).err = "ok" ∧
    (((finalise c st).ret = false ∧ ∀ r, st = some r → r = finaliseRules c r) ∨
     ∃ r, st = some r ∧ (finalise c st).ret = true ∧ (finalise c st).store = some (finaliseRules c r)) := by
  cases st with
  | none => exact ⟨rfl, .inl ⟨rfl, fun _ h => by cases h⟩⟩
  | some r =>
    rw [finalise_some]
    by_cases hrd : r = finaliseRules c r
    · rw [if_pos (by rw [beq_iff_eq]; exact hrd)]
      exact ⟨rfl, .inl ⟨rfl, fun _ h => by cases h; exact hrd⟩⟩
    · rw [if_neg (by rw [beq_iff_eq]; exact hrd)]
      exact ⟨rfl, .inr ⟨r, rfl, rfl, rfl⟩⟩

section semantics
variable {Req : Type} (sem : Sem Req)

theorem all_of_subAtoms {f : Atom → Bool} {a b : List Atom} (h : subAtoms a b = true)
    (hb : b.all f = true) : a.all f = true := by
  simp only [subAtoms, List.all_eq_true, List.contains_iff_mem] at *
  exact fun x hx => hb x (h x hx)

theorem acceptsU_of_refinesU {m' : Match} {u : UMatch} {q : Req}
    (h : refinesU m' u = true) (ha : sem.acceptsM m' q = true) : sem.acceptsU u q = true := by
  simp only [refinesU, Bool.and_eq_true, Bool.or_eq_true, beq_iff_eq] at h
  simp only [Sem.acceptsM, Bool.and_eq_true] at ha
  obtain ⟨⟨hp, hh⟩, hq⟩ := h
  obtain ⟨⟨⟨ap, ah⟩, aq⟩, _⟩ := ha
  simp only [Sem.acceptsU, Bool.and_eq_true]
  refine ⟨⟨?_, all_of_subAtoms hh ah⟩, all_of_subAtoms hq aq⟩
  rcases hp with hp | hp
  · rw [Option.isNone_iff_eq_none.1 hp]
  · rw [← hp]; exact ap

theorem acceptsM_of_refinesM {m' m0 : Match} {q : Req}
    (h : refinesM m' m0 = true) (ha : sem.acceptsM m' q = true) : sem.acceptsM m0 q = true := by
  simp only [refinesM, Bool.and_eq_true, Bool.or_eq_true, beq_iff_eq] at h
  simp only [Sem.acceptsM, Bool.and_eq_true] at ha ⊢
  obtain ⟨⟨⟨hp, hh⟩, hq⟩, hm⟩ := h
  obtain ⟨⟨⟨ap, ah⟩, aq⟩, am⟩ := ha
  refine ⟨⟨⟨?_, all_of_subAtoms hh ah⟩, all_of_subAtoms hq aq⟩, ?_⟩
  · rcases hp with hp | hp
    · rw [Option.isNone_iff_eq_none.1 hp]
    · rw [← hp]; exact ap
  · rcases hm with hm | hm
    · rw [Option.isNone_iff_eq_none.1 hm]
    · rw [← hm]; exact am

theorem acceptsM_ofU (u : UMatch) (q : Req) : sem.acceptsM (ofU u) q = sem.acceptsU u q := by
  simp [Sem.acceptsM, Sem.acceptsU, ofU]

end semantics

end RV.Gateway
