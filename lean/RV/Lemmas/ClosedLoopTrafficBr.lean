/-
  Label `br`: one BatchRelease reconcile preserves the traffic part of the invariant — while rolling the rolling facts (`br_roll`:
  at least one pod stays on the old revision as long as the highest step handed over is not full, `br_keepsOne`), in the clean-up
  the network clauses and `finBr` (`br_fin`, by whether the BatchRelease is still linked or already resumed).
-/
import RV.Lemmas.ClosedLoopStepBr
import RV.Lemmas.ClosedLoopTrafficArith
namespace RV.Lemmas.ClosedLoopTraffic
open RV.Arith RV.Traffic RV.RolloutSM RV.ClosedLoop RV.Oracle.ClosedLoop RV.Oracle.ClosedLoopTraffic RV.Lemmas.ClosedLoop
open RV.BatchCtx

theorem br_effIdx_ext (s s' : CS) (sub : Sub)
    (h : s'.br.bind (·.partition) = s.br.bind (·.partition)) : effIdx s' sub = effIdx s sub := by
  unfold effIdx
  cases hb : s.br with
  | none =>
    cases hb' : s'.br with
    | none => rfl
    | some b' =>
      rw [hb, hb'] at h
      simp only [Option.bind_some, Option.bind_none] at h
      dsimp only
      rw [h]
  | some b =>
    cases hb' : s'.br with
    | none =>
      rw [hb, hb'] at h
      simp only [Option.bind_some, Option.bind_none] at h
      dsimp only
      rw [← h]
    | some b' =>
      rw [hb, hb'] at h
      simp only [Option.bind_some] at h
      dsimp only
      rw [h]

theorem br_effIdx_bounds (s : CS) (sub : Sub) (b : CBr) (p : Int) (hb : s.br = some b) (hp : b.partition = some p)
    (hpc : p ≤ sub.curIdx - 1) : p + 1 ≤ effIdx s sub ∧ effIdx s sub ≤ sub.curIdx := by
  unfold effIdx
  rw [hb]
  dsimp only
  rw [hp]
  dsimp only
  split
  · split <;> omega
  · omega

theorem landBr_some (s : CS) (b : CBr) (o : Executor.StepOut) (eb : Executor.BR) (h : o.br = some eb) :
    (landBr s b o).br = some (stLand b eb) := by
  show o.br.map (stLand b) = _
  rw [h]; rfl

theorem br_clauses (s s' : CS) (sub : Sub) (w w' : CWl) (hro : s'.ro = s.ro) (hnet : s'.net = s.net)
    (hbp : s'.br.bind (·.partition) = s.br.bind (·.partition)) (hrep : w'.replicas = w.replicas)
    (hrev : w'.updateRevision = w.updateRevision)
    (h : pinOK s sub w = true ∧ svcOK s w = true ∧ ingOK s = true ∧ hashOK sub w = true ∧ baseOK s = true) :
    pinOK s' sub w' = true ∧ svcOK s' w' = true ∧ ingOK s' = true ∧ hashOK sub w' = true ∧ baseOK s' = true := by
  unfold pinOK svcOK ingOK hashOK baseOK at h ⊢
  rw [br_effIdx_ext s s' sub hbp, hro, hnet, hrep, hrev]
  exact h

theorem br_released_land (w : CWl) (ew : Executor.Workload) :
    released (landW w ew) = (ew.partition.isNone && !ew.paused && ew.owner == .none) := rfl

/-- a reconcile of a linked BatchRelease keeps at least one pod on the old revision as long as the highest
    step handed to it is not full. The batch the executor upgrades is at most the batch partition, so its step is at most the step
    handed over (`br_effIdx_bounds`) and, the plan being monotone, not full either (`fullAt_mono`, read downwards); the partition
    written for a batch that is not full keeps one pod (`desKnob_keepsOne`) -/
theorem br_keepsOne (s : CS) (sub : Sub) (b : CBr) (w : CWl) (ew : Executor.Workload)
    (hb : s.br = some b) (hR : 0 < w.replicas) (hmono : planMono w.replicas (planOf s.ro) = true)
    (hbok : brOK b = true) (hlink : linkOK s.ro sub b = true) (hlen : sub.curIdx ≤ s.ro.steps.length)
    (heff : WlEffect (exBr b) (exWl w) ew)
    (hnf : fullAt s.ro w.replicas (effIdx s sub) = false)
    (hk : keepsOne w = true) : keepsOne (landW w ew) = true := by
  obtain ⟨_, _, _, _, hnn⟩ := (brOK_iff b).1 hbok
  obtain ⟨hpl, ⟨p, hpp, hp0, hpc, hcb⟩, hd, hph⟩ := (linkOK_iff s.ro sub b).1 hlink
  obtain ⟨hlo, hhi⟩ := br_effIdx_bounds s sub b p hb hpp hpc
  cases heff with
  | same => exact hk
  | init =>
    show decide (1 ≤ scaledV (.pct 100) w.replicas true) = true
    rw [RV.Arith.scaledV_pct100]
    exact decide_eq_true hR
  | upgrade e h0 hbat =>
    have hnn' : (exBr b).status.noNeedUpdate = none := hnn
    have h0' : 0 ≤ b.st.currentBatch := h0
    have hbat' : (planOf s.ro)[b.st.currentBatch.toNat]? = some e := by rw [← hpl]; exact hbat
    have hidx : (b.st.currentBatch + 1 - 1).toNat = b.st.currentBatch.toNat := by
      have : b.st.currentBatch + 1 - 1 = b.st.currentBatch := by omega
      rw [this]
    have hfe := fullAt_entry s.ro w.replicas (b.st.currentBatch + 1) (by omega) e (by rw [hidx]; exact hbat')
    have hnfc : fullAt s.ro w.replicas (b.st.currentBatch + 1) = false := by
      cases hc : fullAt s.ro w.replicas (b.st.currentBatch + 1) with
      | false => rfl
      | true =>
        have := fullAt_mono s.ro w.replicas hR hmono
          (b.st.currentBatch + 1) (effIdx s sub) (by omega) (by omega) hc
        rw [this] at hnf
        cases hnf
    rw [hfe] at hnfc
    have hlt : scaledV e w.replicas true < w.replicas := by
      have := of_decide_eq_false hnfc
      omega
    show decide (1 ≤ scaledV (desKnob .cloneSet w.replicas e (exBr b).status.noNeedUpdate) w.replicas true) = true
    rw [hnn']
    exact decide_eq_true (desKnob_keepsOne w.replicas e hR hlt)
  | release hf =>
    have hf' : b.st.phase = .finalizing := hf
    rcases hph with h1 | h1 | h1 <;> rw [h1] at hf' <;> cases hf'

theorem br_alive (sub : Sub) (w : CWl) (ew : Executor.Workload) (h : stableAlive sub w = true)
    (hk : keepsOne (landW w ew) = true) : stableAlive sub (landW w ew) = true := by
  unfold stableAlive at h ⊢
  simp only [Bool.and_eq_true] at h ⊢
  exact ⟨⟨⟨hk, h.1.1.2⟩, h.1.2⟩, h.2⟩

theorem br_roll (s : CS) (b : CBr) (o : Executor.StepOut) (w : CWl) (ew : Executor.Workload) (sub : Sub)
    (hb : s.br = some b) (hrec : Executor.reconcile (exBr b) (some (exWl w)) = .val o)
    (heff : WlEffect (exBr b) (exWl w) ew) (hR : 0 < w.replicas)
    (hmono : planMono w.replicas (planOf s.ro) = true) (hbok : brOK b = true)
    (hlink : linkOK s.ro sub b = true) (hP : RollAt s sub w) : RollAt (landBr s b o) sub (landW w ew) := by
  obtain ⟨_, _, hd, _⟩ := (linkOK_iff s.ro sub b).1 hlink
  obtain ⟨eb, heb⟩ := exec_some (exBr b) _ o hrec hd
  have hbp : (landBr s b o).br.map (·.partition) = s.br.map (·.partition) := by
    rw [landBr_some s b o eb heb, hb]; rfl
  unfold RollAt
  rw [hbp]
  exact hP.imp_alive fun hnf hal => br_alive sub w ew hal
    (br_keepsOne s sub b w ew hb hR hmono hbok hlink hP.hi heff (by rw [effIdx_eq]; exact hnf) ((stableAlive_iff sub w).1 hal).1)

theorem br_finalize_released (b : CBr) (w : CWl) (ew : Executor.Workload) (hpn : b.partition = none)
    (h : some ew = (Executor.finalize (Executor.withFinalizer (exBr b)) (some (exWl w))).1) :
    released (landW w ew) = true := by
  have hpn' : (Executor.withFinalizer (exBr b)).partition = none := hpn
  unfold Executor.finalize at h
  dsimp only at h
  rw [hpn'] at h
  simp only [Option.isNone_none, if_true, Option.some.injEq] at h
  subst h
  rfl

/-- `finBr` across a BatchRelease reconcile: a linked BatchRelease stays linked; a resumed one turns Completed only in a reconcile
    that releases the workload; a Completed one is left alone or goes -/
theorem br_finBr (s : CS) (b : CBr) (o : Executor.StepOut) (w : CWl) (ew : Executor.Workload) (sub : Sub)
    (hb : s.br = some b) (hrec : Executor.reconcile (exBr b) (some (exWl w)) = .val o) (hew : o.wl = some ew)
    (hfb : FinBr s sub w) : FinBr (landBr s b o) sub (landW w ew) := by
  cases hfb with
  | linked b0 hb0 hf hl =>
    cases hb.symm.trans hb0
    obtain ⟨eb, heb⟩ := exec_some (exBr b) _ o hrec ((linkOK_iff s.ro sub b).1 hl).2.2.1
    have hl' := linkOK_land s.ro sub b (exWl w) o hrec hl
    rw [heb] at hl'
    exact .linked _ (landBr_some s b o eb heb) hf hl'
  | resumed b0 hb0 hf hd hp hc =>
    cases hb.symm.trans hb0
    obtain ⟨eb, heb⟩ := exec_some (exBr b) _ o hrec hd
    refine .resumed _ (landBr_some s b o eb heb) hf hd hp fun hc' => ?_
    by_cases hbc : b.st.phase = .completed
    · have hwl := exec_completed_wl (exBr b) _ o hrec hbc
      rw [hew] at hwl
      cases hwl
      exact hc hbc
    · obtain ⟨_, hwl⟩ := exec_new_completed (exBr b) _ o eb hrec heb hc' hbc
      rw [hew] at hwl
      exact br_finalize_released b w ew hp hwl
  | completed b0 hb0 hf hp hc hrel =>
    cases hb.symm.trans hb0
    have hwl := exec_completed_wl (exBr b) _ o hrec hc
    rw [hew] at hwl
    cases hwl
    cases heb : o.br with
    | none => exact .gone (by show o.br.map (stLand b) = _; rw [heb]; rfl) (.inl hf) hrel
    | some eb => exact .completed _ (landBr_some s b o eb heb) hf hp (exec_completed_stays (exBr b) _ o eb hrec heb hc) hrel
  | gone hb0 => rw [hb] at hb0; cases hb0

theorem br_fin (s : CS) (b : CBr) (o : Executor.StepOut) (w : CWl) (ew : Executor.Workload) (sub : Sub)
    (hg : RoGood s.ro) (hb : s.br = some b) (hrec : Executor.reconcile (exBr b) (some (exWl w)) = .val o)
    (hew : o.wl = some ew) (heff : WlEffect (exBr b) (exWl w) ew) (hR : 0 < w.replicas)
    (hmono : planMono w.replicas (planOf s.ro) = true) (hbok : brOK b = true)
    (hfi : RV.Oracle.Cluster.finInv .success s.ro sub.finStep (some (roBr b)) s.net = true)
    (hnc : netCore s sub w false = true) (hfb : FinBr s sub w) (hlen : sub.curIdx ≤ s.ro.steps.length) :
    netCore (landBr s b o) sub (landW w ew) false = true ∧ FinBr (landBr s b o) sub (landW w ew) := by
  obtain ⟨hal, hrest⟩ := (netCore_iff s sub w false).1 hnc
  rw [if_neg Bool.false_ne_true] at hal
  refine ⟨?_, br_finBr s b o w ew sub hb hrec hew hfb⟩
  -- a resumed BatchRelease: the stable Service was un-pinned before the cursor got there
  have resumed : b.partition = none → sub.finStep = .resumeWorkload ∨ sub.finStep = .releaseWorkloadControl →
      (landBr s b o).br.bind (·.partition) = s.br.bind (·.partition) ∧
      (s.net.stableSel.isNone = true ∨ stableAlive sub (landW w ew) = true) := fun hpn hcur => by
    have hsel : s.net.stableSel = none :=
      unpinned_of_post s sub w _ (fin_inv_posts s.ro sub.finStep _ s.net hg.canary hfi .restoreStableService
        (by rcases hcur with e | e <;> rw [e] <;> decide)) hrest.1 hrest.2.2.2.2
    refine ⟨?_, Or.inl (by rw [hsel]; rfl)⟩
    rw [hb]
    show (o.br.map (stLand b)).bind (·.partition) = b.partition
    cases o.br with
    | none => exact hpn.symm
    | some eb => rfl
  have key : (landBr s b o).br.bind (·.partition) = s.br.bind (·.partition) ∧
      (s.net.stableSel.isNone = true ∨ stableAlive sub (landW w ew) = true) := by
    cases hfb with
    | linked b0 hb0 _ hlk =>
      cases hb.symm.trans hb0
      obtain ⟨eb, heb⟩ := exec_some (exBr b) _ o hrec ((linkOK_iff s.ro sub b).1 hlk).2.2.1
      refine ⟨by rw [landBr_some s b o eb heb, hb]; rfl, ?_⟩
      cases hsel : s.net.stableSel with
      | none => exact Or.inl rfl
      | some r =>
        have hal' : stableAlive sub w = true := hal.resolve_left (by rw [hsel]; exact Bool.false_ne_true)
        exact Or.inr (br_alive sub w ew hal' (br_keepsOne s sub b w ew hb hR hmono hbok hlk hlen heff
          ((pinOK_iff s sub w).1 hrest.1 r hsel).2.2.1 ((stableAlive_iff sub w).1 hal').1))
    | resumed b0 hb0 hf _ hp => cases hb.symm.trans hb0; exact resumed hp (.inl hf)
    | completed b0 hb0 hf hp => cases hb.symm.trans hb0; exact resumed hp (.inr hf)
    | gone hb0 => rw [hb] at hb0; cases hb0
  exact (netCore_iff _ sub _ false).2 ⟨by rw [if_neg Bool.false_ne_true]; exact key.2,
    br_clauses s _ sub w _ rfl rfl key.1 rfl rfl hrest⟩

theorem stepBr_tr (s s' : CS) (h : trInv s = true) (hs : stepBr s = some s') : trRest s' = true := by
  obtain ⟨w, ⟨⟨_, hg, hw, hwok, hmono, hbrok, _⟩, hR, _, hcase⟩⟩ := tr_at s h
  cases hb : s.br with
  | none =>
    rw [stepBr_none s hb] at hs
    cases hs
    exact ((trInv_iff s).1 h).2
  | some b =>
    rw [hb] at hbrok
    obtain ⟨o, ew, hrec, hew, heff, hstep, hwl', _, _⟩ := stepBr_land s w b hw hb hbrok hwok
    cases hs.symm.trans hstep
    rw [trRest_some _ _ hwl']
    refine ⟨hR, ?_⟩
    cases hcase with
    | healthy _ hbr | init _ _ hbr | completed _ _ hbr => rw [hb] at hbr; cases hbr
    | rolling sub hph hr hsub _ hlink _ hP =>
      rw [hb] at hlink
      rw [trPhase_rolling (landBr s b o) _ sub hph hr hsub]
      exact (br_roll s b o w ew sub hb hrec heff hR hmono hbrok hlink hP).clauses
    | fin sub hph hr hsub _ hinv hnc hfb hrev hidx =>
      rw [hb] at hinv
      obtain ⟨hnc', hfb'⟩ := br_fin s b o w ew sub hg hb hrec hew heff hR hmono hbrok hinv hnc hfb hidx
      rw [trPhase_fin (landBr s b o) _ sub hph hr hsub]
      simp only [Bool.and_eq_true, beq_iff_eq, decide_eq_true_eq]
      exact ⟨⟨⟨hnc', (finBr_iff _ _ _).2 hfb'⟩, hrev⟩, hidx⟩

end RV.Lemmas.ClosedLoopTraffic
