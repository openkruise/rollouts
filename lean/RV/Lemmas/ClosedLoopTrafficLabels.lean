/-
  The traffic part of the invariant (`trRest`) along every label except `br` and a Rollout reconcile of a rolling /
  finalising rollout: workload controller, release while idle, approval, clock, crash, and the status-only Rollout reconciles
  (unreadable workload, Healthy, Initializing, Completed).
-/
import RV.Lemmas.ClosedLoopLabels
import RV.Lemmas.ClosedLoopStepRo
import RV.Lemmas.ClosedLoopTrafficDefs
namespace RV.Lemmas.ClosedLoopTraffic
open RV.Arith RV.Traffic RV.RolloutSM RV.ClosedLoop RV.Oracle.ClosedLoop RV.Oracle.ClosedLoopTraffic RV.Lemmas.ClosedLoop
open RV.Props.Reconcile

/-- of the sub-status the traffic invariant reads the index, the revisions, the pod-template hash, the clean-up cursor, and of
    the sub-state whether it is `init`, `trafficRouting`, a pods-ready one -/
def LabSubSame (a b : Sub) : Prop :=
  b.curIdx = a.curIdx ∧ b.stableRev = a.stableRev ∧ b.podHash = a.podHash ∧ b.canaryRev = a.canaryRev ∧ b.finStep = a.finStep ∧
  (b.state = .init ↔ a.state = .init) ∧ (b.state = .trafficRouting ↔ a.state = .trafficRouting) ∧
  RV.Oracle.RolloutSM.podsReady b.state = RV.Oracle.RolloutSM.podsReady a.state

theorem effIdx_congr (s s' : CS) (a b : Sub) (hbr : s'.br = s.br) (hs : LabSubSame a b) : effIdx s' b = effIdx s a := by
  obtain ⟨hc, _, _, _, _, hi, _, _⟩ := hs
  unfold effIdx
  rw [hbr, hc]
  by_cases h : a.state = .init
  · rw [if_pos h, if_pos (hi.2 h)]
  · rw [if_neg h, if_neg (fun h' => h (hi.1 h'))]

theorem netCore_congr (s s' : CS) (a b : Sub) (w : CWl) (r : Bool) (hbr : s'.br = s.br) (hnet : s'.net = s.net)
    (hst : s'.ro.steps = s.ro.steps) (htr : s'.ro.hasTraffic = s.ro.hasTraffic) (hdg : s'.ro.disableGen = s.ro.disableGen)
    (hs : LabSubSame a b) : netCore s' b w r = netCore s a w r := by
  have he := effIdx_congr s s' a b hbr hs
  obtain ⟨hc, h2, h3, _, _, hi, _, _⟩ := hs
  unfold netCore pinOK svcOK ingOK baseOK stableAlive hashOK
  rw [he, fullAt_steps s.ro s'.ro _ _ hst, hnet, htr, hdg, h2, h3]

theorem brSome_congr (s s' : CS) (a b : Sub) (hbr : s'.br = s.br) (hs : LabSubSame a b) : brSome s' b = brSome s a := by
  obtain ⟨hc, _, _, _, _, _, _, hp⟩ := hs
  unfold brSome
  rw [hbr, hc, hp]

theorem firstPin_congr (s s' : CS) (a b : Sub) (w : CWl) (hbr : s'.br = s.br) (hnet : s'.net = s.net)
    (hst : s'.ro.steps = s.ro.steps) (htr : s'.ro.hasTraffic = s.ro.hasTraffic) (hdg : s'.ro.disableGen = s.ro.disableGen)
    (hs : LabSubSame a b) : firstPin s' b w = firstPin s a w := by
  obtain ⟨hc, h2, _, _, _, hi, _, _⟩ := hs
  have hne : (b.state != .init) = (a.state != .init) := by
    by_cases h : a.state = .init
    · rw [h, hi.2 h]
    · have h' : ¬ b.state = .init := fun h' => h (hi.1 h')
      rw [bne_iff_ne.2 h, bne_iff_ne.2 h']
  unfold firstPin firstStepPins
  rw [fullAt_steps s.ro s'.ro _ _ hst, weightOf_steps s.ro s'.ro _ hst, hbr, hnet, htr, hdg, hc, h2, hne]

theorem trState_congr (s s' : CS) (a b : Sub) (w : CWl) (hst : s'.ro.steps = s.ro.steps) (hs : LabSubSame a b) :
    trState s' b w = trState s a w := by
  obtain ⟨hc, _, _, _, _, _, ht, _⟩ := hs
  have hne : (b.state != .trafficRouting) = (a.state != .trafficRouting) := by
    by_cases h : a.state = .trafficRouting
    · rw [h, ht.2 h]
    · have h' : ¬ b.state = .trafficRouting := fun h' => h (ht.1 h')
      rw [bne_iff_ne.2 h, bne_iff_ne.2 h']
  unfold trState
  rw [fullAt_steps s.ro s'.ro _ _ hst, hc, hne]

theorem finBr_congr (s s' : CS) (a b : Sub) (w : CWl) (hbr : s'.br = s.br) (hst : s'.ro.steps = s.ro.steps)
    (hs : LabSubSame a b) : finBr s' b w = finBr s a w := by
  obtain ⟨hc, _, _, _, hf, _, _, _⟩ := hs
  unfold finBr linkOK planOf
  rw [hbr, hst, hc, hf]

theorem trPhase_congr (s s' : CS) (w : CWl)
    (hph : s'.ro.phase = s.ro.phase) (hr : s'.ro.reason = s.ro.reason) (hbr : s'.br = s.br) (hnet : s'.net = s.net)
    (hst : s'.ro.steps = s.ro.steps) (htr : s'.ro.hasTraffic = s.ro.hasTraffic) (hdg : s'.ro.disableGen = s.ro.disableGen)
    (hsub : ∀ sub, s.ro.sub = some sub → ∃ sub', s'.ro.sub = some sub' ∧ LabSubSame sub sub')
    (hc : TrCase s w) (h : trPhase s w = true) : trPhase s' w = true := by
  cases hc with
  | healthy hp =>
    rw [trPhase_healthy s w hp] at h
    rw [trPhase_healthy s' w (hph.trans hp), hnet]; exact h
  | init hp hre =>
    rw [trPhase_init s w hp hre] at h
    rw [trPhase_init s' w (hph.trans hp) (hr.trans hre), hnet]; exact h
  | rolling sub hp hre hs =>
    obtain ⟨sub', hs', hsame⟩ := hsub sub hs
    rw [trPhase_rolling s w sub hp hre hs] at h
    rw [trPhase_rolling s' w sub' (hph.trans hp) (hr.trans hre) hs',
      netCore_congr s s' sub sub' w true hbr hnet hst htr hdg hsame, brSome_congr s s' sub sub' hbr hsame,
      firstPin_congr s s' sub sub' w hbr hnet hst htr hdg hsame, trState_congr s s' sub sub' w hst hsame]
    exact h
  | fin sub hp hre hs =>
    obtain ⟨sub', hs', hsame⟩ := hsub sub hs
    rw [trPhase_fin s w sub hp hre hs] at h
    rw [trPhase_fin s' w sub' (hph.trans hp) (hr.trans hre) hs',
      netCore_congr s s' sub sub' w false hbr hnet hst htr hdg hsame, finBr_congr s s' sub sub' w hbr hst hsame,
      hsame.2.2.2.1, hsame.1, hst]
    exact h
  | completed hp hre =>
    rw [trPhase_completed s w hp hre] at h
    rw [trPhase_completed s' w (hph.trans hp) (hr.trans hre), hnet]; exact h

theorem trRest_congr (s s' : CS) (hwl : s'.wl = s.wl)
    (hph : s'.ro.phase = s.ro.phase) (hr : s'.ro.reason = s.ro.reason) (hbr : s'.br = s.br) (hnet : s'.net = s.net)
    (hst : s'.ro.steps = s.ro.steps) (htr : s'.ro.hasTraffic = s.ro.hasTraffic) (hdg : s'.ro.disableGen = s.ro.disableGen)
    (hsub : ∀ sub, s.ro.sub = some sub → ∃ sub', s'.ro.sub = some sub' ∧ LabSubSame sub sub')
    (h : trInv s = true) : trRest s' = true := by
  obtain ⟨w, T⟩ := tr_at s h
  exact (trRest_some s' w (hwl.trans T.fwd.wl)).2 ⟨T.pos, trPhase_congr s s' w hph hr hbr hnet hst htr hdg hsub T.case T.tp⟩

theorem subIdle_labSame {a b : Sub} (h : SubIdle a b) : LabSubSame a b := by
  obtain ⟨e, hst, _⟩ := h
  have cls : (b.state = .init ↔ a.state = .init) ∧ (b.state = .trafficRouting ↔ a.state = .trafficRouting) ∧
      RV.Oracle.RolloutSM.podsReady b.state = RV.Oracle.RolloutSM.podsReady a.state := by
    rcases hst with h | ⟨h1, h2⟩
    · rw [h]; exact ⟨Iff.rfl, Iff.rfl, rfl⟩
    · rw [h1, h2]; exact ⟨⟨nofun, nofun⟩, ⟨nofun, nofun⟩, rfl⟩
  rw [e]
  exact ⟨rfl, rfl, rfl, rfl, rfl, cls.1, cls.2.1, cls.2.2⟩

theorem idle_tr {s s' : CS} (k : Idle s s') (h : trInv s = true) : trRest s' = true := by
  obtain ⟨⟨sub', age, mem', rfl⟩, hsub⟩ := k
  refine trRest_congr s _ rfl rfl rfl rfl rfl rfl rfl rfl (fun a ha => ?_) h
  rcases hsub with ⟨hn, _⟩ | ⟨a', b, ha', hb, hab⟩
  · rw [hn] at ha; cases ha
  · cases ha'.symm.trans ha; exact ⟨b, hb, subIdle_labSame hab⟩

theorem crash_tr (s : CS) (h : trInv s = true) : trRest (crash s) = true := idle_tr (crash_idle s) h

theorem tick_tr (s : CS) (h : trInv s = true) : trRest (tick s) = true := idle_tr (tick_idle s) h

theorem approve_tr (s : CS) (h : trInv s = true) : trRest (approve s) = true := idle_tr (approve_idle s) h

theorem envWl_alive (sub : Sub) (w : CWl) (hR : 0 < w.replicas) (h : stableAlive sub w = true) :
    stableAlive sub (envWl w) = true := by
  have E := envWl_kept w
  unfold stableAlive at h ⊢
  simp only [Bool.and_eq_true, decide_eq_true_eq, beq_iff_eq, bne_iff_ne] at h ⊢
  obtain ⟨⟨⟨hk, hu⟩, hc⟩, hne⟩ := h
  have hk0 := hk
  unfold keepsOne at hk
  cases hp : w.partition with
  | none => rw [hp] at hk; cases hk
  | some k =>
    rw [hp] at hk
    have hk1 : 1 ≤ scaledV k w.replicas true := by simpa using hk
    obtain ⟨g1, g2⟩ := envWl_lt w hne hR hu k hp hk1
    refine ⟨⟨⟨?_, by rw [E.replicas]; exact g1⟩, by rw [g2]; exact hc⟩, by rw [g2, E.updateRevision]; exact hne⟩
    unfold keepsOne
    rw [E.partition, E.replicas]; exact hk0

theorem envWl_pending (w : CWl) (hR : 0 < w.replicas) (hheld : held w = true) (h : pendingWl w = true) :
    pendingWl (envWl w) = true := by
  have E := envWl_kept w
  unfold pendingWl at h ⊢
  simp only [Bool.and_eq_true, decide_eq_true_eq, bne_iff_ne] at h ⊢
  obtain ⟨hu, hne⟩ := h
  obtain ⟨g1, g2⟩ := envWl_lt w hne hR hu (.pct 100) ((held_iff w).1 hheld) (by rw [RV.Arith.scaledV_pct100]; omega)
  exact ⟨by rw [E.replicas]; exact g1, by rw [g2, E.updateRevision]; exact hne⟩

theorem envWl_released (w : CWl) : released (envWl w) = released w := by
  have E := envWl_kept w
  unfold released
  rw [E.partition, E.paused, E.owner]

theorem netCore_wl (s : CS) (sub : Sub) (w w' : CWl) (r : Bool) (h1 : w'.replicas = w.replicas)
    (h2 : w'.updateRevision = w.updateRevision) (halive : stableAlive sub w = true → stableAlive sub w' = true)
    (h : netCore s sub w r = true) : netCore s sub w' r = true := by
  obtain ⟨a, b, c, d, e, f⟩ := (netCore_iff s sub w r).1 h
  have e1 : pinOK s sub w' = pinOK s sub w := by unfold pinOK; rw [h1]
  have e2 : svcOK s w' = svcOK s w := by unfold svcOK; rw [h2]
  have e3 : hashOK sub w' = hashOK sub w := by unfold hashOK; rw [h2]
  exact (netCore_iff s sub w' r).2 ⟨by rw [h1]; exact a.imp id halive, by rw [e1]; exact b, by rw [e2]; exact c, d,
    by rw [e3]; exact e, f⟩

theorem trPhase_wl (s : CS) (w w' : CWl) (h1 : w'.replicas = w.replicas) (h2 : w'.updateRevision = w.updateRevision)
    (hrel : released w' = released w) (hanno : w'.inProgressAnno = w.inProgressAnno)
    (hpend : held w = true → pendingWl w = true → pendingWl w' = true)
    (halive : ∀ sub, stableAlive sub w = true → stableAlive sub w' = true)
    (h : TrCase s w) : trPhase s w' = true := by
  cases h with
  | healthy hp _ hheld hnet hwl =>
    rw [trPhase_healthy s w' hp, hanno, hrel, hnet, Bool.true_and]
    cases ha : w.inProgressAnno with
    | false => rw [ha] at hwl; exact hwl
    | true => rw [ha] at hwl; exact hpend (hheld ha) hwl
  | init hp hre _ hheld hnet hp' =>
    rw [trPhase_init s w' hp hre, hnet, hpend hheld hp']; rfl
  | rolling sub hp hre hs _ _ _ hP =>
    rw [trPhase_rolling s w' sub hp hre hs]
    refine RollAt.clauses ?_
    unfold RollAt
    rw [h1, h2]
    exact hP.imp_alive fun _ => halive sub
  | fin sub hp hre hs _ _ hnc hfb hrev hidx =>
    rw [trPhase_fin s w' sub hp hre hs]
    have hfb := (finBr_iff s sub w).2 hfb
    have e1 : finBr s sub w' = finBr s sub w := by unfold finBr; rw [hrel]
    rw [e1, h2, netCore_wl s sub w w' false h1 h2 (halive sub) hnc, hfb]
    simpa using ⟨hrev, hidx⟩
  | completed hp hre _ _ hnet hw =>
    rw [trPhase_completed s w' hp hre, hrel, hnet, hw]; rfl

theorem env_tr (s : CS) (h : trInv s = true) : trRest { s with wl := s.wl.map envWl } = true := by
  obtain ⟨w, T⟩ := tr_at s h
  have E := envWl_kept w
  refine (trRest_some { s with wl := s.wl.map envWl } (envWl w) (by show s.wl.map envWl = _; rw [T.fwd.wl]; rfl)).2
    ⟨by rw [E.replicas]; exact T.pos, (trPhase_ext s { s with wl := s.wl.map envWl } _ rfl rfl rfl).trans ?_⟩
  exact trPhase_wl s w (envWl w) E.replicas E.updateRevision (envWl_released w) E.anno (envWl_pending w T.pos)
    (fun sub => envWl_alive sub w T.pos) T.case

theorem release_tr (s : CS) (rev : String) (h : trInv s = true) (hidle : idle s rev = true) :
    trRest { s with wl := s.wl.map (releaseWl rev) } = true := by
  obtain ⟨w, T⟩ := tr_at s h
  have hw := T.fwd.wl
  have hR := T.pos
  obtain ⟨hph, w0, hw0, _, hrev⟩ := (idle_iff s rev).1 hidle
  cases hw.symm.trans hw0
  have hrel := releaseWl_new rev w hrev
  have htp := T.tp
  rw [trPhase_healthy s w hph] at htp
  simp only [Bool.and_eq_true] at htp
  refine (trRest_some { s with wl := s.wl.map (releaseWl rev) } (releaseWl rev w)
    (by show s.wl.map (releaseWl rev) = _; rw [hw]; rfl)).2 ?_
  rw [hrel, trPhase_healthy { s with wl := s.wl.map (releaseWl rev) } _ hph]
  refine ⟨hR, ?_⟩
  simp only [Bool.and_eq_true, if_true]
  refine ⟨htp.1, ?_⟩
  unfold pendingWl
  simp only [Bool.and_eq_true, decide_eq_true_eq, bne_iff_ne]
  exact ⟨hR, fun hh => hrev hh.symm⟩

/-- the rolling facts at the moment rolling starts (`QuietRo.started`): network as configured, no BatchRelease,
    `BeforeStepUpgrade` of step 1 with no hash recorded; `alive` from the 100 % partition of an admitted release (`held`) that has
    pods left to update (`pendingWl`) -/
theorem rollAt_start (S : CS) (w : CWl) (isub : Sub) (hnet : netClean S.net = true) (hbr : S.br = none)
    (hstate : isub.state = .init) (hidx : isub.curIdx = 1) (hhash : isub.podHash = "")
    (hstable : isub.stableRev = w.currentRevision) (hheld : held w = true) (hpend : pendingWl w = true)
    (hR : 0 < w.replicas) (hbase : baseOK S = true) (hsteps : S.ro.steps ≠ []) : RollAt S isub w := by
  obtain ⟨n1, n2, n3⟩ := (netClean_iff S.net).1 hnet
  have halive : stableAlive isub w = true := by
    unfold pendingWl at hpend
    simp only [Bool.and_eq_true, decide_eq_true_eq, bne_iff_ne] at hpend
    unfold stableAlive keepsOne
    rw [(held_iff w).1 hheld]
    dsimp only
    rw [RV.Arith.scaledV_pct100, hstable]
    simp only [Bool.and_eq_true, decide_eq_true_eq, beq_iff_eq, bne_iff_ne]
    exact ⟨⟨⟨by omega, hpend.1⟩, trivial⟩, hpend.2⟩
  have := steps_pos S.ro hsteps
  -- on a network as the user configured it every clause about an object is vacuous
  refine ⟨Or.inr halive, by rw [n3]; nofun, by rw [n2]; nofun, by rw [n1]; nofun, Or.inl hhash, (baseOK_iff S).1 hbase,
    ?_, ?_, by rw [hstate]; nofun, by rw [hbr]; nofun, by omega, by omega⟩
  · rw [hstate, hidx]
    rintro (h | h)
    · cases h
    · omega
  · rw [hbr]
    rintro _ _ (h | h)
    · exact absurd hstate h
    · cases h

/-- label `ro` when only the status is written (`stepRo_quiet`), by the cases of `QuietRo`; only `started` needs work
    (`rollAt_start`) -/
theorem quiet_tr {s : CS} {w : CWl} {ro' : Rollout} (T : TrAt s w) (hk : SpecKept s.ro ro') (hro : QuietRo s w ro') :
    trRest { s with gone := false, ro := ro' } = true := by
  have hpi := T.fwd.pi
  have htp := T.tp
  have hR := T.pos
  refine (trRest_some { s with gone := false, ro := ro' } w T.fwd.wl).2 ⟨hR, ?_⟩
  cases hro with
  | same e => exact (trPhase_ext s { s with gone := false, ro := ro' } w e rfl rfl).trans htp
  | noticed hph a p q =>
    rw [trPhase_healthy s w hph, a] at htp
    rw [trPhase_init { s with gone := false, ro := ro' } w p q]
    exact htp
  | idle hph a p =>
    rw [trPhase_healthy s w hph, a] at htp
    rw [trPhase_healthy { s with gone := false, ro := ro' } w p, a]
    exact htp
  | done hph hr p =>
    rw [trPhase_completed s w hph hr] at htp
    rw [phaseInv_completed s w hph hr] at hpi
    simp only [Bool.and_eq_true, Bool.not_eq_true'] at hpi
    rw [trPhase_healthy { s with gone := false, ro := ro' } w p, hpi.2]
    exact htp
  | waiting hph hr p q =>
    rw [trPhase_init s w hph hr] at htp
    rw [trPhase_init { s with gone := false, ro := ro' } w p q]
    exact htp
  | started hph hr p q hsub hbase =>
    rw [trPhase_init s w hph hr] at htp
    rw [phaseInv_init s w hph hr] at hpi
    simp only [Bool.and_eq_true] at htp hpi
    rw [trPhase_rolling { s with gone := false, ro := ro' } w (startSub s.ro (roWl w)) p q hsub]
    refine (rollAt_start { s with gone := false, ro := ro' } w (startSub s.ro (roWl w)) htp.1 (by simpa using hpi.1)
      rfl rfl rfl rfl hpi.2 htp.2 hR ?_ (hk.good T.fwd.good).steps).clauses
    unfold baseOK
    show (!ro'.hasTraffic || (s.net.stableExists && s.net.stableIngress)) = true
    rw [hk.1.hasTraffic]
    cases ht : s.ro.hasTraffic with
    | false => rfl
    | true => obtain ⟨b1, b2⟩ := hbase ht; rw [b1, b2]; rfl

end RV.Lemmas.ClosedLoopTraffic
