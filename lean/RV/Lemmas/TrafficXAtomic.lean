import RV.Lemmas.TrafficX
/-!
A provider call as an atomic transaction around a pure builder.

`Plan G` is what the builder decides before anything is written; `Atomic a g p r` says that the call `r`, made against the
API value `a` on the objects `g`, either hit an API fault — nothing has happened, the error is returned — or went through
with the plan `p`.  `LawfulProvider.of_atomic` derives the provider laws from the two atomicity facts and the laws of the
two pure builders.

Atomic: the Gateway API provider (`RV/Lemmas/TrafficXGw.lean`), the canary-Ingress provider (`RV/Lemmas/TrafficXIg.lean`)
and the weight-only nginx provider: each call issues at most one write, after it has decided everything.  The custom (Lua)
provider is not (`RV/Lemmas/TrafficXCu.lean` proves its laws directly): it writes once per referenced object, so a write
budget that runs out leaves part of the objects written, what it ends up writing depends on the budget, and a *verified*
call may have written (the stored-original annotation).
-/
namespace RV.TrafficX
open RV.Oracle.TrafficX

variable {S G : Type}

/-- What the body of `EnsureRoutes` / `Finalise` has decided once it has read the object(s) and built the desired one
    (`buildDesiredHTTPRoute`; `buildCanaryIngress`, `executeLuaForCanary`): the objects if the call goes through, the flag it will
    report, its own error or panic, and whether the desired object equals the stored one, so that nothing is written
    (`reflect.DeepEqual` ↦ *verified* / *not modified*). -/
structure Plan (G : Type) where
  g : G
  flag : Bool
  err : Bool := false
  panic : Bool := false
  quiet : Bool

/-- The call `r` (API value `a`, objects `g`) is the plan `p` carried out — `Get`s, then one write or none — (`through`), or an
    API fault after which nothing has happened (`fault`): a failed `Get`, which needs an armed read fault, or a failed write,
    which needs something to write. -/
inductive Atomic (a : Api) (g : G) (p : Plan G) : PRes G → Prop
  | fault {a' : Api} : ReadLaw a a' true → a ≠ Api.ok → a.armed = true ∨ p.quiet = false →
      Atomic a g p ⟨g, false, true, a', [], false⟩
  | through {a' : Api} {ws : List String} : a'.armed = a.armed → (a = Api.ok → a' = Api.ok) → NamedWrites ws →
      (p.quiet = true → ws = [] ∧ (a.armed = false → a' = a)) → Atomic a g p ⟨p.g, p.flag, p.err, a', ws, p.panic⟩

/-! What a provider call is composed of: a call that writes nothing (`idle`), one write (`write`), a `Get` before the rest
    (`read`, `read_ite`). -/

theorem Atomic.idle (a : Api) (g : G) (p : Plan G) : Atomic a g p ⟨p.g, p.flag, p.err, a, [], p.panic⟩ :=
  .through rfl id .nil fun _ => ⟨rfl, fun _ => rfl⟩

theorem Atomic.write (a : Api) (g : G) {p : Plan G} (hq : p.quiet = false) {ws : List String} (hn : NamedWrites ws) :
    Atomic a g p (match a.spend with
      | none => ⟨g, false, true, a, [], false⟩
      | some a1 => ⟨p.g, p.flag, p.err, a1, ws, p.panic⟩) := by
  cases hsp : a.spend with
  | none => exact .fault (.of_armed_eq rfl _) (fun h => by subst h; cases hsp) (.inr hq)
  | some a1 =>
    exact .through (Api.spend_armed hsp) (fun h => by subst h; cases hsp; rfl) hn fun h => by rw [hq] at h; cases h

theorem Atomic.read {a : Api} {g : G} {p : Plan G} {r : PRes G}
    (h1 : a.read.1 = true → r = ⟨g, false, true, a.read.2, [], false⟩) (h2 : a.read.1 = false → Atomic a.read.2 g p r) :
    Atomic a g p r := by
  rcases Api.read_cases a with ⟨hr, har, hr2⟩ | ⟨hr, hr2⟩
  · exact h1 hr ▸ .fault (.of_spent hr2) (fun h => by subst h; cases hr) (.inl har)
  · have same : a.armed = false → a.read.2 = a := Api.read_snd_not_armed
    have ok : a = Api.ok → a.read.2 = Api.ok := fun h => by subst h; rfl
    cases h2 hr with
    | fault rl hne hf => exact .fault ⟨fun _ => rfl, fun h => hr2 ▸ rl.2 h⟩ (fun h => hne (ok h)) (hf.imp_left (hr2 ▸ ·))
    | through ha hok hw hq =>
      exact .through (ha.trans hr2) (fun h => hok (ok h)) hw
        fun h => ⟨(hq h).1, fun hu => ((hq h).2 (by rw [hr2]; exact hu)).trans (same hu)⟩

theorem Atomic.read_ite {a : Api} {g : G} {p : Plan G} {r : PRes G} (h : Atomic a.read.2 g p r) :
    Atomic a g p (if a.read.1 = true then ⟨g, false, true, a.read.2, [], false⟩ else r) :=
  .read (fun h1 => by rw [if_pos h1]) fun h2 => by rw [if_neg (by rw [h2]; decide)]; exact h

/-- on a healthy API server the call is the plan -/
theorem Atomic.healthy {g : G} {p : Plan G} {r : PRes G} (h : Atomic Api.ok g p r) :
    r = ⟨p.g, p.flag, p.err, Api.ok, r.writes, p.panic⟩ := by
  cases h with
  | fault _ hne _ => exact absurd rfl hne
  | through _ hok _ _ => rw [hok rfl]

/-- a call with nothing to write and no armed read fault cannot fail, whatever the write budget -/
theorem Atomic.quiet {a : Api} {g : G} {p : Plan G} {r : PRes G} (h : Atomic a g p r) (ha : a.armed = false)
    (hq : p.quiet = true) : r = ⟨p.g, p.flag, p.err, a, [], p.panic⟩ := by
  cases h with
  | fault _ _ hf =>
    rcases hf with h | h
    · rw [ha] at h; cases h
    · rw [hq] at h; cases h
  | through _ _ _ h => rw [(h hq).1, (h hq).2 ha]

/-- The laws of a provider whose two calls are atomic around the pure builders `pe` / `pf`: a verified `EnsureRoutes` had
    nothing to write and left the objects alone (`strict`); `Finalise` neither fails nor panics, leaves clean objects and is
    idempotent (`fin`). -/
theorem LawfulProvider.of_atomic {P : Provider S G} {Inv : G → Prop} {spec : G → S → Prop} {clean : G → Prop}
    {μ : G → S → Nat} {bound : Nat} (pe : G → S → Plan G) (pf : G → Plan G)
    (hae : ∀ a g s, Atomic a g (pe g s) (P.ensure a g s)) (haf : ∀ a g, Atomic a g (pf g) (P.finalise a g))
    (inv_e : ∀ g s, Inv g → Inv (pe g s).g) (inv_f : ∀ g, Inv g → Inv (pf g).g)
    (strict : ∀ g s, Inv g → (pe g s).flag = true → (pe g s).err = false → (pe g s).panic = false →
      spec g s ∧ (pe g s).quiet = true ∧ (pe g s).g = g)
    (fin : ∀ g, Inv g → (pf g).err = false ∧ (pf g).panic = false ∧ clean (pf g).g ∧
      pf (pf g).g = ⟨(pf g).g, false, false, false, true⟩)
    (progress : ∀ g s, Inv g → (pe g s).err = false → (pe g s).panic = false →
      ((pe g s).flag = false → μ (pe g s).g s < μ g s) ∧ μ (pe g s).g s ≤ μ g s)
    (μ_le : ∀ g s, μ g s ≤ bound) : LawfulProvider P Inv spec clean μ bound := by
  -- what every call owes the API, whichever way it went
  have api : ∀ {a g p r}, Atomic (G := G) a g p r →
      NamedWrites r.writes ∧ (a = Api.ok → r.a = Api.ok) ∧ ReadLaw a r.a r.err := by
    intro a g p r h
    cases h with
    | fault rl hne _ => exact ⟨.nil, fun h => absurd h hne, rl⟩
    | through ha hok hw _ => exact ⟨hw, hok, .of_armed_eq ha _⟩
  -- a call that did not fail went through with the plan
  have through : ∀ {a g p r}, Atomic (G := G) a g p r → r.err = false →
      r.g = p.g ∧ r.flag = p.flag ∧ p.err = false ∧ r.panic = p.panic := by
    intro a g p r h he
    cases h with
    | fault => cases he
    | through => exact ⟨rfl, rfl, he, rfl⟩
  have objs : ∀ {a g p r}, Atomic (G := G) a g p r → r.g = g ∨ r.g = p.g := by
    intro a g p r h
    cases h with
    | fault => exact .inl rfl
    | through => exact .inr rfl
  refine
    { inv_ensure := fun a g s hi => ?_, inv_finalise := fun a g hi => ?_
      verified_spec := fun a g s hi hp he hf => ?_, verified_stable := fun a g s hi hp he hf a' ha' => ?_
      finalise_clean := fun a g hi _ he => ?_, finalise_stable := fun a g hi _ he a' ha' => ?_
      finalise_healthy := fun g hi => ?_, ensure_progress := fun g s hi hp he => ?_, μ_le := μ_le
      healthy_ensure := fun g s => (api (hae _ g s)).2.1 rfl, healthy_finalise := fun g => (api (haf _ g)).2.1 rfl
      writes_ensure := fun a g s => (api (hae a g s)).1, writes_finalise := fun a g => (api (haf a g)).1
      read_fault_ensure := fun a g s _ => (api (hae a g s)).2.2, read_fault_finalise := fun a g _ => (api (haf a g)).2.2 }
  · rcases objs (hae a g s) with h | h <;> rw [h]
    · exact hi
    · exact inv_e g s hi
  · rcases objs (haf a g) with h | h <;> rw [h]
    · exact hi
    · exact inv_f g hi
  · obtain ⟨e1, e2, e3, e4⟩ := through (hae a g s) he
    obtain ⟨h, _, hg⟩ := strict g s hi (e2 ▸ hf) e3 (e4 ▸ hp)
    rw [e1, hg]; exact h
  · -- the objects are untouched, so the second call has the same plan, and nothing to write
    obtain ⟨e1, e2, e3, e4⟩ := through (hae a g s) he
    rw [e2] at hf; rw [e4] at hp
    obtain ⟨_, hq, hg⟩ := strict g s hi hf e3 hp
    rw [e1, hg, (hae a' g s).quiet ha' hq, hg, hf, e3, hp]; rfl
  · rw [(through (haf a g) he).1]; exact (fin g hi).2.2.1
  · rw [(through (haf a g) he).1, (haf a' _).quiet ha' (by rw [(fin g hi).2.2.2]), (fin g hi).2.2.2]; rfl
  · rw [(haf Api.ok g).healthy]; exact ⟨(fin g hi).1, (fin g hi).2.1⟩
  · rw [(hae Api.ok g s).healthy] at hp he ⊢
    exact progress g s hi he hp

end RV.TrafficX
