/-
  The TrafficRouting controller's `Reconcile` is modelled twice: `RV.TRBind.trCore` keeps the names of the progressing
  finalizers (and allows an empty `spec.objectRef`), `RV.TRSM.reconcile` counts them.  Here: the branches of `trCore` inverted
  once (`CoreCase`, `core_cases`), and the two models tied together in both directions (`reconcile_toTR` from a named object
  to its count, `reconcile_eq_core` from a count to any object that has it), so that the one inversion serves both.
-/
import RV.Model.TRBind
namespace RV.Props.TRBind
open RV.Traffic RV.TRBind

/-- the TrafficRouting as `RV.TRSM` sees it: the progressing finalizers counted -/
def toTR (t : TRO) : TRSM.TR :=
  { deleting := t.deleting, hasFinalizer := t.hasFinalizer, progressing := t.holders.length, phase := t.phase,
    weight := t.weight, grace := t.grace }

theorem tctx_eq (t : TRO) (h : t.hasRef = true) : tctx t = TRSM.tctx (toTR t) := by
  unfold tctx TRSM.tctx toTR; rw [h]

theorem isGone_eq (t : TRO) : isGone t = TRSM.isGone (toTR t) := by
  unfold isGone TRSM.isGone toTR
  cases t.holders <;> simp

/-- what both models of the TrafficRouting reconcile answer, as one tuple: of `trReconcile` (the writes are left out, `RV.TRSM` has none) … -/
def view (r : TRes) : Option TRO × Net × Mem × Bool × Bool × Bool := (r.tr, r.net, r.mem, r.requeue, r.err, r.finalised)
/-- … and of `RV.TRSM.reconcile` on the counted view of `t`, whose finalizer names are carried along -/
def viewTRSM (t : TRO) (r : TRSM.Result) : Option TRO × Net × Mem × Bool × Bool × Bool :=
  (if r.gone then none else some { t with hasFinalizer := r.w.tr.hasFinalizer, phase := r.w.tr.phase },
   r.w.net, r.w.mem, r.requeue, r.err, r.finalised)

theorem tctx_congr (t : TRO) (hf : Bool) (ph : TRSM.Phase) : tctx { t with hasFinalizer := hf, phase := ph } = tctx t := rfl

/-- The branches of `trCore`. On a live object the controller's own finalizer is registered first; an object in deletion
    is treated as Terminating whatever its phase says; `d` and `f` are what `DoTrafficRouting` and
    `FinalisingTrafficRouting` answer. -/
inductive CoreCase (t : TRO) (n : Net) (m : Mem) (d f : TOut) : TCore → Prop
  | initErr (hd : t.deleting = false) (hp : t.phase = .empty ∨ t.phase = .initial)
      (hn : t.hasRef = true ∧ (¬ n.stableExists = true ∨ ¬ n.stableIngress = true)) :
      CoreCase t n m d f ⟨{ t with hasFinalizer := true }, n, m, false, true, false, []⟩
  | initOk (hd : t.deleting = false) (hp : t.phase = .empty ∨ t.phase = .initial)
      (hn : ¬ (t.hasRef = true ∧ (¬ n.stableExists = true ∨ ¬ n.stableIngress = true))) :
      CoreCase t n m d f ⟨{ t with hasFinalizer := true, phase := .healthy }, n, m, false, false, false, []⟩
  | healthy (hd : t.deleting = false) (hp : t.phase = .healthy) :
      CoreCase t n m d f ⟨{ t with hasFinalizer := true, phase := if t.holders.length > 0 then .progressing else .healthy },
        n, m, false, false, false, []⟩
  | unheld (hd : t.deleting = false) (hp : t.phase = .progressing) (hh : t.holders = []) :
      CoreCase t n m d f ⟨{ t with hasFinalizer := true, phase := .finalizing }, n, m, false, false, false, []⟩
  | route (hd : t.deleting = false) (hp : t.phase = .progressing) (hh : t.holders ≠ []) :
      CoreCase t n m d f ⟨{ t with hasFinalizer := true }, d.net, d.mem, !d.err && !d.done, d.err, false, d.writes⟩
  | restore (hd : t.deleting = false) (hp : t.phase = .finalizing) :
      CoreCase t n m d f ⟨{ t with hasFinalizer := true, phase := if !f.err && f.done then .healthy else .finalizing },
        f.net, f.mem, !f.err && !f.done, f.err, !f.err && f.done, f.writes⟩
  | liveTerm (hd : t.deleting = false) (hp : t.phase = .terminating) :
      CoreCase t n m d f ⟨{ t with hasFinalizer := true }, f.net, f.mem, !f.err && !f.done, f.err, !f.err && f.done, f.writes⟩
  | other (hd : t.deleting = false) (hp : t.phase = .other) :
      CoreCase t n m d f ⟨{ t with hasFinalizer := true }, n, m, false, false, false, []⟩
  | delWait (hd : t.deleting = true) (h : f.err = true ∨ f.done = false) :
      CoreCase t n m d f ⟨t, f.net, f.mem, !f.err && !f.done, f.err, false, f.writes⟩
  | delGone (hd : t.deleting = true) (he : f.err = false) (hdn : f.done = true) (hh : t.holders = []) :
      CoreCase t n m d f ⟨{ t with hasFinalizer := false }, f.net, f.mem, false, decide (t.phase ≠ .terminating), true, f.writes⟩
  | delKept (hd : t.deleting = true) (he : f.err = false) (hdn : f.done = true) (hh : t.holders ≠ []) :
      CoreCase t n m d f ⟨{ t with hasFinalizer := false, phase := .terminating }, f.net, f.mem, false, false, true, f.writes⟩

/-- `handleFinalizer` at the top: on a live object the controller's own finalizer is there when the phases are dispatched -/
theorem core_register (t : TRO) (n : Net) (m : Mem) (hd : t.deleting = false) :
    trCore t n m = trCore { t with hasFinalizer := true } n m := by
  obtain ⟨del, hf, hs, ph, wt, gr, hr⟩ := t
  cases hd
  cases hf <;> rfl

theorem core_cases (t : TRO) (n : Net) (m : Mem) :
    CoreCase t n m (doTrafficRouting (tctx t) n m) (finalisingTrafficRouting (tctx t) n m) (trCore t n m) := by
  obtain ⟨del, hf, hs, ph, wt, gr, hr⟩ := t
  cases del
  · rw [core_register _ n m rfl]
    cases ph
    all_goals simp only [trCore, tctx, Bool.false_eq_true, not_false_eq_true, not_true_eq_false, and_false, if_true, if_false, reduceCtorEq]
    · split
      · exact .initErr rfl (.inl rfl) ‹_›
      · exact .initOk rfl (.inl rfl) ‹_›
    · split
      · exact .initErr rfl (.inr rfl) ‹_›
      · exact .initOk rfl (.inr rfl) ‹_›
    · exact .healthy rfl rfl
    · split
      · exact .unheld rfl rfl (List.eq_nil_of_length_eq_zero ‹_›)
      · rename_i hh
        generalize doTrafficRouting _ n m = o
        obtain ⟨dn, er, n', m', tc, ws⟩ := o
        cases er <;> cases dn <;> exact .route rfl rfl fun h => hh (congrArg List.length h)
    · generalize finalisingTrafficRouting _ n m = o
      obtain ⟨dn, er, n', m', tc, ws⟩ := o
      cases er <;> cases dn <;> exact .restore rfl rfl
    · generalize finalisingTrafficRouting _ n m = o
      obtain ⟨dn, er, n', m', tc, ws⟩ := o
      cases er <;> cases dn <;> exact .liveTerm rfl rfl
    · exact .other rfl rfl
  · simp only [trCore, tctx, not_true_eq_false, false_and, if_true, if_false, isGone, Bool.true_and, Bool.not_false]
    generalize finalisingTrafficRouting _ n m = o
    obtain ⟨dn, er, n', m', tc, ws⟩ := o
    cases er
    · cases dn
      · exact .delWait rfl (.inr rfl)
      · simp only [Bool.false_eq_true, not_true_eq_false, if_false]
        split
        · exact .delGone rfl rfl rfl (List.isEmpty_iff.mp ‹_›)
        · exact .delKept rfl rfl rfl fun h => ‹¬ _› (List.isEmpty_iff.mpr h)
    · cases dn <;> exact .delWait rfl (.inl rfl)

theorem core_frame (t : TRO) (n : Net) (m : Mem) :
    (trCore t n m).t = { t with hasFinalizer := (trCore t n m).t.hasFinalizer, phase := (trCore t n m).t.phase } := by
  have h := core_cases t n m
  generalize trCore t n m = c at h ⊢
  cases h <;> rfl

/-- `trCore`'s answer as an `RV.TRSM.Result`: finalizer names counted, `gone` recomputed from the count -/
def counted (c : TCore) : TRSM.Result :=
  ⟨⟨toTR c.t, c.net, c.mem⟩, TRSM.isGone (toTR c.t), c.requeue, c.err, c.finalised⟩

theorem reconcile_toTR (t : TRO) (n : Net) (m : Mem) (h : t.hasRef = true) :
    TRSM.reconcile ⟨toTR t, n, m⟩ = counted (trCore t n m) := by
  obtain ⟨del, hf, hs, ph, wt, gr, hr⟩ := t
  cases h
  cases del
  · have hreg : TRSM.reconcile ⟨toTR ⟨false, hf, hs, ph, wt, gr, true⟩, n, m⟩ = TRSM.reconcile ⟨toTR ⟨false, true, hs, ph, wt, gr, true⟩, n, m⟩ := by
      cases hf <;> rfl
    rw [core_register _ n m rfl, hreg]
    cases ph
    all_goals simp only [trCore, TRSM.reconcile, toTR, tctx, TRSM.tctx, Bool.false_eq_true, not_false_eq_true, not_true_eq_false, and_false, true_and, if_true, if_false, reduceCtorEq]
    · split <;> rfl
    · split <;> rfl
    · rfl
    · split
      · rfl
      · split
        · rfl
        · split <;> rfl
    · split
      · rfl
      · split <;> rfl
    · split
      · rfl
      · split <;> rfl
    · rfl
  · simp only [trCore, TRSM.reconcile, isGone_eq, toTR, tctx, TRSM.tctx, not_true_eq_false, false_and, if_true, if_false]
    split
    · rfl
    · split
      · rfl
      · split <;> rfl

/-- a named object with the given count (and an `objectRef`) -/
def ofTR (t : TRSM.TR) : TRO :=
  { deleting := t.deleting, hasFinalizer := t.hasFinalizer, holders := List.range t.progressing, phase := t.phase,
    weight := t.weight, grace := t.grace, hasRef := true }

theorem toTR_ofTR (t : TRSM.TR) : toTR (ofTR t) = t := by
  unfold toTR ofTR; rw [List.length_range]

theorem reconcile_eq_core (w : TRSM.World) : TRSM.reconcile w = counted (trCore (ofTR w.tr) w.net w.mem) := by
  rw [← reconcile_toTR (ofTR w.tr) w.net w.mem rfl, toTR_ofTR]

end RV.Props.TRBind
