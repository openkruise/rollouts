import RV.Oracle.C20
/-!
  `RV.Conversion`: the `%d` / `strconv.Atoi` round trip (`goTrafficWeight (fmtPercent w.toInt) = w` for every int32
  `w`), ASCII case folding as the style annotation uses it, and the field-by-field copies being identities.
  `RV.Lemmas.C20`: the round trips of the pieces of the four conversions: step, status, plan and BatchRelease status in
  both directions, canary block and metadata from v1alpha1 and back (`canaryFrom_canaryTo`, `mdFrom_canaryTo`; the
  other direction is in `RV.Props.C20.rollout_rmw`); and the rolling style a BatchRelease stores and asks for.
-/
namespace RV.Conversion

theorem digitVal_digitChar : ∀ d, d < 10 → digitVal? (Nat.digitChar d) = some d := by decide

theorem parseDigits_append (l : List Char) (c : Char) (acc : Nat) :
    parseDigits (l ++ [c]) acc =
      match parseDigits l acc with
      | none => none
      | some v => match digitVal? c with
        | none => none
        | some d => some (v * 10 + d) := by
  induction l generalizing acc with
  | nil => simp [parseDigits]; cases digitVal? c <;> rfl
  | cons x xs ih =>
    simp only [List.cons_append, parseDigits]
    cases digitVal? x with
    | none => rfl
    | some d => exact ih _

theorem parseDigits_toDigits (n : Nat) : parseDigits (Nat.toDigits 10 n) 0 = some n := by
  induction n using Nat.strongRecOn with
  | _ n ih =>
    by_cases h : n < 10
    · rw [Nat.toDigits_of_lt_base h]
      simp [parseDigits, digitVal_digitChar n h]
    · have h10 : 10 ≤ n := by omega
      rw [Nat.toDigits_of_base_le (by decide) h10, parseDigits_append, ih (n / 10) (by omega)]
      simp only [digitVal_digitChar (n % 10) (by omega)]
      congr 1; omega

theorem parseNat_toDigits (n : Nat) : parseNat (Nat.toDigits 10 n) = some n := by
  unfold parseNat
  have h : (Nat.toDigits 10 n).isEmpty = false := List.isEmpty_eq_false_iff.mpr Nat.toDigits_ne_nil
  simp [h, parseDigits_toDigits]

theorem toDigits_head (n : Nat) : ∃ c cs, Nat.toDigits 10 n = c :: cs ∧ c ≠ '-' ∧ c ≠ '+' := by
  cases hl : Nat.toDigits 10 n with
  | nil => exact absurd hl Nat.toDigits_ne_nil
  | cons c cs =>
    have hd : c.isDigit = true :=
      Nat.isDigit_of_mem_toDigits (b := 10) (n := n) (by decide) (by decide) (by simp [hl])
    exact ⟨c, cs, rfl, fun e => absurd (e ▸ hd) (by decide), fun e => absurd (e ▸ hd) (by decide)⟩

/-- `strconv.Atoi(fmt.Sprintf("%d", i)) = i` for every `i` in the int64 range -/
theorem goAtoi_showInt (i : Int) (hlo : int64Min ≤ i) (hhi : i ≤ int64Max) :
    goAtoi (showInt i) = some i := by
  unfold showInt
  by_cases hneg : i < 0
  · have hv : -((i.natAbs : Nat) : Int) = i := by omega
    simp only [hneg, if_true, goAtoi, parseNat_toDigits, Int.ofNat_eq_natCast]
    rw [hv]
    simp [hlo, hhi]
  · obtain ⟨c, cs, hl, h1, h2⟩ := toDigits_head i.natAbs
    have hv : ((i.natAbs : Nat) : Int) = i := by omega
    have hp := parseNat_toDigits i.natAbs
    simp only [hneg, if_false]
    rw [hl] at hp ⊢
    unfold goAtoi
    split
    · rename_i heq; simp only [List.cons.injEq] at heq; exact absurd heq.1 h1
    · rename_i heq; simp only [List.cons.injEq] at heq; exact absurd heq.1 h2
    · simp only [hp, Int.ofNat_eq_natCast]
      rw [hv]
      simp [hlo, hhi]

/-- **weight ↔ traffic**: `ConvertFrom` reads back exactly the int32 weight `ConvertTo` wrote as `"<w>%"`. -/
theorem goTrafficWeight_fmtPercent (w : Int32) : goTrafficWeight (fmtPercent w.toInt) = w := by
  have h1 := Int32.le_toInt w
  have h2 := Int32.toInt_lt w
  have hlo : int64Min ≤ w.toInt := by unfold int64Min; omega
  have hhi : w.toInt ≤ int64Max := by unfold int64Max; omega
  unfold goTrafficWeight fmtPercent
  simp only [String.toList_ofList, List.reverse_append, List.reverse_cons, List.reverse_nil,
    List.nil_append, List.singleton_append, List.reverse_reverse, goAtoi_showInt _ hlo hhi,
    Int32.ofInt_toInt]

theorem trafficExpressible_fmtPercent (w : Int32) :
    RV.Oracle.C20.trafficExpressible (fmtPercent w.toInt) = true := by
  simp [RV.Oracle.C20.trafficExpressible, goTrafficWeight_fmtPercent]

theorem toLower_of_not (c : Char) (h : ¬ (c.val ≥ 'A'.val ∧ c.val ≤ 'Z'.val)) : c.toLower = c := by
  unfold Char.toLower; rw [dif_neg h]

theorem toLower_val_of (c : Char) (h : c.val ≥ 'A'.val ∧ c.val ≤ 'Z'.val) :
    c.toLower.val = c.val + ('a'.val - 'A'.val) := by
  unfold Char.toLower; rw [dif_pos h]

theorem toLower_toLower (c : Char) : c.toLower.toLower = c.toLower := by
  by_cases h : c.val ≥ 'A'.val ∧ c.val ≤ 'Z'.val
  · apply toLower_of_not
    rw [toLower_val_of c h]
    have hA : ('A'.val).toNat = 65 := by decide
    have hZ : ('Z'.val).toNat = 90 := by decide
    have hd : ('a'.val - 'A'.val).toNat = 32 := by decide
    obtain ⟨h1, h2⟩ := h
    rw [ge_iff_le, UInt32.le_iff_toNat_le] at h1
    rw [UInt32.le_iff_toNat_le] at h2
    intro ⟨_, h4⟩
    rw [UInt32.le_iff_toNat_le, UInt32.toNat_add, hd, hZ] at h4
    omega
  · rw [toLower_of_not c h, toLower_of_not c h]

theorem map_toLower_idem (l : List Char) : (l.map Char.toLower).map Char.toLower = l.map Char.toLower := by
  induction l with
  | nil => rfl
  | cons c cs ih => simp [toLower_toLower, ih]

/-- `EqualFold(ToLower(s), K) = EqualFold(s, K)` -/
theorem eqFold_lowerAscii (s k : String) : eqFold (lowerAscii s) k = eqFold s k := by
  unfold eqFold lowerAscii
  rw [String.toList_ofList, map_toLower_idem]

@[simp] theorem refCopy_id (r : Ref) : refCopy r = r := by cases r; rfl
@[simp] theorem condConv_id (c : Condition) : condConv c = c := by cases c; rfl
@[simp] theorem canaryStatusConv_id (s : CanaryStatus) : canaryStatusConv s = s := by cases s; rfl
@[simp] theorem brCanaryStatusConv_id (s : BRCanaryStatus) : brCanaryStatusConv s = s := by cases s; rfl
@[simp] theorem patchConv_id (p : Option Patch) : patchConv p = p := by
  cases p with
  | none => rfl
  | some p => cases p; rfl

@[simp] theorem trRefConv_id (t : TRRef) : trRefConv t = t := by
  cases t with
  | mk s g i gw c =>
    simp only [trRefConv, TRRef.mk.injEq, true_and]
    refine ⟨?_, ?_, ?_⟩
    · cases i with
      | none => rfl
      | some i => cases i; rfl
    · cases gw with
      | none => rfl
      | some g => cases g; rfl
    · exact List.map_id'' refCopy_id c

@[simp] theorem map_trRefConv (l : List TRRef) : l.map trRefConv = l := List.map_id'' trRefConv_id l
@[simp] theorem map_condConv (l : List Condition) : l.map condConv = l := List.map_id'' condConv_id l

end RV.Conversion

namespace RV.Lemmas.C20
open RV.Conversion RV.Oracle.C20

/-- the guard of `ConvertFrom` never panics and is true exactly for a blueGreen strategy -/
theorem blueGreenOnly_eq (r : B.Strategy) : blueGreenOnly r = .ok r.blueGreen.isSome := by
  obtain ⟨p, canary, bg⟩ := r
  cases bg with
  | some x => cases canary <;> rfl
  | none =>
    cases canary with
    | none => rfl
    | some c =>
      simp only [blueGreenOnly, B.Strategy.isEmptyRelease, B.Strategy.isCanaryStrategy,
        B.Strategy.getRollingStyle]
      cases c.enableExtraWorkloadForCanary <;> rfl

theorem stepFrom_stepTo (s : A.Step) : stepFrom (stepTo s) = normStep s := by
  obtain ⟨⟨w, rhm, mts⟩, rep, ⟨d⟩⟩ := s
  have hm : (mts.map fun m => ({ path := none, headers := m.headers, queryParams := [] } : B.Match)).map
      (fun m => ({ headers := m.headers } : A.Match)) = mts := by
    rw [List.map_map]; exact List.map_id'' (fun m => by cases m; rfl) mts
  cases w with
  | none => cases rep <;> simp [stepFrom, stepTo, trStrategyFrom, trStrategyTo, normStep, hm]
  | some w =>
    cases rep <;>
      simp [stepFrom, stepTo, trStrategyFrom, trStrategyTo, normStep, hm, goTrafficWeight_fmtPercent]

theorem normStep_idem (s : A.Step) : normStep (normStep s) = normStep s := by
  obtain ⟨⟨w, rhm, mts⟩, rep, p⟩ := s
  cases w <;> cases rep <;> rfl

theorem statusFrom_statusTo (s : A.Status) : statusFrom (statusTo s) = s := by
  obtain ⟨og, cs, conds, ph, msg⟩ := s
  cases cs <;> simp [statusFrom, statusTo]

theorem canaryFrom_canaryTo (md : Meta) (c : A.Canary) :
    canaryFrom (canaryTo md c) = { c with steps := c.steps.map normStep } := by
  obtain ⟨steps, trs, ft, patch, noSvc⟩ := c
  simp only [canaryFrom, canaryTo, A.Canary.mk.injEq, and_true, List.map_map,
    map_trRefConv, patchConv_id]
  exact List.map_congr_left (fun s _ => stepFrom_stepTo s)

theorem eqFold_canary_partition : eqFold (lowerAscii styleCanary) stylePartition = false := by decide +kernel
theorem eqFold_partition_partition : eqFold (lowerAscii stylePartition) stylePartition = true := by decide +kernel

theorem mdFrom_canaryTo (md : Meta) (c : A.Canary) :
    mdFrom md (canaryTo md c) = { md with annStyle := normRolloutStyle md.annStyle } := by
  obtain ⟨rest, st, tr, oth⟩ := md
  have htr : (if annGet tr != "" then some (annGet tr) else tr) = tr := by
    cases tr with
    | none => rfl
    | some s => by_cases h : s = "" <;> simp [annGet, h]
  cases h : eqFold (annGet st) stylePartition <;>
    simp [mdFrom, canaryTo, normRolloutStyle, h] <;> split <;> simp_all

theorem normRolloutStyle_idem (v : Option String) :
    normRolloutStyle (normRolloutStyle v) = normRolloutStyle v := by
  unfold normRolloutStyle
  cases h : eqFold (annGet v) stylePartition <;>
    simp [annGet, eqFold_canary_partition, eqFold_partition_partition]

theorem meaningRollout_idem (a : A.Rollout) : meaningRollout (meaningRollout a) = meaningRollout a := by
  obtain ⟨md, ⟨wref, ⟨paused, canary⟩, rid, dis⟩, st⟩ := a
  cases canary with
  | none => cases wref <;> rfl
  | some c =>
    cases wref <;>
      simp [meaningRollout, normRef, normRolloutStyle_idem, List.map_map] <;>
      exact fun s _ => normStep_idem s

theorem planTo_style (ann : Option String) (p : ReleasePlan) :
    (planTo ann p).rollingStyle =
      match styleNamed (annGet ann) with
      | some k => k
      | none => p.rollingStyle := by
  unfold planTo styleNamed
  by_cases h1 : eqFold (annGet ann) styleBlueGreen <;>
  by_cases h2 : eqFold (annGet ann) styleCanary <;>
  by_cases h3 : eqFold (annGet ann) stylePartition <;> simp [h1, h2, h3]

theorem planFrom_planTo (ann : Option String) (p : ReleasePlan) :
    planFrom (planTo ann p) = { p with rollingStyle := (planTo ann p).rollingStyle } := by
  obtain ⟨b, bp, id, ft, pol, pa, sty, ex⟩ := p
  simp [planFrom, planTo]

theorem brStatusFrom_brStatusTo (s : A.BRStatus) : brStatusFrom (brStatusTo s) = s := by
  obtain ⟨c, cs, a, b, d, e, f, g, h, i⟩ := s
  simp [brStatusFrom, brStatusTo]

theorem styleNamed_lowerAscii (s : String) : styleNamed (lowerAscii s) = styleNamed s := by
  simp [styleNamed, eqFold_lowerAscii]

theorem styleNamed_mem {s k : String} (h : styleNamed s = some k) :
    k = styleBlueGreen ∨ k = styleCanary ∨ k = stylePartition := by
  unfold styleNamed at h
  split at h
  · left; exact (Option.some.inj h).symm
  · split at h
    · right; left; exact (Option.some.inj h).symm
    · split at h
      · right; right; exact (Option.some.inj h).symm
      · cases h

theorem canonStyle_of_named {s k : String} (h : styleNamed s = some k) : canonStyle k = k := by
  rcases styleNamed_mem h with rfl | rfl | rfl <;> decide +kernel

theorem canonStyle_idem (s : String) : canonStyle (canonStyle s) = canonStyle s := by
  unfold canonStyle
  cases h : styleNamed s with
  | none => simp [h]
  | some k => exact canonStyle_of_named h

/-- the style `ConvertTo` stores for a v1alpha1 BatchRelease (annotation if it names a style,
    else the spec field) -/
def storedStyle (a : A.BatchRelease) : String := (planTo a.md.annStyle a.spec.plan).rollingStyle

theorem canon_storedStyle (a : A.BatchRelease) : canonStyle (storedStyle a) = brStyle a := by
  unfold storedStyle brStyle
  rw [planTo_style]
  cases h : styleNamed (annGet a.md.annStyle) with
  | none => rfl
  | some k => exact canonStyle_of_named h

theorem brStyle_of_lower {a : A.BatchRelease} {s : String} (h1 : a.md.annStyle = some (lowerAscii s))
    (h2 : a.spec.plan.rollingStyle = s) : brStyle a = canonStyle s := by
  unfold brStyle canonStyle
  rw [h1, h2]
  simp only [annGet, styleNamed_lowerAscii]
  cases styleNamed s <;> rfl

theorem map_id_of_all {α} (p : α → Bool) (f : α → α) (h : ∀ a, p a = true → f a = a) :
    ∀ (l : List α), l.all p = true → l.map f = l := by
  intro l
  induction l with
  | nil => intro _; rfl
  | cons x xs ih =>
    intro hl
    simp only [List.all_cons, Bool.and_eq_true] at hl
    simp [h x hl.1, ih hl.2]

theorem stepTo_stepFrom (s : B.Step) (h : stepExpressible s = true) : stepTo (stepFrom s) = s := by
  obtain ⟨⟨t, rhm, mts⟩, rep, ⟨d⟩⟩ := s
  simp only [stepExpressible, Bool.and_eq_true, Bool.or_eq_true] at h
  obtain ⟨⟨ht, hm⟩, hr⟩ := h
  have hm' : (mts.map fun m => ({ headers := m.headers } : A.Match)).map
      (fun m => ({ path := none, headers := m.headers, queryParams := [] } : B.Match)) = mts := by
    rw [List.map_map]
    refine map_id_of_all (fun m => m.path.isNone && m.queryParams.isEmpty) _ ?_ mts hm
    intro m hm
    obtain ⟨p, hd, q⟩ := m
    simp only [Bool.and_eq_true, Option.isNone_iff_eq_none, List.isEmpty_iff] at hm
    simp [hm.1, hm.2]
  cases t with
  | none =>
    cases rep <;> simp [stepTo, stepFrom, trStrategyTo, trStrategyFrom, hm']
  | some t =>
    have ht' : fmtPercent (goTrafficWeight t).toInt = t := by
      simpa [trafficExpressible] using ht
    cases rep with
    | none => simp at hr
    | some r => simp [stepTo, stepFrom, trStrategyTo, trStrategyFrom, hm', ht']

theorem statusTo_statusFrom (s : B.Status) (h1 : s.blueGreenStatus = none) (h2 : s.currentStepIndex = 0)
    (h3 : s.currentStepState = "") : statusTo (statusFrom s) = s := by
  obtain ⟨og, cs, bgs, conds, ph, msg, cur, state⟩ := s
  simp only at h1 h2 h3
  subst h1 h2 h3
  cases cs <;> simp [statusFrom, statusTo]

theorem planTo_planFrom (p : ReleasePlan) (h : canonStyle p.rollingStyle = p.rollingStyle) :
    planTo (some (lowerAscii p.rollingStyle)) (planFrom p) = p := by
  have hs := planTo_style (some (lowerAscii p.rollingStyle)) (planFrom p)
  obtain ⟨b, bp, id, ft, pol, pa, sty, ex⟩ := p
  simp only [annGet, styleNamed_lowerAscii, planFrom] at hs h
  have : (match styleNamed sty with | some k => k | none => sty) = sty := h
  rw [this] at hs
  simp only [planTo, planFrom, ReleasePlan.mk.injEq, List.map_id', patchConv_id, true_and, and_true]
  simpa [planTo, planFrom] using hs

theorem brStatusTo_brStatusFrom (s : B.BRStatus) (h : s.message = "") : brStatusTo (brStatusFrom s) = s := by
  obtain ⟨c, cs, a, b, d, e, f, g, hh, i, m⟩ := s
  simp only at h
  subst h
  simp [brStatusFrom, brStatusTo]

end RV.Lemmas.C20
